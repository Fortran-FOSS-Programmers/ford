import FordModel.Access
import FordModel.AccessImpl
import FordModel.AccessNames
import FordModel.AccessPage
import FordModel.AccessSpec
import FordModel.AccessTypes
import FordModel.Admonition
import FordModel.Assets
import FordModel.Attach
import FordModel.AttachIface
import FordModel.AttrStmt
import FordModel.Attribs
import FordModel.AttribsSpec
import FordModel.Backtrack
import FordModel.Basic.Chars
import FordModel.Basic.SettingsTypes
import FordModel.Basic.Split
import FordModel.C01Obs
import FordModel.Calls
import FordModel.CallsChain
import FordModel.CallsLine
import FordModel.CallsRegex
import FordModel.CallsScope
import FordModel.CallsTable
import FordModel.CharSel
import FordModel.DeclLine
import FordModel.Dispatch.C01
import FordModel.Dispatch.C02
import FordModel.Dispatch.C03
import FordModel.Dispatch.C04
import FordModel.Dispatch.C05
import FordModel.Dispatch.C06
import FordModel.Dispatch.C07
import FordModel.Dispatch.C08
import FordModel.Dispatch.C09
import FordModel.Dispatch.C10
import FordModel.Dispatch.C11
import FordModel.Dispatch.C12
import FordModel.Dispatch.C13
import FordModel.Dispatch.C14
import FordModel.Dispatch.C15
import FordModel.Dispatch.C16
import FordModel.Dispatch.C17
import FordModel.Dispatch.C18
import FordModel.Dispatch.C19
import FordModel.Dispatch.C20
import FordModel.Dispatch
import FordModel.Display
import FordModel.DisplayLinks
import FordModel.DisplaySpec
import FordModel.DocConvert
import FordModel.Entity
import FordModel.EnumValues
import FordModel.Escape
import FordModel.External
import FordModel.ExternalAssoc
import FordModel.ExternalChild
import FordModel.ExternalGraph
import FordModel.ExternalHref
import FordModel.ExternalNodeCond
import FordModel.ExternalSpec
import FordModel.Fixed
import FordModel.FixedProject
import FordModel.FixedSpec
import FordModel.FixedTree
import FordModel.Footnotes
import FordModel.Fs
import FordModel.FsGlob
import FordModel.FsPages
import FordModel.FuncHead
import FordModel.Generated.C01
import FordModel.Generated.C01TypeSpec
import FordModel.Generated.C02
import FordModel.Generated.C03
import FordModel.Generated.C04
import FordModel.Generated.C05
import FordModel.Generated.C06
import FordModel.Generated.C07
import FordModel.Generated.C08
import FordModel.Generated.C09
import FordModel.Generated.C10
import FordModel.Generated.C11
import FordModel.Generated.C12
import FordModel.Generated.C13
import FordModel.Generated.C14
import FordModel.Generated.C15
import FordModel.Generated.C16
import FordModel.Generated.C17
import FordModel.Generated.C17Probe
import FordModel.Generated.C18
import FordModel.Generated.C18Cfg
import FordModel.Generated.C19
import FordModel.Generated.C20
import FordModel.Graph
import FordModel.GraphLabel
import FordModel.GraphUrl
import FordModel.Include
import FordModel.IncludeCfg
import FordModel.IncludeMarks
import FordModel.IncludeNest
import FordModel.InitSteps
import FordModel.InitialValue
import FordModel.InlineOrder
import FordModel.Lemmas.Access
import FordModel.Lemmas.AccessImpl
import FordModel.Lemmas.AccessNames
import FordModel.Lemmas.Admonition
import FordModel.Lemmas.Assets
import FordModel.Lemmas.Attach
import FordModel.Lemmas.AttachIface
import FordModel.Lemmas.AttrStmt
import FordModel.Lemmas.Attribs
import FordModel.Lemmas.Backtrack
import FordModel.Lemmas.Calls
import FordModel.Lemmas.CallsChain
import FordModel.Lemmas.CallsEval
import FordModel.Lemmas.CallsFixed
import FordModel.Lemmas.CallsLine
import FordModel.Lemmas.CallsRegex
import FordModel.Lemmas.CallsScope
import FordModel.Lemmas.Chars
import FordModel.Lemmas.DeclLine
import FordModel.Lemmas.DeclList
import FordModel.Lemmas.Display
import FordModel.Lemmas.DisplayLinks
import FordModel.Lemmas.DocConvert
import FordModel.Lemmas.Entity
import FordModel.Lemmas.EnumValues
import FordModel.Lemmas.Escape
import FordModel.Lemmas.External
import FordModel.Lemmas.ExternalAssoc
import FordModel.Lemmas.ExternalChild
import FordModel.Lemmas.ExternalGraph
import FordModel.Lemmas.ExternalHref
import FordModel.Lemmas.ExternalMulti
import FordModel.Lemmas.ExternalRT
import FordModel.Lemmas.ExternalReach
import FordModel.Lemmas.ExternalUrl
import FordModel.Lemmas.Fixed
import FordModel.Lemmas.FixedRead
import FordModel.Lemmas.Footnotes
import FordModel.Lemmas.Fs
import FordModel.Lemmas.FsGlob
import FordModel.Lemmas.FsPages
import FordModel.Lemmas.FuncHead
import FordModel.Lemmas.Graph
import FordModel.Lemmas.GraphCalls
import FordModel.Lemmas.GraphCtor
import FordModel.Lemmas.GraphData
import FordModel.Lemmas.GraphLabel
import FordModel.Lemmas.GraphUrl
import FordModel.Lemmas.Include
import FordModel.Lemmas.IncludeMarks
import FordModel.Lemmas.IncludeNest
import FordModel.Lemmas.InitialValue
import FordModel.Lemmas.LinkPath
import FordModel.Lemmas.LinkSites
import FordModel.Lemmas.LinkSyntax
import FordModel.Lemmas.LinkWarn
import FordModel.Lemmas.Links
import FordModel.Lemmas.Markup
import FordModel.Lemmas.Mask
import FordModel.Lemmas.MaskPass
import FordModel.Lemmas.MdState
import FordModel.Lemmas.Memo
import FordModel.Lemmas.Meta
import FordModel.Lemmas.Names
import FordModel.Lemmas.NamesIdent
import FordModel.Lemmas.NamesLegal
import FordModel.Lemmas.Nav
import FordModel.Lemmas.Nesting
import FordModel.Lemmas.Order
import FordModel.Lemmas.PageAlias
import FordModel.Lemmas.PageCopy
import FordModel.Lemmas.PageGuard
import FordModel.Lemmas.PageName
import FordModel.Lemmas.PageTree
import FordModel.Lemmas.PageTreeNodup
import FordModel.Lemmas.Parse
import FordModel.Lemmas.PassBack
import FordModel.Lemmas.Path
import FordModel.Lemmas.ProcPrefix
import FordModel.Lemmas.ProjectLoop
import FordModel.Lemmas.QuoteFree
import FordModel.Lemmas.ReadMore
import FordModel.Lemmas.Reader
import FordModel.Lemmas.ReaderDoc
import FordModel.Lemmas.ReaderInline
import FordModel.Lemmas.ReaderLayout
import FordModel.Lemmas.ReaderLiteral
import FordModel.Lemmas.ReaderQuote
import FordModel.Lemmas.ReaderSplit
import FordModel.Lemmas.Relurl
import FordModel.Lemmas.Scope
import FordModel.Lemmas.ScopeAccess
import FordModel.Lemmas.ScopeBind
import FordModel.Lemmas.ScopeBlock
import FordModel.Lemmas.ScopeSub
import FordModel.Lemmas.ScopeUse
import FordModel.Lemmas.Settings
import FordModel.Lemmas.SettingsSource
import FordModel.Lemmas.SettingsSpec
import FordModel.Lemmas.Show
import FordModel.Lemmas.SortComp
import FordModel.Lemmas.SourceOf
import FordModel.Lemmas.Split
import FordModel.Lemmas.SrcFiles
import FordModel.Lemmas.StrLink
import FordModel.Lemmas.Summary
import FordModel.Lemmas.TypeHead
import FordModel.Lemmas.TypeSpec
import FordModel.Lemmas.TypeSpecChar
import FordModel.Lemmas.TypeSpecProto
import FordModel.Lemmas.Url
import FordModel.Lemmas.Use
import FordModel.Lemmas.UseAccess
import FordModel.Lemmas.UseBind
import FordModel.Lemmas.UseHost
import FordModel.Lemmas.UseSpec
import FordModel.LinkSyntax
import FordModel.LinkWarn
import FordModel.Links
import FordModel.LinksSpec
import FordModel.Markup
import FordModel.Mask
import FordModel.MaskSpec
import FordModel.MdState
import FordModel.Memo
import FordModel.Meta
import FordModel.Names
import FordModel.NamesCfg
import FordModel.Nav
import FordModel.Nesting
import FordModel.NestingTypes
import FordModel.Order
import FordModel.PageAlias
import FordModel.PageName
import FordModel.PageTree
import FordModel.PageTreeSpec
import FordModel.Parse
import FordModel.PassBack
import FordModel.PassBackCfg
import FordModel.Path
import FordModel.ProcLine
import FordModel.ProcPrefix
import FordModel.ProjectLoop
import FordModel.Proto
import FordModel.ReadMore
import FordModel.Reader
import FordModel.Relurl
import FordModel.Scope
import FordModel.ScopeAccess
import FordModel.ScopeBind
import FordModel.ScopeBlock
import FordModel.ScopeSpec
import FordModel.ScopeSub
import FordModel.Settings
import FordModel.SettingsSource
import FordModel.SettingsSpec
import FordModel.Show
import FordModel.SortComp
import FordModel.SourceOf
import FordModel.Spec.Calls
import FordModel.Spec.CallsChain
import FordModel.Spec.CallsLine
import FordModel.Spec.CallsNames
import FordModel.SrcFiles
import FordModel.StrLink
import FordModel.Summary
import FordModel.TypeHead
import FordModel.TypeSpec
import FordModel.Url
import FordModel.Use
import FordModel.UseBind
import FordModel.UseExt
