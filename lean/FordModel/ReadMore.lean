/-
  C09 — the "Read more" link that `FortranBase.markdown` appends to an entity's summary.

      if self.meta.summary is not None:                      # explicit `summary:` metadata
          self.meta.summary = md.convert(...)
      elif paragraph := PARA_CAPTURE_RE.search(self.doc):    # first <p>..</p> of the documentation
          self.meta.summary = paragraph.group() if self.get_url() else self.doc
      else:
          self.meta.summary = ""
      if self.meta.summary.strip() != self.doc.strip():
          self.meta.summary += f'<a href="../{self.get_url()}" ...>Read more…</a>'

  The summary is printed on list pages and on the pages of the entity's host (all one
  directory below the root), so the link `../<url>` resolves when the entity has a URL;
  for an entity without one (`get_url()` is `None`: a derived type or interface block
  local to a procedure, the components of such a type) the f-string prints `../None`.
  The only thing that keeps the link away from such entities is the rule that their
  summary *is* their documentation.  The rule and the guard of the link are regenerated
  from the source (Generated/C09.lean).  Import-free (driver).
-/
import FordModel.Basic.Chars
import FordModel.Path
namespace Ford.ReadMore
open Ford.Path

/-- the value assigned to `meta.summary` in the `PARA_CAPTURE_RE` branch -/
inductive CutRule where
  | cutIfUrl    -- `paragraph.group() if self.get_url() else self.doc`
  | cutAlways   -- `paragraph.group()`
  deriving DecidableEq, Repr

structure Tables where
  rule : CutRule
  /-- is the `+=` of the link also guarded by `self.get_url()`? (before 30d79d0: no) -/
  linkNeedsUrl : Bool
  deriving DecidableEq, Repr

/-- the variant of finding C09-read-more-link-without-url (FORD before 30d79d0) -/
def asIs : Tables := { rule := .cutIfUrl, linkNeedsUrl := false }

/-- `meta.summary` before the link is appended.  `explicit`: the converted `summary:` metadata when
    the doc comment has it; `para`: the first `<p>…</p>` of the converted documentation, if any. -/
def summaryOf (T : Tables) (hasUrl : Bool) (explicit para : Option Str) (doc : Str) : Str :=
  match explicit with
  | some s => s
  | none =>
    match para with
    | some p => (match T.rule with
                 | .cutIfUrl => if hasUrl then p else doc
                 | .cutAlways => p)
    | none => []

/-- is the "Read more" link appended? -/
def readMore (T : Tables) (hasUrl : Bool) (explicit para : Option Str) (doc : Str) : Bool :=
  (strip (summaryOf T hasUrl explicit para doc) != strip doc) && (!T.linkNeedsUrl || hasUrl)

/-- the path part of its `href`: `../{self.get_url()}` (Python prints `None` for no URL) -/
def readMoreHref (url : Option (List Seg)) : List Seg :=
  up :: (url.getD [['N', 'o', 'n', 'e']])

end Ford.ReadMore
