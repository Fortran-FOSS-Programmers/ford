/-
  Model of `ford.utils.meta_preprocessor` (the four regexes and the loop), of the
  one-line heuristic in `FortranBase.read_metadata`, and of `textwrap.dedent`
  as `FortranBase.markdown` applies it to the joined doc lines.
-/
import FordModel.Basic.Chars
import FordModel.Generated.C03
namespace Ford

def isKeyChar (c : Char) : Bool := isAlpha c || isDigit c || c == '_' || c == '-'

/-- `META_RE.match(line)` = `^[ ]{0,3}(?P<key>[A-Za-z0-9_-]+):\s*(?P<value>.*)`:
    (key as written, value) -/
def metaRe (line : Str) : Option (Str × Str) :=
  let sp := line.takeWhile (· == ' ')
  if sp.length > 3 then none else
  let r := line.dropWhile (· == ' ')
  let key := r.takeWhile isKeyChar
  if key.isEmpty then none else
  match r.dropWhile isKeyChar with
  | ':' :: v => some (key, lstrip v)
  | _ => none

/-- `META_MORE_RE.match(line)` = `^[ ]{4,}(?P<value>.*)`, value already `.strip()`ped -/
def metaMoreRe (line : Str) : Option Str :=
  if line.take 4 == [' ', ' ', ' ', ' '] then some (strip line) else none

/-- `BEGIN_RE.match` = `^-{3}(\s.*)?` : the optional group never makes the match fail -/
def beginRe (line : Str) : Bool := startsWith line ['-', '-', '-']

/-- `END_RE.match` = `^(-{3}|\.{3})(\s.*)?` -/
def metaEndRe (line : Str) : Bool := startsWith line ['-', '-', '-'] || startsWith line ['.', '.', '.']

abbrev MetaDict := List (Str × List Str)

/-- `meta[key].append(value)` on an insertion-ordered `defaultdict(list)` -/
def addMeta : MetaDict → Str → Str → MetaDict
  | [], k, v => [(k, [v])]
  | (k', vs) :: rest, k, v => if k' == k then (k', vs ++ [v]) :: rest else (k', vs) :: addMeta rest k v

/-- the `while lines:` loop -/
def metaLoop : List Str → Option Str → MetaDict → MetaDict × List Str
  | [], _, md => (md, [])
  | line :: rest, key, md =>
    if isBlank line || metaEndRe line then (md, rest)
    else
      match metaRe line with
      | some (k, v) => metaLoop rest (some (lower k)) (addMeta md (lower k) (strip v))
      | none =>
        match metaMoreRe line, key with
        | some v, some k => metaLoop rest (some k) (addMeta md k v)
        | _, _ => (md, line :: rest)

/-- `meta_preprocessor(lines)` for a list argument -/
def metaSplit (lines : List Str) : MetaDict × List Str :=
  match lines with
  | [] => ([], [])
  | l :: rest => if beginRe l then metaLoop rest none [] else metaLoop (l :: rest) none []

/-- the `len(self.doc_list) == 1` test of `read_metadata`.  `tb = false`: FORD before 9233bc7.
    `tb = true`: since (fixes/C03-oneline-rule-trailing-blank.diff), where empty doc lines at
    the end (the reader emits one for a blank or plain-comment line that follows a doc comment)
    do not count (finding C03-oneline-text-with-colon-lost-before-blank-line). -/
def isOneLine (tb : Bool) : List Str → Bool
  | [] => false
  | [_] => true
  | _ :: r :: rest => tb && (r :: rest).all isBlank

/-- the `len(self.doc_list) == 1 and ":" in self.doc_list[0]` heuristic of `read_metadata`:
    the key test is `words.lower() in field_names` (case-insensitive, dataclass fields only) -/
def readMetaFix (tb : Bool) (fields : List Str) (doc : List Str) : List Str :=
  match doc with
  | [] => doc
  | l :: _ =>
    if isOneLine tb doc && l.contains ':' then
      let w := strip (l.takeWhile (· != ':'))
      if fields.contains (lower w) then doc else [] :: doc
    else doc

/-- `read_metadata` on a non-empty doc list: (md, remaining doc_list) -/
def readMetadata (tb : Bool) (fields : List Str) (doc : List Str) : MetaDict × List Str :=
  match doc with
  | [] => ([], [])
  | _ => metaSplit (readMetaFix tb fields doc)

/-! ### textwrap.dedent on a list of lines (the text is `"\n".join(lines)`) -/

def isSpTab (c : Char) : Bool := c == ' ' || c == '\t'

def commonPrefix : Str → Str → Str
  | a :: as, b :: bs => if a == b then a :: commonPrefix as bs else []
  | _, _ => []

def margin : List Str → Option Str
  | [] => none
  | l :: ls =>
    if l.isEmpty then margin ls
    else
      match margin ls with
      | none => some (l.takeWhile isSpTab)
      | some m => some (commonPrefix (l.takeWhile isSpTab) m)

def dedent (lines : List Str) : List Str :=
  let ls := lines.map (fun l => if l.all isSpTab then [] else l)
  match margin ls with
  | none => ls
  | some m => ls.map (fun l => if l.isEmpty then l else l.drop m.length)

end Ford
