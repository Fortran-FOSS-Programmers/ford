/-
  C10 — model of the naming mechanism of FORD *as the code is*:

    * `NameSelector.get_name`      (ford/sourceform.py)  → `getName`, `trace`
    * `FortranBase.anchor`         (urllib `quote`)       → `quote`, `anchorOf`
    * `FortranBase.get_dir` + the three overrides         → `dirOf`
    * `FortranBase.get_url`, `DocPage.outfile`            → `urlOf`, `outfileOf`
    * the flat `src/` copy in `Documentation.writeout`    → `copySrc`

  The symbol-replacement dict of `get_name` is *not* written here: it is the
  generated constant `Ford.Generated.C10.symbolTable` (translate/c10.py); the
  functions below take the table as a parameter.

  `Variant.asIs` counts the uses under the raw name while the stem is built from
  the lower-cased name (finding C10-case-only-names); `Variant.repaired` counts
  under the lower-cased name (FORD since 8dec555).  The harness decides at run
  time which one the working tree corresponds to.
-/
import FordModel.Basic.Chars
import FordModel.Generated.C10
namespace Ford.Names
open Ford

/-- `(nm! "abc")` is the literal `['a', 'b', 'c']` (string literals are byte arrays in this Lean
    version; unfolding `String.toList` on them inside `simp`/unification is slow) -/
macro "nm! " s:str : term => do
  let elems := s.getString.toList.toArray.map fun c => Lean.Syntax.mkCharLit c
  `([$elems,*])

inductive Variant
  | asIs
  | repaired
deriving DecidableEq, Repr

/-- Association list lookup, first match wins (Python dict with "newest entry
    prepended"). -/
def assoc {α β : Type} [DecidableEq α] (k : α) : List (α × β) → Option β
  | [] => none
  | (a, b) :: t => if k = a then some b else assoc k t

/-! ### stem construction -/

/-- The replacement dict of `get_name`: every symbol is one character (the
    translator refuses anything else). -/
abbrev SymTable := List (Char × Str)

/-- `s.replace(c, rep)` for a one-character `c`. -/
def replaceChar (c : Char) (rep : Str) : Str → Str
  | [] => []
  | x :: xs => if x = c then rep ++ replaceChar c rep xs else x :: replaceChar c rep xs

/-- The `for symbol, replacement in {...}.items(): name = name.replace(...)` loop
    (sequential, in dict order). -/
def replaceAll : SymTable → Str → Str
  | [], s => s
  | (c, rep) :: t, s => replaceAll t (replaceChar c rep s)

def digitChar (n : Nat) : Char := Char.ofNat (48 + n)

def decAux : Nat → Nat → Str → Str
  | 0, _, acc => acc
  | fuel + 1, n, acc =>
    if n < 10 then digitChar n :: acc else decAux fuel (n / 10) (digitChar (n % 10) :: acc)

/-- Python `str(n)` for a natural number. -/
def decimal (n : Nat) : Str := decAux (n + 1) n []

/-- The literals of `get_name` that the translator extracts from the source. -/
structure Cfg where
  table : SymTable
  sep : Char
  unnamed : Str

/-- lower-case, replace symbols, empty ⇒ `__unnamed__` (lines 3181-3190). -/
def baseOf (T : Cfg) (name : Str) : Str :=
  match replaceAll T.table (lower name) with
  | [] => T.unnamed
  | c :: cs => c :: cs

/-- `if num > 1: name = name + "~" + str(num)` -/
def stemOf (T : Cfg) (name : Str) (num : Nat) : Str :=
  if num > 1 then baseOf T name ++ T.sep :: decimal num else baseOf T name

/-! ### legal names (hypothesis of the theorems; decidable) -/

/-- `baseOf` depends on the name only through its lower-cased form. -/
def baseL (T : Cfg) (l : Str) : Str :=
  match replaceAll T.table l with
  | [] => T.unnamed
  | c :: cs => c :: cs

/-- Lower-cased spellings of the legal entity names that contain characters FORD
    replaces: Fortran's intrinsic operator generic specs (all of them are listed,
    with and without a replaced symbol), defined assignment, and the placeholder
    FORD itself gives an unnamed block data unit. -/
def opNames : List Str :=
  ["operator(+)", "operator(-)", "operator(*)", "operator(/)", "operator(**)", "operator(//)",
   "operator(==)", "operator(/=)", "operator(<)", "operator(<=)", "operator(>)", "operator(>=)",
   "assignment(=)", "<em>unnamed</em>"].map String.toList

/-! #### generic specs written with blanks

  FORD keeps the name of a generic interface exactly as written (`INTERFACE_RE`
  captures `.+`): `interface operator (+)`, `interface operator( < )`,
  `interface assignment ( = )` are entities called `operator (+)`, `operator( < )`,
  `assignment ( = )` - different names (different pages) for FORD.  Fortran allows
  any number of blanks between the tokens `operator`, `(`, the operator, `)`. -/

def blanks (n : Nat) : Str := List.replicate n ' '

/-- keyword and operator token of the generic specs of `opNames` -/
def opCores : List (Str × Str) :=
  [(nm! "operator", nm! "+"), (nm! "operator", nm! "-"), (nm! "operator", nm! "*"), (nm! "operator", nm! "/"),
   (nm! "operator", nm! "**"), (nm! "operator", nm! "//"), (nm! "operator", nm! "=="), (nm! "operator", nm! "/="),
   (nm! "operator", nm! "<"), (nm! "operator", nm! "<="), (nm! "operator", nm! ">"), (nm! "operator", nm! ">="),
   (nm! "assignment", nm! "=")]

/-- `kw ( op )` with `a` blanks after the keyword and `b`, `c` blanks inside the parentheses -/
def spellOp (p : Str × Str) (a b c : Nat) : Str :=
  p.1 ++ (blanks a ++ '(' :: (blanks b ++ (p.2 ++ (blanks c ++ [')']))))

/-- split before the first blank or `(` -/
def kwSplit : Str → Str × Str
  | [] => ([], [])
  | c :: cs => if c = ' ' ∨ c = '(' then ([], c :: cs) else (c :: (kwSplit cs).1, (kwSplit cs).2)

/-- number of leading blanks, and the rest -/
def skipBlanks : Str → Nat × Str
  | [] => (0, [])
  | c :: cs => if c = ' ' then ((skipBlanks cs).1 + 1, (skipBlanks cs).2) else (0, c :: cs)

/-- read a string as `kw blanks ( blanks op blanks )`: ((kw, op), a, b, c) -/
def parseSp (n : Str) : Option ((Str × Str) × Nat × Nat × Nat) :=
  let k := kwSplit n
  let r1 := skipBlanks k.2
  match r1.2 with
  | [] => none
  | o :: r2 =>
    if o = '(' then
      let r3 := skipBlanks r2
      match r3.2.reverse with
      | [] => none
      | d :: r4 =>
        if d = ')' then
          let r5 := skipBlanks r4
          some ((k.1, r5.2.reverse), r1.1, r3.1, r5.1)
        else none
    else none

/-- a (lower-cased) name is one of the generic specs of `opCores`, written with any blanks
    between its tokens -/
def OpSpelled (l : Str) : Prop :=
  match parseSp l with
  | some (p, a, b, c) => p ∈ opCores ∧ l = spellOp p a b c
  | none => False

instance (l : Str) : Decidable (OpSpelled l) := by
  unfold OpSpelled; split <;> infer_instance

/-- what the symbol replacement makes of keyword and operator token -/
def coreImg (T : Cfg) (p : Str × Str) : Str × Str := (replaceAll T.table p.1, replaceAll T.table p.2)

/-- a string is not what the replacement makes of a generic spec of `opCores` (in any spacing) -/
def NotOpImage (T : Cfg) (l : Str) : Prop :=
  match parseSp l with
  | some (q, _) => q ∉ opCores.map (coreImg T)
  | none => True

instance (T : Cfg) (l : Str) : Decidable (NotOpImage T l) := by
  unfold NotOpImage; split <;> infer_instance

/-- Names without any replaced symbol and without the suffix separator, other
    than the reserved stem of unnamed entities and the images of `opNames` and of the
    blank-separated generic specs: Fortran identifiers in any letter case,
    `operator(.name.)`, `operator ( + )`, the empty name, file names such as `a.f90`
    or `my mod.f90`. -/
def Plain (T : Cfg) (S : List Str) (n : Str) : Prop :=
  (∀ p ∈ T.table, p.1 ∉ lower n) ∧ T.sep ∉ lower n ∧ lower n ≠ T.unnamed ∧ lower n ∉ S.map (baseL T)
    ∧ NotOpImage T (lower n)

/-- The names a Fortran project can give to FORD: plain names, the listed special
    names, and `operator`/`assignment` generic specs in any spacing. -/
def Legal (T : Cfg) (S : List Str) (n : Str) : Prop := Plain T S n ∨ lower n ∈ S ∨ OpSpelled (lower n)

instance (T : Cfg) (S : List Str) (n : Str) : Decidable (Plain T S n) := by
  unfold Plain; infer_instance

instance (T : Cfg) (S : List Str) (n : Str) : Decidable (Legal T S n) := by
  unfold Legal; infer_instance

/-- A Fortran name: a letter followed by letters, digits and underscores. -/
def isIdent : Str → Bool
  | [] => false
  | c :: cs => isAlpha c && cs.all isWord

/-- all characters are ASCII (the model's `lower` and `quote` are the ASCII ones) -/
def Ascii (s : Str) : Prop := ∀ c ∈ s, c.toNat < 128

/-! ### the selector state -/

/-- One call `namelist.get_name(item)`: the identity of `item` (the key of
    `_items`), `item.get_dir()` and `item.name` at the time of the call. -/
structure Req where
  id : Nat
  dir : Option Str
  name : Str
deriving DecidableEq, Repr

/-- `_items` and `_counts` (flattened to one map keyed by (dir, counted name)). -/
structure NS where
  items : List (Nat × Str) := []
  counts : List ((Option Str × Str) × Nat) := []

/-- The name a use is counted under: line 3176 uses `item.name` as is. -/
def keyOf : Variant → Str → Str
  | .asIs, n => n
  | .repaired, n => lower n

def cnt (ns : NS) (k : Option Str × Str) : Nat := (assoc k ns.counts).getD 0

def getName (T : Cfg) (v : Variant) (ns : NS) (r : Req) : Str × NS :=
  match assoc r.id ns.items with
  | some s => (s, ns)
  | none =>
    let k := (r.dir, keyOf v r.name)
    let num := cnt ns k + 1
    let stem := stemOf T r.name num
    (stem, { items := (r.id, stem) :: ns.items, counts := (k, num) :: ns.counts })

/-- All answers of a request sequence, paired with the requests. -/
def trace (T : Cfg) (v : Variant) : NS → List Req → List (Req × Str)
  | _, [] => []
  | ns, r :: rs => (r, (getName T v ns r).1) :: trace T v (getName T v ns r).2 rs

def final (T : Cfg) (v : Variant) : NS → List Req → NS
  | ns, [] => ns
  | ns, r :: rs => final T v (getName T v ns r).2 rs

/-! ### anchors: `f"{obj}-{quote(ident)}"` -/

/-- `urllib.parse.quote` always-safe set plus the default `safe="/"`. -/
def quoteSafe (c : Char) : Bool :=
  isAlpha c || isDigit c || c = '_' || c = '.' || c = '-' || c = '~' || c = '/'

def hexDigit (n : Nat) : Char :=
  if n < 10 then Char.ofNat (48 + n) else Char.ofNat (55 + n)

def quoteChar (c : Char) : Str :=
  if quoteSafe c then [c] else ['%', hexDigit (c.toNat / 16), hexDigit (c.toNat % 16)]

/-- `urllib.parse.quote(s)` on ASCII input. -/
def quote : Str → Str
  | [] => []
  | c :: cs => quoteChar c ++ quote cs

def anchorOf (obj stem : Str) : Str := obj ++ '-' :: quote stem

/-! ### `get_dir` -/

inductive Kind
  | sourcefile | genericsource | program | module | submodule | blockdata | namelist
  | type | interface | modprocinterface | subroutine | function | modprocimpl
  | variable | boundproc | common | enum | finalproc | modprocref
deriving DecidableEq, Repr

/-- `self.obj` -/
def objOf : Kind → Str
  | .sourcefile => "sourcefile".toList
  | .genericsource => "sourcefile".toList
  | .program => "program".toList
  | .module => "module".toList
  | .submodule => "submodule".toList
  | .blockdata => "blockdata".toList
  | .namelist => "namelist".toList
  | .type => "type".toList
  | .interface => "interface".toList
  | .modprocinterface => "interface".toList
  | .subroutine => "proc".toList
  | .function => "proc".toList
  | .modprocimpl => "proc".toList
  | .variable => "variable".toList
  | .boundproc => "boundprocedure".toList
  | .common => "common".toList
  | .enum => "enum".toList
  | .finalproc => "finalproc".toList
  | .modprocref => "moduleprocedure".toList

/-- first `isinstance` tuple of `FortranBase.get_dir` (with subclasses) -/
def alwaysPage : Kind → Bool
  | .sourcefile | .program | .module | .submodule | .genericsource | .blockdata | .namelist => true
  | _ => false

/-- second tuple -/
def condPage : Kind → Bool
  | .type | .interface | .modprocinterface | .subroutine | .function | .modprocimpl => true
  | _ => false

/-- third tuple (class of the parent) -/
def pageParent : Option Kind → Bool
  | some .sourcefile | some .program | some .module | some .submodule | some .blockdata => true
  | _ => false

def isProcKind : Kind → Bool
  | .subroutine | .function => true
  | _ => false

def isInterfaceKind : Kind → Bool
  | .interface | .modprocinterface => true
  | _ => false

def parentIsInterface : Option Kind → Bool
  | some p => isInterfaceKind p
  | none => false

/-- `FortranProcedure.is_interface_procedure` (the condition itself is *generated* from the
    source, `Generated.C10.isInterfaceProcedure`): `ident` of such a procedure is the
    stem of its parent interface, and its directory is `interface`. -/
def identBorrows (k : Kind) (parent : Option Kind) (parentGeneric : Bool) : Bool :=
  isProcKind k && Ford.Generated.C10.isInterfaceProcedure (parentIsInterface parent) parentGeneric

/-- `get_dir()` including the overrides in `FortranSubmodule`, `FortranProcedure`
    (`is_interface_procedure`) and `FortranInterface` (unnamed ⇒ no page).
    `parentGeneric` is `parent.generic` when the parent is an interface,
    `named` is `bool(self.name)`. -/
def dirOf (k : Kind) (parent : Option Kind) (parentGeneric named : Bool) : Option Str :=
  if k = .submodule then some "module".toList
  else if identBorrows k parent parentGeneric then some "interface".toList
  else if isInterfaceKind k && !named then none
  else if alwaysPage k || (condPage k && pageParent parent) then some (objOf k)
  else none

/-! ### interface blocks: which interface entities exist, and with which children -/

/-- One `interface` block as written: named? `abstract`? and the procedure bodies
    (subroutine/function interface bodies, by identity) it contains. -/
structure Block where
  named : Bool
  abstract : Bool
  bodies : List Nat
deriving DecidableEq, Repr

/-- The interface entities FORD keeps for one block, as (`generic`, procedure children):
    `FortranInterface._initialize` sets `generic = bool(name)` and raises for a generic
    abstract block; `_cleanup` leaves a generic block alone (one entity, all bodies are
    its children) and replaces every other block by one `FortranModuleProcedureInterface`
    per body (`generic = False`, the body becomes the only child: `procedure.parent = self`). -/
def ifaceEntities (b : Block) : List (Bool × List Nat) :=
  if b.named && b.abstract then []
  else if b.named then [(true, b.bodies)]
  else b.bodies.map (fun p => (false, [p]))

/-! ### URL and output file -/

def htmlExt : Str := ".html".toList

/-- `f"{loc}/{self.ident}.html"` -/
def urlOf (dir stem : Str) : Str := dir ++ '/' :: (stem ++ htmlExt)

/-- `out_dir / get_dir() / (ident + ".html")`, relative to the output directory,
    as the path pathlib builds: the second operand is split at `/`. -/
def splitSlashAux : Str → Str → List Str
  | [], cur => [cur.reverse]
  | c :: cs, cur => if c = '/' then cur.reverse :: splitSlashAux cs [] else splitSlashAux cs (c :: cur)

def splitSlash (s : Str) : List Str := splitSlashAux s []

def outfileOf (dir stem : Str) : List Str := dir :: splitSlash (stem ++ htmlExt)

/-! ### the flat `src/` copy -/

/-- `src.name`: last component of the path of a source file -/
def basename (path : Str) : Str := (path.reverse.takeWhile (fun c => c != '/')).reverse

/-- `shutil.copy(src.path, out_dir / "src" / src.name)` for every file `(path, content)`,
    in order: the directory `src/` as a map name → content, later copies overwrite. -/
def copySrc : List (Str × Str) → List (Str × Str) → List (Str × Str)
  | fs, [] => fs
  | fs, (path, content) :: rest => copySrc ((basename path, content) :: fs) rest

/-- what `src/<name>` serves after the run -/
def served (files : List (Str × Str)) (name : Str) : Option Str :=
  assoc name (copySrc [] files)

/-- the "Source File" link of an entity defined in `path`: `src/{{ entity.filename }}` -/
def srcLink (path : Str) : Str := basename path

end Ford.Names
