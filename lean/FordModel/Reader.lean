/-
  Model of ford/reader.py (free-form path): `_contains_unterminated_string`,
  the doc-mark / comment regexes, and `FortranReader.__next__`.

  Not modelled: `include` expansion, the external preprocessor, decoding.
  The iterator is re-expressed as a fold over physical lines (`feed`): the
  Python only starts its inner `while` loop when `pending` and `docbuffer`
  are both empty, so after a logical line is complete every buffered item is
  emitted before the next physical line is read; `flush` reproduces the order
  and the `prevdoc` bookkeeping of those pops.
-/
import FordModel.Basic.Chars
import FordModel.Basic.Split
namespace Ford

/-- `_contains_unterminated_string` as it stood before the `fix:` commit
    389e6bb (previous-character test); kept only for the historical witness
    `C02.untermOld_witness`.
    `inq`/`cur`/`prev` mirror `in_quote`/`current_quote`/`previous_char`. -/
def untermOld : Str → Bool → Option Char → Option Char → Bool
  | [], inq, _, _ => inq
  | c :: rest, inq, cur, prev =>
    if !isQuote c then untermOld rest inq cur (some c)
    else if some c == prev then untermOld rest inq cur (some c)
    else if some c == cur then untermOld rest false none (some c)
    else if !inq then untermOld rest true (some c) (some c)
    else untermOld rest inq cur (some c)

/-- Lexical state of a Fortran line: outside a literal, or inside one opened by `q`. -/
inductive QSt | out | inq (q : Char)
  deriving DecidableEq, Repr

def qstep (s : QSt) (c : Char) : QSt :=
  match s with
  | .out => if isQuote c then .inq c else .out
  | .inq q => if c == q then .out else .inq q

def qscan (s : QSt) (l : Str) : QSt := l.foldl qstep s

/-- `_contains_unterminated_string(l)`: open on a quote, close on the same quote. -/
def unterminated (l : Str) : Bool := qscan .out l != .out

/-- Deterministic reading of `^([^"'!]|('[^']*')|("[^"]*"))*(!MARK.*)$`
    (`re.match`; the line carries no newline).  Returns the index at which
    group 4 starts.  The three alternatives of the starred group start with
    disjoint characters and each is determined by its start, so the only
    candidate for group 4 is the first `!` outside the quote atoms
    (`C02.comScan_iff` in Props/C02 proves this against the declarative
    reading of the regex). -/
def comScanAux (mark : Str) : Str → QSt → Nat → Option Nat
  | [], _, _ => none
  | c :: cs, .out, i =>
    if c == '!' then (if startsWith cs mark then some i else none)
    else if isQuote c then comScanAux mark cs (.inq c) (i + 1)
    else comScanAux mark cs .out (i + 1)
  | c :: cs, .inq q, i =>
    if c == q then comScanAux mark cs .out (i + 1) else comScanAux mark cs (.inq q) (i + 1)

def comScan (mark : Str) (l : Str) : Option Nat := comScanAux mark l .out 0

/-- `_match_docmark(compiled(mark), line, in_quote)`; an empty mark compiles to `None`. -/
def matchDocmark (mark : Str) (line : Str) (inQuote : Bool) : Option Nat :=
  if inQuote then none else if mark.isEmpty then none else comScan mark line

/-- `_match_docmark(COM_RE, line, in_quote)` -/
def matchCom (line : Str) (inQuote : Bool) : Option Nat :=
  if inQuote then none else comScan [] line

structure Marks where
  doc : Str
  pre : Str
  alt : Str
  preAlt : Str
  deriving Repr

def Marks.default : Marks := { doc := ['!'], pre := ['>'], alt := ['*'], preAlt := ['|'] }

inductive RErr | predocInline | predocAltInline | altInline | ampStart | internal
  deriving DecidableEq, Repr

structure RS where
  docbuffer : List Str := []
  prevdoc : Bool := false
  readingAlt : Nat := 0
  continued : Bool := false
  readingPredoc : Bool := false
  readingPredocAlt : Nat := 0
  linebuffer : Str := []
  deriving Repr

/-- first character of `line.strip()` -/
def firstStripped (line : Str) : Option Char := (lstrip line).head?

/-- `tmp[:1] + docmark + tmp[1 + len(mark):]` -/
def substMark (doc : Str) (markLen : Nat) (tmp : Str) : Str :=
  tmp.take 1 ++ doc ++ tmp.drop (1 + markLen)

/-- The pops that follow a completed logical line: all `pending` items, then
    all buffered doc lines; returns the items in emission order and the final
    `prevdoc`. -/
def flush (m : Marks) (pending docs : List Str) (prevdoc : Bool) : List Str × Bool :=
  match pending, docs with
  | _ :: _, [] => (pending, false)
  | _ :: _, _ :: _ => (pending ++ docs, true)
  | [], [] => ([], prevdoc)            -- unreachable (see `feed`)
  | [], [d] => ([d], if d != '!' :: m.doc then true else prevdoc)
  | [], _ :: _ :: _ => (docs, true)

/-- The rest of a loop iteration after the if/else on the stripped line: advance the
    alt-block counters, append the line to the buffer and, when the logical line is
    complete, split it at `;` and emit everything that is buffered. -/
def feedTail (m : Marks) (s : RS) (line : Str) : Except RErr (RS × List Str) :=
  let s := if s.readingAlt > 0 then { s with readingAlt := s.readingAlt + 1 } else s
  let s := if s.readingPredocAlt > 0 then { s with readingPredocAlt := s.readingPredocAlt + 1 } else s
  let s := { s with linebuffer := s.linebuffer ++ line }
  let done := (!s.docbuffer.isEmpty || !s.linebuffer.isEmpty) && !s.continued
              && !s.readingPredoc && s.readingPredocAlt == 0
  if !done then .ok (s, []) else
    let frags := quoteSplit ';' s.linebuffer
    let pending := (frags.filter (fun f => !f.isEmpty)).map strip
    if pending.isEmpty && s.docbuffer.isEmpty then .error .internal else
    let (items, pd) := flush m pending s.docbuffer s.prevdoc
    .ok ({ docbuffer := [], prevdoc := pd, readingAlt := s.readingAlt, continued := false,
           readingPredoc := false, readingPredocAlt := 0, linebuffer := [] }, items)

/-- One iteration of the `while not done` loop on one physical line.
    Returns the new state and the items emitted (non-empty only when the
    iteration ended with `done`). -/
def feed (m : Marks) (s : RS) (line0 : Str) : Except RErr (RS × List Str) :=
  let inQuote := unterminated s.linebuffer
  if firstStripped line0 == some '#' then .ok (s, []) else
  -- predocmark
  let r1 : Except RErr RS :=
    match matchDocmark m.pre line0 inQuote with
    | some i =>
      let s' := { s with readingPredoc := true, readingAlt := 0, readingPredocAlt := 0,
                         docbuffer := s.docbuffer ++ [substMark m.doc m.pre.length (line0.drop i)] }
      if !(isBlank (line0.take i)) then .error .predocInline else .ok s'
    | none => .ok s
  match r1 with
  | .error e => .error e
  | .ok s =>
  -- predocmark_alt
  let r2 : Except RErr RS :=
    match matchDocmark m.preAlt line0 inQuote with
    | some i =>
      let s' := { s with readingPredocAlt := 1, readingAlt := 0, readingPredoc := false,
                         docbuffer := s.docbuffer ++ [substMark m.doc m.preAlt.length (line0.drop i)] }
      if !(isBlank (line0.take i)) then .error .predocAltInline else .ok s'
    | none => .ok s
  match r2 with
  | .error e => .error e
  | .ok s =>
  -- docmark_alt
  let r3 : Except RErr RS :=
    match matchDocmark m.alt line0 inQuote with
    | some i =>
      let s' := { s with readingAlt := 1, readingPredoc := false, readingPredocAlt := 0,
                         docbuffer := s.docbuffer ++ [substMark m.doc m.alt.length (line0.drop i)] }
      if !(isBlank (line0.take i)) then .error .altInline else .ok s'
    | none => .ok s
  match r3 with
  | .error e => .error e
  | .ok s =>
  -- docmark
  let (s, line) : RS × Str :=
    match matchDocmark m.doc line0 inQuote with
    | some i => ({ s with readingAlt := 0, readingPredocAlt := 0,
                          docbuffer := s.docbuffer ++ [line0.drop i] }, line0.take i)
    | none => (s, line0)
  let fc := firstStripped line
  let s := if fc.isNone || fc != some '!' then { s with readingAlt := 0 } else s
  let s := if fc.isSome && fc != some '!' then { s with readingPredocAlt := 0 } else s
  -- ordinary comments
  let (s, line) : RS × Str :=
    match matchCom line inQuote with
    | some i =>
      let s := if (s.readingPredocAlt > 1 || s.readingAlt > 1) && isBlank (line.take i)
               then { s with docbuffer := s.docbuffer ++ [('!' :: m.doc) ++ (line.drop i).drop 1] }
               else s
      (s, line.take i)
    | none => (s, line)
  let line := strip line
  match line with
  | [] =>
    let s := if s.prevdoc && s.docbuffer.isEmpty then { s with docbuffer := ['!' :: m.doc] } else s
    feedTail m s []
  | c :: rest =>
    let s := { s with readingPredoc := false, readingPredocAlt := 0, readingAlt := 0 }
    if c == '&' then
      if s.continued then
        if isBlank rest then .ok (s, [])          -- `continue`
        else
          let (s, line) := if rest.getLast? == some '&' then ({ s with continued := true }, rest.dropLast)
                           else ({ s with continued := false }, rest)
          feedTail m s line
      else if rest.isEmpty then .ok (s, [])        -- `len(line.strip()) == 1: continue`
      else .error .ampStart
    else
      let s := { s with linebuffer := strip s.linebuffer ++ [' '] }
      let line := c :: rest
      let (s, line) := if line.getLast? == some '&' then ({ s with continued := true }, line.dropLast)
                       else ({ s with continued := false }, line)
      feedTail m s line

/-- `list(FortranReader(file))` for a file whose physical lines are `lines`.
    When the file ends inside the loop the Python iterator just stops
    (`StopIteration` from `next(self.reader)`), dropping what is buffered. -/
def readFrom (m : Marks) : RS → List Str → Except RErr (List Str)
  | _, [] => .ok []
  | s, l :: ls =>
    match feed m s l with
    | .error e => .error e
    | .ok (s', items) =>
      match readFrom m s' ls with
      | .error e => .error e
      | .ok more => .ok (items ++ more)

def readAll (m : Marks) (lines : List Str) : Except RErr (List Str) :=
  readFrom m {} lines

end Ford
