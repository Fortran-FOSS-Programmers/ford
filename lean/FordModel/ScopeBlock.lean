/-
  C07 - BLOCK constructs.  A BLOCK is a scoping unit nested in the execution part of a
  program or procedure: what it declares (derived types, interface blocks, abstract
  interfaces) or use-associates is local to the construct.

  FORD has no object for a BLOCK.  The statement dispatcher `FortranContainer.__init__`
  counts `blocklevel` and files a statement it meets while `blocklevel > 0` in the lists of
  the ENCLOSING code unit unless the branch of that statement kind carries the guard
  `blocklevel == 0`.  The model is therefore a parse step in front of `corr`:

    `flatten reg` turns a scope tree with blocks (`BScope`) into the object tree FORD builds
    (`Scope`): block-local USE statements / declarations of the kinds `reg` says are
    registered are appended, in source order, to the enclosing unit's `uses` / declarations;
    everything else in a block is dropped.

  `BlockReg` is read from the source on every run (Generated/C07.lean: `blockGuards`).  In
  the variant `asFound` the USE branch has no guard (FORD before 4c901b0), every declaring branch has.
  No imports outside FordModel (linked into the driver).
-/
import FordModel.Scope
import FordModel.ScopeSpec
namespace Ford.Scope
open Ford

mutual
/-- a BLOCK construct: its USE statements, its local declarations, the BLOCKs nested in it -/
inductive Block
  | mk (uses : List Use) (decls : List Decl) (inner : Blocks)
inductive Blocks
  | nil
  | cons (b : Block) (rest : Blocks)
end

mutual
/-- a code unit with the BLOCK constructs of its execution part -/
inductive BScope
  | mk (name : Str) (ent : Ent) (isFunc : Bool) (uses : List Use) (decls : List Decl)
       (slots : List Slot) (blocks : Blocks) (kids : BKids)
inductive BKids
  | nil
  | cons (s : BScope) (rest : BKids)
end

/-- which kinds of statement the dispatcher files in the enclosing unit while `blocklevel > 0`
    (= the branch has NO `blocklevel == 0` guard) -/
structure BlockReg where
  use : Bool   -- USE statements -> `self.uses`
  ty : Bool    -- derived type definitions -> `self.types`
  ifc : Bool   -- interface blocks -> `self.interfaces` / `self.absinterfaces`
  deriving DecidableEq, Repr

/-- the code as found: only the USE branch is unguarded -/
def BlockReg.asFound : BlockReg := ⟨true, false, false⟩
/-- every branch guarded (fixes/C07-block-use-local.diff) -/
def BlockReg.none : BlockReg := ⟨false, false, false⟩

/-- the registration behaviour a probed table stands for (`Generated/C07.lean: blockFiled` - for every
    kind of statement whether the working tree files it in the enclosing unit while inside a BLOCK
    construct, observed on a witness program); a kind the table does not list files nothing -/
def regOfTable (filed : List (String × Bool)) : BlockReg :=
  ⟨filed.lookup "use" == some true,
   filed.lookup "type" == some true,
   filed.lookup "interface" == some true || filed.lookup "absinterface" == some true⟩

def regDecl (reg : BlockReg) (d : Decl) : Bool :=
  match d.ns with
  | .ty => reg.ty
  | .pr => reg.ifc
  | .ab => reg.ifc

mutual
/-- the USE statements of a block and of everything nested in it, in source order -/
def blockUses : Block → List Use
  | .mk us _ inner => us ++ blocksUses inner
def blocksUses : Blocks → List Use
  | .nil => []
  | .cons b r => blockUses b ++ blocksUses r
end

mutual
/-- the block-local declarations that get registered in the enclosing unit, in source order -/
def blockDecls (reg : BlockReg) : Block → List Decl
  | .mk _ ds inner => ds.filter (regDecl reg) ++ blocksDecls reg inner
def blocksDecls (reg : BlockReg) : Blocks → List Decl
  | .nil => []
  | .cons b r => blockDecls reg b ++ blocksDecls reg r
end

mutual
/-- the object tree the parser builds -/
def flatten (reg : BlockReg) : BScope → Scope
  | .mk n e f us ds ss bs ks =>
    .mk n e f (us ++ (if reg.use then blocksUses bs else [])) (ds ++ blocksDecls reg bs) ss
      (flattenKids reg ks)
def flattenKids (reg : BlockReg) : BKids → Kids
  | .nil => .nil
  | .cons s r => .cons (flatten reg s) (flattenKids reg r)
end

mutual
/-- the program with its BLOCK constructs removed -/
def eraseBlocks : BScope → Scope
  | .mk n e f us ds ss _ ks => .mk n e f us ds ss (eraseKids ks)
def eraseKids : BKids → Kids
  | .nil => .nil
  | .cons s r => .cons (eraseBlocks s) (eraseKids r)
end

mutual
/-- no BLOCK of the list (at any depth) has a USE statement -/
def blockNoUse : Block → Bool
  | .mk us _ inner => us.isEmpty && blocksNoUse inner
def blocksNoUse : Blocks → Bool
  | .nil => true
  | .cons b r => blockNoUse b && blocksNoUse r
end

mutual
/-- no BLOCK anywhere in the scope tree has a USE statement -/
def noBlockUse : BScope → Bool
  | .mk _ _ _ _ _ _ bs ks => blocksNoUse bs && kidsNoBlockUse ks
def kidsNoBlockUse : BKids → Bool
  | .nil => true
  | .cons s r => noBlockUse s && kidsNoBlockUse r
end

mutual
/-- ids of the block-local declarations the parser registers in the enclosing unit, over a
    whole tree -/
def registered (reg : BlockReg) : BScope → List Ent
  | .mk _ _ _ _ _ _ bs ks => (blocksDecls reg bs).map (·.ent) ++ registeredKids reg ks
def registeredKids (reg : BlockReg) : BKids → List Ent
  | .nil => []
  | .cons s r => registered reg s ++ registeredKids reg r
end

/-- Specification.  A BLOCK is a child scope: a reference outside it denotes what it denotes
    in the program without the BLOCK constructs (declarations local to a child scope are
    invisible).  FORD records no reference slot inside a BLOCK. -/
def specBScope (env : ModEnv) (ch : List Frame) (s : BScope) : Res := specScope env ch (eraseBlocks s)

def corrBProject (v : Variant) (reg : BlockReg) (us : List (Bool × BScope)) : Res :=
  corrProject v [] (us.map fun x => (x.1, flatten reg x.2))

def specBProject (us : List (Bool × BScope)) : Res :=
  specProject [] (us.map fun x => (x.1, eraseBlocks x.2))

end Ford.Scope
