/-
  C17 - model of FORD's static-page mechanism *as the code is*:
    ford/pagetree.py   PageNode, get_page_tree
    ford/output.py     PagetreePage (output path, mkdir, copy_subdir / file copies)
    ford/_markdown.py  AliasPreprocessor (|url| |media| |page|), RelativeLinksTreeProcessor
    ford/output.py     relative_url (the `relurl` filter of info_page.html)
  Paths are lists of segments; `os.path.relpath` / `Path.resolve` are the
  segment-list functions `relpath` / `norm`.  The constants (alias table,
  "page" directory segments, "index.md", ".md", skip characters) come from
  `Generated/C17.lean`, which the translator rewrites from the source on every run.
-/
import FordModel.Basic.Chars
import FordModel.Generated.C17
namespace Ford.PT
open Ford
open Ford.Gen.C17

abbrev PathS := List Str

/-! ## Python `sorted()` on `str` : code-point lexicographic order -/

def strLe : Str → Str → Bool
  | [], _ => true
  | _ :: _, [] => false
  | a :: as, b :: bs =>
    if a.toNat < b.toNat then true
    else if b.toNat < a.toNat then false
    else strLe as bs

def insertS (x : Str) : List Str → List Str
  | [] => [x]
  | y :: ys => if strLe x y then x :: y :: ys else y :: insertS x ys

/-- `sorted(os.listdir(topdir))` -/
def sortNames : List Str → List Str
  | [] => []
  | x :: xs => insertS x (sortNames xs)

/-- `list(OrderedDict.fromkeys(l))`: first occurrences, in order -/
def dedup : List Str → List Str
  | [] => []
  | x :: xs => x :: (dedup xs).filter (fun y => y != x)

/-- the two `continue` tests on `name[0]` / `name[-1]` -/
def skipName (n : Str) : Bool :=
  (match n.head? with | some c => skipFirst.contains c | none => false) ||
  (match n.getLast? with | some c => skipLast.contains c | none => false)

/-- `mergedfilelist` of `get_page_tree` -/
def mergedList (ordered names : List Str) : List Str :=
  let filelist := (sortNames names).erase indexName
  let ord := ordered.filter (fun x => x != indexName)
  if ord.isEmpty then filelist else dedup (ord ++ filelist)

/-! ## pathlib name arithmetic -/

/-- index of the last `.` -/
def rfindDot (s : Str) : Option Nat :=
  let rec go : Str → Nat → Option Nat → Option Nat
    | [], _, r => r
    | c :: cs, i, r => go cs (i + 1) (if c == '.' then some i else r)
  go s 0 none

/-- length of `PurePath(name).suffix` -/
def suffixLen (s : Str) : Nat :=
  match rfindDot s with
  | some i => if 0 < i ∧ i + 1 < s.length then s.length - i else 0
  | none => 0

def pySuffix (s : Str) : Str := s.drop (s.length - suffixLen s)
def pyStem (s : Str) : Str := s.take (s.length - suffixLen s)

/-- `filename.suffix == ".md"` -/
def isMd (n : Str) : Bool := pySuffix n == mdSuffix

/-- `Path(path.stem).with_suffix(".html")` -/
def htmlName (n : Str) : Str := pyStem (pyStem n) ++ ".html".toList

/-! ## paths -/

def dotdot : Str := ['.', '.']

def commonLen : PathS → PathS → Nat
  | a :: as, b :: bs => if a == b then commonLen as bs + 1 else 0
  | _, _ => 0

/-- `os.path.relpath(t, start)` on normalised absolute segment lists -/
def relpath (t start : PathS) : PathS :=
  let c := commonLen t start
  List.replicate (start.length - c) dotdot ++ t.drop c

/-- `normpath` / `Path.resolve()` of an absolute path: `acc` is the reversed stack -/
def normAux (acc : PathS) : PathS → PathS
  | [] => acc.reverse
  | s :: rest =>
    if s == dotdot then normAux acc.tail rest
    else if s == ['.'] || s == [] then normAux acc rest
    else normAux (s :: acc) rest

def norm (p : PathS) : PathS := normAux [] p

/-- what a browser does with a relative href on a page that lives in directory `cur` -/
def resolveFrom (cur rel : PathS) : PathS := norm (cur ++ rel)

def splitSlash (s : Str) : List Str :=
  let rec go : Str → Str → List Str
    | [], cur => [cur.reverse]
    | c :: cs, cur => if c == '/' then cur.reverse :: go cs [] else go cs (c :: cur)
  go s []

def showPath (p : PathS) : Str := if p.isEmpty then ['.'] else joinSep '/' p
def showAbs (p : PathS) : Str := '/' :: joinSep '/' p

/-- `base in path.parents` -/
def properPrefix : PathS → PathS → Bool
  | [], _ :: _ => true
  | [], [] => false
  | _ :: _, [] => false
  | a :: as, b :: bs => a == b && properPrefix as bs

/-- the decision of `_fix_attrib` on the resolved target `full`: rewritten to `relpath(full, cur)`
    iff `base` is a proper ancestor of it -/
def fixSegs (base cur full : PathS) : Option PathS :=
  if properPrefix base full then some (relpath full cur) else none

/-- `RelativeLinksTreeProcessor._fix_attrib`: `base` = resolved `md.base_url`,
    `cur` = `md.current_path`, `cwd` = process working directory, `href` the attribute text. -/
def fixAttrib (base cur cwd : PathS) (href : Str) : Str :=
  let full := if href.head? == some '/' then norm (splitSlash href) else norm (cwd ++ splitSlash href)
  match fixSegs base cur full with
  | some r => showPath r
  | none => href

/-! ## page sources -/

structure Link where
  alias : Str   -- `""` : no alias; otherwise the text between the pipes
  rest : Str    -- the text after the alias (or the whole href)

structure Meta where
  title : Option Str
  ordered : List Str
  copySub : List Str
  links : List Link

inductive Entry where
  | dir (name : Str) (children : List Entry)
  | file (name : Str) (m : Meta)

def Entry.name : Entry → Str
  | .dir n _ => n
  | .file n _ => n

def Entry.isDir : Entry → Bool
  | .dir _ _ => true
  | .file _ _ => false

def names (es : List Entry) : List Str := es.map Entry.name

/-- recursive listing of everything below an entry (`shutil.copytree`), paths relative to
    the entry's parent; `true` marks a directory -/
def listAll : Entry → List (PathS × Bool)
  | .file n _ => [([n], false)]
  | .dir n cs => ([n], true) :: (listAllL cs).map (fun p => (n :: p.1, p.2))
where listAllL : List Entry → List (PathS × Bool)
  | [] => []
  | e :: es => listAll e ++ listAllL es

def findEntry (n : Str) : List Entry → Option Entry
  | [] => none
  | e :: es => if e.name == n then some e else findEntry n es

/-- `PageNode`: `loc` = location, `file` = html file name, `src` = source file / directory name,
    `hier` = locations and titles of `hierarchy` (all of them index pages),
    `copies` = for every `copy_subdir` item the listing of the source directory if it is one. -/
inductive Node where
  | mk (loc : PathS) (file : Str) (src : Str) (title : Str) (hier : List (PathS × Str))
       (copySub : List Str) (copies : List (Str × Option (List (PathS × Bool))))
       (links : List Link) (files : List Str) (subs : List Node)

def Node.loc : Node → PathS | .mk l _ _ _ _ _ _ _ _ _ => l
def Node.file : Node → Str | .mk _ f _ _ _ _ _ _ _ _ => f
def Node.src : Node → Str | .mk _ _ s _ _ _ _ _ _ _ => s
def Node.title : Node → Str | .mk _ _ _ t _ _ _ _ _ _ => t
def Node.hier : Node → List (PathS × Str) | .mk _ _ _ _ h _ _ _ _ _ => h
def Node.copySub : Node → List Str | .mk _ _ _ _ _ c _ _ _ _ => c
def Node.copies : Node → List (Str × Option (List (PathS × Bool))) | .mk _ _ _ _ _ _ c _ _ _ => c
def Node.links : Node → List Link | .mk _ _ _ _ _ _ _ l _ _ => l
def Node.files : Node → List Str | .mk _ _ _ _ _ _ _ _ f _ => f
def Node.subs : Node → List Node | .mk _ _ _ _ _ _ _ _ _ s => s
/-- `PageNode.path` -/
def Node.path (n : Node) : PathS := n.loc ++ [n.file]

/-- what one directory entry contributes to the node of its directory -/
inductive Res where
  | page (n : Node)
  | nothing            -- untitled page, directory without (titled) index.md
  | file               -- `node.files.append(name)`
  | abort (p : PathS)  -- `raise ValueError("Requested page file ... does not exist")`

inductive Walk where
  | ok (subs : List Node) (files : List Str)
  | abort (p : PathS)

def Walk.consSub (n : Node) : Walk → Walk
  | .ok s f => .ok (n :: s) f
  | .abort p => .abort p

def Walk.consFile (x : Str) : Walk → Walk
  | .ok s f => .ok s (x :: f)
  | .abort p => .abort p

def lookupRes (n : Str) : List (Str × Bool × Res) → Option (Bool × Res)
  | [] => none
  | (k, v) :: r => if k == n then some v else lookupRes n r

/-- Which variant of the `copy_subdir` recursion test is modelled.
    `asIs`: `if parent and name in parent.copy_subdir` where `parent` is the node of the
    directory *above* the one being listed.  `ignored`: directories are never skipped
    (the reading of the property statement: a directory with an index.md becomes a sub-tree). -/
inductive CopyCheck where
  | asIs | ignored
deriving DecidableEq

/-- `MissingOrdered.raises`: raise on a dangling `ordered_subpage` entry; `.skips`: warn and continue (FORD since b41dfee) -/
inductive MissingOrdered where
  | raises | skips
deriving DecidableEq

structure Variant where
  cc : CopyCheck
  mo : MissingOrdered

def Variant.asIs : Variant := ⟨.asIs, .raises⟩

def pcContains (v : Variant) (pc : Option (List Str)) (n : Str) : Bool :=
  match v.cc, pc with
  | .asIs, some l => l.contains n
  | _, _ => false

/-- the `for name in mergedfilelist` loop; `rs` = what each entry of the directory would contribute -/
def walk (v : Variant) (pc : Option (List Str)) (loc : PathS) (rs : List (Str × Bool × Res)) :
    List Str → Walk
  | [] => .ok [] []
  | n :: ns =>
    if skipName n then walk v pc loc rs ns
    else match lookupRes n rs with
      | none =>
        (match v.mo with
         | .raises => .abort (loc ++ [n])
         | .skips => walk v pc loc rs ns)
      | some (isDir, r) =>
        if isDir && pcContains v pc n then walk v pc loc rs ns
        else match r with
          | .abort p => .abort p
          | .nothing => walk v pc loc rs ns
          | .file => (walk v pc loc rs ns).consFile n
          | .page nd => (walk v pc loc rs ns).consSub nd

/-- index.md of a directory: its metadata and title if it is a titled regular file -/
def indexMeta (cs : List Entry) : Option (Meta × Str) :=
  match findEntry indexName cs with
  | some (.file _ m) => (match m.title with | some t => some (m, t) | none => none)
  | _ => none

def copyListing (sibs : List Entry) (item : Str) : Str × Option (List (PathS × Bool)) :=
  match findEntry item sibs with
  | some (.dir n cs) => (item, some (listAll (.dir n cs)))
  | _ => (item, none)

def ordNoIndex (m : Meta) : List Str := m.ordered.filter (fun x => x != indexName)

mutual
/-- contribution of entry `e` of the directory at `loc` whose index node has `copy_subdir = own`
    and whose sub-pages have hierarchy `hier`; `sibs` = all entries of that directory -/
def entryRes (v : Variant) (own : List Str) (hier : List (PathS × Str)) (loc : PathS)
    (sibs : List Entry) : Entry → Res
  | .file n m =>
    if isMd n then
      match m.title with
      | none => .nothing
      | some t => .page (.mk loc (htmlName n) n t hier m.copySub (m.copySub.map (copyListing sibs)) m.links [] [])
    else .file
  | .dir n cs =>
    match indexMeta cs with
    | none => .nothing
    | some (m, t) =>
      match walk v (some own) (loc ++ [n]) (entriesRes v m.copySub (hier ++ [(loc ++ [n], t)]) (loc ++ [n]) cs cs)
              (mergedList m.ordered (names cs)) with
      | .abort p => .abort p
      | .ok subs files =>
        .page (.mk (loc ++ [n]) (htmlName indexName) n t hier m.copySub (m.copySub.map (copyListing cs)) m.links files subs)

def entriesRes (v : Variant) (own : List Str) (hier : List (PathS × Str)) (loc : PathS)
    (sibs : List Entry) : List Entry → List (Str × Bool × Res)
  | [] => []
  | e :: es => (e.name, e.isDir, entryRes v own hier loc sibs e) :: entriesRes v own hier loc sibs es
end

/-- `get_page_tree(page_dir, ...)` with `parent = None` -/
def getPageTree (v : Variant) (cs : List Entry) : Res :=
  match indexMeta cs with
  | none => .nothing
  | some (m, t) =>
    match walk v none [] (entriesRes v m.copySub [([], t)] [] cs cs) (mergedList m.ordered (names cs)) with
    | .abort p => .abort p
    | .ok subs files =>
      .page (.mk [] (htmlName indexName) [] t [] m.copySub (m.copySub.map (copyListing cs)) m.links files subs)

/-- `PageNode.__iter__`: the node, then its sub-pages, depth first -/
def preorder : Node → List Node
  | .mk l f s t h c cp lk fs subs => .mk l f s t h c cp lk fs subs :: preorderL subs
where preorderL : List Node → List Node
  | [] => []
  | n :: ns => preorder n ++ preorderL ns

/-! ## output (`PagetreePage.writeout` for every node of the tree, in `__iter__` order) -/

/-- one node: write the page, `copytree` every `copy_subdir` item whose source is a directory
    and whose destination does not exist yet, copy the files.  State = paths that exist
    below `<output>/page` (`true` = directory). -/
def copyItems (loc : PathS) : List (Str × Option (List (PathS × Bool))) → List (PathS × Bool) → List (PathS × Bool)
  | [], st => st
  | (_, none) :: r, st => copyItems loc r st
  | (item, some listing) :: r, st =>
    if st.any (fun p => p.1 == loc ++ [item]) then copyItems loc r st
    else copyItems loc r (st ++ listing.map (fun p => (loc ++ p.1, p.2)))

def addNew (st : List (PathS × Bool)) (p : PathS × Bool) : List (PathS × Bool) :=
  if st.any (fun q => q.1 == p.1) then st else st ++ [p]

def writeNode (st : List (PathS × Bool)) (n : Node) : List (PathS × Bool) :=
  let st1 := if n.file == htmlName indexName && !n.loc.isEmpty then addNew st (n.loc, true) else st
  let st2 := addNew st1 (n.path, false)
  let st3 := copyItems n.loc n.copies st2
  n.files.foldl (fun s f => addNew s (n.loc ++ [f], false)) st3

def outputs (top : Node) : List (PathS × Bool) := (preorder top).foldl writeNode []

/-! ## links -/

def aliasText (base : PathS) (a : Str) : Option Str :=
  match aliasTable.lookup a with
  | some segs => some (showAbs (base ++ segs))
  | none => none

/-- href text after `AliasPreprocessor` -/
def linkHref (base : PathS) (l : Link) : Str :=
  if l.alias.isEmpty then l.rest
  else match aliasText base l.alias with
    | some t => t ++ l.rest
    | none => ('|' :: l.alias) ++ ('|' :: l.rest)

/-- the alias dictionary that `ford.main` hands to `MetaMarkdown` for the predefined aliases:
    `str(url_path / <segments>)` for every entry of the table -/
def mainAliases (base : PathS) : List (Str × Str) :=
  aliasTable.map (fun p => (p.1, showAbs (base ++ p.2)))

/-- directory of the output file of a page = `md.current_path` during its conversion -/
def pageDir (base : PathS) (n : Node) : PathS := base ++ convPathSeg ++ n.loc
def outDir (base : PathS) (n : Node) : PathS := base ++ pageDirSeg ++ n.loc
/-- `PagetreePage.outfile` -/
def outFile (base : PathS) (n : Node) : PathS := base ++ pageDirSeg ++ n.path
/-- `PageNode.url` -/
def nodeUrl (base : PathS) (n : Node) : PathS := base ++ nodeUrlSeg ++ n.path

/-- hrefs in the converted body of page `n` -/
def bodyHrefs (base cwd : PathS) (n : Node) : List Str :=
  n.links.map (fun l => fixAttrib base (pageDir base n) cwd (linkHref base l))

/-- `url | relurl(page_url)` for the page `q` being rendered -/
def relurl (base : PathS) (q : Node) (url : PathS) : Str := showPath (relpath url (outDir base q))

/-- the sidebar of info_page.html: the top page, then all other pages depth first;
    only rendered when the top page has sub-pages -/
def navHrefs (base : PathS) (top q : Node) : List Str :=
  if top.subs.isEmpty then [] else (preorder top).map (fun p => relurl base q (nodeUrl base p))

/-- the breadcrumb: one link per element of `hierarchy` -/
def crumbHrefs (base : PathS) (q : Node) : List Str :=
  q.hier.map (fun h => relurl base q (base ++ nodeUrlSeg ++ h.1 ++ [htmlName indexName]))

/-! ## the encoding handed down the walk

`get_page_tree` and `PageNode` take the project's `encoding` as a per-call argument; every file is
decoded with whatever value arrives at the `PageNode(...)` call that reads it.  The page directory
on disk is a tree of `RawEntry`: a file carries the encoding its bytes were written in (`[]` = pure
ASCII, readable under every encoding FORD is used with) and the metadata it holds when decoded
correctly.  Reading a non-ASCII file with another encoding raises (`UnicodeDecodeError`, a
`ValueError`: caught by the same handlers as "no title") - exact for the combinations the harness
generates (bytes that are invalid UTF-8 read as UTF-8), an over-approximation otherwise (mojibake).
The call sites (which expression each call passes for which parameter) are the generated tables. -/

/-- `(pt! "abc")` is the literal `['a', 'b', 'c']` -/
macro "pt! " s:str : term => do
  let elems := s.getString.toList.toArray.map fun c => Lean.Syntax.mkCharLit c
  `([$elems,*])

inductive RawEntry where
  | dir (name : Str) (children : List RawEntry)
  | file (name : Str) (wenc : Str) (m : Meta)

/-- the calls by which one level of the walk hands its arguments to the next -/
structure CallSites where
  gptParams : List (Str × Str)
  pageNodeParams : List (Str × Str)
  recCall : List (Str × Str)
  indexNodeCall : List (Str × Str)
  subNodeCall : List (Str × Str)
  readTextArg : Str

/-- the call sites of the source under test -/
def CallSites.gen : CallSites :=
  ⟨Gen.C17.gptParams, Gen.C17.pageNodeParams, Gen.C17.recCall, Gen.C17.indexNodeCall,
   Gen.C17.subNodeCall, Gen.C17.readTextArg⟩

/-- the parameter that carries the encoding (same name in `get_page_tree` and `PageNode.__init__`) -/
def encParam : Str := pt! "encoding"

/-- value of a (string-valued) argument expression where the caller's own parameters have the values
    `env`: `'text` is a literal, a name is looked up, anything else is unknown (`[]`) -/
def evalExpr (env : List (Str × Str)) : Str → Str
  | '\'' :: lit => lit
  | ex => (env.lookup ex).getD []

/-- value that parameter `p` of a callee (parameter list `params`) receives from the call `call` -/
def argValue (params call env : List (Str × Str)) (p : Str) : Str :=
  match call.lookup p with
  | some ex => evalExpr env ex
  | none => (match params.lookup p with | some d => evalExpr [] d | none => [])

/-- `encoding` of the recursive call when the current call runs with `enc` -/
def CallSites.encRec (c : CallSites) (enc : Str) : Str :=
  argValue c.gptParams c.recCall [(encParam, enc)] encParam

/-- the encoding `read_text` gets inside a `PageNode(...)` made by `call` -/
def CallSites.encNode (c : CallSites) (call : List (Str × Str)) (enc : Str) : Str :=
  evalExpr [(encParam, argValue c.pageNodeParams call [(encParam, enc)] encParam)] c.readTextArg

def CallSites.encIndex (c : CallSites) (enc : Str) : Str := c.encNode c.indexNodeCall enc
def CallSites.encSub (c : CallSites) (enc : Str) : Str := c.encNode c.subNodeCall enc

/-- `Path(path).read_text(enc)` succeeds -/
def readable (enc wenc : Str) : Bool := wenc.isEmpty || wenc == enc

/-- what `PageNode` sees of a file: its metadata, or (decoding raised) nothing that has a title -/
def readMeta (enc wenc : Str) (m : Meta) : Meta :=
  if readable enc wenc then m else { m with title := none }

mutual
/-- the directory as the walk reads it when the call for the enclosing directory runs with `enc` -/
def decodeE (c : CallSites) (enc : Str) : RawEntry → Entry
  | .file n w m => .file n (readMeta (if n == indexName then c.encIndex enc else c.encSub enc) w m)
  | .dir n cs => .dir n (decodeL c (c.encRec enc) cs)
def decodeL (c : CallSites) (enc : Str) : List RawEntry → List Entry
  | [] => []
  | e :: es => decodeE c enc e :: decodeL c enc es
end

/-- `get_page_tree(page_dir, ..., encoding=enc)` on the directory as it is on disk -/
def getPageTreeRaw (c : CallSites) (v : Variant) (enc : Str) (cs : List RawEntry) : Res :=
  getPageTree v (decodeL c enc cs)

/-! ## the project's `copy_subdir` handed down the walk

`PageNode.__init__`: `self.copy_subdir = self.meta.copy_subdir or proj_copy_subdir` - the option of the file
itself first, otherwise whatever arrives as `proj_copy_subdir` at the `PageNode(...)` call that makes the node.
`ford.main` starts the walk with the project setting; what arrives further down is decided by the call sites
(the generated tables): each level hands a list to the two `PageNode(...)` calls and to the recursive call. -/

/-- the parameter that carries the project's list (same name in `get_page_tree` and `PageNode.__init__`) -/
def copyParam : Str := pt! "proj_copy_subdir"
/-- how the translator names "the `copy_subdir` of the enclosing call's own index node" -/
def nodeCopyExpr : Str := pt! "<node>.copy_subdir"

/-- `self.meta.copy_subdir or proj_copy_subdir` -/
def effCopy (pcs own : List Str) : List Str := if own.isEmpty then pcs else own

/-- value of a list-valued argument expression inside a `get_page_tree` call that received `pcs` and whose
    index node has the effective list `nodeCopy`; anything else is unknown (`[]`) -/
def evalCopyExpr (pcs nodeCopy : List Str) (ex : Str) : List Str :=
  if ex == copyParam then pcs else if ex == nodeCopyExpr then nodeCopy else []

/-- what `call` passes for `proj_copy_subdir` (the parameter has no default in either callee) -/
def copyArg (call : List (Str × Str)) (pcs nodeCopy : List Str) : List Str :=
  match call.lookup copyParam with
  | some ex => evalCopyExpr pcs nodeCopy ex
  | none => []

def CallSites.copyRec (c : CallSites) (pcs nodeCopy : List Str) : List Str := copyArg c.recCall pcs nodeCopy
/-- (the index node does not exist yet when its own `PageNode(...)` call is made) -/
def CallSites.copyIndex (c : CallSites) (pcs : List Str) : List Str := copyArg c.indexNodeCall pcs []
def CallSites.copySubNode (c : CallSites) (pcs nodeCopy : List Str) : List Str := copyArg c.subNodeCall pcs nodeCopy

/-- the `copy_subdir` option written in the index.md of a directory -/
def ownIndexCopy (cs : List Entry) : List Str :=
  match findEntry indexName cs with
  | some (.file _ m) => m.copySub
  | _ => []

mutual
/-- the directory with every page's `copy_subdir` replaced by the effective one, when the `get_page_tree`
    call for the enclosing directory received `pcs` and its index node has the effective list `nodeCopy` -/
def projE (c : CallSites) (pcs nodeCopy : List Str) : Entry → Entry
  | .file n m =>
    .file n { m with copySub := effCopy (if n == indexName then c.copyIndex pcs else c.copySubNode pcs nodeCopy) m.copySub }
  | .dir n cs =>
    .dir n (projL c (c.copyRec pcs nodeCopy)
              (effCopy (c.copyIndex (c.copyRec pcs nodeCopy)) (ownIndexCopy cs)) cs)
def projL (c : CallSites) (pcs nodeCopy : List Str) : List Entry → List Entry
  | [] => []
  | e :: es => projE c pcs nodeCopy e :: projL c pcs nodeCopy es
end

/-- the page directory as the walk started with the project list `pcs` sees the `copy_subdir` of its pages -/
def projTop (c : CallSites) (pcs : List Str) (cs : List Entry) : List Entry :=
  projL c pcs (effCopy (c.copyIndex pcs) (ownIndexCopy cs)) cs

/-- `get_page_tree(page_dir, pcs, ..., encoding=enc)` on the directory as it is on disk -/
def getPageTreeProj (c : CallSites) (v : Variant) (enc : Str) (pcs : List Str) (cs : List RawEntry) : Res :=
  getPageTree v (projTop c pcs (decodeL c enc cs))

/-! ## the rest of the generated documentation that the pages point into

`Documentation.writeout` copies the project's `media_dir` (whatever it is called) to
`<output>/<mediaDestSeg>`; the `|media|` alias must name that place.  The fixed navigation bar of
every page (`base.html`) starts with a link to the top static page. -/

/-- `copytree(self.data["media_dir"], out_dir / "media")`: what exists below `<output>` afterwards
    (`none`: the project has no `media_dir`, `self.data` has no such key, nothing is copied) -/
def mediaOutputs : Option (List Entry) → List (PathS × Bool)
  | none => []
  | some es => (mediaDestSeg, true) :: (listAll.listAllL es).map (fun p => (mediaDestSeg ++ p.1, p.2))

/-- `{{ pages.url | relurl(page_url) }}` in the navigation bar of page `q` -/
def topNavHref (base : PathS) (top q : Node) : Str := relurl base q (nodeUrl base top)

/-! ## the containment guard of `get_page_tree`

`relname = os.path.relpath(filename, topdir)` with `filename = topdir / name`, then
`relname in (os.curdir, os.pardir) or relname.startswith(os.pardir + os.sep)`: purely lexical (pathlib's `/`
and `relpath` never look at the file system), so whether `name` is a link, and where it leads, plays no role. -/

/-- `relname in (".", "..") or relname.startswith("../")` on the segments of `relname` (`.` = no segment) -/
def escapes (rel : PathS) : Bool := rel.isEmpty || rel.head? == some dotdot

/-- the guard for the entry `name` of the directory `topdir` (absolute, normalised) -/
def guardSkips (topdir : PathS) (name : Str) : Bool :=
  escapes (relpath (norm (topdir ++ splitSlash name)) topdir)

/-- the layer of `aliasLayers` that stands for the dict literal of the predefined aliases -/
def predefinedLayer : Str := pt! "<predefined>"

end Ford.PT
