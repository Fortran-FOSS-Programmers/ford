/-
  C07 - model of FORD's name-table construction and reference resolution
  (`FortranCodeUnit.correlate` and the `correlate` methods of the reference
  owners), with the two repaired defects as switches (`Variant`; FORD repaired both in 9594e8c).

  * every code unit owns one dict `all_procs`; `all_types` and
    `all_absinterfaces` of a nested unit ARE the host's dict objects (no copy):
    inside one top-level unit there is exactly one types dict and one
    abstract-interface dict, mutated in the order of the `correlate` recursion.
    The model therefore threads these two tables through the traversal
    (`Variant.alias = true`); with `alias = false` every unit works on a copy.
  * `all_procs.update(parent.all_procs)`: host entries overwrite local ones
    (`Variant.hostOverLocal = true`); the repair merges local over host.
  * USE: `update` with what `FortranModule.get_used_entities` returns: the used
    module's public tables themselves (no list), or a fresh dict into which every
    public entity is filed under `used_names[name]` (ONLY: listed names only) resp.
    `used_names.get(name, name)` (renames without ONLY: the renamed entity appears
    under its local name and NOT under its original one).
  * reference slots are looked up either before the nested units are
    correlated (`Phase.early`: parent type, components, bindings, finalisers,
    constructor) or after the functions and subroutines (`Phase.late`:
    variables, arguments, result) - which is observable because of the aliasing.

  A table is an association list whose HEAD is the most recent write, so
  `dict[k] = v` is `cons`, `d.update(u)` is `u ++ d` and `{**a, **b}` is `b ++ a`.
  No imports outside FordModel (linked into the driver).
-/
import FordModel.Basic.Chars
namespace Ford.Scope
open Ford

abbrev Ent := Nat
abbrev Table := List (Str × Ent)

/-- `d.get(k)` -/
def tget : Table → Str → Option Ent
  | [], _ => none
  | (k', e) :: r, k => if k' = k then some e else tget r k

/-- which dict a declaration is entered in -/
inductive NS | ty | pr | ab
  deriving DecidableEq, Repr

/-- lookup rule of a reference slot: `ty` = all_types; `pr` = all_procs;
    `pa` = all_procs, then all_absinterfaces (procedure(...) prototypes);
    `bn` = the `bindings` entry of a DEFERRED type-bound procedure: `FortranBoundProcedure.correlate`
    looks it up nowhere (its branches are `if self.generic` / `elif not self.deferred`) -/
inductive SK | ty | pr | pa | bn
  deriving DecidableEq, Repr

inductive Phase | early | late
  deriving DecidableEq, Repr

structure Slot where
  id : Nat
  kind : SK
  phase : Phase
  name : Str
  deriving Repr

/-- `use mod` (no items), `use mod, loc => rem, ...` (only = false) or
    `use mod, only: loc => rem, name, ...` (only = true; a plain `name` is the
    item `(name, name)`).  Items are (local name, name in the module). -/
structure Use where
  mod : Str
  only : Bool
  items : List (Str × Str)
  deriving Repr

/-- a local declaration that is not itself a nested code unit: derived type,
    abstract interface, generic interface / interface body (procs table) -/
structure Decl where
  ns : NS
  name : Str
  ent : Ent
  deriving Repr

mutual
/-- a code unit: name, entity id, is-a-function, USE statements in order,
    local declarations in order, reference slots, nested procedures in source order -/
inductive Scope
  | mk (name : Str) (ent : Ent) (isFunc : Bool) (uses : List Use) (decls : List Decl)
       (slots : List Slot) (kids : Kids)
inductive Kids
  | nil
  | cons (s : Scope) (rest : Kids)
end

structure Variant where
  alias : Bool          -- nested units share the host's types / absinterfaces dicts
  hostOverLocal : Bool  -- host procedures overwrite local ones
  deriving DecidableEq, Repr

def asIs : Variant := ⟨true, true⟩
def repaired : Variant := ⟨false, false⟩

/-- public tables of a module as seen by USE -/
structure Exports where
  p : Table
  a : Table
  t : Table
  deriving Repr

abbrev ModEnv := List (Str × Exports)

def findMod : ModEnv → Str → Option Exports
  | [], _ => none
  | (k, e) :: r, n => if k = n then some e else findMod r n

structure Tabs where
  p : Table
  a : Table
  t : Table
  deriving Repr

/-- `d.get(k)` on a str -> str dict -/
def sget : List (Str × Str) → Str → Option Str
  | [], _ => none
  | (k', v) :: r, k => if k' = k then some v else sget r k

/-- `used_names[remote.lower()] = local.lower()` for every item of the statement, in
    order (head = most recent write: a later item with the same remote name wins) -/
def usedNames : List (Str × Str) → List (Str × Str)
  | [] => []
  | (loc, rem) :: r => usedNames r ++ [(lower rem, lower loc)]

/-- keys of the dict a write log stands for, in iteration order (= order of first insertion) -/
def dictKeys : Table → List Str
  | [] => []
  | (k, _) :: r => if k ∈ dictKeys r then dictKeys r else dictKeys r ++ [k]

/-- `d.items()` -/
def dictItems (tb : Table) : List (Str × Ent) :=
  (dictKeys tb).filterMap fun k => (tget tb k).map fun e => (k, e)

/-- the key under which `used_objects` files the public entity `k` (`none` = not imported):
    `used_names[name]` if listed; otherwise, without ONLY, `used_names.get(name, name) = name` -/
def localName (only : Bool) (un : List (Str × Str)) (k : Str) : Option Str :=
  match sget un k with
  | some loc => some loc
  | none => if only then none else some k

/-- `used_objects(object_type, only)`: `result = {}`, then one write per public entity of the
    module in the iteration order of its dict -/
def usedObjects (pub : Table) (only : Bool) (un : List (Str × Str)) : Table :=
  ((dictItems pub).filterMap fun ke => (localName only un ke.1).map fun n => (n, ke.2)).reverse

/-- entries a USE statement brings in from one public table (`get_used_entities`; a statement
    without items hands out the public dict itself) -/
def importTable (pub : Table) (u : Use) : Table :=
  if u.items.isEmpty && !u.only then pub else usedObjects pub u.only (usedNames u.items)

/-- `for mod, extra in self.uses: all_procs.update(procs); ...` -/
def applyUses (env : ModEnv) : List Use → Tabs → Tabs
  | [], tb => tb
  | u :: us, tb =>
    match findMod env (lower u.mod) with
    | none => applyUses env us tb
    | some ex =>
      applyUses env us
        ⟨importTable ex.p u ++ tb.p, importTable ex.a u ++ tb.a, importTable ex.t u ++ tb.t⟩

/-- local declarations of one namespace, most recent first -/
def declsOf (ns : NS) : List Decl → Table
  | [] => []
  | d :: ds => if d.ns = ns then declsOf ns ds ++ [(lower d.name, d.ent)] else declsOf ns ds

/-- the nested procedures of the wanted kind as table entries (most recent first) -/
def kidProcs (wantFunc : Bool) : Kids → Table
  | .nil => []
  | .cons (.mk n e f _ _ _ _) r =>
    if f = wantFunc then kidProcs wantFunc r ++ [(lower n, e)] else kidProcs wantFunc r

/-- `_cleanup`: `{p.name.lower(): p for p in routines}` (functions, then
    subroutines), then the interfaces -/
def localProcs (decls : List Decl) (kids : Kids) : Table :=
  declsOf .pr decls ++ (kidProcs false kids ++ kidProcs true kids)

def lookupSlot (tb : Tabs) (s : Slot) : Option Ent :=
  let n := lower s.name
  match s.kind with
  | .ty => tget tb.t n
  | .pr => tget tb.p n
  | .pa => match tget tb.p n with
    | some e => some e
    | none => tget tb.a n
  | .bn => none

/-- content of the reference slots: the slot and the entity stored in it (`none` = the name stays text) -/
abbrev Res := List (Slot × Option Ent)

def resolvePhase (ph : Phase) (tb : Tabs) : List Slot → Res
  | [] => []
  | s :: ss => if s.phase = ph then (s, lookupSlot tb s) :: resolvePhase ph tb ss else resolvePhase ph tb ss

/-- tables of a unit after host association, local declarations and USE -/
def unitTabs (v : Variant) (env : ModEnv) (hostP a t : Table)
    (uses : List Use) (decls : List Decl) (kids : Kids) : Tabs :=
  let lp := localProcs decls kids
  let p0 := if v.hostOverLocal then hostP ++ lp else lp ++ hostP
  applyUses env uses ⟨p0, declsOf .ab decls ++ a, declsOf .ty decls ++ t⟩

mutual
/-- `FortranCodeUnit.correlate`: returns the (possibly mutated) shared tables
    and the content of every reference slot of the unit and its nested units -/
def corr (v : Variant) (env : ModEnv) (hostP a t : Table) : Scope → Table × Table × Res
  | .mk _ _ _ uses decls slots kids =>
    let tb := unitTabs v env hostP a t uses decls kids
    let early := resolvePhase .early tb slots
    let r1 := corrKids v env tb.p true tb.a tb.t kids
    let r2 := corrKids v env tb.p false r1.1 r1.2.1 kids
    let late := resolvePhase .late ⟨tb.p, r2.1, r2.2.1⟩ slots
    (if v.alias then r2.1 else a, if v.alias then r2.2.1 else t,
     early ++ (r1.2.2 ++ (r2.2.2 ++ late)))
/-- the recursion over `self.functions` (wantFunc) resp. `self.subroutines` -/
def corrKids (v : Variant) (env : ModEnv) (hostP : Table) (wantFunc : Bool) (a t : Table) :
    Kids → Table × Table × Res
  | .nil => (a, t, [])
  | .cons (.mk n e f us ds ss ks) rest =>
    if f = wantFunc then
      let r := corr v env hostP a t (.mk n e f us ds ss ks)
      let r' := corrKids v env hostP wantFunc r.1 r.2.1 rest
      (r'.1, r'.2.1, r.2.2 ++ r'.2.2)
    else corrKids v env hostP wantFunc a t rest
end

/-- a top-level unit starts from empty host tables (`getattr(parent, ..., {})`) -/
def corrUnit (v : Variant) (env : ModEnv) (s : Scope) : Res := (corr v env [] [] [] s).2.2

/-- `FortranModule._cleanup` + the `pub_*.update(...)` of `correlate`
    (every module of the abstract projects has default accessibility PUBLIC) -/
def exportsOf (env : ModEnv) : Scope → Exports
  | .mk _ _ _ uses decls _ kids =>
    let tb := applyUses env uses ⟨localProcs decls kids, declsOf .ab decls, declsOf .ty decls⟩
    ⟨tb.p, tb.a, tb.t⟩

def scopeName : Scope → Str
  | .mk n _ _ _ _ _ _ => n

/-- `Project.correlate`: units in dependency order; modules publish their tables -/
def corrProject (v : Variant) : ModEnv → List (Bool × Scope) → Res
  | _, [] => []
  | env, (isMod, s) :: us =>
    corrUnit v env s ++
      corrProject v (if isMod then (lower (scopeName s), exportsOf env s) :: env else env) us

end Ford.Scope
