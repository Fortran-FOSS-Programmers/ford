/-
  C13 — model of ford/graphs.py as the code is.

  Three layers, each mirroring one mechanism of the source:

  * `callNodes`   = `get_call_nodes` (257-299): which raw calls become graph nodes
                    (invisible procedures and simple bindings are skipped transitively,
                    `visited` guards against cycles);
  * `create`      = `GraphData.register/get_node` + the node constructors (383-599):
                    every constructor stores the forward relation on its own node *and*
                    the inverse relation on the target node (`fwd` / `inv` below are
                    these two families of sets);
  * `addNodes`    = `FortranGraph.add_nodes/add_to_graph/_add_nested_nodes` (849-872,
                    1012-1051) with the per-class `add_node` given by `succOf`;
  * `graphAll`    = `GraphManager.register/graph_all` (1363-1440).

  The guards of the interface-to-implementation links of `ProcNode.__init__` (truthiness,
  `isinstance`, `visible`) are not written here: `targets` consults the decision table
  `C13Gen.ifaceRules`, regenerated from the working tree by translate/c13.py on every run.

  Sets are lists; iteration order inside a hop (`sorted(nodes)`) is not modelled,
  observations are compared as sets.  Nodes are natural numbers: the index of the
  entity in the table handed over by the harness (one index per node `ident`).
-/
import FordModel.Basic.Chars
import FordModel.Generated.C13
namespace Ford.Graph
open Ford.C13Gen (IfaceRule ifaceRules)

abbrev Node := Nat

inductive Style | solid | dashed
deriving DecidableEq, Repr

structure Edge where
  tail : Node
  head : Node
  style : Style
deriving DecidableEq, Repr

/-! ## Entities (what the constructors read from the Fortran objects) -/

inductive Kind | mod | submod | type | proc | prog | file | block | ext
deriving DecidableEq, Repr

structure Ent where
  kind : Kind := .ext
  /-- `ProcNode.proctype == "boundproc"` -/
  isBoundType : Bool := false
  /-- `ProcNode.proctype == "interface"` -/
  isIface : Bool := false
  /-- `getattr(obj, "visible", True)` -/
  visible : Bool := true
  /-- `getattr(obj, "visible", False)` -/
  visibleF : Bool := false
  /-- `isinstance(obj, FortranBoundProcedure)` -/
  isBound : Bool := false
  deferred : Bool := false
  /-- `hasattr(obj, "external_url")` -/
  extUrl : Bool := false
  /-- `obj.meta.graph` -/
  graph : Bool := true
  uses : List Node := []
  /-- submodule: parent submodule or ancestor module; type: `obj.extends` -/
  anc : Option Node := none
  /-- prototypes of the components of derived type (already without `*`) -/
  comps : List Node := []
  /-- `getattr(obj, "calls", [])` after `correlate` -/
  calls : List Node := []
  /-- `getattr(obj, "bindings", [])` -/
  bindings : List Node := []
  /-- row of the generated table `C13Gen.ifaceRules` that describes the Python class of the object
      (`NoneType`, `False`, `True`, `str`, then the classes of ford.sourceform) -/
  cls : Nat := 0
  /-- `[m.procedure for m in obj.modprocs]`, unfiltered: the specific procedures of a generic
      interface exactly as `correlate` left them (an unmatched one is an entity of class `NoneType`) -/
  modprocs : List Node := []
  /-- `obj.procedure.module` of a `FortranModuleProcedureInterface`, unfiltered: the implementing
      procedure, or an entity of class `False` / `True` when none was matched -/
  impl : Option Node := none
  /-- source files of the `deplist` entries of the program units of a file (≠ the file) -/
  deps : List Node := []
  /-- `obj.boundprocs` of a type -/
  boundprocs : List Node := []
  /-- `traverse(obj, ["subroutines", "functions"])` of a procedure -/
  internals : List Node := []
  maxDepth : Nat := 0
  maxNodes : Nat := 1
deriving Repr

abbrev Table := List Ent

def ent (tab : Table) (i : Node) : Ent := tab.getD i {}

/-! ## `get_call_nodes` -/

/-- `is_simple_binding` -/
def isSimple (tab : Table) (c : Node) : Bool :=
  let e := ent tab c
  e.isBound && e.bindings.length == 1 &&
    (match e.bindings with
     | b :: _ => !(ent tab b).isBound && (e.deferred || (ent tab b).visibleF)
     | [] => false)

/-- the call is shown as a node -/
def keep (tab : Table) (c : Node) : Bool := (ent tab c).visible && !isSimple tab c

/-- `getattr(call, "calls", []) + getattr(call, "bindings", [])` -/
def callChildren (tab : Table) (c : Node) : List Node := (ent tab c).calls ++ (ent tab c).bindings

/-- `get_call_nodes` as a work list (depth first, like the recursion): `none` = fuel
    exhausted (never happens with the fuel the driver supplies). -/
def callNodesAux (tab : Table) : Nat → List Node → List Node → List Node → Option (List Node)
  | _, [], _, res => some res
  | 0, _ :: _, _, _ => none
  | f + 1, c :: rest, vis, res =>
    if vis.contains c then callNodesAux tab f rest vis res
    else if keep tab c then callNodesAux tab f rest (c :: vis) (res ++ [c])
    else callNodesAux tab f (callChildren tab c ++ rest) (c :: vis) res

/-- enough fuel: every entity is expanded at most once, every list element popped once -/
def callFuel (tab : Table) : Nat :=
  (tab.map fun e => e.calls.length + e.bindings.length + 1).sum + tab.length + 2

def callNodes (tab : Table) (calls : List Node) : List Node :=
  (callNodesAux tab (callFuel tab + calls.length) calls [] []).getD []

/-! ## Node creation: forward and inverse adjacency -/

inductive Rel | uses | anc | ext | comp | call | iface | dep
deriving DecidableEq, Repr

structure Link where
  src : Node
  rel : Rel
  dst : Node
deriving DecidableEq, Repr

structure NodeData where
  /-- entities that have a node object -/
  created : List Node := []
  /-- `⟨a, r, t⟩`: `t` is in the forward set `r` of node `a`
      (`uses`, `ancestor`, `comp_types`, `calls`, `interfaces`, `efferent`) -/
  fwd : List Link := []
  /-- `⟨t, r, a⟩`: `a` is in the inverse set of node `t`
      (`used_by`, `children`, `comp_of`, `called_by`, `interfaced_by`, `afferent`) -/
  inv : List Link := []
deriving DecidableEq, Repr

def insertLink (l : Link) (ls : List Link) : List Link := if ls.contains l then ls else ls ++ [l]

/-- the two adjacent statements `n.used_by.add(self); self.uses.add(n)` -/
def link (nd : NodeData) (a : Node) (rt : Rel × Node) : NodeData :=
  { nd with fwd := insertLink ⟨a, rt.1, rt.2⟩ nd.fwd, inv := insertLink ⟨rt.2, rt.1, a⟩ nd.inv }

def optList (o : Option Node) : List Node := match o with | some a => [a] | none => []

/-- the row of the decision table for class index `c` (nothing is linked for an unknown class) -/
def ruleOfIn (rules : List IfaceRule) (c : Nat) : IfaceRule := rules.getD c { name := "" }

/-- guard of the loop over `obj.modprocs`: is the specific procedure `m` linked? -/
def specificLinked (rules : List IfaceRule) (tab : Table) (m : Node) : Bool :=
  let r := ruleOfIn rules (ent tab m).cls
  if (ent tab m).visible then r.modproc else r.modprocHidden

/-- guard of the `obj.procedure.module` branch: is the implementation `m` linked? -/
def implLinked (rules : List IfaceRule) (tab : Table) (m : Node) : Bool :=
  let r := ruleOfIn rules (ent tab m).cls
  if (ent tab m).visible then r.impl else r.implHidden

/-- the interface-to-implementation links of an interface entity, under a given decision table -/
def ifaceTargets (rules : List IfaceRule) (tab : Table) (i : Node) : List Node :=
  ((ent tab i).modprocs.filter (specificLinked rules tab))
    ++ ((optList (ent tab i).impl).filter (implLinked rules tab))

/-- what the constructor of the node of `e` links to, in source order -/
def targets (tab : Table) (i : Node) : List (Rel × Node) :=
  let e := ent tab i
  match e.kind with
  | .ext => []
  | .mod => e.uses.map (Rel.uses, ·)
  | .submod => e.uses.map (Rel.uses, ·) ++ (optList e.anc).map (Rel.anc, ·)
  | .type =>
    if e.extUrl then []
    else (optList e.anc).map (Rel.ext, ·) ++ e.comps.map (Rel.comp, ·)
  | .proc =>
    e.uses.map (Rel.uses, ·)
      ++ (callNodes tab (e.calls ++ e.bindings)).map (Rel.call, ·)
      ++ (if e.isIface then (ifaceTargets ifaceRules tab i).map (Rel.iface, ·) else [])
  | .prog => e.uses.map (Rel.uses, ·) ++ (callNodes tab e.calls).map (Rel.call, ·)
  | .block => e.uses.map (Rel.uses, ·)
  | .file => e.deps.map (Rel.dep, ·)

/-- `GraphData.register` / `get_node` for every entity of the work list, recursively for
    everything the constructors touch.  `none` = fuel exhausted. -/
def create (tab : Table) : Nat → List Node → NodeData → Option NodeData
  | _, [], nd => some nd
  | 0, _ :: _, _ => none
  | f + 1, e :: rest, nd =>
    if nd.created.contains e then create tab f rest nd
    else
      let ts := targets tab e
      create tab f (ts.map Prod.snd ++ rest)
        (ts.foldl (fun nd rt => link nd e rt) { nd with created := nd.created ++ [e] })

/-! ## The relation slots the node constructors read

  Every constructor reads a few attributes of its Fortran object ("slots") and links the new node with
  the node of every entity it finds there.  Which slots the constructor of which node class reads is
  also read off the working tree (translate/c13.py runs the real constructors on stubs and writes
  `C13Gen.ctorLinks`); `Props/C13.lean` proves that the generated table and `slotsOf` agree and that
  every row stores both directions. -/

inductive Slot | uses | anc | ext | comps | calls | bindings | deps
deriving DecidableEq, Repr

/-- the codes used in the generated table `C13Gen.ctorLinks` -/
def Kind.code : Kind → Nat
  | .mod => 0 | .submod => 1 | .type => 2 | .proc => 3 | .prog => 4 | .file => 5 | .block => 6 | .ext => 7

def Slot.code : Slot → Nat
  | .uses => 0 | .anc => 1 | .ext => 2 | .comps => 3 | .calls => 4 | .bindings => 5 | .deps => 6

def allKinds : List Kind := [.mod, .submod, .type, .proc, .prog, .file, .block, .ext]

def allSlots : List Slot := [.uses, .anc, .ext, .comps, .calls, .bindings, .deps]

/-- the relation a slot feeds -/
def Slot.rel : Slot → Rel
  | .uses => .uses | .anc => .anc | .ext => .ext | .comps => .comp
  | .calls => .call | .bindings => .call | .deps => .dep

/-- slots that go through `get_call_nodes` before they are linked -/
def Slot.isCall : Slot → Bool
  | .calls | .bindings => true
  | _ => false

/-- the slots the constructor of each node class reads (`ModNode`, `SubmodNode`, `TypeNode`, `ProcNode`,
    `ProgNode`, `FileNode`, `BlockNode`; an entity known by name only has none) -/
def slotsOf : Kind → List Slot
  | .mod => [.uses]
  | .submod => [.uses, .anc]
  | .type => [.ext, .comps]
  | .proc => [.uses, .calls, .bindings]
  | .prog => [.uses, .calls]
  | .file => [.deps]
  | .block => [.uses]
  | .ext => []

/-- what an entity holds in a slot -/
def slotVals (e : Ent) : Slot → List Node
  | .uses => e.uses
  | .anc => optList e.anc
  | .ext => optList e.anc
  | .comps => e.comps
  | .calls => e.calls
  | .bindings => e.bindings
  | .deps => e.deps

def fwdOf (nd : NodeData) (a : Node) (r : Rel) : List Node :=
  (nd.fwd.filter fun l => l.src == a && l.rel == r).map Link.dst

def invOf (nd : NodeData) (t : Node) (r : Rel) : List Node :=
  (nd.inv.filter fun l => l.src == t && l.rel == r).map Link.dst

/-! ## Graph classes: the per-class `add_node` -/

inductive GClass
  | module | uses | usedBy | file | efferent | afferent
  | type | inherits | inheritedBy | call | calls | calledBy
deriving DecidableEq, Repr

/-- candidates and edges `add_node` produces for `n` (before the `not in self.added` test) -/
def succOf (tab : Table) (nd : NodeData) : GClass → Node → List (Node × Edge)
  | .module, n | .uses, n =>
    (fwdOf nd n .uses).map (fun u => (u, ⟨n, u, .dashed⟩))
      ++ (fwdOf nd n .anc).map (fun a => (a, ⟨n, a, .solid⟩))
  | .usedBy, n =>
    (invOf nd n .uses).map (fun u => (u, ⟨u, n, .dashed⟩))
      ++ (invOf nd n .anc).map (fun c => (c, ⟨c, n, .solid⟩))
  | .file, n => (fwdOf nd n .dep).map (fun d => (d, ⟨d, n, .solid⟩))
  | .efferent, n => (fwdOf nd n .dep).map (fun d => (d, ⟨n, d, .dashed⟩))
  | .afferent, n => (invOf nd n .dep).map (fun a => (a, ⟨a, n, .dashed⟩))
  | .type, n | .inherits, n =>
    (fwdOf nd n .comp).map (fun c => (c, ⟨n, c, .dashed⟩))
      ++ (fwdOf nd n .ext).map (fun a => (a, ⟨n, a, .solid⟩))
  | .inheritedBy, n =>
    (invOf nd n .comp).map (fun c => (c, ⟨c, n, .dashed⟩))
      ++ (invOf nd n .ext).map (fun c => (c, ⟨c, n, .solid⟩))
  | .call, n | .calls, n =>
    (fwdOf nd n .call).map
        (fun p => (p, ⟨n, p, if (ent tab n).isBoundType then .dashed else .solid⟩))
      ++ (fwdOf nd n .iface).map (fun p => (p, ⟨n, p, .dashed⟩))
  | .calledBy, n =>
    if (ent tab n).kind == .prog then []
    else
      (invOf nd n .call).map (fun p => (p, ⟨p, n, .solid⟩))
        ++ (invOf nd n .iface).map (fun p => (p, ⟨p, n, .dashed⟩))

def GClass.nested : GClass → Bool
  | .module | .file | .type | .call => false
  | _ => true

/-- `CallGraph.add_node` tests `p not in hop_nodes` instead of `p not in self.added`
    (`fx = false`, FORD before b36a7df); `fx = true` is the code with fixes/C13-callgraph-count.diff.
    The harness decides at run time which of the two the working tree is. -/
def GClass.filterAdded (fx : Bool) : GClass → Bool
  | .call => fx
  | _ => true

/-! ## `add_nodes` / `add_to_graph` -/

structure Cfg where
  succ : Node → List (Node × Edge)
  nested : Bool
  filterAdded : Bool
  maxNesting : Nat
  maxNodes : Nat

structure GState where
  added : List Node := []
  edges : List Edge := []
  hopNodes : List Node := []
  hopEdges : List Edge := []
  /-- `none` is the `-1` of the source -/
  truncated : Option Nat := none
  /-- `add_to_graph` refused a hop -/
  cutBySize : Bool := false
deriving Repr

def dedup : List Node → List Node
  | [] => []
  | a :: r => if r.contains a then dedup r else a :: dedup r

def union (a b : List Node) : List Node := a ++ b.filter fun x => !a.contains x

def cands (succ : Node → List (Node × Edge)) (nodes : List Node) : List (Node × Edge) :=
  nodes.flatMap succ

/-- the set `hop_nodes` built by the `add_node` calls of one hop -/
def hopOf (cfg : Cfg) (added nodes : List Node) : List Node :=
  dedup (((cands cfg.succ nodes).map Prod.fst).filter fun c => !cfg.filterAdded || !added.contains c)

def hopEdgesOf (cfg : Cfg) (nodes : List Node) : List Edge := (cands cfg.succ nodes).map Prod.snd

def addNodes (cfg : Cfg) (nodes : List Node) (nesting : Nat) (st : GState) : GState :=
  let hop := hopOf cfg st.added nodes
  if hop.length + st.added.length > cfg.maxNodes then
    -- add_to_graph returns False
    { st with
      hopNodes := if nesting < 2 then hop else st.hopNodes
      hopEdges := if nesting < 2 then hopEdgesOf cfg nodes else st.hopEdges
      truncated := some nesting
      cutBySize := true }
  else
    let st' := { st with added := union st.added hop, edges := st.edges ++ hopEdgesOf cfg nodes }
    if cfg.nested then
      if hop.isEmpty then st'
      else if nesting < cfg.maxNesting then addNodes cfg hop (nesting + 1) st'
      else { st' with truncated := some nesting }
    else st'
termination_by cfg.maxNesting - nesting

/-- `FortranGraph.__init__`: the roots are added unconditionally, then `add_nodes(root)` -/
def runGraph (cfg : Cfg) (roots : List Node) : GState :=
  addNodes cfg roots 1 { added := dedup roots }

/-! ## `FortranGraph.__str__`: whether and how a graph is shown on its page -/

inductive Shown | nothing | table | svg
deriving DecidableEq, Repr

/-- `__str__`: a graph that shows nothing but one node is left out; so is one whose nodes exceed
    `max_nodes` (the roots alone are too many) or that lacks a root; a graph whose *first* hop was
    refused and that has a single root is shown as a table (root, one row per kept edge of that hop);
    everything else is the SVG picture. -/
def shownAs (nroots maxNodes : Nat) (g : GState) : Shown :=
  let asTable := !g.hopNodes.isEmpty && nroots == 1
  if g.added.length ≤ 1 ∧ asTable = false then .nothing
  else if g.added.length > maxNodes then .nothing
  else if g.added.length < nroots then .nothing
  else if asTable then .table
  else .svg

/-- the end of an edge that is not the root (the root itself for an edge from the root to itself) -/
def otherEnd (root : Node) (e : Edge) : Node := if e.tail == root then e.head else e.tail

/-- `_make_graph_as_table`: one row per kept edge, showing one end of the edge beside the root.  Which
    end is decided **once**: `ft = false`, FORD before 92048e8, from the first edge (`hop_edges[0]`): the
    head of every edge if the root is the tail of the first one, else the tail of every edge;
    `ft = true`, the code with fixes/C13-table-self-loop.diff, from the first edge that does not lead
    from the root to itself.  The harness decides at run time which of the two the working tree is. -/
def tableRows (ft : Bool) (root : Node) (es : List Edge) : List (Node × Style) :=
  let first := if ft then (es.find? fun e => e.tail != e.head).or es.head? else es.head?
  match first with
  | none => []
  | some e0 =>
    if e0.tail == root then es.map fun e => (e.head, e.style) else es.map fun e => (e.tail, e.style)

/-- `_make_graph_as_table`: the `rowspan` of the cell that holds the root ("the root node takes up one column
    and spans all rows").  `fr = false`, FORD before bca106b: `len(self.hop_nodes) * 2 + 1` - computed from the
    *nodes* of the refused hop; `fr = true`, the code with fixes/C13-table-rootspan.diff: from its *edges*, which
    are what the rows are written for.  The harness decides at run time which of the two the working tree is. -/
def rootSpan (fr : Bool) (g : GState) : Nat :=
  2 * (if fr then g.hopEdges.length else g.hopNodes.length) + 1

/-- the `<tr>` elements the table consists of: two per kept edge (arrow shaft above / below) -/
def tableTrs (g : GState) : Nat := 2 * g.hopEdges.length

/-! ## `GraphManager` -/

def maxList (d : Nat) (l : List Nat) : Nat := l.foldl max d

def cfgOf (fx : Bool) (tab : Table) (nd : NodeData) (c : GClass) (roots : List Node) : Cfg :=
  { succ := succOf tab nd c
    nested := c.nested
    filterAdded := c.filterAdded fx
    maxNesting := maxList 0 (roots.map fun r => (ent tab r).maxDepth)
    maxNodes := maxList 1 (roots.map fun r => (ent tab r).maxNodes) }

def graphOf (fx : Bool) (tab : Table) (nd : NodeData) (c : GClass) (roots : List Node) : GState :=
  runGraph (cfgOf fx tab nd c roots) roots

/-- how the graph of class `c` over `roots` appears on its page -/
def shownOf (fx : Bool) (tab : Table) (nd : NodeData) (c : GClass) (roots : List Node) : Shown :=
  shownAs roots.length (cfgOf fx tab nd c roots).maxNodes (graphOf fx tab nd c roots)

/-- `GraphManager.register`: only entities whose metadata say `graph: true` -/
def registered (tab : Table) (order : List Node) : List Node :=
  order.filter fun e => (ent tab e).graph

def createFuel (tab : Table) : Nat :=
  (tab.map fun e => 4 * (e.uses.length + e.comps.length + e.calls.length + e.bindings.length
      + e.modprocs.length + e.deps.length + 4) * (tab.length + 1)).sum + tab.length + 4

/-- per-entity graphs of one registered entity -/
def entityGraphs (fx : Bool) (tab : Table) (nd : NodeData) (e : Node) : List (Node × GClass × GState) :=
  let cls : List GClass :=
    match (ent tab e).kind with
    | .mod | .submod => [.uses, .usedBy]
    | .type => [.inherits, .inheritedBy]
    | .proc => [.calls, .calledBy, .uses]
    | .prog => [.uses, .calls]
    | .file => [.afferent, .efferent]
    | .block => [.uses]
    | .ext => []
  cls.map fun c => (e, c, graphOf fx tab nd c [e])

structure AllGraphs where
  ok : Bool := true
  perEntity : List (Node × GClass × GState) := []
  useGraph : GState := {}
  typeGraph : GState := {}
  callGraph : GState := {}
  fileGraph : GState := {}
  useRoots : List Node := []
  callRoots : List Node := []
  nd1 : NodeData := {}
  nd2 : NodeData := {}

def isKind (tab : Table) (k : Kind) (e : Node) : Bool := (ent tab e).kind == k

def bigger (per : List (Node × GClass × GState)) (e : Node) (c : GClass) : Bool :=
  per.any fun (x, d, st) => x == e && d == c && st.added.length > 1

/-- all per-entity graphs (`graph_all`, first loop) -/
def perEntityOf (fx : Bool) (tab : Table) (nd : NodeData) (regs : List Node) : List (Node × GClass × GState) :=
  regs.flatMap (entityGraphs fx tab nd)

/-- roots of the project-wide module graph (`usenodes`) -/
def useRootsOf (tab : Table) (regs : List Node) (per : List (Node × GClass × GState)) : List Node :=
  (regs.filter fun e => isKind tab .mod e || isKind tab .submod e)
    ++ (regs.filter (isKind tab .prog)).filter (bigger per · .uses)
    ++ (regs.filter (isKind tab .proc)).filter (bigger per · .uses)
    ++ (regs.filter (isKind tab .block)).filter (bigger per · .uses)

/-- Is the bound procedure `bp` of a registered type a root of the project-wide call graph?
    `fb = false`, FORD before d4f27b1: unless it has exactly one binding that is not itself a bound
    procedure — a test that, unlike `is_simple_binding` of `get_call_nodes` (`isSimple`), does not ask
    whether the procedure behind the binding is shown.  `fb = true`: the code with
    fixes/C13-binding-to-hidden-root.diff (the same test as `isSimple`).  The harness decides at run
    time which of the two the working tree is. -/
def boundRoot (fb : Bool) (tab : Table) (bp : Node) : Bool :=
  !((ent tab bp).bindings.length == 1 &&
    (match (ent tab bp).bindings with
     | b :: _ => !(ent tab b).isBound && (!fb || (ent tab bp).deferred || (ent tab b).visibleF)
     | [] => false))

/-- roots of the project-wide call graph (`callnodes`) -/
def callRootsOf (fb : Bool) (tab : Table) (regs : List Node) (per : List (Node × GClass × GState)) : List Node :=
  let types := regs.filter (isKind tab .type)
  let procs := regs.filter (isKind tab .proc)
  let boundP := types.flatMap fun t => (ent tab t).boundprocs.filter (boundRoot fb tab)
  let internalP := procs.flatMap fun p => (ent tab p).internals.filter fun q => (ent tab q).visibleF
  dedup (procs ++ internalP ++ boundP) ++ (regs.filter (isKind tab .prog)).filter (bigger per · .calls)

/-- `graph_all` -/
def graphAll (fx fb : Bool) (tab : Table) (order : List Node) : AllGraphs :=
  let regs := registered tab order
  match create tab (createFuel tab + regs.length) regs {} with
  | none => { ok := false }
  | some nd1 =>
    let per := perEntityOf fx tab nd1 regs
    let useRoots := useRootsOf tab regs per
    let callRoots := callRootsOf fb tab regs per
    match create tab (createFuel tab + callRoots.length) callRoots nd1 with
    | none => { ok := false }
    | some nd2 =>
      { perEntity := per
        useGraph := graphOf fx tab nd1 .module useRoots
        typeGraph := graphOf fx tab nd1 .type (regs.filter (isKind tab .type))
        callGraph := graphOf fx tab nd2 .call callRoots
        fileGraph := graphOf fx tab nd2 .file (regs.filter (isKind tab .file))
        useRoots := useRoots, callRoots := callRoots, nd1 := nd1, nd2 := nd2 }

end Ford.Graph
