/-
  Model of what a *backtracking* regular-expression matcher (CPython's `re`) can be made to
  do by the patterns FORD applies to every statement of a source file (property C20, "on any
  input FORD terminates - it never hangs").

  `Rx` is the abstract syntax of the patterns as `re` parses them (the table
  `Gen.patterns` in Generated/C20.lean is produced from the compiled pattern objects of
  ford/reader.py and ford/sourceform.py with `re._parser`).  Character sets are bit masks
  over the ASCII codes 0..127 (case-insensitive patterns carry both cases in the mask).

  `paths r s` is the classical "list of successes" of a backtracking matcher: *every* way
  in which `r` can match a prefix of `s`, given by what is left of `s`, with multiplicity.
  When whatever follows `r` in the pattern fails, the engine walks through all of them
  before it gives up, so `(paths r s).length` is the work a failure costs; a loop whose
  number of ways grows exponentially with the length of the statement is what makes FORD
  hang.  (The order in which the engine tries them - greedy / lazy - does not matter for
  the count and is not modelled.)

  `functional a` is a syntactic condition under which `a` has *at most one* way to match at
  any position (fixed sequences of character sets; alternatives that start with different
  characters; a run of one character set closed by something that starts with a character
  outside the set).  A loop over such a body has at most `|s| + 1` ways
  (`Lemmas/Backtrack.lean`), and the table theorem of Props/C20.lean demands it of every
  loop of every pattern that can be re-entered after a failure.
-/
import FordModel.Basic.Chars
namespace Ford

inductive Rx
  | cls (m : Nat)                              -- one character out of a set (bit c of m ⇔ code c)
  | eps
  | bos                                        -- `^`  (no MULTILINE in these modules)
  | eos                                        -- `$`
  | lookb                                      -- look-behind assertion: not modelled, taken as true
  | look (neg : Bool) (r : Rx)                 -- `(?=r)` / `(?!r)`
  | seq (a b : Rx)
  | alt (a b : Rx)
  | rep (lo : Nat) (hi : Option Nat) (a : Rx)  -- `a{lo,hi}`, `hi = none` for unbounded
  deriving Repr, DecidableEq

namespace Rx

def inCls (m : Nat) (c : Char) : Bool := decide (c.toNat < 128) && m.testBit c.toNat

def hiAllows : Option Nat → Nat → Bool
  | none, _ => true
  | some h, k => decide (k < h)

/-- the ways a loop can match from `s` when `k` iterations are done: stop here (if `lo` is
    reached), or do one more iteration - which has to consume something - and go on -/
def iter (f : Str → List Str) (lo : Nat) (hi : Option Nat) : Nat → Nat → Str → List Str
  | 0, _, _ => []
  | fuel + 1, k, s =>
    (if lo ≤ k then [s] else []) ++
    (if hiAllows hi k then
       ((f s).filter (fun t => decide (t.length < s.length))).flatMap (iter f lo hi fuel (k + 1))
     else [])

/-- every way `r` matches a prefix of `s`: the remainders, with multiplicity
    (`n0` = length of the whole subject, for `^`) -/
def paths (n0 : Nat) : Rx → Str → List Str
  | .cls m, s =>
    match s with
    | c :: t => if inCls m c then [t] else []
    | [] => []
  | .eps, s => [s]
  | .bos, s => if s.length == n0 then [s] else []
  | .eos, s => if s.isEmpty || s == ['\n'] then [s] else []
  | .lookb, s => [s]
  | .look neg r, s => if (paths n0 r s).isEmpty == neg then [s] else []
  | .seq a b, s => (paths n0 a s).flatMap (paths n0 b)
  | .alt a b, s => paths n0 a s ++ paths n0 b s
  | .rep lo hi a, s => iter (paths n0 a) lo hi (s.length + 1) 0 s

/-- The matcher itself, as a backtracking engine runs: `matchK r s k` tries the ways of `r` at
    `s` one after the other (a loop first tries one more iteration, then to stop) and hands
    what is left to the continuation `k`, until `k` accepts.  It equals `(paths r s).any k`
    (`C20.matcher_walks_paths`) but stops at the first success, as `re` does. -/
def iterK (f : Str → (Str → Bool) → Bool) (lo : Nat) (hi : Option Nat) :
    Nat → Nat → Str → (Str → Bool) → Bool
  | 0, _, _, _ => false
  | fuel + 1, k, s, kont =>
    (hiAllows hi k && f s (fun t => decide (t.length < s.length) && iterK f lo hi fuel (k + 1) t kont))
      || (decide (lo ≤ k) && kont s)

def matchK (n0 : Nat) : Rx → Str → (Str → Bool) → Bool
  | .cls m, s, k =>
    match s with
    | c :: t => inCls m c && k t
    | [] => false
  | .eps, s, k => k s
  | .bos, s, k => (s.length == n0) && k s
  | .eos, s, k => (s.isEmpty || s == ['\n']) && k s
  | .lookb, s, k => k s
  | .look neg r, s, k => ((!(matchK n0 r s (fun _ => true))) == neg) && k s
  | .seq a b, s, k => matchK n0 a s (fun t => matchK n0 b t k)
  | .alt a b, s, k => matchK n0 a s k || matchK n0 b s k
  | .rep lo hi a, s, k => iterK (matchK n0 a) lo hi (s.length + 1) 0 s k

/-- `pattern.match(s)` succeeds -/
def matchesAt0 (r : Rx) (s : Str) : Bool := matchK s.length r s (fun _ => true)

/-- number of ways `r` matches at the start of `s` -/
def ways (r : Rx) (s : Str) : Nat := (paths s.length r s).length

/-! ### static analysis -/

def nullable : Rx → Bool
  | .cls _ => false
  | .eps | .bos | .eos | .lookb | .look _ _ => true
  | .seq a b => nullable a && nullable b
  | .alt a b => nullable a || nullable b
  | .rep lo _ a => lo == 0 || nullable a

/-- characters a non-empty match can start with -/
def first : Rx → Nat
  | .cls m => m
  | .eps | .bos | .eos | .lookb | .look _ _ => 0
  | .seq a b => if nullable a then first a ||| first b else first a
  | .alt a b => first a ||| first b
  | .rep _ _ a => first a

/-- matches at every position of every subject (so what precedes it is never re-entered
    because of it) -/
def neverFails : Rx → Bool
  | .eps => true
  | .cls _ | .bos | .eos | .lookb | .look _ _ => false
  | .seq a b => neverFails a && neverFails b
  | .alt a b => neverFails a || neverFails b
  | .rep lo _ a => lo == 0 || neverFails a

def isLoop : Option Nat → Bool
  | none => true
  | some h => decide (1 < h)

/-- at most one way to match, whatever the subject (sufficient condition) -/
def functional : Rx → Bool
  | .cls _ | .eps | .bos | .eos | .lookb | .look _ _ => true
  | .seq (.rep _ _ (.cls m)) b => functional b && !nullable b && (first b &&& m) == 0
  | .seq a b => functional a && functional b
  | .alt a b => functional a && functional b && !nullable a && !nullable b && (first a &&& first b) == 0
  | .rep _ _ _ => false

/-- bodies of the loops (`hi > 1`) of `r` that can be re-entered after a failure;
    `nofail` = nothing that can fail follows `r` up to the end of the pattern -/
def loopsCF : Rx → Bool → List Rx
  | .cls _, _ | .eps, _ | .bos, _ | .eos, _ | .lookb, _ => []
  | .look _ r, _ => loopsCF r false
  | .seq a b, nofail => loopsCF a (nofail && neverFails b) ++ loopsCF b nofail
  | .alt a b, nofail => loopsCF a nofail ++ loopsCF b nofail
  | .rep _ hi a, nofail =>
    if isLoop hi then (if nofail then [] else [a]) ++ loopsCF a false
    else loopsCF a nofail

/-- bodies of such loops for which `functional` does not hold -/
def badLoops (r : Rx) : List Rx := (loopsCF r true).filter (fun a => !functional a)

/-- all loops (`hi > 1`), for the histogram -/
def allLoops : Rx → List Rx
  | .cls _ | .eps | .bos | .eos | .lookb => []
  | .look _ r => allLoops r
  | .seq a b => allLoops a ++ allLoops b
  | .alt a b => allLoops a ++ allLoops b
  | .rep _ hi a => (if isLoop hi then [a] else []) ++ allLoops a

end Rx

/-- `a b c ...` in sequence (used by the generated table) -/
def seqs : List Rx → Rx
  | [] => .eps
  | [x] => x
  | x :: xs => .seq x (seqs xs)

/-- `a | b | c ...` -/
def alts : List Rx → Rx
  | [] => .eps
  | [x] => x
  | x :: xs => .alt x (alts xs)

/-- Patterns of the unchanged FORD that have a loop outside the `functional` class which can
    be re-entered after a failure (finding C20-call-chain-backtracking); they are the
    explicit exclusion of `C20.statement_patterns_loops_linear_partial`. -/
def knownBacktracking : List Str :=
  [['s', 'o', 'u', 'r', 'c', 'e', 'f', 'o', 'r', 'm', '.', 'F', 'o', 'r', 't', 'r', 'a', 'n', 'C', 'o', 'n', 't', 'a',
    'i', 'n', 'e', 'r', '.', 'C', 'A', 'L', 'L', '_', 'R', 'E']]

end Ford
