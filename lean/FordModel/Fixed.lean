/-
  Model of ford/fixed2free2.py: `FortranLine.__analyse`, `__convert`,
  `continueLine` and `convertToFree` (the `linestack` hold-back), for each `Variant` of the code.

  A physical line is a `Str` that normally ends in '\n' (the Python iterates a
  text stream, so every line but possibly the last carries its newline and
  `len(line)` counts it).  Not modelled: non-ASCII `str.lower`/`str.isspace`
  (the harness generates ASCII only; Python also treats \x1c-\x1f as blanks).
-/
import FordModel.Basic.Chars
namespace Ford.Fixed
open Ford

/-- `s.ljust(n)` -/
def ljust (n : Nat) (s : Str) : Str := s ++ List.replicate (n - s.length) ' '

/-- `firstchar in "cC*!"`; for the empty line `firstchar == ""` and `"" in "cC*!"` holds. -/
def commentHead : Option Char → Bool
  | none => true
  | some c => c == 'c' || c == 'C' || c == '*' || c == '!'

/-- Which of the three edits of the repair `fixes/C14-comment-lines-and-overflow-mark.diff` the
    code under test has (all `false` = the code without it). -/
structure Variant where
  /-- `isShort = len(line) <= 6 or not line.strip()`: a line of blanks only is a
      (held-back) comment line whatever its length -/
  blankShort : Bool := false
  /-- `isNewComment` also when columns 1-6 are blank and the first non-blank
      character from column 7 on is `!` -/
  col7Comment : Bool := false
  /-- `excess_line = "! " + line[72:]` instead of `"!" + line[72:]` -/
  spacedExcess : Bool := false
  deriving Repr, DecidableEq

/-- the code without the repair -/
def Variant.asIs : Variant := {}
/-- the code with `fixes/C14-comment-lines-and-overflow-mark.diff` applied -/
def Variant.repaired : Variant := { blankShort := true, col7Comment := true, spacedExcess := true }

/-- `self.isShort` -/
def isShortLine (v : Variant) (line : Str) : Bool :=
  decide (line.length ≤ 6) || (v.blankShort && isBlank line)

/-- `"!" in fivechars`, or (repaired) `not line[:6].strip() and line[6:].lstrip()[:1] == "!"` -/
def bangLine (v : Variant) (line : Str) : Bool :=
  ((line.drop 1).take 4).contains '!' ||
    (v.col7Comment && isBlank (line.take 6) && (lstrip (line.drop 6)).head? == some '!')

/-- what is put in front of the text beyond column 72 -/
def excessMark (v : Variant) : Str := if v.spacedExcess then ['!', ' '] else ['!']

/-- One analysed fixed-form line (the attributes of `FortranLine` that
    `convertToFree` and `continueLine` look at afterwards). -/
structure FLine where
  conv : Str            -- `line_conv`
  regular : Bool        -- `is_regular`
  cont : Bool           -- `isContinuation`
  long : Bool           -- `isLong and is_regular`
  excess : Str          -- `excess_line`
  deriving Repr, DecidableEq

/-- the label text that `__convert` puts in front of the code: `label` when it
    is not all blanks (and not reset by the `$omp` branch), else nothing -/
def labelText (line : Str) (omp : Bool) : Str :=
  if line.length > 1 && !omp then
    let x := lower (strip (line.take 5))
    if x.isEmpty then [] else x ++ [' ']
  else []

/-- `FortranLine(line, length_limit)`: `__analyse` followed by `__convert`. -/
def analyse (v : Variant) (lim : Bool) (line : Str) : FLine :=
  let n := line.length
  let five := (line.drop 1).take 4                  -- line[1:5]
  let isShort := isShortLine v line
  let isLong := decide (n > 73) && lim
  let isComment0 := commentHead line.head?
  let isNewComment := bangLine v line && !isComment0
  let isOMP := isComment0 && lower five == ['$', 'o', 'm', 'p']
  let isComment := isComment0 && !isOMP
  let isCpp := line.head? == some '#'
  let regular := !(isComment || isNewComment || isCpp || isShort)
  let cont := match line.drop 5 with
    | c :: _ => regular && !(isSpace c || c == '0')
    | [] => false
  let long := isLong && regular
  let excess := if long then excessMark v ++ line.drop 72 else []
  let line' := if long then line.take 72 ++ ['\n'] else line
  let code := if line'.length > 6 then line'.drop 6 else ['\n']
  let conv0 :=
    if isComment then '!' :: line'.drop 1
    else if isNewComment || isCpp then line'
    else if isOMP then '!' :: (line'.drop 1).take 4 ++ ' ' :: code
    else labelText line false ++ code
  let conv := if long then ljust 72 (rstrip conv0) ++ excess else conv0
  { conv := conv, regular := regular, cont := cont, long := long, excess := excess }

/-- `FortranLine.continueLine` -/
def continueLine (f : FLine) : FLine :=
  if !f.long then { f with conv := rstrip f.conv ++ [' ', '&', '\n'] }
  else { f with conv := ljust 72 (rstrip (f.conv.take 72) ++ [' ', '&']) ++ f.excess }

/-- `linestack[0].continueLine()` when the stack is not empty -/
def contHead : List FLine → List FLine
  | [] => []
  | h :: t => continueLine h :: t

/-- The `for line in stream` loop of `convertToFree` with `linestack` as an
    explicit argument; what is yielded, in order. -/
def convGo (v : Variant) (lim : Bool) : List FLine → List Str → List Str
  | stack, [] => stack.map (·.conv)
  | stack, l :: ls =>
    let f := analyse v lim l
    if f.regular then
      (if f.cont then contHead stack else stack).map (·.conv) ++ convGo v lim [f] ls
    else convGo v lim (stack ++ [f]) ls

/-- `list(convertToFree(lines, length_limit))` -/
def convertToFree (v : Variant) (lim : Bool) (lines : List Str) : List Str := convGo v lim [] lines

/-- the line as `FortranReader` sees it apart from the line terminator -/
def dropNL (l : Str) : Str :=
  if l.getLast? == some '\n' then l.dropLast else l

end Ford.Fixed
