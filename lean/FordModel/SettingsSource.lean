/-
  C15 - *where* FORD takes a project's options from (`ford.initialize` +
  `ford.load_settings` + `ford.settings.load_toml_settings`), as the code is:

    directory = os.path.dirname(args.project_file.name)          -- the path as typed
    proj_data = load_toml_settings(directory)                     -- <directory>/fpm.toml, [extra.ford]
    if proj_data is None: load_markdown_settings(...)              -- the project file's metadata block
    parse_arguments(vars(args), proj_docs, proj_data, directory)  -- paths relative to <directory>

  The working directory enters only through the operating system resolving the
  (possibly relative) `directory`.  The directories `load_settings` looks the manifest up in
  are a *table* regenerated from the source (`Generated.tomlLookups`), so that a second
  lookup somewhere else changes the model and a proof obligation.

  The file system is a finite map from (normalised, absolute) directory names to what
  `<dir>/fpm.toml` is.  No symlinks; every directory on the way exists.
-/
import FordModel.Settings
namespace Ford
namespace Settings

/-! ### `os.path.dirname` (posixpath) -/

/-- `p[:p.rfind('/') + 1]` -/
def headPart : Str → Str
  | [] => []
  | c :: r => if c == '/' || r.contains '/' then c :: headPart r else []

/-- `head.rstrip('/')` for a `head` that is not made of slashes only -/
def rstripSlash : Str → Str
  | [] => []
  | c :: r => if (c :: r).all (· == '/') then [] else c :: rstripSlash r

/-- `os.path.dirname` -/
def dirname (p : Str) : Str :=
  let h := headPart p
  if h.all (· == '/') then h else rstripSlash h

/-- the directory of the project file as the operating system resolves it: `directory` taken
    from the working directory (`Path(directory).absolute()` + `resolve()`) -/
def projectDirOf (cwd addr : Str) : Str := normPath cwd (dirname addr)

/-! ### the manifest -/

/-- what `<dir>/fpm.toml` is -/
inductive Manifest
  | absent                 -- nothing of that name, or not a regular file: `is_file()` is false
  | invalid                -- a file that is not TOML: `tomllib.load` raises
  | noExtra                -- TOML without a top-level `extra`
  | noFord                 -- `[extra]` without `ford`
  | ford (kw : Settings)   -- the `[extra.ford]` table
  deriving DecidableEq, Repr

/-- (normalised absolute directory ↦ its manifest); a directory not listed has none -/
abbrev FileSys := List (Str × Manifest)

def manifestAt (fs : FileSys) (d : Str) : Manifest := (aget d fs).getD .absent

/-- errors of the whole start-up: the manifest is not TOML, or an error of the settings pipeline -/
inductive SrcErr
  | tomlDecode
  | settings (e : Err)
  deriving DecidableEq, Repr

/-- `load_toml_settings` up to the construction of `ProjectSettings`: the keyword table, or `None` -/
def loadToml : Manifest → Except SrcErr (Option Settings)
  | .absent => .ok none
  | .invalid => .error .tomlDecode
  | .noExtra => .ok none
  | .noFord => .ok none
  | .ford kw => .ok (some kw)

/-- the directory one `load_toml_settings(<expr>)` attempt of `load_settings` opens -/
def lookupDir (cwd directory : Str) : LookupDir → Str
  | .projectDir => normPath cwd directory
  | .cwd => normPath cwd []

/-- the attempts of `load_settings` in source order: the first manifest with an `[extra.ford]`
    table is the project's configuration; `none` = fall back to the metadata block -/
def selectToml (fs : FileSys) (cwd directory : Str) : List LookupDir → Except SrcErr (Option Settings)
  | [] => .ok none
  | l :: rest =>
    match loadToml (manifestAt fs (lookupDir cwd directory l)) with
    | .error e => .error e
    | .ok (some kw) => .ok (some kw)
    | .ok none => selectToml fs cwd directory rest

/-- `ford.initialize()`: `cwd` the working directory, `addr` the project file as typed on the
    command line, `md` its lines, `fs` the manifests lying around, `files` the readable text files
    (for the include workaround of the metadata format) -/
def effectiveAt (T : Tables) (lookups : List LookupDir) (fs : FileSys) (cwd addr pkg : Str) (md : List Str)
    (config : Option Settings) (cli : Settings) (files : List (Str × List Str) := [])
    (incRepaired : Bool := false) : Except SrcErr (Settings × List Str) :=
  match selectToml fs cwd (dirname addr) lookups with
  | .error e => .error e
  | .ok toml =>
    match effective T (projectDirOf cwd addr) pkg toml md config cli
        { cwd := cwd, directory := dirname addr, files := files, baseFromProject := incRepaired } with
    | .ok r => .ok r
    | .error e => .error (.settings e)

/-- one field of the result (for witnesses) -/
def effFieldAt (k : String) (r : Except SrcErr (Settings × List Str)) : Option PyVal :=
  match r with
  | .ok (s, _) => aget k.toList s
  | .error _ => none

/-- does the metadata block hold a string option whose value opens with an include statement `{!`?
    (decidable on the text of the project file; the class in which the include workaround of
    `load_markdown_settings` does anything at all) -/
def mdIncludes (T : Tables) (md : List Str) : Bool :=
  match convertMeta T.schema T.seps (mdRaw (metaPre md).1) with
  | .ok (kw, _) => opensInclude kw
  | .error _ => false

end Settings
end Ford
