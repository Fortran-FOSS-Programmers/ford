/-
  C15 - model of FORD's settings pipeline *as the code is*:

    ford/utils.py     meta_preprocessor, str_to_bool, normalise_path
    ford/settings.py  convert_setting, convert_to_bool, _parse_to_dict,
                      ExtraFileType.from_string, convert_types_from_metapreprocessor,
                      ProjectSettings.__init__/__post_init__/normalise_paths,
                      load_toml_settings, load_markdown_settings,
                      convert_types_from_commandarguments
    ford/__init__.py  initialize / load_settings / parse_arguments

  Third-party parts are *inputs* of the model, not modelled: `tomllib` (the model
  receives the parsed table), `argparse` (the model receives the options given on
  the command line and builds `vars(args)` from the regenerated (dest, action, default)
  table, `cliNamespace`), the preprocessor probe (stubbed in the harness).
  Python type confusions that end in `TypeError`/`AttributeError` somewhere
  downstream are reported as `Err.unmodelled`; the harness does not compare those
  cases (they are all inside known-finding classes) and counts them.
-/
import FordModel.Basic.SettingsTypes
import FordModel.Generated.C15
namespace Ford
namespace Settings

/-! ### association lists (Python `dict` / attribute table, insertion ordered) -/

def aget {α : Type} (k : Str) : List (Str × α) → Option α
  | [] => none
  | (k', v) :: r => if k' == k then some v else aget k r

/-- `d[k] = v` / `setattr(obj, k, v)`: replace in place, else append -/
def aset {α : Type} (k : Str) (v : α) : List (Str × α) → List (Str × α)
  | [] => [(k, v)]
  | (k', v') :: r => if k' == k then (k', v) :: r else (k', v') :: aset k v r

def hasKey {α : Type} (k : Str) (l : List (Str × α)) : Bool := (aget k l).isSome

abbrev Settings := List (Str × PyVal)

def getD (k : String) (s : Settings) : PyVal := (aget k.toList s).getD .none

/-! ### string helpers (Python `str` methods on ASCII input) -/

/-- `s.split(c)` -/
def splitCharAux (c : Char) : Str → Str → List Str
  | [], cur => [cur.reverse]
  | x :: xs, cur => if x == c then cur.reverse :: splitCharAux c xs [] else splitCharAux c xs (x :: cur)

def splitChar (c : Char) (s : Str) : List Str := splitCharAux c s []

/-- `s.split(c, 1)` when it yields two pieces -/
def splitOnce (c : Char) : Str → Option (Str × Str)
  | [] => none
  | x :: xs =>
    if x == c then some ([], xs)
    else match splitOnce c xs with
      | some (a, b) => some (x :: a, b)
      | none => none

/-- `s.split()` -/
def splitWsAux : Str → Str → List Str
  | [], cur => if cur.isEmpty then [] else [cur.reverse]
  | x :: xs, cur =>
    if isSpace x then (if cur.isEmpty then splitWsAux xs [] else cur.reverse :: splitWsAux xs [])
    else splitWsAux xs (x :: cur)

def splitWs (s : Str) : List Str := splitWsAux s []

/-- `str_to_bool` on a `str`: `text.capitalize() == "True"` / `"False"` -/
def strToBool (s : Str) : Option Bool :=
  if lower s == "true".toList then some true
  else if lower s == "false".toList then some false
  else none

/-- digits with single underscores between them (Python `int()` literal syntax) -/
def parseNatAux : Str → Nat → Bool → Option Nat
  | [], acc, last => if last then some acc else none
  | c :: cs, acc, last =>
    if isDigit c then parseNatAux cs (acc * 10 + (c.toNat - 48)) true
    else if c == '_' && last then parseNatAux cs acc false
    else none

/-- Python `int(s)` for a stripped ASCII string -/
def parseInt (s : Str) : Option Int :=
  match s with
  | '-' :: r => (parseNatAux r 0 false).map (fun n => -(Int.ofNat n))
  | '+' :: r => (parseNatAux r 0 false).map Int.ofNat
  | _ => (parseNatAux s 0 false).map Int.ofNat

/-! ### errors -/

inductive Err
  | boolMulti (key : Str)   -- "Could not convert option 'k' to bool: expected a single value ..."
  | boolBad (key : Str)     -- "Could not convert option 'k' to bool: expected 'true'/'false' ..."
  | intBad                  -- "invalid literal for int() with base 10: ..."  (names no option)
  | dictSep (key : Str)     -- "Error setting option 'k': expected 'sep' in ..."
  | eftBad                  -- "Unexpected format for 'extra_filetype' ..."
  | unknownKw (key : Str)   -- TypeError: unexpected keyword argument 'k'
  | extClash | modClash | docmarkClash | srcInOut
  | noSeparator (key : Str) -- KeyError in OPTION_SEPARATORS
  | unmodelled              -- a Python type confusion the model does not follow
  deriving DecidableEq, Repr

/-- the option an error message names, if any -/
def Err.names : Err → Option Str
  | .boolMulti k => some k
  | .boolBad k => some k
  | .dictSep k => some k
  | .eftBad => some "extra_filetype".toList
  | .unknownKw k => some k
  | .extClash => some "extensions".toList
  | .modClash => none
  | .docmarkClash => none
  | .noSeparator k => some k
  | _ => none

/-! ### `meta_preprocessor` -/

def isKeyChar (c : Char) : Bool := isAlpha c || isDigit c || c == '_' || c == '-'

def leadingSpaces : Str → Nat
  | ' ' :: r => leadingSpaces r + 1
  | _ => 0

/-- `META_RE = ^[ ]{0,3}(?P<key>[A-Za-z0-9_-]+):\s*(?P<value>.*)`; returns
    `(key.lower().strip(), value.strip())` -/
def metaMatch (line : Str) : Option (Str × Str) :=
  if leadingSpaces line > 3 then none
  else
    let rest := line.drop (leadingSpaces line)
    let key := rest.takeWhile isKeyChar
    if key.isEmpty then none
    else match rest.dropWhile isKeyChar with
      | ':' :: v => some (strip (lower key), strip v)
      | _ => none

/-- `END_RE = ^(-{3}|\.{3})(\s.*)?` under `re.match` -/
def isEnd (line : Str) : Bool := startsWith line "---".toList || startsWith line "...".toList
/-- `BEGIN_RE = ^-{3}(\s.*)?` under `re.match` -/
def isBegin (line : Str) : Bool := startsWith line "---".toList

/-- `mt[key].append(value)` on a `defaultdict(list)` -/
def appendVal (k : Str) (v : Str) : List (Str × List Str) → List (Str × List Str)
  | [] => [(k, [v])]
  | (k', vs) :: r => if k' == k then (k', vs ++ [v]) :: r else (k', vs) :: appendVal k v r

def metaLoop : List Str → Option Str → List (Str × List Str) → List (Str × List Str) × List Str
  | [], _, mt => (mt, [])
  | line :: rest, key, mt =>
    if isBlank line || isEnd line then (mt, rest)
    else match metaMatch line with
      | some (k, v) => metaLoop rest (some k) (appendVal k v mt)
      | none =>
        match key with
        | some k =>
          if leadingSpaces line ≥ 4 then metaLoop rest key (appendVal k (strip line) mt)
          else (mt, line :: rest)
        | none => (mt, line :: rest)

/-- `meta_preprocessor(lines)` -> (mt, remaining lines) -/
def metaPre (lines : List Str) : List (Str × List Str) × List Str :=
  match lines with
  | first :: rest => if isBegin first then metaLoop rest none [] else metaLoop lines none []
  | [] => ([], [])

/-! ### `convert_setting` -/

def tagOf (schema : List (Str × Tag × PyVal)) (k : Str) : Option Tag :=
  (aget k schema).map (·.1)

/-- `is_same_type(default_type, type(value))` -/
def sameType : Tag → PyVal → Bool
  | .bool, .atom (.bool _) => true
  | .noInit, .atom (.bool _) => true
  | .int, .atom (.int _) => true
  | .str, .atom (.str _) => true
  | .optStr, .atom (.str _) => true
  | .optStr, .none => true
  | .optPath, .none => true
  | .path, .atom (.path _) => true
  | .optPath, .atom (.path _) => true
  | .plainList, .list _ => true
  | _, _ => false

def allStrs : List Atom → Option (List Str)
  | [] => some []
  | .str s :: r => (allStrs r).map (s :: ·)
  | _ :: _ => none

/-- `convert_to_bool(name, option)` -/
def convertToBool (key : Str) : PyVal → Except Err PyVal
  | .list [.str s] =>
    match strToBool s with
    | some b => .ok (.atom (.bool b))
    | none => .error (.boolBad key)
  | .list [.bool b] => .ok (.atom (.bool b))
  | .list (_ :: _ :: _) => .error (.boolMulti key)
  | _ => .error .unmodelled

/-- `_parse_to_dict(string_list, name, sep)` -/
def parseToDict (sep : Char) (key : Str) : List Str → List (Str × Atom) → Except Err (List (Str × Atom))
  | [], acc => .ok acc
  | s :: rest, acc =>
    match splitOnce sep s with
    | none => .error (.dictSep key)
    | some (k, v) => parseToDict sep key rest (aset (strip k) (.str (strip v)) acc)

/-- `ExtraFileType.from_string` -/
def eftFromString (s : Str) : Except Err Eft :=
  match splitWs s with
  | [e, c] => .ok ⟨e, c, none⟩
  | [e, c, l] => .ok ⟨e, c, some l⟩
  | _ => .error .eftBad

def eftDict : List Str → List (Str × Atom) → Except Err (List (Str × Atom))
  | [], acc => .ok acc
  | s :: rest, acc =>
    match eftFromString s with
    | .error e => .error e
    | .ok ft => eftDict rest (aset ft.ext (.eft ft) acc)

/-- the dict branch of `convert_setting` on the filtered list of strings `resvalue` -/
def convertDictF (seps : List (Str × Str)) (t : Tag) (key : Str) (xs : List Str) : Except Err PyVal :=
  if t == .dictEft then
    match eftDict xs [] with
    | .ok d => .ok (.dict d)
    | .error e => .error e
  else
    match aget key seps with
    | some [sep] =>
      match parseToDict sep key xs [] with
      | .ok d => .ok (.dict d)
      | .error e => .error e
    | _ => .error (.noSeparator key)

/-- `resvalue = [v for v in resvalue if v]`, then the dict branch -/
def convertDict (seps : List (Str × Str)) (t : Tag) (key : Str) (xs : List Str) : Except Err PyVal :=
  convertDictF seps t key (xs.filter (fun s => !s.isEmpty))

/-- `convert_setting(default_type, key, value)` -/
def convertSetting (seps : List (Str × Str)) (t : Tag) (key : Str) (v : PyVal) : Except Err PyVal :=
  if sameType t v then .ok v
  else match t with
  | .plainList =>
    match v with
    | .atom a => .ok (.list [a])
    | _ => .error .unmodelled
  | .bool => convertToBool key v
  | .noInit => convertToBool key v
  | .int =>
    match v with
    | .list (.str s :: _) =>
      match parseInt (strip s) with
      | some i => .ok (.atom (.int i))
      | none => .error .intBad
    | _ => .error .unmodelled
  | .str | .optStr | .path | .optPath =>
    match v with
    | .list xs =>
      match allStrs xs with
      | some ss => .ok (.atom (.str (joinSep '\n' ss)))
      | none => .error .unmodelled
    | _ => .ok v
  | .dictStr | .dictEft =>
    match v with
    | .dict _ => .ok v
    | .atom (.str s) => convertDict seps t key [s]
    | .list xs =>
      match allStrs xs with
      | some ss => convertDict seps t key ss
      | none => .error .unmodelled
    | _ => .error .unmodelled
  | .listStr | .listPath | .other => .ok v

/-- `convert_types_from_metapreprocessor`: converts in dict order, drops unknown
    keys with a warning (second component), stops at the first error. -/
def convertMeta (schema : List (Str × Tag × PyVal)) (seps : List (Str × Str)) :
    Settings → Except Err (Settings × List Str)
  | [] => .ok ([], [])
  | (k, v) :: rest =>
    match tagOf schema k with
    | none =>
      match convertMeta schema seps rest with
      | .ok (s, w) => .ok (s, k :: w)
      | .error e => .error e
    | some t =>
      match convertSetting seps t k v with
      | .error e => .error e
      | .ok v' =>
        match convertMeta schema seps rest with
        | .ok (s, w) => .ok ((k, v') :: s, w)
        | .error e => .error e

/-! ### `ProjectSettings(**kwargs)` and `__post_init__` -/

def defaults (schema : List (Str × Tag × PyVal)) : Settings := schema.map (fun e => (e.1, e.2.2))

/-- keyword arguments over the defaults; an unknown / non-init keyword is a `TypeError` -/
def overlay (schema : List (Str × Tag × PyVal)) : Settings → Settings → Except Err Settings
  | [], s => .ok s
  | (k, v) :: rest, s =>
    match tagOf schema k with
    | none => .error (.unknownKw k)
    | some .noInit => .error (.unknownKw k)
    | some _ => overlay schema rest (aset k v s)

/-- the list-wrapping loop of `__post_init__` for one field -/
def wrapOne (t : Option Tag) (v : PyVal) : Except Err PyVal :=
  match t with
  | some .listStr | some .listPath =>
    match v with
    | .list _ => .ok v
    | .atom a => .ok (.list [a])
    | _ => .error .unmodelled
  | _ => .ok v

def wrapAll (schema : List (Str × Tag × PyVal)) : Settings → Except Err Settings
  | [] => .ok []
  | (k, v) :: rest =>
    match wrapOne (tagOf schema k) v with
    | .error e => .error e
    | .ok v' =>
      match wrapAll schema rest with
      | .ok r => .ok ((k, v') :: r)
      | .error e => .error e

def lowerAll : List Atom → Option (List Atom)
  | [] => some []
  | .str s :: r => (lowerAll r).map (.str (lower s) :: ·)
  | _ :: _ => none

def unionDedup (xs ys : List Atom) : List Atom := (xs ++ ys).eraseDups

def updateAll : List (Str × Str) → List (Str × Atom) → List (Str × Atom)
  | [], d => d
  | (k, v) :: r, d => updateAll r (aset k (.str v) d)

/-- `{**INTRINSIC_MODS, **extra_mods}` (variant `repaired`, fixes/C15-extra-mods-user-entry-wins.diff):
    the project's own entries are written over the built-in table -/
def overlayMods : List (Str × Atom) → List (Str × Atom) → List (Str × Atom)
  | [], d => d
  | (k, v) :: r, d => overlayMods r (aset k v d)

/-- the `extra_mods` line of `__post_init__`; `userWins = false` is the code as it is
    (`extra_mods.update(INTRINSIC_MODS)`: the built-in URL replaces the project's, finding
    C15-extra-mods-intrinsic-wins), `true` the repaired order -/
def mergeMods (userWins : Bool) (intrinsic : List (Str × Str)) (mods : List (Str × Atom)) : List (Str × Atom) :=
  if userWins then overlayMods mods (intrinsic.map (fun kv => (kv.1, .str kv.2)))
  else updateAll intrinsic mods

def markPairs : List (String × String) :=
  [("docmark", "predocmark"), ("docmark", "docmark_alt"), ("docmark", "predocmark_alt"),
   ("predocmark", "docmark_alt"), ("predocmark", "predocmark_alt"), ("docmark_alt", "predocmark_alt")]

def eftOfTbl (kvs : List (Str × Str)) : Option Eft :=
  match aget "extension".toList kvs, aget "comment".toList kvs with
  | some e, some c =>
    if kvs.all (fun kv => kv.1 == "extension".toList || kv.1 == "comment".toList || kv.1 == "lexer".toList)
    then some ⟨e, c, aget "lexer".toList kvs⟩ else none
  | _, _ => none

/-- `{ft.extension: ft for ft in [ExtraFileType(**d) for d in list]}` -/
def eftsOfList : List Atom → List (Str × Atom) → Option (List (Str × Atom))
  | [], acc => some acc
  | .tbl kvs :: r, acc =>
    match eftOfTbl kvs with
    | some ft => eftsOfList r (aset ft.ext (.eft ft) acc)
    | none => none
  | _ :: _, _ => none

def efts : List Atom → List (Str × Atom) → Option (List (Str × Atom))
  | [], acc => some acc
  | .eft ft :: r, acc => efts r (aset ft.ext (.eft ft) acc)
  | _ :: _, _ => none

def postInit (schema : List (Str × Tag × PyVal)) (intrinsic : List (Str × Str)) (s0 : Settings)
    (userWins : Bool := false) : Except Err Settings :=
  let s1 := aset "relative".toList (.atom (.bool (getD "project_url" s0 == .atom (.str [])))) s0
  match wrapAll schema s1 with
  | .error e => .error e
  | .ok s =>
  match getD "fixed_extensions" s, getD "extensions" s, getD "fpp_extensions" s,
        getD "extra_mods" s, getD "external" s, getD "display" s, getD "exclude_dir" s with
  | .list fixed, .list exts, .list fpp, .dict mods, .dict ext, .list disp, .list excl =>
    if fixed.any (fun f => exts.contains f) then .error .extClash
    else if mods.any (fun m => hasKey m.1 ext) then .error .modClash
    else
    match lowerAll disp with
    | none => .error .unmodelled
    | some disp' =>
      let outd : List Atom := match getD "output_dir" s with
        | .atom a => [a]
        | _ => []
      let s := aset "display".toList (.list disp') s
      let s := aset "extensions".toList (.list (unionDedup exts fpp)) s
      let s := aset "exclude_dir".toList (.list (excl ++ outd)) s
      let s := aset "extra_mods".toList (.dict (mergeMods userWins intrinsic mods)) s
      if markPairs.any (fun p => getD p.1 s == getD p.2 s && getD p.1 s != .atom (.str [])) then
        .error .docmarkClash
      else
        match getD "output_dir" s, getD "extra_filetypes" s with
        | .atom _, .list fts =>
          (match efts fts [] with
           | some d => .ok (aset "extra_filetypes".toList (.dict d) s)
           | none =>
             match eftsOfList fts [] with
             | some d => .ok (aset "extra_filetypes".toList (.dict d) s)
             | none => .error .unmodelled)
        | .atom _, _ => .ok s
        | _, _ => .error .unmodelled
  | _, _, _, _, _, _, _ => .error .unmodelled

/-- `ProjectSettings(**kw)` -/
def construct (schema : List (Str × Tag × PyVal)) (intrinsic : List (Str × Str)) (kw : Settings)
    (userWins : Bool := false) : Except Err Settings :=
  match overlay schema kw (defaults schema) with
  | .error e => .error e
  | .ok s => postInit schema intrinsic s userWins

/-! ### loaders -/

def mdRaw (mt : List (Str × List Str)) : Settings :=
  mt.map (fun kv => (kv.1, .list (kv.2.map .str)))

/-! (`normalise_path`; defined here because the include workaround resolves file names too) -/

def normSegs : List Str → List Str → List Str
  | [], acc => acc.reverse
  | seg :: rest, acc =>
    if seg == [] || seg == ['.'] then normSegs rest acc
    else if seg == ['.', '.'] then normSegs rest acc.tail
    else normSegs rest (seg :: acc)

/-- `(base_dir / p).absolute().resolve()` for an absolute `base_dir`, no symlinks, no `$` -/
def normPath (dir p : Str) : Str :=
  let full := if startsWith p ['/'] then p else dir ++ '/' :: p
  '/' :: joinSep '/' (normSegs (splitChar '/' full) [])

/-! ### the "file inclusion in metadata" workaround of `load_markdown_settings`

    for option, value in settings.items():
        if isinstance(value, str) and MD_INCLUDE_RE.match(value):
            md_base_dir = settings.get("md_base_dir", directory)
            ... settings[option] = "\n".join(IncludePreprocessor(base_path=str(md_base_dir)).run(value.splitlines()))

  `MD_INCLUDE_RE = \{!\s*(.+?)\s*!\}`.  The model is exact on the documented shape of an include
  statement (`pre{! name !}post`, one per line, `name` free of blanks and of `{`, `}`, `!`, `~`; included
  files free of include statements) and `unmodelled` on every other text that contains `{!`. -/

/-- what the include step needs to know about the outside world -/
structure IncEnv where
  /-- the working directory -/
  cwd : Str := ['/']
  /-- `directory` as `initialize` computed it (`os.path.dirname` of the project file as typed) -/
  directory : Str := []
  /-- readable files: (normalised absolute name ↦ lines without line ends) -/
  files : List (Str × List Str) := []
  /-- variant switch (`repaired`): the base directory is `Path(directory) / md_base_dir` -/
  baseFromProject : Bool := false

/-- `"{!" in s` -/
def hasIncOpen : Str → Bool
  | [] => false
  | [_] => false
  | a :: b :: r => (a == '{' && b == '!') || hasIncOpen (b :: r)

/-- (text before the first `{!`, text after it) -/
def splitIncOpen : Str → Str → Option (Str × Str)
  | [], _ => none
  | [_], _ => none
  | a :: b :: r, acc =>
    if a == '{' && b == '!' then some (acc.reverse, r) else splitIncOpen (b :: r) (a :: acc)

def isIncNameChar (c : Char) : Bool :=
  !(isSpace c) && c != '!' && c != '{' && c != '}' && c != '~' && c != '$'

inductive IncLine
  | plain
  | inc (pre name post : Str)
  | other
  deriving DecidableEq, Repr

def incParse (line : Str) : IncLine :=
  match splitIncOpen line [] with
  | none => .plain
  | some (pre, rest) =>
    let r1 := rest.dropWhile isSpace
    let name := r1.takeWhile isIncNameChar
    let r2 := (r1.dropWhile isIncNameChar).dropWhile isSpace
    match name, r2 with
    | _ :: _, '!' :: '}' :: post => if hasIncOpen post then .other else .inc pre name post
    | _, _ => .other

/-- `os.path.join(base, name)` -/
def pjoin (base name : Str) : Str :=
  if startsWith name ['/'] || base.isEmpty then name else base ++ '/' :: name

def appendLast (post : Str) : List Str → List Str
  | [] => []
  | [x] => [x ++ post]
  | x :: y :: r => x :: appendLast post (y :: r)

/-- `text[0] = pre + text[0]; text[-1] = text[-1] + post` -/
def glue (pre post : Str) : List Str → List Str
  | [] => [pre ++ post]
  | t :: ts => appendLast post ((pre ++ t) :: ts)

/-- `IncludePreprocessor(base_path=base).run(lines)` on the modelled fragment -/
def runInclude (env : IncEnv) (base : Str) : List Str → Except Err (List Str)
  | [] => .ok []
  | l :: rest =>
    match runInclude env base rest with
    | .error e => .error e
    | .ok rest' =>
      match incParse l with
      | .plain => .ok (l :: rest')
      | .other => .error .unmodelled
      | .inc pre name post =>
        match aget (normPath env.cwd (pjoin base name)) env.files with
        | none =>   -- "could not find file ... Ignoring include statement"
          if hasIncOpen (pre ++ post) then .error .unmodelled else .ok ((pre ++ post) :: rest')
        | some text =>
          let new := glue pre post text
          if new.any hasIncOpen then .error .unmodelled else .ok (new ++ rest')

/-- `str.splitlines()` for `\n` only -/
def splitLines (s : Str) : List Str :=
  if s.isEmpty then [] else
  let ps := splitChar '\n' s
  if ps.getLast? == some [] then ps.dropLast else ps

/-- the base directory handed to `IncludePreprocessor` -/
def incBase (env : IncEnv) (cur : Settings) : Option Str :=
  match aget "md_base_dir".toList cur with
  | none => some (if env.baseFromProject then pjoin env.directory ['.'] else env.directory)
  | some (.atom (.str b)) => some (if env.baseFromProject then pjoin env.directory b else b)
  | some _ => none

/-- the loop over `settings.items()`; `cur` is the dict as it stands -/
def includeStep (env : IncEnv) : Settings → Settings → Except Err Settings
  | [], cur => .ok cur
  | (k, .atom (.str s)) :: rest, cur =>
    if startsWith s ['{', '!'] then
      match incBase env cur with
      | none => .error .unmodelled
      | some base =>
        match runInclude env base (splitLines s) with
        | .error e => .error e
        | .ok ls => includeStep env rest (aset k (.atom (.str (joinSep '\n' ls))) cur)
    else includeStep env rest cur
  | _ :: rest, cur => includeStep env rest cur

/-- does any converted value open with an include statement? (the decidable class outside which the
    include step is the identity) -/
def opensInclude : Settings → Bool
  | [] => false
  | (_, .atom (.str s)) :: rest => startsWith s ['{', '!'] || opensInclude rest
  | _ :: rest => opensInclude rest

/-- `load_markdown_settings`: preprocess, convert, convert again inside
    `from_markdown_metadata`, construct. -/
def loadMd (schema : List (Str × Tag × PyVal)) (seps : List (Str × Str)) (intrinsic : List (Str × Str))
    (lines : List Str) (userWins : Bool := false) (env : IncEnv := {}) : Except Err (Settings × List Str) :=
  match convertMeta schema seps (mdRaw (metaPre lines).1) with
  | .error e => .error e
  | .ok (kw, warns) =>
    match includeStep env kw kw with
    | .error e => .error e
    | .ok kw =>
    match convertMeta schema seps kw with
    | .error e => .error e
    | .ok (kw2, _) =>
      match construct schema intrinsic kw2 userWins with
      | .error e => .error e
      | .ok s => .ok (s, warns)

/-- `--config`: every key of the parsed TOML string is `setattr`-ed raw -/
def applyConfig : Settings → Settings → Settings
  | [], s => s
  | (k, v) :: rest, s => applyConfig rest (aset k v s)

/-- `convert_types_from_commandarguments` over the non-`None` entries of `vars(args)` -/
def applyCli (schema : List (Str × Tag × PyVal)) (seps : List (Str × Str)) :
    Settings → Settings → Except Err Settings
  | [], s => .ok s
  | (k, v) :: rest, s =>
    match tagOf schema k with
    | none => applyCli schema seps rest (aset k v s)
    | some t =>
      match convertSetting seps t k v with
      | .error e => .error e
      | .ok v' => applyCli schema seps rest (aset k v' s)

/-- `vars(parser.parse_args())` without its `None` entries, which is what
    `convert_types_from_commandarguments` acts on: argparse first sets every action's
    `dest` to the action's `default` (declaration order), then the options given on the
    command line (`given`) overwrite theirs.  An action whose default is not `None` is
    therefore *always* in the namespace, given or not. -/
def cliNamespace : List (Str × CliKind × Option PyVal) → Settings → Settings
  | [], _ => []
  | (dest, _, dflt) :: rest, given =>
    match aget dest given with
    | some v => (dest, v) :: cliNamespace rest given
    | none =>
      match dflt with
      | some d => (dest, d) :: cliNamespace rest given
      | none => cliNamespace rest given

/-! ### `normalise_paths` -/

def normAtom (dir : Str) : Atom → Option Atom
  | .str s => some (.path (normPath dir s))
  | .path s => some (.path (normPath dir s))
  | _ => none

def normAtoms (dir : Str) : List Atom → Option (List Atom)
  | [] => some []
  | a :: r =>
    match normAtom dir a, normAtoms dir r with
    | some a', some r' => some (a' :: r')
    | _, _ => none

def normField (dir : Str) (t : Option Tag) (v : PyVal) : Except Err PyVal :=
  match t with
  | some .listPath =>
    match v with
    | .none => .ok v
    | .list xs =>
      match normAtoms dir xs with
      | some ys => .ok (.list ys)
      | none => .error .unmodelled
    | .atom (.str s) => .ok (.list (s.map (fun c => .path (normPath dir [c]))))
    | _ => .error .unmodelled
  | some .path | some .optPath =>
    match v with
    | .none => .ok v
    | .atom a =>
      match normAtom dir a with
      | some a' => .ok (.atom a')
      | none => .error .unmodelled
    | _ => .error .unmodelled
  | _ => .ok v

def normAll (schema : List (Str × Tag × PyVal)) (dir : Str) : Settings → Except Err Settings
  | [] => .ok []
  | (k, v) :: rest =>
    match normField dir (tagOf schema k) v with
    | .error e => .error e
    | .ok v' =>
      match normAll schema dir rest with
      | .ok r => .ok ((k, v') :: r)
      | .error e => .error e

def truthy : PyVal → Bool
  | .none => false
  | .atom (.bool b) => b
  | .atom (.int i) => i != 0
  | .atom (.str s) => !s.isEmpty
  | .atom (.tbl kvs) => !kvs.isEmpty
  | .atom _ => true
  | .list xs => !xs.isEmpty
  | .dict kvs => !kvs.isEmpty

/-- `pathlib.PurePosixPath(s)` as far as `==` distinguishes two paths: anchored or not, and the
    segments without the empty and `.` ones (`a//b/./c/` is `a/b/c`; `..` is kept) -/
def pathParts (s : Str) : Bool × List Str :=
  (startsWith s ['/'], (splitChar '/' s).filter (fun g => !(g == [] || g == ['.'])))

/-- One "is this option still at its default?" test of `normalise_paths`, on the current value
    of the field.  `coerce = false` is `self.f == SENTINEL` (the sentinel is a `Path`, so a `str` -
    which is what every settings file, `--config` and the command line deliver - never equals it:
    only the untouched dataclass default does); `coerce = true` is `Path(self.f) == SENTINEL`
    (a written string that spells the sentinel is then taken for the default; `Path(x)` of a
    non-string is a `TypeError`: `none`).  `.path` values are `str(Path)`, i.e. already in
    pathlib's normal form. -/
def sentinelHit (coerce : Bool) (sentinel : Str) : PyVal → Option Bool
  | .atom (.path p) => some (p == sentinel)
  | .atom (.str p) => some (coerce && pathParts p == pathParts sentinel)
  | _ => if coerce then none else some false

def sentinelValue (dir pkg sentinel : Str) : SentinelRepl → PyVal
  | .packageFile => .atom (.path (pkg ++ '/' :: sentinel))
  | .projectDir => .atom (.path dir)

/-- the sentinel tests of `normalise_paths`, in source order, over the regenerated table
    (field, compared through `Path(...)`?, sentinel, replacement) -/
def applySentinels (dir pkg : Str) : List (Str × Bool × Str × SentinelRepl) → Settings → Except Err Settings
  | [], s => .ok s
  | (f, coerce, sent, repl) :: rest, s =>
    match sentinelHit coerce sent ((aget f s).getD .none) with
    | none => .error .unmodelled
    | some true => applySentinels dir pkg rest (aset f (sentinelValue dir pkg sent repl) s)
    | some false => applySentinels dir pkg rest s

/-- `ProjectSettings.normalise_paths(directory)`; `dir` is the absolute project
    directory, `pkg` the directory of the `ford` package (default favicon), `tests` the
    regenerated sentinel tests. -/
def normalisePaths (schema : List (Str × Tag × PyVal)) (tests : List (Str × Bool × Str × SentinelRepl))
    (dir pkg : Str) (s : Settings) : Except Err Settings :=
  let s := aset "directory".toList (.atom (.path dir)) s
  match applySentinels dir pkg tests s with
  | .error e => .error e
  | .ok s =>
  match normAll schema dir s with
  | .error e => .error e
  | .ok s =>
    if truthy (getD "relative" s) then .ok (aset "project_url".toList (getD "output_dir" s) s) else .ok s

/-! ### the rest of `parse_arguments` -/

def isAncestorOrSelf (out src : Str) : Bool :=
  out == src || out == ['/'] || startsWith src (out ++ ['/'])

def licenseOf (licenses : List (Str × Str)) (v : PyVal) : Except Err PyVal :=
  match v with
  | .atom (.str s) =>
    match aget (lower s) licenses with
    | some html => .ok (.atom (.str html))
    | none => .ok v
  | _ => .error .unmodelled

def finalize (licenses : List (Str × Str)) (s : Settings) : Except Err Settings :=
  match getD "creation_date" s, getD "src_dir" s, getD "output_dir" s with
  | .atom (.str _), .list srcs, .atom (.path out) =>
    if srcs.any (fun a => match a with | .path _ => false | _ => true) then .error .unmodelled
    else if srcs.any (fun a => match a with | .path p => isAncestorOrSelf out p | _ => false) then .error .srcInOut
    else
      match getD "gitter_sidecar" s with
      | .atom (.str _) | .none =>
        let pre : Except Err Settings :=
          if truthy (getD "preprocess" s) then
            match getD "preprocessor" s with
            | .atom (.str _) => .ok s
            | _ => .error .unmodelled
          else .ok (aset "fpp_extensions".toList (.list []) s)
        match pre with
        | .error e => .error e
        | .ok s =>
          match licenseOf licenses (getD "license" s) with
          | .error e => .error e
          | .ok l =>
            let s := aset "license".toList l s
            match licenseOf licenses (getD "doc_license" s) with
            | .error e => .error e
            | .ok dl => .ok (aset "doc_license".toList dl s)
      | _ => .error .unmodelled
  | _, _, _ => .error .unmodelled

/-! ### `initialize()` -/

structure Tables where
  schema : List (Str × Tag × PyVal)
  seps : List (Str × Str)
  intrinsic : List (Str × Str)
  licenses : List (Str × Str)
  /-- the "still the default?" tests of `normalise_paths` -/
  sentinels : List (Str × Bool × Str × SentinelRepl)
  cli : List (Str × CliKind × Option PyVal)
  /-- variant switch: the project's `extra_mods` entries win over `INTRINSIC_MODS` (repaired) -/
  modsUserWins : Bool := false
  /-- variant switch: `parse_arguments` appends the final output directory to `exclude_dir` (repair 4833068) -/
  excludeFinalOut : Bool := false

def generatedTables : Tables :=
  { schema := Generated.settingsSchema, seps := Generated.optionSeparators,
    intrinsic := Generated.intrinsicMods, licenses := Generated.licenses,
    sentinels := Generated.sentinelTests, cli := Generated.cliTable,
    excludeFinalOut := Generated.excludeFinalOutputDir }

/-- the tables with the variant `repaired` of the `extra_mods` merge -/
def generatedTablesModsRepaired : Tables := { generatedTables with modsUserWins := true }

/-- `load_settings`: `[extra.ford]` of fpm.toml when present, else the metadata block -/
def loadSettings (T : Tables) (toml : Option Settings) (md : List Str) (env : IncEnv := {}) :
    Except Err (Settings × List Str) :=
  match toml with
  | some kw =>
    match construct T.schema T.intrinsic kw T.modsUserWins with
    | .ok s => .ok (s, [])
    | .error e => .error e
  | none => loadMd T.schema T.seps T.intrinsic md T.modsUserWins env

/-- `if proj_data.output_dir not in proj_data.exclude_dir: proj_data.exclude_dir.append(proj_data.output_dir)`
    (both normalised by then; anything else than a list and a path is left alone) -/
def excludeOutputDir (s : Settings) : Settings :=
  match getD "exclude_dir" s, getD "output_dir" s with
  | .list xs, .atom (.path out) =>
    if xs.contains (.path out) then s else aset "exclude_dir".toList (.list (xs ++ [.path out])) s
  | _, _ => s

/-- `parse_arguments` after `load_settings`; `cli` holds the options given on the command
    line, the namespace FORD sees is `cliNamespace T.cli cli` -/
def parseArguments (T : Tables) (dir pkg : Str) (config : Option Settings) (cli : Settings) (s : Settings) :
    Except Err Settings :=
  let s := match config with
    | some kw => applyConfig kw s
    | none => s
  match applyCli T.schema T.seps (cliNamespace T.cli cli) s with
  | .error e => .error e
  | .ok s =>
    match normalisePaths T.schema T.sentinels dir pkg s with
    | .error e => .error e
    | .ok s => finalize T.licenses (if T.excludeFinalOut then excludeOutputDir s else s)

def effective (T : Tables) (dir pkg : Str) (toml : Option Settings) (md : List Str)
    (config : Option Settings) (cli : Settings) (env : IncEnv := {}) : Except Err (Settings × List Str) :=
  match loadSettings T toml md env with
  | .error e => .error e
  | .ok (s, w) =>
    match parseArguments T dir pkg config cli s with
    | .error e => .error e
    | .ok s => .ok (s, w)

/-- one field of the effective settings (for witnesses) -/
def effField (k : String) (r : Except Err (Settings × List Str)) : Option PyVal :=
  match r with
  | .ok (s, _) => aget k.toList s
  | .error _ => none

end Settings
end Ford
