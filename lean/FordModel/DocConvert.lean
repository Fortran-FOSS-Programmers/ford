/-
  Model of *which* entities get their doc comment converted, and when
  (`ford/sourceform.py`: `_to_be_markdowned`, `FortranSourceFile.markdownable_items`,
  `FortranType.correlate`; `ford/fortran_project.py`: `Project.markdown`).

  * every entity registers itself once in its source file's `_to_be_markdowned` when it is
    created (parsing);
  * `Project.correlate` runs next.  `FortranType.correlate` prepends the public components of
    the base type (the very same objects) to the extending type's `variables` and gives each of
    them that has no `doc` attribute yet the placeholder `Inherited from [[base]]` (+ empty
    metadata — which replaces the metadata `read_metadata` took from the component's own comment:
    finding C03-inherited-component-metadata-reset; with fixes/C03-inherited-component-metadata.diff
    the metadata is only created when the object has none);
  * `Project.markdown` then walks, file by file, `markdownable_items` = the file itself followed
    by the registered entities that have none of the attributes `Gen.markdownSkipAttrs`
    (external entities), and calls `markdown` on each: `doc := convert (dedent doc_list)`.

  An entity is abstracted to the attributes it has (besides the always present ones), its
  `doc_list` and its `doc`.
-/
import FordModel.Basic.Chars
import FordModel.Generated.C03
import FordModel.Meta
namespace Ford

structure CEnt where
  attrs : List Str            -- names of optional attributes the object carries (`external_url`, …)
  docList : List Str          -- `doc_list` (after `read_metadata`)
  doc : Option (List Str)     -- `doc`: `none` = attribute not set
  md : MetaDict := []         -- metadata set from the comment's header by `read_metadata`
  deriving Repr, DecidableEq

/-- `hasattr(e, a)` for `a = "doc"` or an optional attribute -/
def CEnt.hasAttr (e : CEnt) (a : Str) : Bool :=
  if a == ['d', 'o', 'c'] then e.doc.isSome else e.attrs.contains a

/-- the `if` of `markdownable_items` for a given list of skip attributes, evaluated on the object
    as it is at conversion time (`hasattr`, so a `doc` set earlier counts) -/
def CEnt.keeps (skip : List Str) (e : CEnt) : Bool := !(skip.any e.hasAttr)

/-- `if not hasattr(invar, "doc"): invar.doc = placeholder; invar.meta = EntitySettings()`
    (`FortranType.correlate`).  `fix = false`: FORD before 6aac815; `fix = true`: since
    (fixes/C03-inherited-component-metadata.diff; an object that has metadata keeps it). -/
def inheritStep (fix : Bool) (placeholder : List Str) (e : CEnt) : CEnt :=
  match e.doc with
  | none => { e with doc := some placeholder, md := if fix then e.md else [] }
  | some _ => e

/-- positions (in the registration list) of the entities `Project.markdown` converts, in order -/
def convIdxFrom (skip : List Str) : Nat → List CEnt → List Nat
  | _, [] => []
  | i, e :: es => if e.keeps skip then i :: convIdxFrom skip (i + 1) es else convIdxFrom skip (i + 1) es

def convIdx (skip : List Str) (reg : List CEnt) : List Nat := convIdxFrom skip 0 reg

/-- the loop of `Project.markdown` over one file's registered entities; `conv` stands for
    `md.reset().convert(dedent(...))` -/
def convertAll (skip : List Str) (conv : List Str → List Str) (reg : List CEnt) : List CEnt :=
  reg.map (fun e => if e.keeps skip then { e with doc := some (conv e.docList) } else e)

/-- `gen = copy.copy(bp); gen.parent = self` (`FortranType.correlate`, inherited generic binding):
    the extending type lists the copy `e` of the base type's binding.  Returns the file's
    registration list afterwards.  `fix = false`: FORD before a2e1e02, the copy is registered nowhere
    (finding C03-inherited-generic-binding-undocumented); `fix = true`: since
    (fixes/C03-inherited-generic-binding-doc.diff) it is appended to the registration list. -/
def registerCopy (fix : Bool) (reg : List CEnt) (e : CEnt) : List CEnt :=
  if fix then reg ++ [e] else reg

/-- what the page of the extending type shows for the copy after `Project.markdown`: its
    converted `doc` if the copy was registered (the last entry), otherwise the `doc` it was
    copied with -/
def copyDoc (fix : Bool) (skip : List Str) (conv : List Str → List Str) (reg : List CEnt) (e : CEnt) :
    Option (List Str) :=
  if fix then ((convertAll skip conv (registerCopy fix reg e)).getLast?.bind (·.doc)) else e.doc

end Ford
