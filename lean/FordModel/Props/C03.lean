/-
  C03 — each doc comment lands on its entity, complete, once and in order.
  Property theorems only; helper lemmas live in FordModel/Lemmas.
-/
import FordModel.Admonition
import FordModel.Meta
import FordModel.Attach
import FordModel.Reader
import FordModel.MdState
import FordModel.Lemmas.MdState
import FordModel.Lemmas.Admonition
import FordModel.Lemmas.Meta
import FordModel.Lemmas.Attach
import FordModel.Lemmas.ReaderDoc
import FordModel.Lemmas.ReaderInline
import FordModel.DocConvert
import FordModel.Lemmas.DocConvert
import FordModel.AttachIface
import FordModel.Lemmas.AttachIface
import FordModel.Lemmas.ReaderQuote
import FordModel.Lemmas.QuoteFree
import FordModel.IncludeMarks
import FordModel.Summary
import FordModel.Lemmas.Summary
import FordModel.Lemmas.IncludeMarks
namespace Ford.C03
open Ford

/-! ## Admonition pre-processing (`ford/md_admonition.py`) -/

/-- What `ADMONITION_RE.search` can match, for every line and every table of note types: the
    line splits as `pre ++ indent ++ "@" ++ type ++ posttxt` with a blank `indent` and a type
    that is (case-insensitively) in the table — a start marker is never invented and the
    text after it is handed on verbatim. -/
theorem admRe_decomposes (types : List Str) (l : Str) (m : AdmMatch) (h : admRe types l = some m) :
    l = m.pre ++ m.indent ++ '@' :: (m.ty ++ m.post) ∧ isBlank m.indent = true ∧ lower m.ty ∈ types :=
  admRe_spec types l m h

/-- Text without any `@` passes the admonition pre-processor unchanged (no line is inserted,
    deleted, indented or rewritten), whatever its length. -/
theorem admRun_no_marker_id (types : List Str) (ls : List Str) (h : ∀ l ∈ ls, '@' ∉ l) :
    admRun types ls = .ok ls := by
  simp [admRun, findAdm, findFrom_no_at types ls 0 h, processAdm, procAll]

/-- Indenting the body of a box (any range, any text) keeps the word sequence. -/
theorem indent_keeps_words (ls : List Str) (lo hi : Nat) : W (indentFrom ls 0 lo hi) = W ls :=
  indentFrom_words ls 0 lo hi

/-- One iteration of `_process_admonitions` on a box closed by an `@end…` line, anywhere in
    any text (`A`, `M`, `B` are arbitrary line lists, `s` the start line, `x` the end line):
    the result is the text before, the header `@note <Type>` (for the type `ty` the box record carries, any), the text after the start
    marker, the body, the text before and after the end marker, the text after — every word
    once and in order; besides the two markers, the only part of the input that does not reappear is `m.pre`, the
    text before the start marker on its own line (see `…_witness`). -/
theorem procOne_closed_words (types : List Str) (A M B : List Str) (s x ty : Str)
    (m : AdmMatch) (e : EndMatch) (hs : admRe types s = some m) (he : endRe types x = some e) :
    ∃ ls', procOne types (A ++ s :: (M ++ x :: B)) ⟨ty, A.length, some (A.length + 1 + M.length)⟩ = .ok ls' ∧
      W ls' = W A ++ words (['@', 'n', 'o', 't', 'e', ' '] ++ capitalize ty) ++ words m.post ++ W M
                ++ words e.pre ++ words e.post ++ W B := by
  -- Re-bracket so that the end line sits at index `(A ++ s :: M).length`; take from `endStep_shape` that the
  -- end step leaves `(A ++ s :: M) ++ R`; then `M ++ R` is the body that `indent_startStep` speaks of.
  have hP : (A ++ s :: M).length = A.length + 1 + M.length := by simp; omega
  have hL : A ++ s :: (M ++ x :: B) = (A ++ s :: M) ++ x :: B := by simp
  obtain ⟨R, hR, hW⟩ := endStep_shape types (A ++ s :: M) x B e he
  unfold procOne
  simp only [Option.getD_some]
  rw [hL, ← hP]
  generalize endStep types ((A ++ s :: M) ++ x :: B) (A ++ s :: M).length = res at hR
  obtain ⟨ls1, stop'⟩ := res
  simp only at hR
  subst hR
  have e1 : (A ++ s :: M) ++ R = A ++ s :: (M ++ R) := by simp
  obtain ⟨ls', h1, h2⟩ := indent_startStep types A s (M ++ R) ty m (min (A ++ s :: (M ++ R)).length (stop' + 1)) hs
  have hlen : ¬ ((A ++ s :: M).length ≥ ((A ++ s :: M) ++ x :: B).length) := by simp
  have hlen2 : ¬ (A.length ≥ (indentFrom (A ++ s :: (M ++ R)) 0 (A.length + 1)
      (min (A ++ s :: (M ++ R)).length (stop' + 1))).length) := by simp [indentFrom_length]
  simp only [hlen, ↓reduceIte, e1, hlen2, h1]
  exact ⟨ls', rfl, by rw [h2, W_append, hW]; simp only [List.append_assoc]⟩

/-- The same for a box that has no `@end…` line at its recorded end (ended by a blank line,
    by the next box or by the end of the text): nothing but the header rewrite and
    indentation happens, and no word of the surrounding or contained text is lost. -/
theorem procOne_open_words (types : List Str) (A R : List Str) (s ty : Str) (stop : Nat)
    (m : AdmMatch) (hs : admRe types s = some m) (hstop : stop < (A ++ s :: R).length)
    (he : endRe types ((A ++ s :: R).getD stop []) = none) :
    ∃ ls', procOne types (A ++ s :: R) ⟨ty, A.length, some stop⟩ = .ok ls' ∧
      W ls' = W A ++ words (['@', 'n', 'o', 't', 'e', ' '] ++ capitalize ty) ++ words m.post ++ W R := by
  obtain ⟨ls', h1, h2⟩ := indent_startStep types A s R ty m (min (A ++ s :: R).length (stop + 1)) hs
  have hlen : ¬ (stop ≥ (A ++ s :: R).length) := by omega
  have hlen2 : ¬ (A.length ≥ (indentFrom (A ++ s :: R) 0 (A.length + 1)
      (min (A ++ s :: R).length (stop + 1))).length) := by simp [indentFrom_length]
  unfold procOne
  simp only [Option.getD_some, endStep_none types _ _ he, hlen, hlen2, ↓reduceIte, h1]
  exact ⟨ls', rfl, h2⟩

/-- Finding C03-text-before-note-dropped, as the code is: text before the start marker on the same line is dropped
    (`t1q0` disappears), while everything else is kept. -/
theorem startStep_drops_text_before_marker_witness :
    (admRun admTypes ["t1q0 @note t1q1".toList, "t1q2".toList, "@endnote".toList]).toOption.map W
      = some ["@note".toList, "Note".toList, "t1q1".toList, "t1q2".toList] := by
  -- A literal is `String.ofList` of its characters, so `String.toList_ofList` turns every `"…".toList` into
  -- the character list in one step; evaluating `String.toList` on a literal is quadratic in its length.
  -- (`-index`: a literal is not indexed under `String.ofList`.)  The same first step in all test vectors below.
  simp -index only [String.toList_ofList]
  decide +kernel

/-- non-vacuity: a closed box with text on the start line, after the end marker, and text around -/
example : (admRun admTypes ["a".toList, "@Warning b".toList, "c".toList, "d @endwarning e".toList, "f".toList]).toOption.map W
    = some (["a", "@note", "Warning", "b", "c", "d", "e", "f"].map String.toList) := by
  simp -index only [String.toList_ofList]
  decide +kernel


/-! ## Metadata (`ford.utils.meta_preprocessor`, `FortranBase.read_metadata`) -/

/-- Leading metadata lines set the metadata and are not shown: for every dictionary `kvs`
    in the documented form (distinct lower-case word keys, each with one or more non-empty
    values without surrounding blanks, continuation values on lines indented by four
    blanks) and every body, splitting `header ++ [blank line] ++ body` gives back exactly
    `(kvs, body)` — no header line leaks into the body, no body line is eaten, and the
    keys keep their order. -/
theorem metaSplit_header (kvs : List (Str × List Str)) (hok : kvs.all entryOK = true)
    (hnd : (kvs.map (·.1)).Nodup) (body : List Str) :
    metaSplit (headerLines kvs ++ [] :: body) = (kvs, body) := by
  obtain ⟨key, h⟩ := metaSplit_header_then kvs hok hnd [] body rfl
  rw [h]
  simp [metaLoop, isBlank]

/-- The same without the separating blank line, for a body whose first line cannot be read
    as metadata (the explicit guard: not blank, not a `---`/`...` line, neither a
    `key: value` nor a four-blank continuation line). -/
theorem metaSplit_header_partial (kvs : List (Str × List Str)) (hok : kvs.all entryOK = true)
    (hnd : (kvs.map (·.1)).Nodup) (b : Str) (body : List Str)
    (h1 : isBlank b = false) (h2 : metaEndRe b = false) (h3 : metaRe b = none) (h4 : metaMoreRe b = none) :
    metaSplit (headerLines kvs ++ b :: body) = (kvs, b :: body) := by
  have hb : beginRe b = false := by
    simp only [metaEndRe, Bool.or_eq_false_iff] at h2; exact h2.1
  obtain ⟨key, h⟩ := metaSplit_header_then kvs hok hnd b body hb
  rw [h]
  simp [metaLoop, h1, h2, h3, h4]

/-- What the guard excludes, as the code is: a first body line of the form `word: text`
    directly after the header is swallowed as one more (unknown) metadata key. -/
theorem metaSplit_colon_line_witness :
    metaSplit ["author: A".toList, "Remark: shown nowhere".toList, "text".toList]
      = ([("author".toList, ["A".toList]), ("remark".toList, ["shown nowhere".toList])], ["text".toList]) := by
  simp -index only [String.toList_ofList]
  decide +kernel

/-- `read_metadata`'s one-line rule: a doc comment consisting of a single line that
    contains a colon but does not start with the name of an entity setting is body text,
    not metadata (both variants of the rule). -/
theorem single_line_with_colon_is_text (tb : Bool) (fields : List Str) (l : Str) (hc : l.contains ':' = true)
    (hf : fields.contains (lower (strip (l.takeWhile (· != ':')))) = false) :
    readMetadata tb fields [l] = ([], [l]) := by
  have hc' : ':' ∈ l := by simpa using hc
  have hf' : ¬ (lower (strip (l.takeWhile (· != ':'))) ∈ fields) := by simpa using hf
  have hfix : readMetaFix tb fields [l] = [[], l] := by
    simp [readMetaFix, isOneLine, hc', hf']
  simp [readMetadata, hfix, metaSplit, beginRe, startsWith, metaLoop, isBlank]

/-- The other half of the one-line rule: a doc comment consisting of the single line
    `Key: value` whose key is the name of an entity setting **written in any case** sets that
    (lower-cased) metadata key and shows nothing — for every table of settings, every word
    `k` with `lower k` in the table and every value. -/
theorem single_line_known_key_is_metadata (tb : Bool) (fields : List Str) (k v : Str) (hne : k ≠ [])
    (hw : k.all isWord = true) (hv : valOK v = true) (hf : lower k ∈ fields) :
    readMetadata tb fields [k ++ ':' :: ' ' :: v] = ([(lower k, [v])], []) := by
  have hfix : readMetaFix tb fields [k ++ ':' :: ' ' :: v] = [k ++ ':' :: ' ' :: v] := by
    simp [readMetaFix, isOneLine, takeWhile_colon k _ hw, strip_word k hw, hf]
  simp [readMetadata, hfix, metaSplit_key_line k v hne hw hv, metaLoop]

/-- One comment, two shapes: the one-line form `Key: value` and the header form
    (`Key: value`, blank line, body) give the same metadata for a known key in any case. -/
theorem single_line_agrees_with_header (tb : Bool) (fields : List Str) (k v : Str) (body : List Str) (hne : k ≠ [])
    (hw : k.all isWord = true) (hv : valOK v = true) (hf : lower k ∈ fields) :
    (readMetadata tb fields [k ++ ':' :: ' ' :: v]).1 = (metaSplit ((k ++ ':' :: ' ' :: v) :: [] :: body)).1 := by
  rw [single_line_known_key_is_metadata tb fields k v hne hw hv hf, metaSplit_key_line k v hne hw hv]
  simp [metaLoop, isBlank]

/-- Finding C03-oneline-text-with-colon-lost-before-blank-line (repaired in FORD by 9233bc7), the variant
    `tb = false`: the empty doc line that the reader emits for a blank line after the comment defeats the
    one-line rule and the comment is swallowed as an unknown key; in the variant `tb = true` it is text. -/
theorem single_line_then_blank_witness :
    readMetadata false Gen.entityFields ["Note: must be positive".toList, []]
        = ([("note".toList, ["must be positive".toList])], []) ∧
    readMetadata true Gen.entityFields ["Note: must be positive".toList, []]
        = ([], ["Note: must be positive".toList, []]) := by
  simp -index only [String.toList_ofList]
  decide +kernel

/-- A comment **without** leading metadata is shown whole: when the first doc line is not blank,
    not a `---`/`...` line and not a `key:` line (`META_RE`: at most three blanks, a word, a
    colon), `read_metadata` — one-line rule included, both variants, any table of settings —
    sets no metadata and hands every line on, the first one included.  No hypothesis on
    `META_MORE_RE`: a first line indented by four or more blanks looks like a continuation
    line, but there is no key to continue, so it ends the scan and is pushed back. -/
theorem comment_without_header_is_body (tb : Bool) (fields : List Str) (l : Str) (rest : List Str)
    (h1 : isBlank l = false) (h2 : metaEndRe l = false) (h3 : metaRe l = none) :
    readMetadata tb fields (l :: rest) = ([], l :: rest) := by
  -- for one line with a colon and an unknown key `readMetaFix` puts an empty line in front; the scan stops at
  -- that blank line with the same result (`hs'`)
  have hs := metaSplit_first_not_meta l rest h1 h2 h3
  have hb0 : isBlank ([] : Str) = true := rfl
  have hs' : metaSplit ([] :: l :: rest) = ([], l :: rest) := by
    simp [metaSplit, beginRe, startsWith, metaLoop, hb0]
  simp only [readMetadata, readMetaFix]
  by_cases hc : isOneLine tb (l :: rest) = true ∧ ':' ∈ l
  · by_cases hf : lower (strip (l.takeWhile (· != ':'))) ∈ fields
    · simp [hc, hf, hs]
    · simp [hc, hf, hs']
  · simp [hc, hs]

/-- The two layouts that start with such a line — a consistently wide-indented comment
    (`!!    text`, which `textwrap.dedent` exists to support) and a comment that starts with an
    indented code block: a first line of `n ≥ 4` blanks followed by a non-blank character is
    never metadata, whatever follows; the comment reaches the converter complete. -/
theorem wide_indented_comment_is_body (tb : Bool) (fields : List Str) (n : Nat) (hn : 4 ≤ n) (c : Char) (cs : Str)
    (hc : isSpace c = false) (rest : List Str) :
    readMetadata tb fields ((List.replicate n ' ' ++ c :: cs) :: rest)
      = ([], (List.replicate n ' ' ++ c :: cs) :: rest) := by
  obtain ⟨h1, h2, h3⟩ := wide_line n hn c cs hc
  exact comment_without_header_is_body tb fields _ rest h1 h2 h3

/-- worked instances on the generated table: a comment starting with a code block and a
    wide-indented paragraph (also one that contains a colon) -/
example :
    readMetadata false Gen.entityFields ["     call foo(x)".toList, ([] : Str), "explanation".toList]
      = ([], ["     call foo(x)".toList, ([] : Str), "explanation".toList]) ∧
    readMetadata false Gen.entityFields ["    wide text".toList, "    more: text".toList]
      = ([], ["    wide text".toList, "    more: text".toList]) := by
  simp -index only [String.toList_ofList]
  decide +kernel

/-- … a wide-indented one-liner with a known key, and — the contrast — the same kind of wide
    line *after* a key, where it is a continuation value -/
example :
    readMetadata false Gen.entityFields ["    author: nobody".toList] = ([], ["    author: nobody".toList]) ∧
    readMetadata false Gen.entityFields ["author: A".toList, "    B".toList, ([] : Str), "    code".toList]
      = ([("author".toList, ["A".toList, "B".toList])], ["    code".toList]) := by
  simp -index only [String.toList_ofList]
  decide +kernel

/-- non-vacuity of the one-line theorems on the generated table: capitalised known key,
    unknown key, and a name that is an attribute but not a field of the settings class -/
example : readMetadata false Gen.entityFields ["Author: Jane".toList] = ([("author".toList, ["Jane".toList])], []) ∧
    readMetadata false Gen.entityFields ["Note: text".toList] = ([], ["Note: text".toList]) ∧
    readMetadata false Gen.entityFields ["update: text".toList] = ([], ["update: text".toList]) := by
  simp -index only [String.toList_ofList]
  decide +kernel

/-- non-vacuity of `metaSplit_header`: a two-key header with a continuation value -/
example : metaSplit (headerLines [("author".toList, ["A B".toList, "C".toList]), ("version".toList, ["1.0".toList])]
            ++ [] :: ["body".toList])
    = ([("author".toList, ["A B".toList, "C".toList]), ("version".toList, ["1.0".toList])], ["body".toList]) := by
  simp -index only [String.toList_ofList]
  decide +kernel


/-! ## Attaching doc lines to entities (`read_docstring`, container loop) -/

/-- A declaration statement (any parser state `s`, any names it declares) followed by the doc
    lines `ds` and then anything (`rest`): the new entities get exactly `ds`, in order, as
    their docstring, every entity that existed before is unchanged, and processing
    continues with `rest`. -/
theorem attach_leaf_docstring (c : Char) (s : ASt) (it : Str) (ns : List Str) (sp : Bool)
    (ds rest : List Str) (hnd : it.take 2 ≠ ['!', c]) (hcl : classify it = .leafAll ns sp) (hne : ns ≠ []) :
    attachFrom [c] s (it :: (ds.map (fun d => '!' :: c :: d) ++ rest)) =
      attachFrom [c] { stack := s.stack, reading := ns.length,
                       ents := s.ents ++ ns.map (fun n => ⟨n, sp, ds, []⟩) } rest := by
  simp only [attachFrom]
  rw [attachStep_stmt c s it hnd, hcl]
  have hr : ns.length > 0 := by cases ns with | nil => exact absurd rfl hne | cons _ _ => simp
  rw [attach_doc_run c ds rest _ hr]
  simp only
  rw [← length_mkEnts ns sp, modifyLast_append]
  simp [mkEnts, Function.comp_def]

/-- The same for a container statement (module, procedure, type …): it gets exactly the doc
    lines that follow it, and becomes the innermost open container. -/
theorem attach_container_docstring (c : Char) (s : ASt) (it : Str) (n : Str)
    (ds rest : List Str) (hnd : it.take 2 ≠ ['!', c]) (hcl : classify it = .openE n) :
    attachFrom [c] s (it :: (ds.map (fun d => '!' :: c :: d) ++ rest)) =
      attachFrom [c] { stack := s.ents.length :: s.stack, reading := 1,
                       ents := s.ents ++ [⟨n, true, ds, []⟩] } rest := by
  simp only [attachFrom]
  rw [attachStep_stmt c s it hnd, hcl]
  rw [attach_doc_run c ds rest _ (by simp)]
  have hl : (mkEnts [n] true).length = 1 := rfl
  simp only
  rw [← hl, modifyLast_append]
  simp [mkEnts]

/-- Nobody else's: once an entity's docstring has been read (`reading` only covers entities
    created later), no later item of the file — doc lines of neighbours, stray container
    docs, statements — changes it. -/
theorem attach_docstring_frozen (mark : Str) (items : List Str) (s : ASt) (n : Nat)
    (h : s.reading + n ≤ s.ents.length) :
    ((attachFrom mark s items).ents.take n).map (·.init) = (s.ents.take n).map (·.init) := by
  induction items generalizing s with
  | nil => rfl
  | cons it items ih =>
    simp only [attachFrom]
    have key : (attachStep mark s it).reading + n ≤ (attachStep mark s it).ents.length ∧
        ((attachStep mark s it).ents.take n).map (·.init) = (s.ents.take n).map (·.init) := by
      unfold attachStep
      split
      · exact ⟨by simp [modifyLast_length]; exact h, by rw [modifyLast_take _ _ _ _ h]⟩
      · unfold attachStmt
        split
        · refine ⟨by simp [modifyAt_length]; omega, ?_⟩
          simp only [List.map_take]
          rw [modifyAt_init _ (by intro e; rfl)]
        · split
          · refine ⟨by simp only [List.length_append, length_mkEnts, List.length_singleton]; omega, ?_⟩
            rw [List.take_append_of_le_length (by omega)]
          · refine ⟨by simp only [List.length_append, length_mkEnts]; omega, ?_⟩
            rw [List.take_append_of_le_length (by omega)]
          · refine ⟨by simp only [List.length_append, length_mkEnts]; omega, ?_⟩
            rw [List.take_append_of_le_length (by omega)]
          · exact ⟨by simp; omega, rfl⟩
          · exact ⟨by simp; omega, rfl⟩
    rw [ih _ key.1, key.2]

/-- non-vacuity / worked instance: two declarations with docs, a stray doc after a plain
    statement goes to the container -/
example : (attach ['!'] ["module m".toList, "!! dm".toList, "integer :: a, b".toList, "!! dab".toList,
                         "real :: c".toList, "x = 1".toList, "!! stray".toList, "end module".toList]).map
            (fun e => (e.name, e.init, e.extra))
    = [("<file>".toList, [], []), ("m".toList, [" dm".toList], [" stray".toList]),
       ("a".toList, [" dab".toList], []), ("b".toList, [" dab".toList], []), ("c".toList, [], [])] := by
  simp -index only [String.toList_ofList]
  decide +kernel


/-! ## Interface blocks with procedure bodies (`FortranInterface._cleanup`,
    `FortranModuleProcedureInterface`) -/

/-- The bookkeeping for interface blocks runs next to the attach model and never changes it:
    every theorem above about `attach` holds unchanged for files that contain `interface` /
    `abstract interface` blocks with procedure bodies. -/
theorem interface_bookkeeping_preserves_attach (mark : Str) (items : List Str) :
    (attachW mark items).a.ents = attach mark items := by
  simp [attachW, attach, wFrom_a]

/-- The comment of an `interface` / `abstract interface` block documents each interface the
    block declares, complete: when what the block's own `read_metadata` left (`l :: rest`) does
    not start with a line that can be read as metadata, every wrapper — any number of them, in
    both variants of the code — gets exactly that text, and the shared list is what it was;
    running `read_metadata` once more per wrapper loses nothing. -/
theorem interface_wrappers_get_block_comment (wfix tb : Bool) (fields : List Str) (bm : MetaDict) (names : List Str)
    (l : Str) (rest : List Str) (h1 : isBlank l = false) (h2 : metaEndRe l = false) (h3 : metaRe l = none) :
    (wrapFold wfix tb fields bm names (l :: rest)).2 = l :: rest ∧
      (wrapFold wfix tb fields bm names (l :: rest)).1.map (·.1) = names := by
  induction names with
  | nil => exact ⟨rfl, rfl⟩
  | cons n ns ih =>
    cases wfix with
    | true => simpa [wrapFold] using ih
    | false =>
      have hr := comment_without_header_is_body tb fields l rest h1 h2 h3
      simp only [wrapFold, Bool.false_eq_true, ↓reduceIte, hr]
      exact ⟨ih.1, by simp [ih.2]⟩

/-- Leading metadata lines of the block's comment set the metadata of each interface it
    declares: in the variant `wfix = true` (FORD since def6ba9) every wrapper carries the block's
    metadata and the text is not searched for metadata a second time (any text). -/
theorem interface_wrappers_get_block_metadata_when_fixed (tb : Bool) (fields : List Str) (bm : MetaDict)
    (names L : List Str) :
    wrapFold true tb fields bm names L = (names.map (fun n => (n, bm)), L) := by
  induction names with
  | nil => rfl
  | cons n ns ih => simp [wrapFold, ih]

/-- Finding C03-interface-block-metadata-not-applied (repaired in FORD by def6ba9), the variant
    `wfix = false`: the block's comment `author: Jane` / blank / `Note: read this` / `text` gives the block the
    metadata and the two text lines, but the wrapper of its procedure `f` gets no `author`, and its second
    `read_metadata` swallows the body line `Note: read this` from the list all of them share. -/
theorem interface_wrapper_metadata_witness :
    let c := readMetadata false Gen.entityFields
      ["author: Jane".toList, ([] : Str), "Note: read this".toList, "text".toList]
    c = ([("author".toList, ["Jane".toList])], ["Note: read this".toList, "text".toList]) ∧
    wrapFold false false Gen.entityFields c.1 ["f".toList] c.2
      = ([("f".toList, [("note".toList, ["read this".toList])])], ["text".toList]) ∧
    wrapFold true false Gen.entityFields c.1 ["f".toList] c.2
      = ([("f".toList, [("author".toList, ["Jane".toList])])], ["Note: read this".toList, "text".toList]) := by
  simp -index only [String.toList_ofList]
  -- one by one: no `Decidable` instance is found for the whole conjunction within the synthesis limits
  exact ⟨by decide +kernel, by decide +kernel, by decide +kernel⟩

/-- worked instance: an `abstract interface` block with a comment and two procedure bodies
    (function `f`, subroutine `s`, both documented): registration order and docs — the block's own
    entity is dropped, the wrappers follow the block's contents, functions first -/
example :
    (entDocsW false false Gen.entityFields false (attachW ['!'] ["module m".toList, "abstract interface".toList,
        "!! block".toList, "subroutine s(a)".toList, "!! ds".toList, "integer :: a".toList, "!! da".toList,
        "end subroutine".toList, "function f() result(r)".toList, "!! df".toList, "real :: r".toList,
        "end function".toList, "end interface".toList, "integer :: v".toList, "!! dv".toList,
        "end module".toList])).map (fun e => (e.1, e.2.2))
    = [("<file>".toList, []), ("m".toList, []), ("s".toList, [" ds".toList]), ("a".toList, [" da".toList]),
       ("f".toList, [" df".toList]), ("r".toList, []), ("f".toList, [" block".toList]),
       ("s".toList, [" block".toList]), ("v".toList, [" dv".toList])] := by
  simp -index only [String.toList_ofList]
  decide +kernel

/-! ## The four doc styles at the reader (worked instance; the general statement is covered by
    the differential correspondence of `readAll` with `FortranReader`, see notes/C03.md) -/

/-- following / preceding `!>` / alt block `!*` / pre-alt block `!|`, with non-default marker
    characters (`doc = ^`, `pre = <`, `alt = ~`, `preAlt = $`): the same items reach the parser -/
example :
    let m : Marks := { doc := ['^'], pre := ['<'], alt := ['~'], preAlt := ['$'] }
    let want := some ["integer :: x".toList, "!^ a".toList, "!^ b".toList]
    (readAll m ["integer :: x".toList, "!^ a".toList, "!^ b".toList]).toOption = want ∧
    (readAll m ["integer :: x !^ a".toList, "  !^ b".toList]).toOption = want ∧
    (readAll m ["!< a".toList, "!< b".toList, "integer :: x".toList]).toOption = want ∧
    (readAll m ["integer :: x".toList, "!~ a".toList, "! b".toList]).toOption = want ∧
    (readAll m ["!$ a".toList, "! b".toList, "integer :: x".toList]).toOption = want := by
  simp -index only [String.toList_ofList]
  decide +kernel

/-! ## Preceding documentation: a `!>` block whose later lines use `!>` or the plain doc marker
    ("In the first line of your preceding documentation, use `!>` rather than the usual `!!`.  This
    can be used on all lines of the preceding documentation if desired, but this is not necessary") -/

/-- The reader on a preceding doc block, for every marker configuration, every indentation and
    every text: a pre-marker line, then any mixture of pre-marker lines, **plain doc-marker
    lines**, ordinary comments and blank lines (`blk`, each line well-formed: the text after
    its `!` cannot be read as one of the other markers), then a statement line `l` (no doc
    comment on it, code part `x :: r`, neither continued nor continuing) — read from any state
    between two logical lines: nothing is emitted before the statement; then the statement(s)
    of `l`, then every doc line of the block exactly once and in order, rewritten to the plain
    doc marker; then the reading of `rest` from a state between logical lines.  In particular
    a plain doc-marker line does not end the block, and whether a later line is written with
    the pre-marker or the doc marker makes no difference (`DLine.docs`). -/
theorem predoc_block_lands_after_statement (m : Marks) (pd : Bool) (ind0 t0 : Str) (blk : List DLine)
    (l : Str) (x : Char) (r : Str) (rest : List Str)
    (h0 : (DLine.pre ind0 t0).wf m) (hb : ∀ b ∈ blk, b.wf m)
    (hn : NoDoc m false l) (hc : codeOf false l = x :: r) (hx : x ≠ '&')
    (hl : (x :: r).getLast? ≠ some '&') (hJ : itemsOf (' ' :: x :: r) ≠ []) :
    readFrom m (fresh pd) ((DLine.pre ind0 t0 :: blk).map (DLine.render m) ++ l :: rest) =
      match readFrom m (fresh true) rest with
      | .error e => .error e
      | .ok more =>
        .ok (itemsOf (' ' :: x :: r) ++ (DLine.pre ind0 t0 :: blk).flatMap (DLine.docs m) ++ more) :=
  readFrom_predoc_block m pd ind0 t0 blk l x r rest h0 hb hn hc hx hl hJ

/-- Reader and parser together: such a block in front of a declaration statement `it` (any
    parser state, any names it declares) becomes the docstring of exactly the entities that
    statement declares — all texts of the block, in order, nothing else — while every entity
    that existed before (in particular the one declared just above the block) is unchanged. -/
theorem predoc_block_documents_next_declaration (c : Char) (m : Marks) (hd : m.doc = [c]) (pd : Bool)
    (ind0 t0 : Str) (blk : List DLine) (l : Str) (x : Char) (r : Str) (rest more : List Str)
    (s : ASt) (it : Str) (ns : List Str) (sp : Bool)
    (h0 : (DLine.pre ind0 t0).wf m) (hb : ∀ b ∈ blk, b.wf m)
    (hn : NoDoc m false l) (hc : codeOf false l = x :: r) (hx : x ≠ '&')
    (hl : (x :: r).getLast? ≠ some '&') (hJ : itemsOf (' ' :: x :: r) = [it])
    (hnd : it.take 2 ≠ ['!', c]) (hcl : classify it = .leafAll ns sp) (hne : ns ≠ [])
    (hrest : readFrom m (fresh true) rest = .ok more) :
    ∃ items, readFrom m (fresh pd) ((DLine.pre ind0 t0 :: blk).map (DLine.render m) ++ l :: rest) = .ok items ∧
      attachFrom [c] s items =
        attachFrom [c] { stack := s.stack, reading := ns.length,
                         ents := s.ents ++ ns.map (fun n => ⟨n, sp, (DLine.pre ind0 t0 :: blk).flatMap DLine.texts, []⟩) }
          more := by
  refine ⟨it :: (((DLine.pre ind0 t0 :: blk).flatMap DLine.texts).map (fun d => '!' :: c :: d) ++ more), ?_, ?_⟩
  · rw [readFrom_predoc_block m pd ind0 t0 blk l x r rest h0 hb hn hc hx hl (by simp [hJ]), hrest, hJ,
      docs_eq_texts m c hd]
    simp
  · exact attach_leaf_docstring c s it ns sp _ more hnd hcl hne

/-- worked instance (non-default markers `doc = ^`, `pre = <`): the Doxygen-like layout
    `!< first` / `!^ continuation`, with an ordinary comment and a blank line inside the block,
    between a documented declaration and the one the block is written for -/
example :
    let m : Marks := { doc := ['^'], pre := ['<'], alt := ['~'], preAlt := ['$'] }
    (readAll m ["integer :: a".toList, "!^ da".toList, "!< b1".toList, "  !^ b2".toList, "! plain".toList, [],
                "!< b3".toList, "!^ b4".toList, "integer :: b".toList]).toOption
      = some ["integer :: a".toList, "!^ da".toList, "integer :: b".toList, "!^ b1".toList, "!^ b2".toList,
              "!^ b3".toList, "!^ b4".toList] := by
  simp -index only [String.toList_ofList]
  decide +kernel

/-- non-vacuity of the two theorems above: the hypotheses on the lines hold for the first four block lines
    and the statement line of that instance -/
example :
    let m : Marks := { doc := ['^'], pre := ['<'], alt := ['~'], preAlt := ['$'] }
    (DLine.pre [] " b1".toList).wf m ∧ (DLine.doc "  ".toList " b2".toList).wf m ∧
    (DLine.plain [] " plain".toList).wf m ∧ (DLine.blank []).wf m ∧
    NoDoc m false "integer :: b".toList ∧ codeOf false "integer :: b".toList = "integer :: b".toList ∧
    itemsOf (' ' :: "integer :: b".toList) = ["integer :: b".toList] ∧
    classify "integer :: b".toList = .leafAll ["b".toList] true := by
  simp -index only [DLine.wf, NoDoc, String.toList_ofList]
  decide +kernel

/-! ## Several statements on one source line (`;`) and the order in which buffered doc lines are handed out
    (`FortranReader.__next__`: `pending` first, then `docbuffer`) -/

/-- A source line `<code>!<doc-marker><t>` whose code part (outside comments; closed character
    literals allowed) holds **any number of `;`-separated statements**, read from a state between
    two logical lines, for every marker configuration: every statement of the line is emitted
    first, the inline doc line after the last of them, then the reading of the rest continues from
    a state between logical lines.  So a doc comment at the end of `a; b` follows `b`. -/
theorem inline_doc_lands_after_every_statement_of_its_line (m : Marks) (pd : Bool) (p t : Str) (x : Char)
    (r : Str) (rest : List Str) (hp : Atoms p) (hne : m.doc ≠ [])
    (h0 : firstStripped (p ++ '!' :: (m.doc ++ t)) ≠ some '#')
    (h1 : startsWith (m.doc ++ t) m.pre = false) (h2 : startsWith (m.doc ++ t) m.preAlt = false)
    (h3 : startsWith (m.doc ++ t) m.alt = false)
    (hc : strip p = x :: r) (hx : x ≠ '&') (hl : (x :: r).getLast? ≠ some '&')
    (hJ : itemsOf (' ' :: x :: r) ≠ []) :
    readFrom m (fresh pd) ((p ++ '!' :: (m.doc ++ t)) :: rest) =
      match readFrom m (fresh true) rest with
      | .error e => .error e
      | .ok more => .ok (itemsOf (' ' :: x :: r) ++ ['!' :: (m.doc ++ t)] ++ more) := by
  have hf : feed m (fresh pd) (p ++ '!' :: (m.doc ++ t)) =
      .ok (fresh true, itemsOf (' ' :: x :: r) ++ ['!' :: (m.doc ++ t)]) := by
    have := feed_stmt_inline m [] pd false p t x r hp hne h0 h1 h2 h3 hc hx hl hJ
    simpa [fresh] using this
  rw [readFrom_step m (fresh pd) (fresh true) _ rest _ hf]
  cases readFrom m (fresh true) rest <;> rfl

/-- The "docbuffer ordering" of the property: a preceding block (as in
    `predoc_block_lands_after_statement`), then a statement line that ends in an inline doc comment:
    the statement(s), then the whole preceding block in order, then the inline doc line — the
    entity's documentation is its comment in source order, the preceding lines before the trailing
    ones, whatever the markers are. -/
theorem predoc_block_then_inline_doc_in_source_order (m : Marks) (pd : Bool) (ind0 t0 : Str) (blk : List DLine)
    (p t : Str) (x : Char) (r : Str) (rest : List Str)
    (hw0 : (DLine.pre ind0 t0).wf m) (hb : ∀ b ∈ blk, b.wf m)
    (hp : Atoms p) (hne : m.doc ≠ [])
    (h0 : firstStripped (p ++ '!' :: (m.doc ++ t)) ≠ some '#')
    (h1 : startsWith (m.doc ++ t) m.pre = false) (h2 : startsWith (m.doc ++ t) m.preAlt = false)
    (h3 : startsWith (m.doc ++ t) m.alt = false)
    (hc : strip p = x :: r) (hx : x ≠ '&') (hl : (x :: r).getLast? ≠ some '&')
    (hJ : itemsOf (' ' :: x :: r) ≠ []) :
    readFrom m (fresh pd) ((DLine.pre ind0 t0 :: blk).map (DLine.render m) ++ (p ++ '!' :: (m.doc ++ t)) :: rest) =
      match readFrom m (fresh true) rest with
      | .error e => .error e
      | .ok more =>
        .ok (itemsOf (' ' :: x :: r) ++ (DLine.pre ind0 t0 :: blk).flatMap (DLine.docs m)
              ++ ['!' :: (m.doc ++ t)] ++ more) :=
  readFrom_predoc_block_inline m pd ind0 t0 blk p t x r rest hw0 hb hp hne h0 h1 h2 h3 hc hx hl hJ

/-- Reader and parser together: the line holds the statements `A ++ [it]` (`A` arbitrary, `it` a
    declaration of the names `ns`).  Whatever the statements `A` do to the parser state (`sA`), the
    inline comment becomes the docstring `[t]` of exactly the entities declared by the **last**
    statement; the entities that exist after `A` — those declared by the earlier statements of the
    same line among them — are taken over unchanged. -/
theorem inline_doc_documents_last_statement_of_its_line (c : Char) (m : Marks) (hd : m.doc = [c]) (pd : Bool)
    (p t : Str) (x : Char) (r : Str) (rest more : List Str) (s : ASt) (A : List Str) (it : Str)
    (ns : List Str) (sp : Bool) (hp : Atoms p)
    (h0 : firstStripped (p ++ '!' :: (m.doc ++ t)) ≠ some '#')
    (h1 : startsWith (m.doc ++ t) m.pre = false) (h2 : startsWith (m.doc ++ t) m.preAlt = false)
    (h3 : startsWith (m.doc ++ t) m.alt = false)
    (hc : strip p = x :: r) (hx : x ≠ '&') (hl : (x :: r).getLast? ≠ some '&')
    (hJ : itemsOf (' ' :: x :: r) = A ++ [it])
    (hnd : it.take 2 ≠ ['!', c]) (hcl : classify it = .leafAll ns sp) (hne : ns ≠ [])
    (hrest : readFrom m (fresh true) rest = .ok more) :
    ∃ items, readFrom m (fresh pd) ((p ++ '!' :: (m.doc ++ t)) :: rest) = .ok items ∧
      attachFrom [c] s items =
        attachFrom [c] { stack := (attachFrom [c] s A).stack, reading := ns.length,
                         ents := (attachFrom [c] s A).ents ++ ns.map (fun n => ⟨n, sp, [t], []⟩) } more := by
  refine ⟨A ++ it :: ([t].map (fun d => '!' :: c :: d) ++ more), ?_, ?_⟩
  · rw [inline_doc_lands_after_every_statement_of_its_line m pd p t x r rest hp (by simp [hd]) h0 h1 h2 h3 hc hx hl
      (by simp [hJ]), hrest, hJ, hd]
    simp
  · rw [attachFrom_append]
    exact attach_leaf_docstring c _ it ns sp [t] more hnd hcl hne

/-- The two-declaration case spelled out: `d1; d2 !<doc>t` — the entities of `d1` have an empty
    docstring, the entities of `d2` have `[t]`, every earlier entity is unchanged. -/
theorem inline_doc_after_two_declarations_documents_the_second (c : Char) (m : Marks) (hd : m.doc = [c])
    (pd : Bool) (p t : Str) (x : Char) (r : Str) (rest more : List Str) (s : ASt) (d1 d2 : Str)
    (ns1 ns2 : List Str) (sp1 sp2 : Bool) (hp : Atoms p)
    (h0 : firstStripped (p ++ '!' :: (m.doc ++ t)) ≠ some '#')
    (h1 : startsWith (m.doc ++ t) m.pre = false) (h2 : startsWith (m.doc ++ t) m.preAlt = false)
    (h3 : startsWith (m.doc ++ t) m.alt = false)
    (hc : strip p = x :: r) (hx : x ≠ '&') (hl : (x :: r).getLast? ≠ some '&')
    (hJ : itemsOf (' ' :: x :: r) = [d1, d2])
    (hn1 : d1.take 2 ≠ ['!', c]) (hc1 : classify d1 = .leafAll ns1 sp1)
    (hn2 : d2.take 2 ≠ ['!', c]) (hc2 : classify d2 = .leafAll ns2 sp2) (hne : ns2 ≠ [])
    (hrest : readFrom m (fresh true) rest = .ok more) :
    ∃ items, readFrom m (fresh pd) ((p ++ '!' :: (m.doc ++ t)) :: rest) = .ok items ∧
      attachFrom [c] s items =
        attachFrom [c] { stack := s.stack, reading := ns2.length,
                         ents := s.ents ++ ns1.map (fun n => ⟨n, sp1, [], []⟩)
                                  ++ ns2.map (fun n => ⟨n, sp2, [t], []⟩) } more := by
  obtain ⟨items, hr, ha⟩ := inline_doc_documents_last_statement_of_its_line c m hd pd p t x r rest more s [d1] d2
    ns2 sp2 hp h0 h1 h2 h3 hc hx hl (by simp [hJ]) hn2 hc2 hne hrest
  refine ⟨items, hr, ?_⟩
  rw [ha]
  simp [attachFrom, attachStep_stmt c s d1 hn1, hc1, mkEnts]

/-- worked instance (non-default markers `doc = ^`, `pre = <`): three statements on one line with a
    literal that holds `;` and `!^`, a preceding line for the next declaration, a trailing `;` -/
example :
    let m : Marks := { doc := ['^'], pre := ['<'], alt := ['~'], preAlt := ['$'] }
    ((readAll m ["integer :: a; character(3) :: s = ';!^' ; integer :: b !^ db".toList,
                 "real :: c; real :: d;".toList, "!^ dd".toList]).toOption.map (attach ['^'])).map
        (fun es => es.map (fun e => (e.name, e.init)))
      = some [("<file>".toList, []), ("a".toList, []), ("s".toList, []), ("b".toList, [" db".toList]),
              ("c".toList, []), ("d".toList, [" dd".toList])] := by
  simp -index only [String.toList_ofList]
  decide +kernel

/-- non-vacuity of the four theorems above: the hypotheses hold for `integer :: a; integer :: b !^ db` -/
example :
    let m : Marks := { doc := ['^'], pre := ['<'], alt := ['~'], preAlt := ['$'] }
    Atoms "integer :: a; integer :: b ".toList ∧
    firstStripped ("integer :: a; integer :: b ".toList ++ '!' :: (m.doc ++ " db".toList)) ≠ some '#' ∧
    startsWith (m.doc ++ " db".toList) m.pre = false ∧ startsWith (m.doc ++ " db".toList) m.preAlt = false ∧
    startsWith (m.doc ++ " db".toList) m.alt = false ∧
    strip "integer :: a; integer :: b ".toList = "integer :: a; integer :: b".toList ∧
    itemsOf (' ' :: "integer :: a; integer :: b".toList) = ["integer :: a".toList, "integer :: b".toList] ∧
    classify "integer :: a".toList = .leafAll ["a".toList] true ∧
    classify "integer :: b".toList = .leafAll ["b".toList] true := by
  simp -index only [String.toList_ofList]
  -- `Atoms` is an inductive predicate (not decidable): by lemma; the other eight conjuncts are evaluated together
  exact ⟨atoms_of_plain _ (by decide +kernel), by decide +kernel⟩


/-! ## Which entities are converted (`_to_be_markdowned`, `markdownable_items`, `FortranType.correlate`,
    `Project.markdown`) -/

/-- The filter that decides which registered entities `Project.markdown` converts looks at no
    attribute that a `correlate` method puts on another object (both lists regenerated from the
    source on every run): what `correlate` does — e.g. the `Inherited from [[base]]` placeholder
    `doc` that `FortranType.correlate` gives the base type's public components — cannot take an
    entity out of the conversion. -/
theorem conversion_filter_disjoint_from_correlate :
    ∀ a ∈ Gen.correlateSetAttrs, a ∉ Gen.markdownSkipAttrs := by decide +kernel

/-- Every registered entity that has none of the skip attributes (is not external) ends up
    with the conversion of **its own** `doc_list` as `doc`, at its own position, whatever
    stands before (`A`) and after (`B`) it in the file's registration list and however many
    extending types put an inheritance placeholder on it during `correlate` (`phs`, any
    texts): a placeholder never survives and never keeps the comment out. -/
theorem registered_entity_gets_its_own_doc (fix : Bool) (conv : List Str → List Str) (A B : List CEnt) (e : CEnt)
    (phs : List (List Str)) (hk : ∀ a ∈ Gen.markdownSkipAttrs, a ∉ e.attrs) :
    ((convertAll Gen.markdownSkipAttrs conv (A ++ inheritSteps fix phs e :: B))[A.length]?).map (·.doc)
        = some (some (conv e.docList)) ∧
      A.length ∈ convIdx Gen.markdownSkipAttrs (A ++ inheritSteps fix phs e :: B) := by
  have hs : docAttr ∉ Gen.markdownSkipAttrs := by decide +kernel
  have hd := inheritSteps_inv (·.docList) fix (docList_inheritStep fix) phs e
  have hkeep : (inheritSteps fix phs e).keeps Gen.markdownSkipAttrs = true :=
    (inheritSteps_inv (·.keeps _) fix (keeps_inheritStep fix _ hs) phs e).trans (keeps_of_no_skip_attr _ hs e hk)
  refine ⟨?_, ?_⟩
  · rw [convertAll_getElem?]
    simp [hkeep, hd]
  · rw [convIdx, convIdxFrom_mem]
    exact ⟨inheritSteps fix phs e, Nat.zero_le _, by simp, hkeep⟩

/-- Leading metadata lines set that entity's metadata — and it stays set: in the variant
    `fix = true` (FORD since 6aac815) no number of extending types changes the
    metadata an entity got from its own comment, and the conversion does not touch it. -/
theorem inherited_component_keeps_metadata_when_fixed (conv : List Str → List Str) (A B : List CEnt) (e : CEnt)
    (phs : List (List Str)) :
    ((convertAll Gen.markdownSkipAttrs conv (A ++ inheritSteps true phs e :: B)).map (·.md))[A.length]?
      = some e.md := by
  rw [convertAll_meta]
  simp [inheritSteps_inv (·.md) true meta_inheritStep_fixed]

/-- Finding C03-inherited-component-metadata-reset (repaired in FORD by 6aac815), the variant `fix = false`
    against `fix = true`: the first extending type
    replaces the metadata of the base type's public component (`author: Jane` from its own
    comment) by empty metadata; the comment text itself is still converted. -/
theorem inherited_component_metadata_reset_witness :
    (convertAll Gen.markdownSkipAttrs id [inheritStep false ["Inherited from [[base]]".toList]
        (CEnt.mk [] ["text of a".toList] none [("author".toList, ["Jane".toList])])]).map (fun e => (e.doc, e.md))
      = [(some ["text of a".toList], [])] ∧
    (convertAll Gen.markdownSkipAttrs id [inheritStep true ["Inherited from [[base]]".toList]
        (CEnt.mk [] ["text of a".toList] none [("author".toList, ["Jane".toList])])]).map (fun e => (e.doc, e.md))
      = [(some ["text of a".toList], [("author".toList, ["Jane".toList])])] := by
  simp -index only [String.toList_ofList]
  -- one by one, as in `interface_wrapper_metadata_witness`
  exact ⟨by decide +kernel, by decide +kernel⟩

/-- Finding C03-inherited-generic-binding-undocumented (repaired in FORD by a2e1e02), the variant
    `fix = false`: the copy of the base
    type's generic binding `g` that the extending type lists is made before the conversion and
    registered nowhere, so it has no `doc` although the binding itself (registered) gets
    `doc g`; in the variant `fix = true` the copy is converted as well. -/
theorem inherited_generic_copy_undocumented_witness :
    (convertAll Gen.markdownSkipAttrs id (registerCopy false [CEnt.mk [] ["doc g".toList] none []]
        (CEnt.mk [] ["doc g".toList] none []))).map (·.doc) = [some ["doc g".toList]] ∧
    copyDoc false Gen.markdownSkipAttrs id [CEnt.mk [] ["doc g".toList] none []] (CEnt.mk [] ["doc g".toList] none [])
      = none ∧
    copyDoc true Gen.markdownSkipAttrs id [CEnt.mk [] ["doc g".toList] none []] (CEnt.mk [] ["doc g".toList] none [])
      = some ["doc g".toList] := by
  simp -index only [String.toList_ofList]
  decide +kernel

/-- non-vacuity / contrast: the model follows the filter it is given — with `doc` among the
    skip attributes the base type's component keeps the placeholder and loses its comment -/
example :
    let e : CEnt := ⟨[], ["words".toList], none, []⟩
    (convertAll ["doc".toList] id [inheritStep false ["Inherited from [[base]]".toList] e]).map (·.doc)
        = [some ["Inherited from [[base]]".toList]] ∧
    (convertAll Gen.markdownSkipAttrs id [inheritStep false ["Inherited from [[base]]".toList] e]).map (·.doc)
        = [some ["words".toList]] ∧
    "doc".toList ∈ Gen.correlateSetAttrs := by
  simp -index only [String.toList_ofList]
  decide +kernel

/-! ## One Markdown instance for all entities (`Project.markdown`, `FortranBase.markdown`) -/

/-- Neighbours' documentation never becomes part of an entity's: whatever the shared Markdown
    instance held before (`st`) and however many comments with whatever definitions were
    converted earlier, the link targets and the footnotes rendered for each comment are
    exactly those of that comment converted alone by an unused instance — because `reset`
    precedes every `convert`.  Holds in both variants of the abbreviation handling. -/
theorem markdown_links_footnotes_isolated (fix : Bool) (st : MdState) (docs : List (List Str)) :
    (markdownAll fix st docs).map (fun o => (o.links, o.foots)) =
      docs.map (fun d => ((mdAlone d).links, (mdAlone d).foots)) := by
  refine markdownAll_map _ fix (fun st d => ?_) st docs
  obtain ⟨h1, h2⟩ := mdConvert_reset_links_foots fix st d
  rw [h1, h2]

/-- With `reset` also removing the registered abbreviation patterns
    (fixes/C03-abbr-reset.diff) the whole table-dependent output of every comment is that of
    the comment alone. -/
theorem markdown_isolated_when_abbr_reset (st : MdState) (docs : List (List Str)) :
    markdownAll true st docs = docs.map mdAlone := by
  simpa using markdownAll_map id true mdConvert_reset_fixed st docs

/-- Finding C03-abbreviation-leaks-to-later-entities, as the code is: the second comment only
    mentions `ABX`, and gets the title words of the first comment. -/
theorem markdown_abbr_leak_witness :
    (markdownAll false mdEmpty [["ABX one".toList, [], "*[ABX]: words of a".toList], ["ABX two".toList]]).map (·.titles)
      = [["words of a".toList], ["words of a".toList]] ∧
    (mdAlone ["ABX two".toList]).titles = [] := by
  simp -index only [String.toList_ofList]
  decide +kernel

/-- non-vacuity: isolation is a property of the loop (the `reset`), not of `convert` — an
    instance that still holds another comment's footnote and link definition renders them -/
example : (mdConvert ⟨[("r1".toList, "http://x/other".toList)], [("1".toList, "other words".toList)], []⟩
            ["see [this][R1]".toList]).2
    = ⟨["http://x/other".toList], ["other words".toList], []⟩ := by
  simp -index only [String.toList_ofList]
  decide +kernel

/-- non-vacuity: own definitions are used, undefined labels stay text -/
example : mdAlone ["a[^1] [b][r1] [c][r2] ABX".toList, [], "[^1]: foot words".toList, [],
                   "[r1]: http://x/u1".toList, "*[ABX]: title words".toList]
    = ⟨["http://x/u1".toList], ["foot words".toList], ["title words".toList]⟩ := by
  simp -index only [String.toList_ofList]
  decide +kernel

/-! ## Text of character literals is never documentation (`_contains_unterminated_string`, `in_quote`) -/

/-- When is the statement collected so far inside a character literal: cut it into closed literals - each
    runs from a quote character to the next occurrence of the *same* character, whatever lies between, the
    other quote character in particular - and other characters (`Lits P`).  If nothing is left over, it is
    not inside a literal ... -/
theorem closed_literals_are_not_open (P : Str) (h : Lits P) : unterminated P = false :=
  unterminated_lits P h

/-- ... and if a quote character without a partner follows, it is - however many quote characters of
    either kind `P` and `body` contain (the counts of `'` and `"` may both be even, as in
    `'say "' // "hello`). -/
theorem open_literal_after_closed_ones (P : Str) (q : Char) (body : Str) (h : Lits P)
    (hq : isQuote q = true) (hb : q ∉ body) : unterminated (P ++ q :: body) = true :=
  unterminated_lits_open P q body h hq hb

/-- **A `!` + marker inside a literal that is continued on the next line is text, for every marker
    configuration.**  First physical line `l0`: no doc comment on it, code part `x r &` where `x r` is closed
    literals and other text `P` followed by a literal opened with `q` and not closed.  Second line `ln`:
    ANY text (not a preprocessor line) whose stripped form is `& b` - `b` may contain `!` followed by the doc
    marker, the pre-marker, either alternate marker, or nothing.  Read between two logical lines, the two
    lines give the statement(s) of the joined text `x r b` and nothing else: no part of `ln` becomes a doc
    item, and the reader is between logical lines again for `rest`. -/
theorem continued_literal_text_is_not_documentation (m : Marks) (l0 : Str) (x : Char) (r P : Str) (q : Char)
    (body ln b : Str) (rest : List Str)
    (h0 : NoDoc m false l0) (hc0 : codeOf false l0 = x :: r ++ ['&']) (hx : x ≠ '&')
    (hP : x :: r = P ++ q :: body) (hl : Lits P) (hq : isQuote q = true) (hbq : q ∉ body)
    (hfirst : firstStripped ln ≠ some '#') (hln : strip ln = '&' :: b)
    (hb : isBlank b = false) (hlast : b.getLast? ≠ some '&')
    (hJ : itemsOf (' ' :: x :: r ++ b) ≠ []) :
    readFrom m (qs [] false) (l0 :: ln :: rest) =
      match readFrom m (qs [] false) rest with
      | .error e => .error e
      | .ok more => .ok (itemsOf (' ' :: x :: r ++ b) ++ more) :=
  readFrom_open_literal m l0 x r P q body ln b rest h0 hc0 hx hP hl hq hbq hfirst hln hb hlast hJ

/-- Reader and parser together: a declaration whose literal is continued like that, followed by whatever
    reads as the doc lines `ds` and then `more`: the entities it declares get exactly `ds` - no word of the
    literal - and every entity that existed before is unchanged. -/
theorem continued_literal_declaration_keeps_its_docstring (c : Char) (m : Marks) (l0 : Str) (x : Char)
    (r P : Str) (q : Char) (body ln b : Str) (rest ds more : List Str) (s : ASt) (it : Str) (ns : List Str)
    (sp : Bool)
    (h0 : NoDoc m false l0) (hc0 : codeOf false l0 = x :: r ++ ['&']) (hx : x ≠ '&')
    (hP : x :: r = P ++ q :: body) (hl : Lits P) (hq : isQuote q = true) (hbq : q ∉ body)
    (hfirst : firstStripped ln ≠ some '#') (hln : strip ln = '&' :: b)
    (hb : isBlank b = false) (hlast : b.getLast? ≠ some '&')
    (hJ : itemsOf (' ' :: x :: r ++ b) = [it])
    (hnd : it.take 2 ≠ ['!', c]) (hcl : classify it = .leafAll ns sp) (hne : ns ≠ [])
    (hrest : readFrom m (qs [] false) rest = .ok (ds.map (fun d => '!' :: c :: d) ++ more)) :
    ∃ items, readFrom m (qs [] false) (l0 :: ln :: rest) = .ok items ∧
      attachFrom [c] s items =
        attachFrom [c] { stack := s.stack, reading := ns.length,
                         ents := s.ents ++ ns.map (fun n => ⟨n, sp, ds, []⟩) } more := by
  refine ⟨it :: (ds.map (fun d => '!' :: c :: d) ++ more), ?_, ?_⟩
  · rw [readFrom_open_literal m l0 x r P q body ln b rest h0 hc0 hx hP hl hq hbq hfirst hln hb hlast
      (by rw [hJ]; simp), hrest, hJ]
    rfl
  · exact attach_leaf_docstring c s it ns sp ds more hnd hcl hne

/-- worked instance (non-default markers `doc = ^`, `pre = <`, `alt = ~`, `preAlt = $`): both quote counts
    of the first line are even, its last literal is open; the continuation line holds `!^`, `!<`, `!~`,
    `!$` and a plain `!` - all literal text; the declaration gets its own comment only -/
example :
    let m : Marks := { doc := ['^'], pre := ['<'], alt := ['~'], preAlt := ['$'] }
    (match readAll m ["character(len=*), parameter :: g = 'say \"' // \"hello &".toList,
                      "     &world !^ zulu !< a !~ b !$ c ! d\"".toList, "  !^ alpha bravo".toList] with
     | .ok items => (attach ['^'] items).map (fun e => (e.name, e.init))
     | .error _ => [])
      = [("<file>".toList, []), ("g".toList, [" alpha bravo".toList])] := by
  simp -index only [String.toList_ofList]
  decide +kernel

/-- non-vacuity of the two theorems above, on a shortened form of that instance (`g = 'say "' // "hello &`,
    `   &world !^ zulu"`): the hypotheses on the two lines hold; the joined text is no declaration
    (`.other`), so `classify it = .leafAll ns sp` is shown to be satisfiable on another statement with literals -/
example :
    let m : Marks := { doc := ['^'], pre := ['<'], alt := ['~'], preAlt := ['$'] }
    let l0 := "g = 'say \"' // \"hello &".toList
    NoDoc m false l0 ∧ codeOf false l0 = "g = 'say \"' // \"hello ".toList ++ ['&'] ∧
    Lits "g = 'say \"' // ".toList ∧ '"' ∉ "hello ".toList ∧
    strip "   &world !^ zulu\"".toList = '&' :: "world !^ zulu\"".toList ∧
    classify "g = 'say \"' // \"hello world !^ zulu\"".toList = .other ∧
    classify "character(len=3) :: g = 'a, h :: b', k = \"x => (\"".toList = .leafAll ["g".toList, "k".toList] true := by
  simp -index only [NoDoc, String.toList_ofList]
  refine ⟨by decide +kernel, by decide +kernel, ?_, by decide +kernel⟩
  -- the cutting: `g = `, the closed literal `'say "'`, ` // `
  exact lits_plain_append ['g', ' ', '=', ' '] _ (by decide +kernel)
    (.quoted '\'' ['s', 'a', 'y', ' ', '"'] _ (by decide +kernel) (by decide +kernel) (lits_of_plain _ (by decide +kernel)))


/-! ## Included files are read under the project's marker rules (`FortranReader.include`) -/

/-- The nested reader that `include()` constructs for an included file gets the enclosing reader's doc
    marker, pre-marker, alternate marker and alternate pre-marker, each in its own place (`Gen.includeMarkSrc`
    is regenerated from the code on every run by probing the constructor call). -/
theorem included_file_read_with_same_markers (m : Marks) : IncMarks.nestedMarks Gen.includeMarkSrc m = m :=
  IncMarks.nestedMarks_identity m

/-- Hence reading a source file through any nesting of `include` lines is the reading in which every file
    is read under the one marker configuration (C02's `Include.readFS`): every statement about how doc
    comments are read - the four styles, the marker substitution, the hand-over order of preceding blocks -
    holds inside included files as it does in the file that includes them. -/
theorem include_reads_every_file_under_the_same_rules (c : Include.Cfg) (fs : Include.FS) (d : Nat) (m : Marks)
    (lines : List Str) :
    IncMarks.readFSM Gen.includeMarkSrc c fs d m lines = Include.readFS c m fs d lines :=
  IncMarks.readFSM_eq_readFS Gen.includeMarkSrc included_file_read_with_same_markers c fs d m lines

/-- a table that does not hand one marker over (the alternate pre-marker left at the constructor's default,
    "switched off"; not the table probed from the code): the `!$` block in the included file is no
    documentation - the entity it was written for gets nothing -/
theorem include_marker_not_handed_over_witness :
    let m : Marks := { doc := ['^'], pre := ['<'], alt := ['~'], preAlt := ['$'] }
    let fs : Include.FS := [("p.inc".toList, ["!$ hotel".toList, "! india".toList, "integer :: v".toList])]
    let main := ["module mm".toList, "include 'p.inc'".toList, "end module".toList]
    let docs := fun tbl => match IncMarks.readFSM tbl Include.readerCfg fs 3 m main with
      | .ok items => (attach ['^'] items).map (fun e => (e.name, e.init))
      | .error _ => []
    docs Gen.includeMarkSrc = [("<file>".toList, []), ("mm".toList, []), ("v".toList, [" hotel".toList, " india".toList])] ∧
    docs [.inl 0, .inl 1, .inl 2, .inr []] = [("<file>".toList, []), ("mm".toList, []), ("v".toList, [])] := by
  simp -index only [String.toList_ofList]
  decide +kernel

/-- worked instance: an included file (included from an included file) with all four styles under
    non-default markers; every entity gets its own comment (the blank line after the `!~` block gives
    `c` an empty doc line, as it does outside included files) -/
example :
    let m : Marks := { doc := ['^'], pre := ['<'], alt := ['~'], preAlt := ['$'] }
    let fs : Include.FS :=
      [("a.inc".toList, ["integer :: a".toList, "!^ da".toList, "include \"b.inc\"".toList]),
       ("b.inc".toList, ["!< db".toList, "integer :: b".toList, "integer :: c".toList, "!~ dc1".toList, "! dc2".toList,
                         "".toList, "!$ dd1".toList, "! dd2".toList, "integer :: d".toList])]
    (match IncMarks.readFSM Gen.includeMarkSrc Include.readerCfg fs 4 m
              ["module mm".toList, "INCLUDE 'a.inc'".toList, "end module".toList] with
     | .ok items => (attach ['^'] items).map (fun e => (e.name, e.init))
     | .error _ => [])
      = [("<file>".toList, []), ("mm".toList, []), ("a".toList, [" da".toList]), ("b".toList, [" db".toList]),
         ("c".toList, [" dc1".toList, " dc2".toList, []]), ("d".toList, [" dd1".toList, " dd2".toList])] := by
  simp -index only [String.toList_ofList]
  decide +kernel

/-! ## From the doc lines to what is shown: `FortranBase.markdown` (dedent, conversion, summary) -/

/-- `textwrap.dedent`, which `FortranBase.markdown` applies to the joined doc lines before the
    conversion, keeps every word exactly once and in order - for every comment, whatever its
    indentation (common margin of blanks and tabs, white-space-only lines, empty lines). -/
theorem dedent_keeps_every_word (ls : List Str) : W (dedent ls) = W ls := by
  have hclean : W (ls.map (fun l => if l.all isSpTab then [] else l)) = W ls := by
    refine W_map _ ls fun l _ => ?_
    split
    · rw [words_allSpTab l ‹_›, words_nil]
    · rfl
  unfold dedent
  simp only
  cases hm : margin (ls.map (fun l => if l.all isSpTab then [] else l)) with
  | none => exact hclean
  | some m =>
    simp only
    obtain ⟨hb, hall⟩ := margin_prefix _ m hm
    refine Eq.trans (W_map _ _ fun l hl => ?_) hclean
    cases l with
    | nil => rfl
    | cons c cs =>
      obtain ⟨r, hr⟩ := hall _ hl (List.cons_ne_nil c cs)
      simp only [List.isEmpty_cons, Bool.false_eq_true, ↓reduceIte]
      rw [hr, List.drop_left' rfl, words_blank_append m r hb]

/-- What `PARA_CAPTURE_RE.search` returns is a piece of the entity's own rendered documentation:
    `doc = pre ++ para ++ post`, `para` is `<p>` … `</p>` (any letter case), it starts at the first
    `<p>` of the documentation and ends at the first `</p>` behind it - never reaching into a later
    paragraph, never text from anywhere else. -/
theorem summary_paragraph_is_first_paragraph_of_own_doc (doc pre para post : Str)
    (h : paraCapture doc = some (pre, para, post)) :
    doc = pre ++ para ++ post ∧
    ∃ o body c, para = o ++ body ++ c ∧ lower o = pOpen ∧ lower c = pClose ∧
      (∀ k, k < pre.length → startsWithCI (doc.drop k) pOpen = false) ∧
      (∀ k, k < body.length → startsWithCI ((body ++ c ++ post).drop k) pClose = false) := by
  unfold paraCapture at h
  cases h1 : findCI pOpen doc with
  | none => simp [h1] at h
  | some i =>
    cases h2 : findCI pClose (doc.drop (i + 3)) with
    | none => simp [h1, h2] at h
    | some j =>
      simp only [h1, h2, Option.some.injEq, Prod.mk.injEq] at h
      obtain ⟨rfl, rfl, rfl⟩ := h
      -- the three pieces are consecutive cuts of `doc`, whatever the two indices are
      refine ⟨by rw [List.append_assoc, ← List.drop_drop, List.take_append_drop, List.take_append_drop], ?_⟩
      obtain ⟨a, o, b, rfl, rfl, hol, hfirst⟩ := findCI_split _ _ _ h1
      have holen : o.length = 3 := by simpa [lower, pOpen] using congrArg List.length hol
      rw [show a.length + 3 = (a ++ o).length by simp [holen], List.drop_left] at h2
      obtain ⟨body, c, rest, rfl, rfl, hcl, hshort⟩ := findCI_split _ _ _ h2
      have hclen : c.length = 4 := by simpa [lower, pClose] using congrArg List.length hcl
      refine ⟨o, body, c, ?_, hol, hcl, ?_, ?_⟩
      · rw [List.append_assoc a, List.drop_left,
          show o ++ (body ++ c ++ rest) = (o ++ body ++ c) ++ rest by simp only [List.append_assoc]]
        exact List.take_left' (by simp [holen, hclen]; omega)
      · intro k hk
        exact hfirst k (by simpa using hk)
      · intro k hk
        have hpost : (a ++ o ++ (body ++ c ++ rest)).drop (a.length + (3 + body.length + 4)) = rest := by
          rw [show a ++ o ++ (body ++ c ++ rest) = (a ++ o ++ body ++ c) ++ rest by simp only [List.append_assoc]]
          exact List.drop_left' (by simp [holen, hclen]; omega)
        rw [hpost]
        exact hshort k hk

/-- Without a `summary:` metadata the summary (before the link) is a contiguous part of the entity's
    own rendered documentation, for every documentation and with or without URL: no word of it comes
    from anywhere else, none is duplicated or reordered. -/
theorem summary_is_part_of_own_doc (doc : Str) (url : Option Str) :
    summaryCore doc none url <:+: doc := by
  unfold summaryCore summaryCoreV
  cases h : paraCapture doc with
  | none => exact ⟨[], doc, by simp⟩
  | some r =>
    obtain ⟨pre, para, post⟩ := r
    have hd := (summary_paragraph_is_first_paragraph_of_own_doc doc pre para post h).1
    cases url with
    | none => exact ⟨[], [], by simp⟩
    | some u => exact ⟨pre, post, by simp [hd]⟩

/-- An entity that has no place of its own in the output (`get_url()` is `None`, e.g. a derived type
    local to a procedure) shows its whole documentation as summary, unchanged and without a link -
    provided the documentation has a paragraph (see the `_witness` below). -/
theorem summary_without_url_is_whole_doc_partial (doc : Str) (h : paraCapture doc ≠ none) :
    summaryOf doc none none = doc := by
  unfold summaryOf summaryOfV summaryCoreV
  cases h' : paraCapture doc with
  | none => exact absurd h' h
  | some r => obtain ⟨pre, para, post⟩ := r; rfl

/-- With fixes/C03-summary-without-paragraph.diff the same holds for every documentation. -/
theorem summary_without_url_is_whole_doc_when_fixed (doc : Str) : summaryOfV true doc none none = doc := by
  unfold summaryOfV summaryCoreV
  cases h' : paraCapture doc with
  | none => rfl
  | some r => obtain ⟨pre, para, post⟩ := r; rfl

/-- As the code is: documentation without any paragraph (only a list, only a code block) of an
    entity without URL gives the empty summary - nothing of the comment is in it. -/
theorem summary_without_url_and_paragraph_witness :
    summaryOf "<ul>\n<li>t1q0 t1q1</li>\n</ul>".toList none none = [] := by
  simp -index only [String.toList_ofList]
  decide +kernel

/-- A shortened summary always carries the link to the place where the complete documentation is,
    and a complete one never does: for every documentation, URL and `summary:` value the summary is
    the core followed by the "Read more" link (text probed from the code, `Gen.readMorePre/Suf`)
    exactly when the core differs from the whole documentation (blanks at the ends ignored). -/
theorem shortened_summary_links_to_full_documentation (doc u : Str) (ms : Option Str) :
    summaryOf doc ms (some u) =
      summaryCore doc ms (some u) ++
        (if strip (summaryCore doc ms (some u)) = strip doc then [] else Gen.readMorePre ++ u ++ Gen.readMoreSuf) := by
  unfold summaryOf summaryOfV
  by_cases h : strip (summaryCore doc ms (some u)) = strip doc
  · simp [summaryCore] at h; simp [h, summaryCore]
  · simp [summaryCore] at h; simp [h, readMore, summaryCore]

/-- A documentation that is one paragraph is its own summary: complete, and without link - whether
    the entity has a URL or not. -/
theorem single_paragraph_doc_is_its_own_summary (body : Str) (hb : '<' ∉ body) (url : Option Str) :
    summaryOf (pOpen ++ body ++ pClose) none url = pOpen ++ body ++ pClose := by
  unfold summaryOf summaryOfV summaryCoreV
  rw [paraCapture_single body hb]
  cases url <;> simp

/-- The `summary:` metadata of the comment, when set, is what is shown (converted), whatever the
    body says; the paragraph rule does not apply. -/
theorem summary_metadata_is_shown (doc s : Str) (url : Option Str) : summaryCore doc (some s) url = s := rfl

/-- non-vacuity / worked instances on the probed link text: a two-paragraph documentation with URL is
    cut after the first paragraph (upper-case tags, a line break inside the paragraph) and linked;
    without URL it is shown whole; an unclosed first `<p>` gives no paragraph at all -/
example :
    summaryOf "<ul><li>x</li></ul>\n<P>t1q0\nt1q1</P>\n<p>t1q2</p>".toList none (some "proc/s.html".toList)
      = "<P>t1q0\nt1q1</P><a href=\"../proc/s.html\" class=\"pull-right\"><emph>Read more&hellip;</emph></a>".toList ∧
    summaryOf "<p>t1q0</p>\n<p>t1q2</p>".toList none none = "<p>t1q0</p>\n<p>t1q2</p>".toList ∧
    paraCapture "<p>t1q0 <p>t1q1".toList = none ∧
    paraCapture "<p>a</p>".toList ≠ none := by
  simp -index only [String.toList_ofList]
  decide +kernel

end Ford.C03
