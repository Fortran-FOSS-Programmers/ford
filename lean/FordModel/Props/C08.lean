/-
  C08 — recorded calls are exactly the user procedures a unit invokes.
  Property theorems only; the model is FordModel/Calls.lean (instantiated with the generated
  tables in CallsTable.lean), the specification side FordModel/Spec/Calls*.lean, helper lemmas
  FordModel/Lemmas/Calls*.lean.
-/
import FordModel.CallsTable
import FordModel.Spec.Calls
import FordModel.Lemmas.Calls
import FordModel.Lemmas.CallsEval
import FordModel.CallsLine
import FordModel.Spec.CallsLine
import FordModel.Lemmas.CallsLine
import FordModel.CallsScope
import FordModel.Lemmas.CallsScope
import FordModel.Spec.CallsNames
import FordModel.Lemmas.ReaderSplit
import FordModel.Lemmas.CallsChain
import FordModel.FixedSpec
import FordModel.Lemmas.Fixed
import FordModel.Lemmas.CallsFixed
namespace Ford.C08
open Ford Ford.Calls Ford.CallsSpec

/-- **Depth lemma (nested inside argument lists / headers).**  For every balanced statement
    text (any nesting depth, any length) `strip_paren(text, d)` is exactly what the
    specification `piecesAt` says a scan of depth `d` sees: at depth 0 the text with the
    content of every parenthesis group removed; at depth `k+1` one piece `(`…`)` per group
    nested `k+1` deep, in textual order, again with inner contents removed.  Hence every
    identifier followed by `(` at nesting depth `d` appears, followed by `()`, in exactly one
    piece of depth `d`, and nothing from another depth does. -/
theorem strip_paren_depth (t : PTree) (h : t.WF) (d : Nat) :
    stripParen t.render d = t.piecesAt d := by
  cases d with
  | zero =>
    have := strip_at t h 0 [] [] []
    simp at this
    simp [stripParen, PTree.piecesAt, this, stripParenAux]
  | succ k =>
    have := strip_below t h k ((k + 1 : Nat) : Int) 0 [] [] (by omega)
    simp at this
    simp [stripParen, PTree.piecesAt, this, stripParenAux]

/-- **Each recorded once.**  Whatever the statements of the unit are, no two recorded chains
    end in the same name. -/
theorem recorded_once (lines : List Str) : ((recorded lines).map lastOf).Nodup :=
  (runUnit_inv _ _ _ lines).1

/-- **Intrinsics and keywords are never recorded** (over the *generated* INTRINSICS table). -/
theorem intrinsics_never_recorded (lines : List Str) :
    ∀ c ∈ recorded lines, lastOf c ∉ intr :=
  (runUnit_inv _ _ _ lines).2

/-- Keywords that are followed by a parenthesis in executable statements (and therefore look
    like references to `CALL_RE`) are all in the generated INTRINSICS table, so by
    `intrinsics_never_recorded` none of them is ever recorded. -/
theorem keywords_filtered_partial :
    ∀ k ∈ ([chars! "if", chars! "where", chars! "case", chars! "while", chars! "concurrent", chars! "forall",
           chars! "allocate", chars! "deallocate", chars! "write", chars! "read", chars! "open", chars! "close",
           chars! "inquire", chars! "rewind", chars! "backspace", chars! "flush", chars! "wait", chars! "nullify",
           chars! "associate", chars! "is", chars! "type", chars! "class", chars! "stop", chars! "print",
           chars! "character", chars! "real", chars! "integer", chars! "logical", chars! "complex", chars! "dimension",
           chars! "select", chars! "rank", chars! "critical", chars! "lock", chars! "unlock", chars! "elseif",
           chars! "result", chars! "len", chars! "kind", chars! "format", chars! "call", chars! "then",
           chars! "do", chars! "else"] : List Str),
      k ∈ Generated.C08.intrinsics := by decide +kernel

/-- … but the image-control keyword `images` is not (the table lists the two-word entry
    `sync images`), and `sync images (n)` is recorded as a call to `images`
    (finding C08-sync-images-keyword-recorded). -/
theorem sync_images_witness :
    chars! "images" ∉ Generated.C08.intrinsics ∧ recordedOf ["sync images (n)"] = [["images"]] := by
  -- a literal reads as `String.ofList [..]`, so `String.toList_ofList` yields its characters without
  -- decoding it byte by byte; `recorded_eq` is the cascade with its branch names resolved
  simp -index only [recordedOf, recorded_eq, List.map, String.toList_ofList]
  decide +kernel

/-- **A statement adds exactly the scanner's finds that are not filtered.**  After
    `_add_procedure_calls` a name ends a recorded chain iff it did before, or it is the last
    element of one of the chains found in the statement and is not an intrinsic. -/
theorem statement_records_iff (asc : Assocs) (line : Str) (calls : List Chain) (l : Str) :
    l ∈ (addProcedureCalls intr asc line calls).map lastOf ↔
      l ∈ calls.map lastOf ∨
        (l ∉ intr ∧ ∃ g ∈ chainStrings line, lastOf (substHead asc (chainOf g)) = l) :=
  mem_addChains_lasts _ _ _ _ _

/-- **Nothing recorded is lost or reordered** by later statements: the list after a statement
    extends the list before it. -/
theorem recorded_stable (s : St) (raw : Str) :
    s.calls <+: (step Generated.C08.guards Generated.C08.cascade intr s raw).calls :=
  step_prefix _ _ _ s raw

/-- **FORMAT statements are never scanned**, whatever their items look like: the generated
    cascade lists FORMAT_RE before the CALL branch.  (`guardTest guards "FORMAT_RE"` is the
    boolean `FORMAT_RE.match(line)` of the *generated* parse tree of the regex.) -/
theorem format_never_scanned (line : Str) (bl : Int)
    (h : Rx.guardTest Generated.C08.guards "FORMAT_RE" line = true) :
    gate Generated.C08.guards Generated.C08.cascade line bl ≠ .scan :=
  gate_not_scan _ _ "FORMAT_RE" "" line bl (by decide +kernel) (by simp [branchTakes, h])

/-- **Computed / arithmetic GOTO statements are never scanned.** -/
theorem arith_goto_never_scanned (line : Str) (bl : Int)
    (h : Rx.guardTest Generated.C08.guards "ARITH_GOTO_RE" line = true) :
    gate Generated.C08.guards Generated.C08.cascade line bl ≠ .scan :=
  gate_not_scan _ _ "ARITH_GOTO_RE" "" line bl (by decide +kernel) (by simp [branchTakes, h])

/-- **A FORMAT statement records nothing - by its shape, not by a recogniser.**  Every
    statement `label blanks FORMAT blanks ( items ) …` (keyword in any case, any items: repeat
    groups `3(f8.2)`, `f(2)`, masked literals) is matched by the regex *generated from the
    source* and decided by a branch listed before both the ASSOCIATE and the CALL branch of the
    generated cascade, so the recorded list after the statement is the list before it.
    A change of FORMAT_RE (or of the order of the cascade) that lets such a statement through
    makes this theorem fail. -/
theorem format_statement_records_nothing (s : St) (raw lab ws1 kw ws2 items rest : Str)
    (hlab : lab ≠ []) (hd : ∀ c ∈ lab, isDigit c = true)
    (h1 : ws1 ≠ []) (hw1 : ∀ c ∈ ws1, isSpace c = true)
    (hkw : lower kw = ['f', 'o', 'r', 'm', 'a', 't'])
    (h2 : ws2 ≠ []) (hw2 : ∀ c ∈ ws2, isSpace c = true)
    (hit : ∀ c ∈ items, c ≠ '\n')
    (hraw : maskQuotes raw = lab ++ (ws1 ++ (kw ++ (ws2 ++ '(' :: (items ++ ')' :: rest))))) :
    (step Generated.C08.guards Generated.C08.cascade intr s raw).calls = s.calls := by
  have ht : branchTakes Generated.C08.guards "FORMAT_RE" "" (maskQuotes raw) s.bl = true := by
    simp [branchTakes, hraw, formatGuard_takes lab ws1 kw ws2 items rest hlab hd h1 hw1 hkw h2 hw2 hit]
  exact step_calls_eq_of_precedes _ _ _ s raw "FORMAT_RE" "" (by decide +kernel) ht

/-- **A computed GO TO is never scanned wherever it stands in the statement** - at the start,
    behind a statement label, or as the action statement of a logical IF
    (`pre` = `10 if (f(x) > 0) `): any text, `go`, blanks (or none), `to`, blanks (or none),
    `(` label list `)`, any text.  Stated over the regex *and the call-site method* generated
    from the source: anchoring ARITH_GOTO_RE (or replacing `.search` by `.match`) makes this
    theorem fail.  Consequently the words `to (10, 20)` are never offered to CALL_RE. -/
theorem computed_goto_anywhere_never_scanned (pre go ws1 to_ ws2 labels rest : Str) (bl : Int)
    (hgo : lower go = ['g', 'o']) (hw1 : ∀ c ∈ ws1, isSpace c = true)
    (hto : lower to_ = ['t', 'o']) (hw2 : ∀ c ∈ ws2, isSpace c = true)
    (hne : labels ≠ []) (hl : ∀ c ∈ labels, isDigit c = true ∨ c = ',' ∨ isSpace c = true) :
    gate Generated.C08.guards Generated.C08.cascade
      (pre ++ (go ++ (ws1 ++ (to_ ++ (ws2 ++ '(' :: (labels ++ ')' :: rest)))))) bl ≠ .scan :=
  arith_goto_never_scanned _ bl (arithGotoGuard_takes pre go ws1 to_ ws2 labels rest hgo hw1 hto hw2 hne hl)

/-- … and such a statement **records nothing** (the recorded list is unchanged), provided it
    is not an ASSOCIATE statement (the ASSOCIATE branch precedes the GOTO branch in the
    cascade and does scan its header; no statement is both). -/
theorem computed_goto_statement_records_nothing_partial (s : St) (raw pre go ws1 to_ ws2 labels rest : Str)
    (hgo : lower go = ['g', 'o']) (hw1 : ∀ c ∈ ws1, isSpace c = true)
    (hto : lower to_ = ['t', 'o']) (hw2 : ∀ c ∈ ws2, isSpace c = true)
    (hne : labels ≠ []) (hl : ∀ c ∈ labels, isDigit c = true ∨ c = ',' ∨ isSpace c = true)
    (hraw : maskQuotes raw = pre ++ (go ++ (ws1 ++ (to_ ++ (ws2 ++ '(' :: (labels ++ ')' :: rest))))))
    (hassoc : associateRe (maskQuotes raw) = none) :
    (step Generated.C08.guards Generated.C08.cascade intr s raw).calls = s.calls := by
  refine step_calls_eq _ _ _ s raw ?_ ?_
  · rw [hraw]
    exact computed_goto_anywhere_never_scanned pre go ws1 to_ ws2 labels rest s.bl hgo hw1 hto hw2 hne hl
  · intro items hg
    have := gate_assoc _ _ _ _ _ hg
    rw [hassoc] at this
    exact absurd this (by simp)

/-- Non-vacuity: the logical-IF form and the labelled form, over the generated tables. -/
example : recordedOf ["if (fa(1) > 0) go to (10, 20), i", "10 GOTO(10,20) fb(2)", "x = fc(3)"] = [["fc"]] := by
  simp -index only [recordedOf, recorded_eq, List.map, String.toList_ofList]
  decide +kernel

/-- `format(` written without a blank: when FORMAT_RE does not match it (the variant with `\s+`
    before the parenthesis: finding C08-format-without-blank-scanned, repaired in FORD by f799f1b)
    the statement is scanned and the repeat count is recorded as a call to `3`; when it does
    (`\s*`, the source), and always with a blank, nothing is recorded. -/
theorem format_without_blank_witness :
    recordedOf ["10 format(3(f8.2, 1x), a)"]
        = (if Rx.guardTest Generated.C08.guards "FORMAT_RE" "10 format(3(f8.2, 1x), a)".toList then [] else [["3"]])
      ∧ recordedOf ["10 format (3(f8.2, 1x), a)"] = [] := by
  simp -index only [recordedOf, recorded_eq, List.map, String.toList_ofList]
  decide +kernel

/-- **Declarations are never scanned** — outside BLOCK constructs (`blocklevel == 0`): type
    declaration statements, attribute statements and USE statements are taken by earlier
    branches of the generated cascade. -/
theorem declarations_never_scanned_partial (line : Str)
    (h : variableRe line = true ∨ attribRe line = true ∨ useRe line = true) :
    gate Generated.C08.guards Generated.C08.cascade line 0 ≠ .scan := by
  rcases h with h | h | h
  · exact gate_not_scan _ _ "VARIABLE_RE" "blocklevel0" line 0 (by decide +kernel) (by simp [branchTakes, h])
  · exact gate_not_scan _ _ "ATTRIB_RE" "blocklevel0" line 0 (by decide +kernel) (by simp [branchTakes, h])
  · exact gate_not_scan _ _ "USE_RE" "" line 0 (by decide +kernel) (by simp [branchTakes, h])

/-- **COMMON statements are never scanned**, at any block level: an array specification in
    `common /blk/ a(100)` is no reference (the generated cascade lists COMMON_RE, unguarded,
    before the CALL branch). -/
theorem common_statement_never_scanned (line : Str) (bl : Int) (h : commonRe line = true) :
    gate Generated.C08.guards Generated.C08.cascade line bl ≠ .scan :=
  gate_not_scan _ _ "COMMON_RE" "" line bl (by decide +kernel) (by simp [branchTakes, h])

example : recordedOf ["common /blk/ w2(10,10), c2", "COMMON zz(3)", "x = fa(1)"] = [["fa"]] := by
  simp -index only [recordedOf, recorded_eq, List.map, String.toList_ofList]
  decide +kernel

/-- … inside a BLOCK construct they are: the declared array `k` is recorded
    (finding C08-block-local-array-recorded). -/
theorem block_local_array_witness :
    recordedOf ["block", "integer :: k(3)", "k(1) = 2", "end block"] = [["k"]] := by
  simp -index only [recordedOf, recorded_eq, List.map, String.toList_ofList]
  decide +kernel

/-- The de-duplication looks at the last chain element only: `b%init()` after `a%init()` is
    dropped although it designates another type's binding
    (finding C08-dedup-last-chain-element). -/
theorem dedup_last_element_witness :
    recordedOf ["call a%init()", "call b%init()"] = [["a", "init"]] := by
  simp -index only [recordedOf, recorded_eq, List.map, String.toList_ofList]
  decide +kernel

/-- A labelled CALL without argument list is not recorded
    (finding C08-labelled-call-without-arglist); without the label, or with an argument list,
    it is. -/
theorem labelled_call_witness :
    recordedOf ["10 call fa"] = [] ∧ recordedOf ["call fa"] = [["fa"]] ∧
      recordedOf ["10 call fa()"] = [["fa"]] ∧ recordedOf ["if (x > 0) call fa"] = [["fa"]] := by
  simp -index only [recordedOf, recorded_eq, List.map, String.toList_ofList]
  decide +kernel

/-- The selector of a computed GO TO is not scanned
    (finding C08-computed-goto-selector-not-scanned). -/
theorem computed_goto_witness : recordedOf ["go to (10, 20) fa(1)"] = [] := by
  simp -index only [recordedOf, recorded_eq, List.map, String.toList_ofList]
  decide +kernel

/-- **`;`-separated statements are exactly the statements.**  For every non-empty list of
    statement texts (`StmtText`: characters outside literals other than quotes and `;`, and
    literals `q body q` of either quote kind whose body is *any* text without `q` - the other
    quote character, `;`, call-like text, …) the line obtained by joining them with `;` is
    split by `quote_split` into exactly these statements: every `;` between two statements
    separates, no `;` inside a literal does, and a quote character of the other kind inside a
    literal neither ends it nor opens one.  No bound on the number or length of statements. -/
theorem semicolon_line_is_its_statements (ss : List Str) (hne : ss ≠ []) (h : ∀ s ∈ ss, StmtText s) :
    quoteSplit ';' (joinSep ';' ss) = ss :=
  quoteSplit_join_stmts ss hne h

/-- **A `;` inside a character literal never separates statements** - whatever else the
    literal holds (an apostrophe inside `"…"`, a `"` inside `'…'`, call-like text), and
    wherever the literal stands in the statement. -/
theorem semicolon_inside_literal_never_splits (pre body post : Str) (q : Char) (hq : isQuote q = true)
    (hpre : StmtText pre) (hb : q ∉ body) (hpost : StmtText post) :
    quoteSplit ';' (pre ++ q :: (body ++ q :: post)) = [pre ++ q :: (body ++ q :: post)] :=
  quoteSplit_join_stmts [_] (by simp)
    (by intro t ht; simp at ht; subst ht; exact stmtText_append _ _ hpre (.lit q body post hq hb hpost))

/-- **Calls on `;`-separated lines are recorded as if every statement stood on its own line.**
    A unit body given as logical lines, each the `;`-join of any number of statement texts,
    records exactly what the list of these statements (blank ones dropped, each stripped)
    records: nothing is lost behind a literal, and no text of a literal becomes a statement. -/
theorem semicolon_lines_record_as_statements (groups : List (List Str))
    (h : ∀ g ∈ groups, ∀ s ∈ g, StmtText s) :
    recordedLines (groups.map (joinSep ';')) =
      recorded ((groups.flatten.filter (fun f => !f.isEmpty)).map strip) := by
  simp only [recordedLines, unitStatements_join groups h]

/-- Non-vacuity over the generated tables: an apostrophe and a `;` followed by call-like text
    inside a `"…"` literal; a literal holding an apostrophe followed by a real `;` and a CALL
    without argument list; the mirrored spellings. -/
theorem semicolon_literal_lines_record_exactly :
    recordedOfLines ["call log_it(\"can't continue; call recover(x)\")"] = [["log_it"]] ∧
      recordedOfLines ["print *, \"it's over\"; call finish"] = [["finish"]] ∧
      recordedOfLines ["call sa('say \"no; x = fa(1)'); y = fb(2) ;; call sb"] = [["sa"], ["fb"], ["sb"]] := by
  simp -index only [recordedOfLines, recordedLines, recorded_eq, List.map, String.toList_ofList]
  decide +kernel

/-- **Text inside a character literal is inert.**  The statement the cascade and the scanner
    see is `maskQuotes raw`; for the first literal of a statement (opening quote `q`, any body
    without `q`, closing `q` not followed by another `q`) the masked statement does not depend
    on the body at all - whatever call-like text, parentheses, `%`, `!` or the other quote
    character it contains. -/
theorem literal_text_inert (pre body₁ body₂ post : Str) (q : Char) (hq : isQuote q = true)
    (hpre : ∀ c ∈ pre, isQuote c = false) (h1 : ∀ c ∈ body₁, c ≠ q) (h2 : ∀ c ∈ body₂, c ≠ q)
    (hp : post.head? ≠ some q) :
    maskQuotes (pre ++ q :: (body₁ ++ q :: post)) = maskQuotes (pre ++ q :: (body₂ ++ q :: post)) := by
  simp only [maskQuotes, maskAux_prefix _ _ _ hpre, maskAux_literal q hq _ post 0 h1 hp,
    maskAux_literal q hq _ post 0 h2 hp]

example : maskQuotes "s = 'call g(1)' // fa(2)".toList = "s = \"0\" // fa(2)".toList := by
  simp -index only [String.toList_ofList]
  decide +kernel

/-- Non-vacuity / sanity: CALL statement, nested function references in arguments and in an
    IF header, an array-like reference, an intrinsic, a keyword, call-like text in a literal. -/
example : recordedOf ["if (fa(1) > 0) call sb(fb(arr(2)), sin(x), 'call g(1)')"]
    = [["sb"], ["fa"], ["fb"], ["arr"]] := by
  simp -index only [recordedOf, recorded_eq, List.map, String.toList_ofList]
  decide +kernel

example : recordedOf ["associate (p => a%get(1), q => a)", "x = p + q%run(2)", "end associate"]
    = [["a", "get"], ["a", "run"]] := by
  simp -index only [recordedOf, recorded_eq, List.map, String.toList_ofList]
  decide +kernel

/-! ### Which names are variables of the scope (removed at `correlate`) and which are
    user procedures (kept) - over the generated EXTERNAL filter of `_cleanup`, the generated
    merge order of `get_label_item` and the generated removed classes of `correlate` -/

/-- **An entity declared with the EXTERNAL attribute - in any spelling of upper and lower case -
    is no variable of the scope.**  If every type declaration statement that declares `n`
    carries an attribute whose lower-casing is `external` (`REAL, EXTERNAL :: F`,
    `real, External :: f`, …), `n` is not among `unit.variables` after `_cleanup`, whatever else
    the specification part holds.  (Over the *generated* filter: keyword and the normalisation
    applied to each attribute before the comparison.) -/
theorem external_attribute_never_variable (u : Scope.Unit) (n : Str)
    (h : ∀ attrs ents, Scope.SpecStmt.tdecl attrs ents ∈ u.stmts → (∃ e ∈ ents, lower e = n) →
          ∃ a ∈ attrs, lower a = chars! "external") :
    n ∉ scopeNames u :=
  Scope.not_scopeVar_of_attr _ u n (fun a => lower a = chars! "external")
    (fun a ha => ⟨by simp [Generated.C08.scopeFilter, Scope.normAttr, Scope.applyOp, ha],
                  Scope.lower_external_kept ha⟩) h

/-- **… and so is an entity named by an EXTERNAL statement** (keyword in any case, with or
    without `::`), provided no name is declared twice: `real :: f` + `EXTERNAL F`. -/
theorem external_statement_never_variable (u : Scope.Unit) (n kw : Str) (names : List Str)
    (hnd : ((Scope.declVars u.stmts).map (fun v => lower v.name)).Nodup)
    (hst : Scope.SpecStmt.astmt kw names ∈ u.stmts) (hkw : lower kw = chars! "external")
    (hn : n ∈ names.map (fun x => lower (strip x))) :
    n ∉ scopeNames u := by
  have hk : Scope.attrKey kw = chars! "external" := by simp only [Scope.attrKey, hkw]; decide
  exact Scope.not_scopeVar_of_stmt _ u n hnd kw names hst hn (by rw [hk]; decide) (by rw [hk]; decide)
    (by rw [hk]; decide)

/-- **A reference to an external function is kept at `correlate`.**  A recorded chain `[n]`
    whose name is no variable of the unit (e.g. by one of the two theorems above), no dummy
    argument, not the result variable and no variable or type of the host stays in `calls` -
    as the procedure of that name if the scope knows one, else as the bare name. -/
theorem external_function_reference_kept (h : Scope.Host) (u : Scope.Unit) (n : Str) (calls : List Chain)
    (hv : n ∉ scopeNames u) (ht : n ∉ h.types) (hhv : n ∉ h.vars) (ha : n ∉ u.args.map lower)
    (hr : ∀ r, u.ret = some r → lower r ≠ n) (hc : [n] ∈ calls) :
    n ∈ keptCalls h u calls := by
  apply Scope.mem_resolve_of_kept _ _ _ _ _ hc
  rw [Scope.lookup_free h u n hv ht hhv ha hr]
  split
  · decide
  · decide

/-- **Array elements and other variables are never recorded**: a name that is a variable of the
    unit is removed from `calls`, whatever the host knows under that name - in particular a local
    array hides a host procedure of the same name (`variables` is merged last in the generated
    order, and `FortranVariable` is among the generated removed classes). -/
theorem declared_variable_never_recorded (h : Scope.Host) (u : Scope.Unit) (n : Str) (calls : List Chain)
    (hv : n ∈ scopeNames u) : n ∉ keptCalls h u calls :=
  Scope.variable_never_kept h u n calls (.inr (.inr (.inr hv)))

/-- … the same for dummy arguments (`args`), -/
theorem dummy_argument_never_recorded (h : Scope.Host) (u : Scope.Unit) (a : Str) (calls : List Chain)
    (ha : a ∈ u.args) : lower a ∉ keptCalls h u calls :=
  Scope.variable_never_kept h u _ calls (.inr (.inl (List.mem_map_of_mem ha)))

/-- … the result variable of a function (also when it is the function name itself: the table
    `retvar` is merged after `all_procs`), -/
theorem result_variable_never_recorded (h : Scope.Host) (u : Scope.Unit) (r : Str) (calls : List Chain)
    (hr : u.ret = some r) : lower r ∉ keptCalls h u calls :=
  Scope.variable_never_kept h u _ calls (.inr (.inr (.inl (by simp [hr]))))

/-- … and variables of the host / of USEd modules. -/
theorem host_variable_never_recorded (h : Scope.Host) (u : Scope.Unit) (n : Str) (calls : List Chain)
    (hn : n ∈ h.vars) : n ∉ keptCalls h u calls :=
  Scope.variable_never_kept h u n calls (.inl hn)

/-- **Every declared data object is such a variable.**  An entity `e` of a type declaration
    statement that nowhere gets the EXTERNAL attribute - no attribute of a statement declaring it
    lower-cases to `external`, no EXTERNAL statement names it - is removed from `calls`, be it a
    local variable, a dummy argument or the result variable; with any other attributes
    (`dimension(…)`, `allocatable`, `intent(…)`, `parameter`, `save`, …) in any case and order, and
    whether its shape comes from the entity declaration, a DIMENSION attribute or a
    DIMENSION/ALLOCATABLE/POINTER/TARGET statement. -/
theorem declared_data_object_never_recorded (h : Scope.Host) (u : Scope.Unit) (attrs ents : List Str)
    (e : Str) (calls : List Chain)
    (hst : Scope.SpecStmt.tdecl attrs ents ∈ u.stmts) (he : e ∈ ents)
    (hattr : ∀ attrs' ents', Scope.SpecStmt.tdecl attrs' ents' ∈ u.stmts → e ∈ ents' →
              ∀ a ∈ attrs', lower a ≠ chars! "external")
    (hstmt : ∀ kw names, Scope.SpecStmt.astmt kw names ∈ u.stmts →
              lower e ∈ names.map (fun x => lower (strip x)) → Scope.attrKey kw ≠ chars! "external") :
    lower e ∉ keptCalls h u calls := by
  by_cases harg : ∃ a ∈ u.args, lower a = lower e
  · obtain ⟨a, ha, hae⟩ := harg
    rw [← hae]; exact dummy_argument_never_recorded h u a calls ha
  by_cases hret : ∃ r, u.ret = some r ∧ lower r = lower e
  · obtain ⟨r, hr, hre⟩ := hret
    rw [← hre]; exact result_variable_never_recorded h u r calls hr
  apply declared_variable_never_recorded
  apply Scope.scopeVar_of_declared _ u attrs ents e hst he
  · intro a ha hae; exact harg ⟨a, ha, hae⟩
  · intro r hr hre; exact hret ⟨r, hr, hre⟩
  · intro v hv hvn
    obtain ⟨v0, hv0, hname, _, hsub⟩ := Scope.declared_of_mem_processVars hv
    have hv0e : v0.name = e := by rw [← hname]; exact hvn
    simp only [Scope.hasKw, Generated.C08.scopeFilter, List.contains_eq_mem, List.mem_map,
      decide_eq_false_iff_not, not_exists, not_and]
    intro a ha
    have hnorm : Scope.normAttr ["lower"] a = lower a := by simp [Scope.normAttr, Scope.applyOp]
    rw [hnorm]
    rcases hsub a ha with h0 | h0
    · obtain ⟨attrs', ents', hst', hent', hat'⟩ := Scope.mem_declVars.1 hv0
      rw [hat'] at h0
      exact hattr attrs' ents' hst' (by rw [← hv0e]; exact hent') a (List.mem_filter.1 h0).1
    · obtain ⟨kw, names, hst', hk, _, hn'⟩ := Scope.mem_attrDict.1 h0
      rw [hk, Scope.lower_attrKey]
      exact hstmt kw names hst' (by rw [← hv0e]; exact hn')

/-- **A user procedure the scope knows is kept, as that procedure,** when no variable, dummy
    argument, result variable or type of the same name hides it. -/
theorem procedure_reference_kept (h : Scope.Host) (u : Scope.Unit) (n : Str) (calls : List Chain)
    (hp : n ∈ h.procs) (hv : n ∉ scopeNames u) (ht : n ∉ h.types) (hhv : n ∉ h.vars)
    (ha : n ∉ u.args.map lower) (hr : ∀ r, u.ret = some r → lower r ≠ n) (hc : [n] ∈ calls) :
    n ∈ keptCalls h u calls ∧
      Scope.lookupKind Generated.C08.labelOrder (scopeTab h u) n = .proc := by
  refine ⟨external_function_reference_kept h u n calls hv ht hhv ha hr hc, ?_⟩
  rw [Scope.lookup_free h u n hv ht hhv ha hr, if_pos hp]

/-- Non-vacuity over the generated tables: `REAL, EXTERNAL :: VNORM`, `real, External :: f2`,
    `real :: g` + `EXTERNAL G`, an array declared four ways, a dummy array, a local array hiding
    the host procedure `fb`; references to all of them and to the host procedure `fa`. -/
theorem external_declarations_resolve_exactly :
    let u : Scope.Unit :=
      { stmts := [.tdecl [chars! "EXTERNAL"] [chars! "VNORM"], .tdecl [chars! "External"] [chars! "f2"],
                  .tdecl [] [chars! "g"], .astmt (chars! "EXTERNAL") [chars! "G"],
                  .tdecl [chars! "DIMENSION(10)", chars! "Save"] [chars! "A1"], .tdecl [] [chars! "a2", chars! "fb"],
                  .tdecl [] [chars! "a3"], .astmt (chars! "dimension") [chars! "a3"],
                  .tdecl [chars! "intent(in)"] [chars! "d"], .tdecl [chars! "allocatable"] [chars! "a4"]],
        args := [chars! "D"] }
    let h : Scope.Host := { procs := [chars! "fa", chars! "fb"], types := [chars! "t1"], vars := [chars! "garr"] }
    scopeNames u = [chars! "a1", chars! "a2", chars! "fb", chars! "a3", chars! "a4"] ∧
    keptCalls h u [[chars! "vnorm"], [chars! "a1"], [chars! "f2"], [chars! "g"], [chars! "a2"], [chars! "fb"],
                   [chars! "a3"], [chars! "d"], [chars! "fa"], [chars! "t1"], [chars! "garr"], [chars! "a4"],
                   [chars! "exts"]]
      = [chars! "vnorm", chars! "f2", chars! "g", chars! "fa", chars! "exts"] := by
  decide +kernel

/-- Finding C08-typed-external-function-dropped: a function whose type is declared without
    EXTERNAL (`real :: ext`, legal) is a variable of the scope, and its reference is removed. -/
theorem typed_function_without_external_witness :
    keptCalls {} { stmts := [.tdecl [] [chars! "ext"]] } [[chars! "ext"]] = [] := by decide +kernel

/-- Finding C08-implicitly-typed-array-recorded: an array shaped by a DIMENSION statement and
    typed implicitly is no variable of the scope; its element reference stays as a call. -/
theorem implicitly_typed_array_witness :
    keptCalls {} { stmts := [.astmt (chars! "dimension") [chars! "w2"]] } [[chars! "w2"]] = [chars! "w2"] := by
  decide +kernel

/-! ### Which names are never recorded (the deny-list the implementation applies, probed
    on the real `_add_procedure_calls` on every run, against the hand-written specification
    `CallsSpec.neverRecorded`), and statements continued over several physical lines -/

/-- **The names withheld from `calls` are exactly the specified intrinsic / keyword names.**  The
    deny-list the implementation applies (`Generated.C08.intrinsics`: probed on the real
    `_add_procedure_calls` with every entry of its tables, the specified names and the generator's
    identifiers; sorted) equals the hand-written specification `neverRecorded`.  Adding a name - however
    plausible an intrinsic it is - makes references to a *user* procedure of that name vanish;
    dropping one makes references to that intrinsic appear as calls; either makes this theorem
    fail. -/
theorem deny_list_is_the_specified_names : Generated.C08.intrinsics = neverRecorded := rfl

/-- **Only intrinsic procedures and language keywords are withheld.** -/
theorem never_recorded_names_are_specified : ∀ n ∈ intr, n ∈ neverRecorded :=
  fun _ hn => deny_list_is_the_specified_names ▸ hn

/-- **Every specified intrinsic / keyword name is withheld.** -/
theorem specified_names_are_never_recorded : ∀ n ∈ neverRecorded, n ∈ intr :=
  fun _ hn => show _ ∈ Generated.C08.intrinsics from deny_list_is_the_specified_names ▸ hn

/-- **A reference to a user procedure is recorded, whatever the procedure is called** - as long as
    its name is not one of the specified intrinsic / keyword names: if the scanner finds a chain
    ending in `l` in the statement, `l` ends a recorded chain afterwards.  (No hypothesis on the
    generated table: `deny_list_is_the_specified_names` discharges it.) -/
theorem user_procedure_reference_recorded (asc : Assocs) (line : Str) (calls : List Chain) (l : Str)
    (hl : l ∉ neverRecorded)
    (hf : ∃ g ∈ chainStrings line, lastOf (substHead asc (chainOf g)) = l) :
    l ∈ (addProcedureCalls intr asc line calls).map lastOf := by
  rw [statement_records_iff]
  exact Or.inr ⟨fun h => hl (never_recorded_names_are_specified l h), hf⟩

/-- … and **no specified name is ever recorded**, in any unit body (over the specification, not
    over the generated table). -/
theorem specified_name_never_recorded (lines : List Str) (n : Str) (hn : n ∈ neverRecorded) :
    ∀ c ∈ recorded lines, lastOf c ≠ n := by
  intro c hc h
  exact intrinsics_never_recorded lines c hc (h ▸ specified_names_are_never_recorded n hn)

/-- Non-vacuity over the generated table: user procedures whose names merely resemble intrinsics
    are recorded, the intrinsics beside them are not. -/
example : recordedOf ["call update_all(x)", "y = norm_of(v) + sum(v) + reduce_all(maxval(v))", "call random_number(x)"]
    = [["update_all"], ["norm_of"], ["reduce_all"]] := by
  simp -index only [recordedOf, recorded_eq, List.map, String.toList_ofList]
  decide +kernel

/-- **Calls on continued lines are recorded as if the statement stood on one line - exactly.**
    Take the statement(s) written on one physical line `l1`, and the same text cut with `&` … `&`
    at any positions - between `call` and the procedure name, in the middle of a name, inside an
    argument list - into a first line `x r &` (`r` ends with whatever blanks stand in front of the
    `&`), any number of lines `& piece &` mixed with blank lines, comment lines and `&`-only
    lines, and a last line `& b`.  Both layouts record the same calls: the text in front of a
    trailing `&` (blanks included) and the text right behind a leading `&` are joined with nothing
    removed and nothing inserted, so `call &` / `&name` stays `call name` and `na&` / `&me(x)` stays
    `name(x)`.  (Reader model `Ford.readAll`, shared with C02 and tied to ford/reader.py by the
    unit stream `c08.phys`; the hypotheses say that the lines carry no doc comment and what their
    code parts are, see `C02.code_part_*`.)  No bound on the number or length of the pieces. -/
theorem continued_lines_record_as_one_line (l0 l1 : Str) (x : Char) (r : Str) (mids : List Mid)
    (lines : List Str) (ln b : Str) (rest : List Str)
    (h0 : NoDoc Marks.default false l0) (hc0 : codeOf false l0 = x :: r ++ ['&']) (hx : x ≠ '&')
    (hd : ∀ mid ∈ mids, mid.direct)
    (hr : Rendered Marks.default (' ' :: x :: r) mids lines)
    (hn : NoDoc Marks.default (unterminated (' ' :: x :: r ++ (mids.map Mid.text).flatten)) ln)
    (hcn : codeOf (unterminated (' ' :: x :: r ++ (mids.map Mid.text).flatten)) ln = '&' :: b)
    (h1 : NoDoc Marks.default false l1) (hc1 : codeOf false l1 = x :: r ++ (mids.map Mid.text).flatten ++ b)
    (hb : isBlank b = false) (hl : b.getLast? ≠ some '&')
    (hJ : itemsOf (' ' :: x :: r ++ (mids.map Mid.text).flatten ++ b) ≠ []) :
    recordedPhysical (l0 :: lines ++ ln :: rest) = recordedPhysical (l1 :: rest) := by
  have h := split_exact Marks.default l0 l1 x r mids lines ln b rest h0 hc0 hx hd hr hn hcn h1 hc1 hb hl hJ
  have hq : (qs [] false : RS) = {} := rfl
  simp only [recordedPhysical, physStatements, readAll, ← hq, h]

/-- Non-vacuity over the generated tables: the blank between `call` and the name stands only in
    front of the trailing `&`; a name cut in the middle; a comment behind the `&`; a CALL without
    argument list; the same statements on one line each. -/
theorem continued_call_lines_record_exactly :
    recordedOfPhysical ["if (ready(n)) call &  ! next", "    &update_all(field, n)", "call &", "&finish",
                        "x = wei&", "  ! in between", " &ght(1) + other  &", "  (2)"]
      = [["update_all"], ["ready"], ["finish"], ["weight"], ["other"]] ∧
    recordedOfPhysical ["if (ready(n)) call update_all(field, n)", "call finish", "x = weight(1) + other (2)"]
      = [["update_all"], ["ready"], ["finish"], ["weight"], ["other"]] := by
  simp -index only [recordedOfPhysical, recordedPhysical, recorded_eq, List.map, String.toList_ofList]
  decide +kernel

/-! ### Chains of any length (`_find_chain_item`), and fixed-form source -/

open Chain in
/-- **A component reached through a chain of any length is never recorded** ("array elements and
    other variables ... are never recorded as calls").  `o` is a variable of the unit whose type
    is the visible derived type `t0`; `ls` is a path of components through derived types of any
    length (`a % inner`, `oa(i) % cells(k)`: the subscript lists are gone at this point) that ends
    in type `t`; `c` is a component of `t` (an array component referenced with a subscript list,
    which is why the scanner recorded the chain).  Whatever else is called `c` - a module
    procedure, a binding of `t`, a type - the chain `o % ls % c` designates the variable and
    `correlate` drops it.  Over the generated merge order of `get_label_item` (the component table
    is merged last) and the generated removed classes. -/
theorem component_through_chain_never_recorded (w : World) (root : Str → Option Item) (o ty0 : Str)
    (t0 t : TypeDef) (ls : List Str) (c tyc : Str)
    (hr : root o = some (.var o ty0)) (h0 : findType w ty0 = some t0) (hp : CompPath w t0 ls t)
    (hc : assoc t.comps c = some tyc) :
    keepChain Generated.C08.labelOrder Generated.C08.removedKinds w root (o :: (ls ++ [c])) = none := by
  simp only [keepChain, findChain_path w root o _ t0 t ls c hr h0 hp, typeItem_comp w t c tyc hc]
  simp [itemRemoved, Scope.isRemoved, Generated.C08.removedKinds]

open Chain in
/-- **A type-bound procedure invoked through a chain of any length is recorded as that binding**
    ("resolved as in C07"): same path as above, `c` is a binding of the reached type `t` declared
    by type `owner` (inherited bindings are in the table of the extending type after its own
    `correlate`), and no component, parent type or visible type carries the label.  The chain is
    kept, as the bound procedure - not as a bare name, and not as an unrelated module procedure
    that happens to be called `c` (bindings are merged after `all_procs`). -/
theorem binding_through_chain_resolved (w : World) (root : Str → Option Item) (o ty0 : Str)
    (t0 t : TypeDef) (ls : List Str) (c owner : Str)
    (hr : root o = some (.var o ty0)) (h0 : findType w ty0 = some t0) (hp : CompPath w t0 ls t)
    (hc : assoc t.comps c = none) (hpar : t.parents.contains c = false) (ht : findType w c = none)
    (hb : assoc t.bound c = some owner) :
    keepChain Generated.C08.labelOrder Generated.C08.removedKinds w root (o :: (ls ++ [c]))
      = some (.item (.bound owner c)) := by
  simp only [keepChain, findChain_path w root o _ t0 t ls c hr h0 hp,
    typeItem_bound w t c owner hc hpar ht hb]
  simp [itemRemoved, Generated.C08.removedKinds]

open Chain in
/-- **A binding invoked through the result of a function is resolved** (the chain FORD records for
    `associate (p => make(2))` ... `p % get()` is `make % get`: the selector is substituted for
    the associate name).  `f` is a function of the scope whose result variable has the visible
    derived type `t0`; then as in `binding_through_chain_resolved`.  (The variant of `_find_chain_item` that
    raises when `f` has not been correlated yet is finding
    `C08-chain-through-uncorrelated-function-raises`, repaired in FORD by 366248a; the source returns
    what this theorem says.) -/
theorem binding_through_function_result_resolved (w : World) (root : Str → Option Item) (f ty0 : Str)
    (t0 t : TypeDef) (ls : List Str) (c owner : Str)
    (hr : root f = some (.proc f (some ty0))) (h0 : findType w ty0 = some t0) (hp : CompPath w t0 ls t)
    (hc : assoc t.comps c = none) (hpar : t.parents.contains c = false) (ht : findType w c = none)
    (hb : assoc t.bound c = some owner) :
    keepChain Generated.C08.labelOrder Generated.C08.removedKinds w root (f :: (ls ++ [c]))
      = some (.item (.bound owner c)) := by
  simp only [keepChain, findChain_path w root f _ t0 t ls c hr h0 hp,
    typeItem_bound w t c owner hc hpar ht hb]
  simp [itemRemoved, Generated.C08.removedKinds]

open Chain in
/-- non-vacuity: `mk_t1 % get` and `mk_t1 % cells % fetch` over the generated tables -/
example :
    let t2 : TypeDef := { name := chars! "t2", bound := [(chars! "fetch", chars! "t2")] }
    let t1 : TypeDef := { name := chars! "t1", bound := [(chars! "get", chars! "t1")], comps := [(chars! "cells", chars! "t2")] }
    let w : World := { types := [t1, t2], procs := [(chars! "mk_t1", some (chars! "t1"))] }
    let h : Scope.Host := { procs := [chars! "mk_t1"], types := [chars! "t1", chars! "t2"] }
    keptAll w h { stmts := [] } [] [(chars! "mk_t1", some (chars! "t1"))]
        [[chars! "mk_t1"], [chars! "mk_t1", chars! "get"], [chars! "mk_t1", chars! "cells", chars! "fetch"]]
      = [.item (.proc (chars! "mk_t1") (some (chars! "t1"))), .item (.bound (chars! "t1") (chars! "get")),
         .item (.bound (chars! "t2") (chars! "fetch"))] := by
  decide +kernel

open Chain in
/-- **A chain whose first label is unknown in the scope stays as its last label** (a reference to
    a procedure FORD has not seen is kept by name, whatever the length of the chain). -/
theorem unknown_root_chain_kept_by_name (order removed : List String) (w : World) (root : Str → Option Item)
    (o : Str) (rest : Chain) (hr : root o = none) :
    keepChain order removed w root (o :: rest) = some (.name (lastOf (o :: rest))) := by
  cases rest with
  | nil => simp [keepChain, findChain, hr]
  | cons l r => simp [keepChain, findChain, hr]

open Chain in
/-- Non-vacuity over the generated tables: a unit with an array of objects `oa` of type `t1` and
    an object `b` of type `t2` (which extends `t0`); `t1` has the component array `cells` of type
    `t2`.  `oa(i) % cells(k) % fetch()` is the binding `fetch` of `t2`, `oa(i) % vals(j)` and
    `oa(i) % cells(k) % q(1)` (inherited component) are dropped, `b % show()` is the binding
    inherited from `t0`, `b % t0 % q(2)` (parent component) is dropped, `oa(i) % nothing(1)` stays
    as the name, the module function `fa` stays as the procedure. -/
example :
    let t0 : TypeDef := { name := chars! "t0", bound := [(chars! "show", chars! "t0")],
                          comps := [(chars! "val", chars! "integer"), (chars! "q", chars! "real")] }
    let t2 : TypeDef := { name := chars! "t2", bound := [(chars! "fetch", chars! "t2"), (chars! "show", chars! "t0")],
                          comps := [(chars! "w", chars! "real"), (chars! "val", chars! "integer"), (chars! "q", chars! "real")],
                          parents := [chars! "t0"] }
    let t1 : TypeDef := { name := chars! "t1", bound := [(chars! "get", chars! "t1")],
                          comps := [(chars! "vals", chars! "real"), (chars! "cells", chars! "t2")] }
    let w : World := { types := [t0, t1, t2], procs := [(chars! "fa", some (chars! "real"))] }
    let u : Scope.Unit := { stmts := [.tdecl [] [chars! "oa"], .tdecl [] [chars! "b"]] }
    let h : Scope.Host := { procs := [chars! "fa"], types := [chars! "t0", chars! "t1", chars! "t2"] }
    keptAll w h u [(chars! "oa", chars! "t1"), (chars! "b", chars! "t2")] []
        [[chars! "oa", chars! "cells", chars! "fetch"], [chars! "oa", chars! "vals"], [chars! "oa", chars! "cells", chars! "q"],
         [chars! "b", chars! "show"], [chars! "b", chars! "t0", chars! "q"], [chars! "oa", chars! "nothing"], [chars! "fa"]]
      = [.item (.bound (chars! "t2") (chars! "fetch")), .item (.bound (chars! "t0") (chars! "show")),
         .name (chars! "nothing"), .item (.proc (chars! "fa") none)] := by
  decide +kernel

open Fixed in
/-- **A fixed-form deck records exactly what its free-form equivalent records** ("on continued
    lines", for source written in columns).  For every well-formed deck - any number of initial
    cards with a label field, continuation cards with any non-blank, non-zero character in column
    6, comment cards of every style and blank cards in between, any text in columns 73+ - the
    statements the reader gets from the converter are the statements of the equivalent free-form
    file `renderFree` (label in front of the statement, ` &` on every continued line, and - limit
    on - the text of columns 73+ behind a `!` that stands in column 73 or later), hence the same
    calls are recorded.  (Converter model `Fixed.convertToFree`, shared with C14 and tied to
    ford/fixed2free2.py by the unit stream `c08.fixed`; corollary of C14's simulation lemma.) -/
theorem fixed_deck_records_as_free_equivalent (v : Variant) (lim : Bool) (p : List Item) (h : WF v p) :
    recordedFixed v lim (renderFixed p) = recordedPhysical ((renderFree v lim p).map dropNL) := by
  have hs : convertToFree v lim (renderFixed p) = renderFree v lim p := by
    have := convGo_sim v lim p [] h.1 (Or.inr h.2)
    simpa [convertToFree, h.2] using this
  simp [recordedFixed, fixedStatements, recordedPhysical, hs]

open Fixed in
/-- **Text in columns 73+ of a continued card is commentary; the statement goes on.**  Limit on
    (the default).  A card whose statement field (label + columns 7-72, trailing blanks removed)
    is `ind0 x r0` and that has ANY text in columns 73+ (`body0.length > 66`: card sequence
    numbers, a remark, quotes, `&`, `!` ...), continued by a card with statement field `ind1 y b0`
    and again any text in columns 73+, records exactly what the free-form lines `x r0 &` / `y b0`
    record: the continuation mark the converter inserts stays in front of the overflow comment,
    the reader joins the two statement fields with one blank and nothing of the sequence fields
    reaches the statement.  (`ind0`, `ind1`: indentation; the fields are comment-free and
    quote-closed - `Atoms`, the reader's own notion - and do not start with `&` / `#`.) -/
theorem sequence_field_cards_record_as_free_form (v : Variant) (hv : v.spacedExcess = true)
    (lab body0 body1 ind0 ind1 : Str) (x y : Char) (r0 b0 : Str) (rest : List Str)
    (hl0 : body0.length > 66) (hl1 : body1.length > 66)
    (h0 : rstrip (lab ++ body0.take 66) = ind0 ++ x :: r0) (hi0 : isBlank ind0 = true)
    (h1 : rstrip (body1.take 66) = ind1 ++ y :: b0) (hi1 : isBlank ind1 = true)
    (hx : isSpace x = false) (hxa : x ≠ '&') (hxh : x ≠ '#') (hr0 : rstrip (x :: r0) = x :: r0)
    (hy : isSpace y = false) (hya : y ≠ '&') (hyh : y ≠ '#') (hb0 : rstrip (y :: b0) = y :: b0)
    (hlast : (y :: b0).getLast? ≠ some '&') (ha0 : Atoms (x :: r0)) (ha1 : Atoms (y :: b0))
    (hJ : itemsOf (x :: r0 ++ ' ' :: y :: b0) ≠ []) :
    recordedPhysical (dropNL (freeCode v true lab body0 true) :: dropNL (freeCode v true [] body1 false) :: rest)
      = recordedPhysical ((x :: (r0 ++ [' ', '&'])) :: (y :: b0) :: rest) := by
  have hamp : Atoms (x :: (r0 ++ [' ', '&'])) :=
    atoms_append (x :: r0) _ ha0 (.plain ' ' _ (by decide) (by decide) (.plain '&' _ (by decide) (by decide) .nil))
  have hramp : rstrip (x :: (r0 ++ [' ', '&'])) = x :: (r0 ++ [' ', '&']) := Fixed.rstrip_cont_mark (x :: r0)
  obtain ⟨n0, c0⟩ := long_card_code v hv lab body0 true ind0 x (r0 ++ [' ', '&']) hl0
    (by simp [h0]) hi0 hx hxh hramp hamp
  obtain ⟨n1, c1⟩ := long_card_code v hv [] body1 false ind1 y b0 hl1
    (by simpa using h1) hi1 hy hyh hb0 ha1
  obtain ⟨m0, d0⟩ := plain_line_code x (r0 ++ [' ', '&']) hx hxh hramp hamp
  obtain ⟨m1, d1⟩ := plain_line_code y b0 hy hyh hb0 ha1
  have hq : (qs [] false : RS) = {} := rfl
  simp only [recordedPhysical, physStatements, readAll, ← hq,
    two_line_join _ _ x y r0 b0 rest n0 c0 n1 c1 hx hxa hr0 ha0 hy hya hlast hJ,
    two_line_join _ _ x y r0 b0 rest m0 d0 m1 d1 hx hxa hr0 ha0 hy hya hlast hJ]

/-- Non-vacuity over the generated tables: a deck with card sequence numbers in columns 73-80.  The
    argument list of `F` is continued on the next card, the FORMAT statement too: the calls are
    `f`, `g`, `report`, and nothing of the FORMAT statement. -/
theorem fixed_cards_with_sequence_field_record_exactly :
    recordedOfFixed ["      Y = F(X,                                                          DK000200",
                     "     &      G(Z))                                                       DK000210",
                     "C     call hidden(1)",
                     "      CALL REPORT(Y)                                                    DK000220",
                     " 9000 FORMAT (1X, 'RESULT', F10.3,                                      DK000230",
                     "     1        2(1X, I3))                                                DK000240"]
      = [["f"], ["g"], ["report"]] := by
  simp -index only [recordedOfFixed, recordedFixed, recorded_eq, List.map, String.toList_ofList]
  decide +kernel

end Ford.C08
