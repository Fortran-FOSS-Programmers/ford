/-
  C10 — distinct entities never share a page, anchor or copied file.
  Property theorems only; the model is FordModel/Names.lean (+ the generated
  literals in FordModel/Generated/C10.lean), helper lemmas live in
  FordModel/Lemmas/Names*.lean and FordModel/Lemmas/SourceOf.lean.

  Vocabulary.  A request sequence `rs : List Req` is the sequence of calls
  `namelist.get_name(item)` of one FORD run, in any order and with any number of
  repetitions (`id` = identity of `item`, `dir = item.get_dir()`, `name =
  item.name`); `trace cfg v {} rs` pairs every call with the stem it returns.
  `cfg` carries the literals extracted from the working tree.  `Legal cfg opNames n`
  (decidable) describes the names a Fortran project can produce: any name free of
  replaced symbols and of the suffix separator (identifiers in any letter case,
  `operator(.x.)`, the empty name of unnamed units, file names - also with blanks),
  one of the names listed in `opNames`, or an `operator`/`assignment` generic spec of
  `opCores` written with any number of blanks between its tokens (`spellOp`; FORD keeps
  the spelling of `interface operator ( + )` verbatim).
-/
import FordModel.NamesCfg
import FordModel.Lemmas.Names
import FordModel.Lemmas.NamesLegal
import FordModel.Lemmas.NamesIdent
import FordModel.Lemmas.SourceOf
namespace Ford.C10
open Ford Ford.Names Ford.Generated.C10 Ford.SourceOf

/-- The finitely many facts about the *generated* symbol table, separator and
    unnamed-stem literal that the unbounded theorems below rest on: the separator
    occurs neither in the unnamed stem nor in the image of any listed operator
    name, the symbol replacement is injective on the listed names, and none of
    them is mapped to the unnamed stem; blanks and parentheses are not replaced, the
    separator is none of them, and keyword and operator token of every generic spec stay
    recognisable and distinct after the replacement (so that `operator (+)` and
    `operator(+)`, which FORD keeps as two names, also keep two stems).  Editing the
    dict literal, `"~"` or `"__unnamed__"` in `get_name` changes this obligation. -/
theorem table_ok : TableOK cfg opNames := by
  -- A literal unifies with `String.ofList [..]` (found only with `-index`), so `String.toList_ofList`
  -- removes `toList` without evaluating it; `decide` would run the UTF-8 decoder on a literal each
  -- time the name is used.
  simp -index only [opNames, List.map_cons, List.map_nil, String.toList_ofList]
  exact ⟨by decide +kernel, by decide +kernel, by decide +kernel, by decide +kernel, by decide +kernel,
    by decide +kernel, by decide +kernel, by decide +kernel, by decide +kernel, by decide +kernel,
    by decide +kernel⟩

/-- Clause "names that differ only in letter case / operator interfaces": on legal
    names the stem before numbering (`lower` + symbol replacement + `__unnamed__`)
    identifies the name up to letter case - two legal names with the same base are
    the same name in Fortran's eyes. -/
theorem base_injective_on_legal_names (a b : Str)
    (ha : Legal cfg opNames a) (hb : Legal cfg opNames b)
    (h : baseOf cfg a = baseOf cfg b) : lower a = lower b :=
  legal_base_inj table_ok ha hb h

/-- Clause "equal names in different modules, files or directories": a numbered
    stem `base~k` (k ≥ 2) is never the un-numbered stem of any legal name, and never
    another entity's numbered stem unless base and number agree. -/
theorem suffix_fresh (a b : Str) (k j : Nat) (hk : 1 ≤ k) (hj : 1 ≤ j)
    (ha : Legal cfg opNames a) (hb : Legal cfg opNames b)
    (h : stemOf cfg a k = stemOf cfg b j) : baseOf cfg a = baseOf cfg b ∧ k = j :=
  stemOf_inj cfg a b k j (legal_sep table_ok ha) (legal_sep table_ok hb) hk hj h

/-- The page found at an entity's URL is that entity's: however often and in
    whatever order `ident` is requested, one entity always receives the same stem
    (both variants, all names). -/
theorem ident_stable (v : Variant) (rs : List Req) :
    ∀ p ∈ trace cfg v {} rs, ∀ q ∈ trace cfg v {} rs, p.1.id = q.1.id → p.2 = q.2 :=
  trace_stable cfg v rs

/-- Full strength (`repaired` = uses counted under the lower-cased name):
    for every number of entities, every order and repetition of requests, any mix
    of directories, names equal up to case, equal names, unnamed units and
    operator interfaces - two different entities of the same output directory never
    receive the same stem, hence never the same page `dir/stem.html`. -/
theorem stems_injective (rs : List Req) (hc : Consistent rs)
    (hl : ∀ r ∈ rs, Legal cfg opNames r.name) :
    ∀ p ∈ trace cfg .repaired {} rs, ∀ q ∈ trace cfg .repaired {} rs,
      p.1.id ≠ q.1.id → p.1.dir = q.1.dir → p.2 ≠ q.2 :=
  stems_distinct_core cfg .repaired rs hc
    (fun r hr => legal_sep table_ok (hl r hr))
    (fun a ha b hb h => legal_base_inj table_ok (hl a ha) (hl b hb) h)

/-- What the variant `asIs` (uses counted under the *raw* name; finding
    C10-case-only-names, repaired in FORD by 8dec555) guarantees: the same conclusion for every project in which no two entities have
    names that differ only in letter case (`lower a = lower b → a = b`). -/
theorem stems_injective_partial (rs : List Req) (hc : Consistent rs)
    (hl : ∀ r ∈ rs, Legal cfg opNames r.name)
    (hcase : ∀ a ∈ rs, ∀ b ∈ rs, lower a.name = lower b.name → a.name = b.name) :
    ∀ p ∈ trace cfg .asIs {} rs, ∀ q ∈ trace cfg .asIs {} rs,
      p.1.id ≠ q.1.id → p.1.dir = q.1.dir → p.2 ≠ q.2 :=
  stems_distinct_core cfg .asIs rs hc
    (fun r hr => legal_sep table_ok (hl r hr))
    (fun a ha b hb h => hcase a ha b hb (legal_base_inj table_ok (hl a ha) (hl b hb) h))

/-- The repair is conservative: on every request sequence in which no two
    names differ only in letter case, counting under the lower-cased name returns
    exactly the stems the variant `asIs` returns - the fix renames a page only in
    projects that hit the defect. -/
theorem fix_conservative (rs : List Req)
    (hcase : ∀ a ∈ rs, ∀ b ∈ rs, lower a.name = lower b.name → a.name = b.name) :
    trace cfg .asIs {} rs = trace cfg .repaired {} rs := by
  apply sim_trace cfg (rs.map (·.name)) ?_ rs {} {} ⟨rfl, fun _ _ _ => rfl⟩
  · intro r hr; exact List.mem_map.2 ⟨r, hr, rfl⟩
  · intro a ha b hb h
    obtain ⟨ra, hra, rfl⟩ := List.mem_map.1 ha
    obtain ⟨rb, hrb, rfl⟩ := List.mem_map.1 hb
    exact hcase ra hra rb hrb h

/-- The excluded class is a genuine violation of the variant `asIs`: module
    procedures `Foo` and `foo` of two modules (both in `proc/`) get the stem `foo`,
    i.e. one file `proc/foo.html`; counting under the lower-cased name separates
    them.  Replay input of finding C10-case-only-names. -/
theorem stems_case_witness :
    (trace cfg .asIs {} [⟨1, some "proc".toList, "Foo".toList⟩, ⟨2, some "proc".toList, "foo".toList⟩]).map (·.2)
      = ["foo".toList, "foo".toList]
    ∧ (trace cfg .repaired {} [⟨1, some "proc".toList, "Foo".toList⟩, ⟨2, some "proc".toList, "foo".toList⟩]).map (·.2)
      = ["foo".toList, "foo~2".toList] := by
  simp -index only [String.toList_ofList]
  decide +kernel

/-- The hypothesis `Legal` is not a hidden restriction: *every* Fortran identifier
    (a letter followed by letters, digits, underscores; ASCII), in any letter case,
    satisfies it for the literals of the working tree - no identifier contains a
    replaced symbol or the suffix separator, starts like the unnamed stem, or equals
    the image of an operator name.  (A separator `_`, or a replacement to lower-case
    text only, would break this obligation.) -/
theorem identifiers_legal (n : Str) (ha : Ascii n) (hi : isIdent n = true) : Legal cfg opNames n :=
  ident_legal opNames cfg (by decide +kernel) (by decide +kernel) (by decide +kernel)
    (by simp -index only [opNames, List.map_cons, List.map_nil, String.toList_ofList]
        decide +kernel) n ha hi

/-- Clause "operator/assignment interfaces", any spacing: FORD keeps the generic spec of
    `interface operator ( + )` verbatim, so the same operator written with different
    blanks is a different name.  Every such spelling (any letter case, any number of
    blanks after the keyword and inside the parentheses, all 13 intrinsic generic
    specs) satisfies `Legal` - the theorems above therefore cover `operator (+)` next to
    `operator(+)`, `assignment ( = )`, `OPERATOR( < )` ... -/
theorem spellings_legal (n : Str) (p : Str × Str) (hp : p ∈ opCores) (a b c : Nat)
    (h : lower n = spellOp p a b c) : Legal cfg opNames n := by
  refine Or.inr (Or.inr ?_)
  rw [h]
  unfold OpSpelled
  rw [parseSp_spell p (table_ok.core_good p hp).1 a b c]
  exact ⟨hp, rfl⟩

/-- ... and two spellings of generic specs get the same stem-before-numbering only when
    they are the same operator in the same spacing: the symbol replacement (which runs
    *after* the uses of a name were counted) never merges two spellings that were counted
    as different names.  (An entry `" ": ""` in the dict would break exactly this.) -/
theorem spellings_distinct (p q : Str × Str) (hp : p ∈ opCores) (hq : q ∈ opCores) (a b c a' b' c' : Nat)
    (h : baseL cfg (spellOp p a b c) = baseL cfg (spellOp q a' b' c')) :
    p = q ∧ a = a' ∧ b = b' ∧ c = c' :=
  spell_image_inj table_ok hp hq h

/-- non-vacuity: the hypotheses of the theorems above admit the interesting names -/
example : Legal cfg opNames "Foo".toList ∧ Legal cfg opNames "FOO_bar2".toList ∧ Legal cfg opNames [] ∧
    Legal cfg opNames "OPERATOR(<=)".toList ∧ Legal cfg opNames "operator(.Add.)".toList ∧
    Legal cfg opNames "assignment(=)".toList ∧ Legal cfg opNames "Util.F90".toList ∧
    Legal cfg opNames "<em>unnamed</em>".toList := by
  simp -index only [opNames, List.map_cons, List.map_nil, String.toList_ofList]
  decide +kernel
example : Legal cfg opNames "operator (+)".toList ∧ Legal cfg opNames "Operator( <  )".toList ∧
    Legal cfg opNames "assignment  ( = )".toList ∧ Legal cfg opNames "operator ( // )".toList ∧
    Legal cfg opNames "my mod.f90".toList ∧ Legal cfg opNames "operator ( .add. )".toList := by
  simp -index only [opNames, List.map_cons, List.map_nil, String.toList_ofList]
  decide +kernel
/-- ... and exclude exactly the spellings that would collide -/
example : ¬ Legal cfg opNames "foo~2".toList ∧ ¬ Legal cfg opNames "__unnamed__".toList ∧
    ¬ Legal cfg opNames "operator(lt)".toList ∧ ¬ Legal cfg opNames "a<b".toList ∧
    ¬ Legal cfg opNames "operator ( lt )".toList ∧ ¬ Legal cfg opNames "operator (/ /)".toList := by
  simp -index only [opNames, List.map_cons, List.map_nil, String.toList_ofList]
  decide +kernel

/-- No stem contains `/` (the table replaces it and no replacement, the separator,
    the unnamed stem or a digit brings one back): for *every* name and number, so
    `out/dir/(stem + ".html")` is a file directly inside `dir` - an interface called
    `operator(/)` cannot escape into a sub-directory or onto another page. -/
theorem stem_no_slash (name : Str) (k : Nat) : '/' ∉ stemOf cfg name k := by
  have hb : '/' ∉ baseOf cfg name := by
    unfold baseOf
    split
    · decide +kernel
    · rename_i e
      rw [← e]
      intro hm
      rcases mem_replaceAll '/' _ _ hm with ⟨p, hp, hd⟩ | ⟨_, hk⟩
      · exact (by decide +kernel : ∀ p ∈ cfg.table, '/' ∉ p.2) p hp hd
      · exact (by decide +kernel : ¬ ∀ p ∈ cfg.table, p.1 ≠ '/') hk
  unfold stemOf
  split
  · simp only [List.mem_append, List.mem_cons, not_or]
    exact ⟨hb, by decide, fun h => absurd (decimal_digits k _ h) (by decide)⟩
  · exact hb

/-- Entity pages: the output file determines directory and stem (with
    `stem_no_slash` the path is exactly `[dir, stem.html]`), so two page objects
    share an output file only if they share (directory, stem). -/
theorem outfile_injective (d1 d2 n1 n2 : Str) (k1 k2 : Nat)
    (h : outfileOf d1 (stemOf cfg n1 k1) = outfileOf d2 (stemOf cfg n2 k2)) :
    d1 = d2 ∧ stemOf cfg n1 k1 = stemOf cfg n2 k2 := by
  rw [outfileOf_noslash _ _ (stem_no_slash n1 k1), outfileOf_noslash _ _ (stem_no_slash n2 k2)] at h
  simp at h
  exact ⟨h.1, h.2⟩

/-- URLs `dir/stem.html`: for directories without `/` (all of `get_dir`'s answers) the
    URL determines directory and stem, for arbitrary stems. -/
theorem url_injective (d1 d2 s1 s2 : Str) (h1 : '/' ∉ d1) (h2 : '/' ∉ d2)
    (h : urlOf d1 s1 = urlOf d2 s2) : d1 = d2 ∧ s1 = s2 := by
  obtain ⟨hd, hs⟩ := split_first_sep '/' d1 d2 _ _ h1 h2 h
  exact ⟨hd, List.append_cancel_right hs⟩

/-- Composition (`repaired`): in one run, two different entities that have
    pages never get the same output file - whatever their kinds, directories, names
    (legal), and the order of requests. -/
theorem pages_distinct (rs : List Req) (hc : Consistent rs)
    (hl : ∀ r ∈ rs, Legal cfg opNames r.name) :
    ∀ p ∈ trace cfg .repaired {} rs, ∀ q ∈ trace cfg .repaired {} rs, ∀ d1 d2 : Str,
      p.1.id ≠ q.1.id → p.1.dir = some d1 → q.1.dir = some d2 →
      outfileOf d1 p.2 ≠ outfileOf d2 q.2 := by
  intro p hp q hq d1 d2 hid hd1 hd2 heq
  obtain ⟨n1, k1, e1⟩ := trace_stem_form cfg .repaired rs p hp
  obtain ⟨n2, k2, e2⟩ := trace_stem_form cfg .repaired rs q hq
  rw [e1, e2] at heq
  obtain ⟨hd, hs⟩ := outfile_injective d1 d2 n1 n2 k1 k2 heq
  exact stems_injective rs hc hl p hp q hq hid (by rw [hd1, hd2, hd]) (by rw [e1, e2, hs])

/-- The same for the variant `asIs`, for projects without case-only name pairs. -/
theorem pages_distinct_partial (rs : List Req) (hc : Consistent rs)
    (hl : ∀ r ∈ rs, Legal cfg opNames r.name)
    (hcase : ∀ a ∈ rs, ∀ b ∈ rs, lower a.name = lower b.name → a.name = b.name) :
    ∀ p ∈ trace cfg .asIs {} rs, ∀ q ∈ trace cfg .asIs {} rs, ∀ d1 d2 : Str,
      p.1.id ≠ q.1.id → p.1.dir = some d1 → q.1.dir = some d2 →
      outfileOf d1 p.2 ≠ outfileOf d2 q.2 := by
  rw [fix_conservative rs hcase]
  exact pages_distinct rs hc hl

/-- Every directory `get_dir` can answer (all entity kinds, all parents, the three
    overrides) is created by `writeout` (generated list) and is none of the
    directories FORD uses for other things - so an entity page never lands on a
    list page, a copied source file, a static page or a top-level page. -/
theorem entity_dirs_disjoint (k : Kind) (parent : Option Kind) (g n : Bool) (d : Str)
    (h : dirOf k parent g n = some d) :
    d ∈ outDirs ∧ d ∉ ["lists", "src", "page", "search", "css", "js", "webfonts", "media"].map String.toList := by
  have hm : d ∈ entityDirs := dirOf_mem k parent g n d h
  have hall : ∀ x ∈ entityDirs, x ∈ outDirs ∧
      x ∉ ["lists", "src", "page", "search", "css", "js", "webfonts", "media"].map String.toList := by
    simp -index only [outDirs, List.map_cons, List.map_nil, String.toList_ofList]
    decide +kernel
  exact hall d hm

/-- Clause "the page found at an entity's URL documents that entity / distinct items on one
    page never share an anchor", for the one place where an entity does *not* use a stem of
    its own: a procedure for which `is_interface_procedure` (generated from the source)
    holds takes `ident` (hence anchor `proc-<ident>` and URL `interface/<ident>.html`) from
    its parent interface.  For every interface block - named or not, abstract or not, with
    any number of bodies - an interface entity whose children borrow its identifier has at
    most one child: the borrowed identifier is used by the wrapper and its single procedure
    only, never by two procedures. -/
theorem borrowers_alone (b : Block) (e : Bool × List Nat) (he : e ∈ ifaceEntities b)
    (k pk : Kind) (hpk : isInterfaceKind pk = true) (hb : identBorrows k (some pk) e.1 = true) :
    ∀ c1 ∈ e.2, ∀ c2 ∈ e.2, c1 = c2 := by
  unfold ifaceEntities at he
  split at he
  · cases he
  split at he
  · rw [List.mem_singleton.1 he] at hb
    simp [identBorrows, parentIsInterface, hpk, Ford.Generated.C10.isInterfaceProcedure] at hb
  · obtain ⟨p, _, rfl⟩ := List.mem_map.1 he
    intro c1 h1 c2 h2
    rw [List.mem_singleton.1 h1, List.mem_singleton.1 h2]

/-- ... and the bodies of a generic interface (all listed on the one page of the generic)
    keep identifiers of their own: they are numbered like every other entity
    (`stems_injective`, `anchors_distinct` apply to them). -/
theorem generic_children_own_ident (k : Kind) (parent : Option Kind) :
    identBorrows k parent true = false := by
  simp [identBorrows, Ford.Generated.C10.isInterfaceProcedure]

/-- non-vacuity of `borrowers_alone`: a plain block with two bodies yields two wrappers whose
    child borrows; a generic block with two bodies yields one entity with two children -/
example : ifaceEntities ⟨false, false, [1, 2]⟩ = [(false, [1]), (false, [2])] ∧
    ifaceEntities ⟨true, false, [1, 2]⟩ = [(true, [1, 2])] ∧
    identBorrows .function (some .modprocinterface) false = true := by decide +kernel

/-- Anchors `obj-quote(stem)`: the anchor determines the object kind word and the
    stem (quoting is injective, no kind word contains `-`), so two items on one
    page share an `id` only if they share (kind word, stem). -/
theorem anchor_injective (k1 k2 : Kind) (s1 s2 : Str) (a1 : Ascii s1) (a2 : Ascii s2)
    (h : anchorOf (objOf k1) s1 = anchorOf (objOf k2) s2) : objOf k1 = objOf k2 ∧ s1 = s2 :=
  anchorOf_inj _ _ s1 s2 (objOf_no_dash k1) (objOf_no_dash k2) a1 a2 h

/-- Composition for anchors (`repaired`): two different entities of the same
    directory (in particular all entities without a page of their own - variables,
    bound procedures, internal procedures ... - which share the counter `None`) never
    get the same anchor `obj-quote(stem)`, whatever their kind words. -/
theorem anchors_distinct (rs : List Req) (hc : Consistent rs)
    (hl : ∀ r ∈ rs, Legal cfg opNames r.name) (k1 k2 : Kind) :
    ∀ p ∈ trace cfg .repaired {} rs, ∀ q ∈ trace cfg .repaired {} rs,
      p.1.id ≠ q.1.id → p.1.dir = q.1.dir → Ascii p.2 → Ascii q.2 →
      anchorOf (objOf k1) p.2 ≠ anchorOf (objOf k2) q.2 := by
  intro p hp q hq hid hdir a1 a2 heq
  exact stems_injective rs hc hl p hp q hq hid hdir (anchor_injective k1 k2 _ _ a1 a2 heq).2

/-- `urllib.parse.quote` is injective on ASCII strings (used for anchors and links). -/
theorem quote_injective (a b : Str) (ha : Ascii a) (hb : Ascii b) (h : quote a = quote b) : a = b :=
  quote_inj a b ha hb h

/-- The flat `src/` copy: when the base names of the source files are pairwise
    different, `src/<name>` serves, for every file, exactly that file's content -
    the "Source File" link of an entity serves the file that defines it. -/
theorem src_copy_partial (files : List (Str × Str))
    (hd : ∀ f ∈ files, ∀ g ∈ files, basename f.1 = basename g.1 → f = g) :
    ∀ f ∈ files, served files (srcLink f.1) = some f.2 := by
  intro f hf
  unfold served srcLink
  rw [copySrc_eq, List.append_nil]
  apply assoc_functional ((files.map srcEntry).reverse) (srcEntry f)
  · exact List.mem_reverse.2 (List.mem_map.2 ⟨f, hf, rfl⟩)
  · intro x hx y hy hxy
    obtain ⟨f1, hf1, rfl⟩ := List.mem_map.1 (List.mem_reverse.1 hx)
    obtain ⟨f2, hf2, rfl⟩ := List.mem_map.1 (List.mem_reverse.1 hy)
    rw [hd f1 hf1 f2 hf2 hxy]

/-- ... and the excluded class is a genuine violation: two files with the same base
    name in different source directories are copied onto each other, the link of the
    first one serves the second one's text.  Replay input of finding C10-src-basename. -/
theorem src_copy_witness :
    served [("a/util.f90".toList, "A".toList), ("b/util.f90".toList, "B".toList)] (srcLink "a/util.f90".toList)
      = some "B".toList := by
  simp -index only [String.toList_ofList]
  decide +kernel

/-! ### which file the 'Source File' link of an entity names

  `FortranBase._make_hierarchy` / `source_file` / `filename` (model: FordModel/SourceOf.lean).  The entity
  tree is any list of (child, parent) pairs, of any size and depth; `fuel` is any bound on the climb. -/

/-- Clause "the 'source file' link of an entity serves the file that defines it", first half: the
    object `source_file` answers (`hierarchy[0]`, or the entity itself when the hierarchy is empty) is
    the entity in which the `parent` chain of the entity ends - the `FortranSourceFile` whose text was
    being read when the entity was created - for every tree, every depth, every entity.  (Code that puts
    anything else in front of `hierarchy` - the ancestor module of a submodule, say - no longer
    corresponds to `hierarchy`/`sourceFile`.) -/
theorem source_file_is_defining_file (ps : Parents) (fuel e : Nat) :
    sourceFile ps fuel e = rootOf ps fuel e := by
  unfold sourceFile hierarchy
  rw [rootOf_eq_last, ← List.head?_reverse]
  cases (climb ps fuel e).reverse <;> rfl

/-- A source file (an entity without parent) is its own `source_file`, with an empty hierarchy. -/
theorem file_is_own_source (ps : Parents) (fuel f : Nat) (h : parentOf ps f = none) :
    hierarchy ps fuel f = [] ∧ sourceFile ps fuel f = f := by
  have hc : climb ps fuel f = [] := by
    cases fuel with
    | zero => rfl
    | succ n => unfold climb; rw [h]
  constructor
  · unfold hierarchy; rw [hc]; rfl
  · unfold sourceFile hierarchy; rw [hc]; rfl

/-- Everything inside an entity is linked to the file the entity itself is linked to: a child's
    `source_file` is its parent's (a procedure of a submodule that sits in a file of its own points to
    that file, not to the file of the ancestor module). -/
theorem children_share_source_file (ps : Parents) (fuel c p : Nat) (h : parentOf ps c = some p) :
    sourceFile ps (fuel + 1) c = sourceFile ps fuel p := by
  rw [source_file_is_defining_file, source_file_is_defining_file]
  show (match parentOf ps c with | none => c | some p => rootOf ps fuel p) = rootOf ps fuel p
  rw [h]

/-- `hierarchy` lists exactly the ancestors, outermost first, nearest last: the hierarchy of a child
    is the hierarchy of its parent followed by the parent. -/
theorem hierarchy_extends_parent (ps : Parents) (fuel c p : Nat) (h : parentOf ps c = some p) :
    hierarchy ps (fuel + 1) c = hierarchy ps fuel p ++ [p] := by
  unfold hierarchy
  show (match parentOf ps c with | none => [] | some p => p :: climb ps fuel p).reverse = _
  rw [h]
  simp

/-- Clause "the 'source file' link of an entity serves the file that defines it", composed with the
    flat `src/` copy: when the base names of the source files are pairwise different, the file served
    under `src/{{ entity.filename }}` has the content of the file in which the entity's parent chain
    ends - for every entity of every tree. -/
theorem source_link_serves_definer_partial (ps : Parents) (fuel e : Nat) (paths : List (Nat × Str))
    (files : List (Str × Str))
    (hd : ∀ f ∈ files, ∀ g ∈ files, basename f.1 = basename g.1 → f = g)
    (f : Str × Str) (hf : f ∈ files) (hp : assoc (rootOf ps fuel e) paths = some f.1) :
    (filenameOf paths ps fuel e).bind (served files) = some f.2 := by
  unfold filenameOf
  rw [source_file_is_defining_file, hp]
  exact src_copy_partial files hd f hf

/-- ... and the excluded class (finding C10-src-basename) seen from an entity: a procedure (3) of a
    module (2) of `a/util.f90` (1) is linked to `src/util.f90`, which holds the text of `b/util.f90`. -/
theorem source_link_witness :
    (filenameOf [(1, "a/util.f90".toList), (4, "b/util.f90".toList)] [(2, 1), (3, 2), (5, 4)] 9 3).bind
      (served [("a/util.f90".toList, "A".toList), ("b/util.f90".toList, "B".toList)]) = some "B".toList := by
  simp -index only [String.toList_ofList]
  decide +kernel

/-- non-vacuity: module 10 in file 1; submodule 20 of it in a file of its own (2) with procedure 21:
    the hierarchy of 21 is [file 2, submodule 20] - the ancestor module is *not* in the parent chain -
    and its link names `sub.f90` -/
example : hierarchy [(10, 1), (20, 2), (21, 20)] 7 21 = [2, 20] ∧ sourceFile [(10, 1), (20, 2), (21, 20)] 7 21 = 2 ∧
    filenameOf [(1, "src/geo.f90".toList), (2, "src/x/sub.f90".toList)] [(10, 1), (20, 2), (21, 20)] 7 21
      = some "sub.f90".toList ∧ sourceFile [(10, 1), (20, 2), (21, 20)] 7 2 = 2 := by
  simp -index only [String.toList_ofList]
  decide +kernel

end Ford.C10
