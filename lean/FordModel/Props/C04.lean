/-
  C04 - accessibility of every entity follows Fortran's PUBLIC/PRIVATE rules.
  Property theorems only; the model is FordModel/Access.lean (tables from
  Generated/C04.lean) with the name keying of FordModel/AccessNames.lean in front of it, the specification
  FordModel/AccessSpec.lean; separate module procedures FordModel/AccessImpl.lean, the module page
  FordModel/AccessPage.lean; helper lemmas FordModel/Lemmas/Access.lean, AccessNames.lean, AccessImpl.lean.
-/
import FordModel.Lemmas.AccessNames
import FordModel.Lemmas.AccessImpl
import FordModel.AccessPage
namespace Ford.C04
open Ford Ford.Access

/-- **Module-level entities, every interleaving.**  For every specification part `pre ++ d :: post`
    (any statements before and after the declaration `d`, access statements naming the entity anywhere
    before or after it, a bare `public`/`private` anywhere) and every entity `(c, n, attrs)` that `d`
    declares - variable, parameter, type, subroutine, function, generic / operator / abstract / plain
    interface - the permission FORD's mechanism ends up with is Fortran's accessibility
    (attribute or access statement, else the module default), provided the program is legal
    (names declared once, one access-spec per entity, procedures after CONTAINS), PROTECTED is not involved,
    and the entity is not in the class of the known defect `LateDefault` (no access-spec of its own and a bare
    `private` *after* the declaration). -/
theorem access_correct_partial (v : Variant) (pre post : List Stmt) (d : Stmt) (c : Cat) (n : Str) (attrs : List Attr)
    (hx : (c, n, attrs) ∈ declares d)
    (hnames : NamesOnce (pre ++ d :: post))
    (hbare : BareLegal (pre ++ d :: post))
    (hproc : isProc d = true → Stmt.contains ∈ pre)
    (hone : OneAccessSpec (pre ++ d :: post) attrs n)
    (hprot : hasProtected (pre ++ d :: post) attrs n = false)
    (hlate : ¬ LateDefault (pre ++ d :: post) post attrs n) :
    ∃ e ∈ (runUnit v false (pre ++ d :: post)).ents, e.cat = c ∧ e.name = n ∧
      e.perm = fortranAccess (pre ++ d :: post) attrs n := by
  obtain ⟨e, he, hc, hn, hp⟩ := runUnit_declared v false pre post d c n attrs hx hnames hproc
  refine ⟨e, he, hc, hn, ?_⟩
  obtain ⟨w1u, w1r, w2u, w2r⟩ := words_ok c
  obtain ⟨hp1, hp2⟩ := hasProtected_false.1 hprot
  rw [hp, two_loops (declWords c) (wordsFor c) w1u w1r w2u w2r attrs (entriesFor n (stmtEntries (pre ++ d :: post))) _
      hone hp1 hp2,
    fortranAccess_at_decl pre post d attrs n (declares_not_bare hx) hbare hprot hlate, stmtAccess_eq]
  rfl


/-- Non-vacuity of the exclusion: in a module with a *late* bare `private`, an entity with its own access-spec
    is outside the excluded class (the theorem above applies to it). -/
example : ¬ LateDefault [Stmt.var ["v".toList] [.acc .pub], .bare .priv] [.bare .priv] [.acc .pub] "v".toList := by
  decide +kernel

/-- **Known defect (late bare `private`).**  `integer :: v` followed by a bare `private`: FORD's mechanism
    reports `v` public, Fortran says private.  The same for a type and an abstract interface. -/
theorem late_private_witness (v : Variant) :
    ((runUnit v false [.var ["v".toList] [], .typeDef "t".toList [] [], .iface .abstract [] ["a".toList] [], .bare .priv]).ents.map
        (fun e => (e.name, e.perm)) = [("v".toList, .pub), ("t".toList, .pub), ("a".toList, .pub)]) ∧
    fortranAccess [.var ["v".toList] [], .typeDef "t".toList [] [], .iface .abstract [] ["a".toList] [], .bare .priv] [] "v".toList
      = .priv := by
  -- `∀` over the two Booleans is decidable, over `DelOrder` it is not: one evaluation for each deletion order
  obtain ⟨d, early, spec⟩ := v
  revert early spec
  cases d <;> decide +kernel

/-- **Procedures are never hit by that defect**: module procedures are constructed after CONTAINS, i.e. after
    the whole specification part, so for them the theorem holds without the exclusion whenever the bare
    statement stands where Fortran requires it (in the specification part, before CONTAINS). -/
theorem procedure_access_correct (v : Variant) (pre post : List Stmt) (f : Bool) (n : Str)
    (hnames : NamesOnce (pre ++ .proc f n :: post))
    (hbare : BareLegal (pre ++ .proc f n :: post))
    (hproc : Stmt.contains ∈ pre)
    (hspec : Stmt.bare .priv ∉ post)
    (hone : OneAccessSpec (pre ++ .proc f n :: post) [] n)
    (hprot : hasProtected (pre ++ .proc f n :: post) [] n = false) :
    ∃ e ∈ (runUnit v false (pre ++ .proc f n :: post)).ents, e.cat = (if f then .func else .sub) ∧ e.name = n ∧
      e.perm = fortranAccess (pre ++ .proc f n :: post) [] n :=
  access_correct_partial v pre post (.proc f n) _ n [] (by simp [declares]) hnames hbare (fun _ => hproc) hone hprot
    (fun h => hspec h.1)

/-- **Wherever the access statement stands.**  Moving an access statement across any block of other
    statements (declarations, bare statements, CONTAINS, ...) changes nothing in the result - permissions of all
    entities, components, bindings and `public_list`.  True for modules and submodules. -/
theorem access_statement_position_irrelevant (v : Variant) (sub : Bool) (pre mid post : List Stmt) (a : Attr) (ns : List Str)
    (hmid : ∀ x ∈ mid, isAccess x = false) :
    runUnit v sub (pre ++ .access a ns :: (mid ++ post)) = runUnit v sub (pre ++ (mid ++ .access a ns :: post)) := by
  simp only [runUnit, List.foldl_append, List.foldl_cons]
  rw [foldl_step_comm a ns mid _ hmid]

/-- **Submodules.**  In a submodule (which cannot contain access statements or access attributes) every entity
    - variable, type, procedure, interface - is private. -/
theorem submodule_entities_private (v : Variant) (stmts : List Stmt) (h : AccessFree stmts) :
    ∀ e ∈ (runUnit v true stmts).ents, e.perm = .priv := by
  unfold runUnit
  rw [unit_state]
  simp only [finish, map_readKids]
  rw [passesV_noacc v.del _ _ (stmtEntries_accessFree stmts h)]
  apply ctorPass_perm .priv
  intro e he
  obtain ⟨e0, he0, rfl⟩ := List.mem_map.1 he
  rw [specUpd_perm]
  exact entsFrom_accessFree stmts _ false h e0 he0

/-- **`protected` is recorded.**  A variable declared with the PROTECTED attribute and no access-spec, not
    named in any attribute statement, in a module whose default is public, is reported `protected`,
    which is what the specification says. -/
theorem protected_recorded (v : Variant) (pre post : List Stmt) (ns : List Str) (attrs : List Attr) (n : Str) (hn : n ∈ ns)
    (hnames : NamesOnce (pre ++ .var ns attrs :: post))
    (hbare : BareLegal (pre ++ .var ns attrs :: post))
    (hpub : Stmt.bare .priv ∉ pre ++ .var ns attrs :: post)
    (hattr : Attr.acc .prot ∈ attrs) (hno : attrs.filterMap accessWord = [])
    (hstmt : stmtWords (pre ++ .var ns attrs :: post) n = []) :
    (∃ e ∈ (runUnit v false (pre ++ .var ns attrs :: post)).ents, e.cat = .var ∧ e.name = n ∧ e.perm = .prot) ∧
    fortranAccess (pre ++ .var ns attrs :: post) attrs n = .prot := by
  have hst : entriesFor n (stmtEntries (pre ++ .var ns attrs :: post)) = [] := stmtWords_eq _ n ▸ hstmt
  constructor
  · obtain ⟨e, he, hc, hn', hp⟩ := runUnit_declared v false pre post (.var ns attrs) .var n attrs
      (List.mem_map.2 ⟨n, hn, rfl⟩) hnames (fun h => nomatch h)
    refine ⟨e, he, hc, hn', ?_⟩
    rw [hp, hst]
    exact declPerm_prot _ (by decide) attrs _ hno hattr
  · have h1 : explicitOf attrs = none := by rw [explicitOf_eq_head, hno]; rfl
    have hd : defaultAccess (pre ++ .var ns attrs :: post) = .pub := by
      unfold defaultAccess
      rw [if_neg (by simpa [List.contains_eq_mem] using hpub)]
    have hp : hasProtected (pre ++ .var ns attrs :: post) attrs n = true := by
      simp [hasProtected, hattr]
    simp only [fortranAccess, stmtAccess_eq, hst, h1, hd, hp]
    rfl

/-- **Known defect (PROTECTED overrides private).**  In a default-private module `integer, protected :: v` is
    reported `protected` (and hence displayed by default) although it is private. -/
theorem protected_private_witness (v : Variant) :
    ((runUnit v false [.bare .priv, .var ["v".toList] [.acc .prot]]).ents.map (fun e => (e.name, e.perm))
        = [("v".toList, .prot)]) ∧
    fortranAccess [.bare .priv, .var ["v".toList] [.acc .prot]] [.acc .prot] "v".toList = .priv := by
  obtain ⟨d, early, spec⟩ := v
  revert early spec
  cases d <;> decide +kernel

/-- **Known defect (PROTECTED lost).**  `integer, protected :: v` plus `public :: v` is reported `public`:
    the PROTECTED attribute is not recorded. -/
theorem protected_lost_witness (v : Variant) :
    ((runUnit v false [.var ["v".toList] [.acc .prot], .access (.acc .pub) ["v".toList]]).ents.map
        (fun e => (e.name, e.perm)) = [("v".toList, .pub)]) ∧
    fortranAccess [.var ["v".toList] [.acc .prot], .access (.acc .pub) ["v".toList]] [.acc .prot] "v".toList = .prot := by
  obtain ⟨d, early, spec⟩ := v
  revert early spec
  cases d <;> decide +kernel


/-- **Specific procedures of a generic interface.**  A procedure declared by an interface body inside a generic
    interface block `interface g` is a module entity of its own: its accessibility is the access statement naming
    *it*, else the module default - in particular an access statement that names only the generic `g` (or anything
    else) does not change it, and the getter `FortranProcedure.permission` does not redirect it to the generic
    (`readGeneric = false` in the generated truth table).  For every specification part
    `pre ++ interface g :: post`, every variant, whatever the other names are (constructor idiom included).
    Exclusions, both explicit: the late-bare-private class, and - only for the variant without the loop over the
    interface bodies (`specLoop = false`) - the specific procedure being named in an access statement (finding
    `C04-specific-access-statement-ignored`, repaired in FORD by 34545d1; witness below).  With the loop
    (`specLoop = true`) that second exclusion is gone. -/
theorem specific_procedure_access_partial (v : Variant) (pre post : List Stmt) (g : Str) (ps rs : List Str) (p : Str)
    (hp : p ∈ ps)
    (hbare : BareLegal (pre ++ .iface .generic g ps rs :: post))
    (hone : OneAccessSpec (pre ++ .iface .generic g ps rs :: post) [] p)
    (hstmt : v.specLoop = false → stmtAccess (pre ++ .iface .generic g ps rs :: post) p = none)
    (hlate : ¬ LateDefault (pre ++ .iface .generic g ps rs :: post) post [] p)
    (hprot : hasProtected (pre ++ .iface .generic g ps rs :: post) [] p = false) :
    ∃ e ∈ (runUnit v false (pre ++ .iface .generic g ps rs :: post)).ents, e.cat = .iface ∧ e.name = g ∧
      (⟨p, fortranAccess (pre ++ .iface .generic g ps rs :: post) [] p⟩ : Kid) ∈ e.procs := by
  let P := lastBare (init false).perm pre
  let e0 : Ent := { cat := .iface, name := g, perm := P, procs := ps.map (fun q => ⟨q, P⟩), refs := rs.map (fun q => ⟨q, P⟩) }
  have he0 : e0 ∈ entsFrom (init false).perm false (pre ++ .iface .generic g ps rs :: post) :=
    mem_entsFrom_mid pre post _ _ _ e0 (List.mem_singleton.2 rfl)
  -- Fortran's side: the access statement naming `p`, else the default in force at the block
  have hspec : fortranAccess (pre ++ .iface .generic g ps rs :: post) [] p =
      (stmtAccess (pre ++ .iface .generic g ps rs :: post) p).getD P :=
    fortranAccess_at_decl pre post _ [] p (fun q h => nomatch h) hbare hprot hlate
  generalize pre ++ Stmt.iface .generic g ps rs :: post = S at *
  have hs : skel (specUpd v.specLoop (stmtEntries S) e0) ∈ ((runUnit v false S).ents).map skel := by
    rw [runUnit_skel]; exact List.mem_map.2 ⟨e0, he0, rfl⟩
  obtain ⟨e, he, hse⟩ := List.mem_map.1 hs
  simp only [skel, Prod.mk.injEq, specUpd_cat, specUpd_name] at hse
  refine ⟨e, he, hse.1, hse.2.1, ?_⟩
  rw [hse.2.2]
  rw [hspec]
  cases hv : v.specLoop with
  | false =>
    rw [hstmt hv]
    exact List.mem_map.2 ⟨p, hp, rfl⟩
  | true =>
    refine List.mem_map.2 ⟨⟨p, P⟩, List.mem_map.2 ⟨p, hp, rfl⟩, ?_⟩
    show (⟨p, applyAttrs applyWords p P (stmtEntries S)⟩ : Kid) = _
    rw [applyAttrs_eq_declPerm, stmtAccess_eq, declPerm_spec applyWords (by decide) (by decide)
      (entriesFor p (stmtEntries S)) P hone (hasProtected_false.1 hprot).2]

/-- Worked instance: `private :: g` names the generic only; the
    generic is private, its specific procedure `x` stays public. -/
example :
    (runUnit asIs false [.access (.acc .priv) ["g".toList], .iface .generic "g".toList ["x".toList] []]).ents.map
      (fun e => (e.perm, e.procs)) = [(.priv, [⟨"x".toList, .pub⟩])] := by decide +kernel

/-- **Known defect (access statement naming a specific procedure is ignored).**  `private` / `public :: x` /
    `interface g; subroutine x ...`: `process_attribs` walks the module's own entity lists only, the interface
    bodies of a generic interface are not among them; `x` keeps the default (private), Fortran says public.
    With the loop over the interface bodies (`specLoop`) `x` is public. -/
theorem specific_access_statement_witness (d : DelOrder) (early : Bool) :
    ((runUnit ⟨d, early, false⟩ false [.bare .priv, .access (.acc .pub) ["x".toList],
        .iface .generic "g".toList ["x".toList] []]).ents.map (fun e => e.procs) = [[⟨"x".toList, .priv⟩]]) ∧
    ((runUnit ⟨d, early, true⟩ false [.bare .priv, .access (.acc .pub) ["x".toList],
        .iface .generic "g".toList ["x".toList] []]).ents.map (fun e => e.procs) = [[⟨"x".toList, .pub⟩]]) ∧
    fortranAccess [.bare .priv, .access (.acc .pub) ["x".toList], .iface .generic "g".toList ["x".toList] []] [] "x".toList
      = .pub := by
  revert early
  cases d <;> decide +kernel

/-- **Same name, same accessibility - deletion order `afterLoop`** (in FORD since bbe7689).  With this `process_attribs`
    (an `attr_dict` entry is forgotten only when the first loop is over) a derived type `n` and the generic interface
    of the same name (constructor idiom) get the *same* accessibility from the access statement naming `n`,
    already when `process_attribs` returns - i.e. in the entity list the export tables (`pub_types`, `pub_procs`)
    are built from, not only after `correlate`.  For every unit (module or submodule), wherever the three
    statements stand, whatever else is declared. -/
theorem constructor_access_statement_repaired (early spec : Bool) (sub : Bool) (stmts : List Stmt) (n : Str)
    (tattrs : List Attr) (body : List TStmt) (ps rs : List Str) (q : Perm)
    (hT : Stmt.typeDef n tattrs body ∈ stmts) (hG : Stmt.iface .generic n ps rs ∈ stmts)
    (hstmt : (entriesFor n (stmtEntries stmts)).filterMap accessWord = [q])
    (hprot : Attr.acc .prot ∉ entriesFor n (stmtEntries stmts)) :
    ∃ t ∈ (runUnit ⟨.afterLoop, early, spec⟩ sub stmts).attr, ∃ g ∈ (runUnit ⟨.afterLoop, early, spec⟩ sub stmts).attr,
      t.cat = .type ∧ t.name = n ∧ g.cat = .iface ∧ g.name = n ∧ t.perm = q ∧ g.perm = q := by
  obtain ⟨t0, ht0, htc, htn⟩ := declared_mem_entsFrom stmts (init sub).perm false _ hT rfl .type n tattrs
    (List.mem_singleton.2 rfl)
  obtain ⟨g0, hg0, hgc, hgn⟩ := declared_mem_entsFrom stmts (init sub).perm false _ hG rfl .iface n []
    (List.mem_singleton.2 rfl)
  obtain ⟨t, ht, ht1, ht2, _, ht3⟩ :=
    afterLoop_same_name early spec sub stmts n q hstmt hprot t0 ht0 (by rw [htc]; decide) htn
  obtain ⟨g, hg, hg1, hg2, _, hg3⟩ :=
    afterLoop_same_name early spec sub stmts n q hstmt hprot g0 hg0 (by rw [hgc]; decide) hgn
  exact ⟨t, ht, g, hg, ht1.trans htc, ht2, hg1.trans hgc, hg2, ht3, hg3⟩

/-- The same for a generic interface that carries the name of one of its specific module procedures (legal:
    F2018 15.4.3.4.1): with the deletion order `afterLoop` the procedure `n` and the generic `n` both get the
    accessibility of the access statement naming `n`. -/
theorem self_named_generic_access_statement_repaired (early spec : Bool) (stmts : List Stmt) (n : Str) (f : Bool)
    (ps rs : List Str) (q : Perm) (pre post : List Stmt)
    (hS : stmts = pre ++ .proc f n :: post) (hc : Stmt.contains ∈ pre)
    (hG : Stmt.iface .generic n ps rs ∈ stmts)
    (hstmt : (entriesFor n (stmtEntries stmts)).filterMap accessWord = [q])
    (hprot : Attr.acc .prot ∉ entriesFor n (stmtEntries stmts)) :
    ∃ t ∈ (runUnit ⟨.afterLoop, early, spec⟩ false stmts).attr, ∃ g ∈ (runUnit ⟨.afterLoop, early, spec⟩ false stmts).attr,
      t.cat = (if f then .func else .sub) ∧ t.name = n ∧ g.cat = .iface ∧ g.name = n ∧ t.perm = q ∧ g.perm = q := by
  obtain ⟨g0, hg0, hgc, hgn⟩ := declared_mem_entsFrom stmts (init false).perm false _ hG rfl .iface n []
    (List.mem_singleton.2 rfl)
  obtain ⟨t0, ht0, htc, htn⟩ := proc_mem_entsFrom pre post f n (init false).perm hc
  rw [← hS] at ht0
  obtain ⟨t, ht, ht1, ht2, _, ht3⟩ :=
    afterLoop_same_name early spec false stmts n q hstmt hprot t0 ht0 (by rw [htc]; cases f <;> decide) htn
  obtain ⟨g, hg, hg1, hg2, _, hg3⟩ :=
    afterLoop_same_name early spec false stmts n q hstmt hprot g0 hg0 (by rw [hgc]; decide) hgn
  exact ⟨t, ht, g, hg, ht1.trans htc, ht2, hg1.trans hgc, hg2, ht3, hg3⟩

/-- **Constructor idiom, constructor step moved before the export tables.**  With `ctorEarly` (in FORD since
    18c7094) every interface that carries the name of a derived type of the unit has, in the entity list
    the export tables are built from, the permission of a type of that name - whatever gave the type its
    accessibility (attribute, access statement, default) and whatever the deletion order. -/
theorem constructor_export_early (d : DelOrder) (spec : Bool) (sub : Bool) (stmts : List Stmt) :
    ∀ g ∈ (runUnit ⟨d, true, spec⟩ sub stmts).pre, g.cat = .iface →
      (∃ t ∈ (runUnit ⟨d, true, spec⟩ sub stmts).pre, t.cat = .type ∧ t.name = g.name) →
      ∃ t ∈ (runUnit ⟨d, true, spec⟩ sub stmts).pre, t.cat = .type ∧ t.name = g.name ∧ g.perm = t.perm := by
  simp only [runUnit, finish, map_readKids, if_true]
  exact ctorPass_takes_type _

/-- **Findings, one identifier for two entities (variant `asIs`; repaired in FORD by bbe7689 and 18c7094).**
    (1) `private` / `public :: t` / `type t` / `interface t`: with the per-entity deletion the type takes the
    statement and the interface of the same name never sees it; when `process_attribs` returns the interface is
    still private, so `pub_procs` does not export the constructor `t` although `pub_types` exports the type `t`.
    `correlate` repairs the stored permission afterwards (`ents`), not the export tables.  With the deletion
    order `afterLoop`, or with the constructor step before the export tables, both tables export `t`.
    (2) `private` / `public :: s` / `interface s; module procedure s` / `subroutine s`: the subroutine takes the
    statement, the generic `s` stays private - for good (no constructor step), and `pub_procs` exports nothing
    (the interface replaces the procedure under the key `s`).  With `afterLoop`: both public, exported.
    (3) `type, private :: t` / `interface t` in a default-public module: the access attribute reaches the
    constructor only in `correlate`, `pub_procs` exports the private `t`; only moving the constructor step
    before the export tables repairs that. -/
theorem constructor_access_statement_witness :
    ((runUnit asIs false [.bare .priv, .access (.acc .pub) ["t".toList], .typeDef "t".toList [] [],
        .iface .generic "t".toList [] ["f".toList]]).attr.map (fun e => (e.cat, e.perm)) = [(.type, .pub), (.iface, .priv)]) ∧
    ((runUnit asIs false [.bare .priv, .access (.acc .pub) ["t".toList], .typeDef "t".toList [] [],
        .iface .generic "t".toList [] ["f".toList]]).exports = [(.types, "t".toList)]) ∧
    ((runUnit asIs false [.bare .priv, .access (.acc .pub) ["t".toList], .typeDef "t".toList [] [],
        .iface .generic "t".toList [] ["f".toList]]).ents.map (fun e => (e.cat, e.perm)) = [(.type, .pub), (.iface, .pub)]) ∧
    ((runUnit ⟨.afterLoop, false, false⟩ false [.bare .priv, .access (.acc .pub) ["t".toList], .typeDef "t".toList [] [],
        .iface .generic "t".toList [] ["f".toList]]).exports = [(.procs, "t".toList), (.types, "t".toList)]) ∧
    ((runUnit ⟨.perEntity, true, false⟩ false [.bare .priv, .access (.acc .pub) ["t".toList], .typeDef "t".toList [] [],
        .iface .generic "t".toList [] ["f".toList]]).exports = [(.procs, "t".toList), (.types, "t".toList)]) ∧
    ((runUnit asIs false [.bare .priv, .access (.acc .pub) ["s".toList], .iface .generic "s".toList [] ["s".toList],
        .contains, .proc false "s".toList]).ents.map (fun e => (e.cat, e.perm)) = [(.iface, .priv), (.sub, .pub)]) ∧
    ((runUnit asIs false [.bare .priv, .access (.acc .pub) ["s".toList], .iface .generic "s".toList [] ["s".toList],
        .contains, .proc false "s".toList]).exports = []) ∧
    ((runUnit ⟨.afterLoop, false, false⟩ false [.bare .priv, .access (.acc .pub) ["s".toList],
        .iface .generic "s".toList [] ["s".toList], .contains, .proc false "s".toList]).ents.map (fun e => (e.cat, e.perm))
        = [(.iface, .pub), (.sub, .pub)]) ∧
    ((runUnit ⟨.afterLoop, false, false⟩ false [.bare .priv, .access (.acc .pub) ["s".toList],
        .iface .generic "s".toList [] ["s".toList], .contains, .proc false "s".toList]).exports = [(.procs, "s".toList)]) ∧
    ((runUnit ⟨.afterLoop, false, false⟩ false [.typeDef "t".toList [.acc .priv] [], .iface .generic "t".toList [] ["f".toList]]).exports
        = [(.procs, "t".toList)]) ∧
    ((runUnit ⟨.afterLoop, true, false⟩ false [.typeDef "t".toList [.acc .priv] [], .iface .generic "t".toList [] ["f".toList]]).exports
        = []) := by
  decide +kernel

/-- **What the module hands to other scopes.**  The export tables `pub_vars`, `pub_types`, `pub_absints` (built in
    `_cleanup` from the permissions `process_attribs` left; what every `use` of the module receives) list a
    variable / named constant / derived type / abstract interface exactly when Fortran makes it accessible - under
    the hypotheses of `access_correct_partial` (in particular outside the late-bare-private class), in every variant.
    (`pub_procs` is a dict keyed by name into which interfaces and interface bodies are merged; it is compared
    with the implementation on every run and has the witnesses above, no theorem.) -/
theorem export_correct_partial (v : Variant) (pre post : List Stmt) (d : Stmt) (c : Cat) (n : Str) (attrs : List Attr)
    (hx : (c, n, attrs) ∈ declares d)
    (hnames : NamesOnce (pre ++ d :: post))
    (hbare : BareLegal (pre ++ d :: post))
    (hproc : isProc d = true → Stmt.contains ∈ pre)
    (hone : OneAccessSpec (pre ++ d :: post) attrs n)
    (hprot : hasProtected (pre ++ d :: post) attrs n = false)
    (hlate : ¬ LateDefault (pre ++ d :: post) post attrs n)
    (htab : tabOf c ≠ .procs) :
    (tabOf c, n) ∈ (runUnit v false (pre ++ d :: post)).exports ↔ fortranAccess (pre ++ d :: post) attrs n ≠ .priv := by
  obtain ⟨e, he, hc, hn, hp⟩ := access_correct_partial v pre post d c n attrs hx hnames hbare hproc hone hprot hlate
  have hnd := runUnit_ents_nodup v false _ hnames
  have hex : (runUnit v false (pre ++ d :: post)).exports = exportsOf (runUnit v false (pre ++ d :: post)).ents := by
    rw [← runUnit_pre v false _ hnames]; rfl
  rw [hex, mem_exportsOf_nonprocs _ _ _ htab]
  have hval : fortranAccess (pre ++ d :: post) attrs n = .priv ∨ fortranAccess (pre ++ d :: post) attrs n = .pub := by
    unfold fortranAccess
    rw [hprot]
    split <;> simp
  constructor
  · rintro ⟨e', he', _, hn', hp'⟩
    have := eq_of_nodup_map (·.name) hnd he' he (by rw [hn', hn])
    subst this
    rw [hp] at hp'
    intro hpriv
    rw [hpriv] at hp'
    revert hp'; decide
  · intro hne
    refine ⟨e, he, by rw [hc], hn, ?_⟩
    rw [hp]
    rcases hval with h | h
    · exact absurd h hne
    · rw [h]; decide

/-- **Components.**  In any derived-type definition whose component part is `pre ++ [component declaration] ++ ...`
    (the `private` statement, if any, standing before the components as the syntax requires), every declared
    component gets its own access-spec, else PRIVATE iff the component part has a `private` statement -
    whatever the type's own accessibility `self` and whatever the enclosing module's default: the default of the
    components is tracked separately. -/
theorem component_access_correct (self : Perm) (pre post : List TStmt) (ns : List Str) (attrs : List Attr)
    (hpre : TStmt.contains ∉ pre)
    (hbare : ∀ q, TStmt.bare q ∈ pre → q = .priv)
    (hpost : ∀ q, TStmt.bare q ∉ post.takeWhile (· ≠ .contains))
    (hone : (attrs.filterMap accessWord).length ≤ 1) (hprot : Attr.acc .prot ∉ attrs) :
    ∀ n ∈ ns, (⟨n, componentAccess (pre ++ .comp ns attrs :: post) attrs⟩ : Kid) ∈
      (runType self (pre ++ .comp ns attrs :: post)).comps := by
  have hspec : componentAccess (pre ++ .comp ns attrs :: post) attrs =
      declPerm varAttrWords (tlast typeChildInit pre) attrs := by
    rw [declPerm_spec _ (by decide) (by decide) attrs _ hone hprot]
    exact congrArg ((explicitOf attrs).getD ·)
      (partDefault_at pre post (.comp ns attrs) (fun h => nomatch h) (fun _ h => nomatch h) hpre hbare hpost)
  rw [hspec]
  exact runType_comp self pre post ns attrs hpre

/-- **Bindings.**  The binding part starts afresh at CONTAINS: a `private` statement of the component part does
    not leak into it, and a `private` after CONTAINS makes exactly the bindings without access-spec private.
    For `procedure :: a, b, c` all names, for `generic :: g => ...` the generic name. -/
theorem binding_access_correct (self : Perm) (pre mid post : List TStmt) (g : Bool) (ns : List Str) (attrs : List Attr)
    (hpre : TStmt.contains ∉ pre) (hmid : TStmt.contains ∉ mid)
    (hbare : ∀ q, TStmt.bare q ∈ mid → q = .priv)
    (hpost : ∀ q, TStmt.bare q ∉ post.takeWhile (· ≠ .contains))
    (hone : (attrs.filterMap accessWord).length ≤ 1) (hprot : Attr.acc .prot ∉ attrs) :
    ∀ n ∈ (if g then ns.take 1 else ns),
      (⟨n, bindingAccess (pre ++ .contains :: (mid ++ .bind g ns attrs :: post)) attrs⟩ : Kid) ∈
      (runType self (pre ++ .contains :: (mid ++ .bind g ns attrs :: post))).binds := by
  have hspec : bindingAccess (pre ++ .contains :: (mid ++ .bind g ns attrs :: post)) attrs =
      declPerm bindAttrWords (tlast containsReset mid) attrs := by
    rw [declPerm_spec _ (by decide) (by decide) attrs _ hone hprot]
    unfold bindingAccess bindPart
    rw [List.dropWhile_append_of_pos (ne_contains_of_not_mem hpre), List.dropWhile_cons_of_neg (by simp)]
    exact congrArg ((explicitOf attrs).getD ·)
      (partDefault_at mid post (.bind g ns attrs) (fun h => nomatch h) (fun _ h => nomatch h) hmid hbare hpost)
  rw [hspec]
  exact runType_bind self pre mid post g ns attrs hpre hmid

/-- Non-vacuity / worked instance: private components, public bindings, one binding made private. -/
example :
    ((runType .priv [.bare .priv, .comp ["c".toList] [], .comp ["d".toList] [.acc .pub], .contains,
        .bind false ["a".toList, "b".toList] [], .bind false ["p".toList] [.acc .priv]]).comps,
     (runType .priv [.bare .priv, .comp ["c".toList] [], .comp ["d".toList] [.acc .pub], .contains,
        .bind false ["a".toList, "b".toList] [], .bind false ["p".toList] [.acc .priv]]).binds)
    = ([⟨"c".toList, .priv⟩, ⟨"d".toList, .pub⟩],
       [⟨"b".toList, .pub⟩, ⟨"a".toList, .pub⟩, ⟨"p".toList, .priv⟩]) := by
  decide +kernel


/-- **Private types stay private.**  A type declared `type, private :: t` (and, legally, not named in an access
    statement) is private whatever the module default is and wherever a bare `public`/`private` stands -
    the late-default defect cannot touch it. -/
theorem private_type_stays_private (v : Variant) (pre post : List Stmt) (n : Str) (attrs : List Attr) (body : List TStmt)
    (hattr : explicitOf attrs = some .priv)
    (hnames : NamesOnce (pre ++ .typeDef n attrs body :: post))
    (hbare : BareLegal (pre ++ .typeDef n attrs body :: post))
    (hone : OneAccessSpec (pre ++ .typeDef n attrs body :: post) attrs n)
    (hprot : hasProtected (pre ++ .typeDef n attrs body :: post) attrs n = false) :
    ∃ e ∈ (runUnit v false (pre ++ .typeDef n attrs body :: post)).ents, e.cat = .type ∧ e.name = n ∧ e.perm = .priv := by
  obtain ⟨e, he, hc, hn, hp⟩ := access_correct_partial v pre post (.typeDef n attrs body) .type n attrs
    (by simp [declares]) hnames hbare (by intro h; cases h) hone hprot (by intro h; have h2 := h.2.1; rw [hattr] at h2; cases h2)
  refine ⟨e, he, hc, hn, ?_⟩
  rw [hp]
  simp [fortranAccess, hattr]

/-- The constructor idiom (an interface named like the type): the interface takes the type's permission in
    `correlate`, the type keeps its own. -/
example :
    (runUnit asIs false [.bare .priv, .typeDef "t".toList [.acc .pub] [], .iface .generic "t".toList [] ["f".toList]]).ents.map
      (fun e => (e.cat, e.perm)) = [(.type, .pub), (.iface, .pub)] := by decide +kernel

/-- **The generated tables have the shape the proofs use** (re-checked by the kernel whenever
    ford/sourceform.py changes): `process_attribs` visits every entity list exactly once, every word list
    recognises `public` and `private`, variables and bindings inherit the *child* permission, the other
    constructors the container's own, a type's children start public and restart public at CONTAINS, a
    submodule starts private, a bare statement updates both permissions; the variables' loop of `process_attribs`
    comes last; public and protected entities are exported; a procedure reads its parent's permission exactly
    when the parent is a non-generic interface (not for a generic interface, not for a module; of these three
    table values the model reads `readGeneric` only). -/
theorem generated_tables_sound :
    attribPasses.Nodup ∧ (∀ c : Cat, c ∈ attribPasses) ∧
    (∀ w ∈ [bareWords, varAttrWords, typeAttrWords, bindAttrWords, applyWords, applyVarWords],
        Perm.pub ∈ w ∧ Perm.priv ∈ w) ∧
    srcVariables = .child ∧ srcBoundProc = .child ∧
    srcType = .self ∧ srcInterface = .self ∧ srcSubroutine = .self ∧ srcFunction = .self ∧
    typeChildInit = .pub ∧ containsReset = .pub ∧ submoduleInit = .priv ∧ moduleInit = .pub ∧
    bareSetsChild = true ∧ bareSetsSelf = true ∧ publicWord = .pub ∧
    attribPasses = itemPasses ++ [.var] ∧ exportWords = [.pub, .prot] ∧
    readWrapper = true ∧ readGeneric = false ∧ readModule = false := by
  refine ⟨by decide, fun c => by cases c <;> decide, by decide, ?_⟩
  decide +kernel


/-- **Declaration side.**  For every entity list of a type declaration statement written in any of the ways
    F2018 R803 allows - each object name in any letter case, blanks before and after it, followed by nothing, an
    array-spec `(..)`, a coarray-spec `[..]`, a char-length `*..` or an initialisation `= ..` / `=> ..` with
    arbitrary (balanced) text - the keys under which `process_attribs` looks the declared variables up in
    `attr_dict` are exactly the lower-cased names, in order.  The hypotheses are literal Fortran syntax; the proof
    rests on the *measured* tables `declDropChars` and `cutChars` (it breaks when the code stops removing the
    blanks of an entity-decl or stops cutting the name at `(`, `[`, `*`). -/
theorem declared_name_key (ds : List DeclSp) (hne : ds ≠ []) (h : ∀ d ∈ ds, d.Ok) :
    declKeys (joinSep ',' (ds.map DeclSp.text)) = ds.map (fun d => lower d.name) :=
  declKeys_spelled ds hne h

/-- non-vacuity: `Grid (10, 10) = 0`, ` label *8`, `nlev (2) = [1, 2]`, `co [*]`, `p => null()` are such spellings,
    and the model computes the keys `grid`, `label`, `nlev`, `co`, `p` for the list written in one statement -/
example :
    (∀ d ∈ [(⟨0, chars! "Grid", 1, chars! "(10, 10) = 0"⟩ : DeclSp), ⟨1, chars! "label", 1, chars! "*8"⟩,
      ⟨1, chars! "nlev", 1, chars! "(2) = [1, 2]"⟩, ⟨0, chars! "co", 1, chars! "[*]"⟩,
      ⟨1, chars! "p", 1, chars! "=> null()"⟩], d.Ok)
    ∧ declKeys (chars! "Grid (10, 10) = 0, label *8, nlev (2) = [1, 2],co [*], p => null()")
      = [chars! "grid", chars! "label", chars! "nlev", chars! "co", chars! "p"] := by
  decide +kernel

/-- **Statement side.**  The name list of an attribute statement (`public :: A , b,C`), every name in any letter
    case with blanks around it, is filed in `attr_dict` under the lower-cased names - with and without the
    normalisation of the generic-spec keys (`g`). -/
theorem statement_name_key (g : Bool) (ns : List NameSp) (hne : ns ≠ []) (h : ∀ d ∈ ns, IsIdent d.name) :
    stmtKeys g (joinSep ',' (ns.map NameSp.text)) = ns.map (fun d => lower d.name) :=
  stmtKeys_spelled g ns hne h

/-- **The spelling is irrelevant.**  A specification part written in any spelling (`SpellsAll`: declarations as in
    `declared_name_key`, attribute statements as in `statement_name_key`, generic names in any letter case) gives
    the same result - permissions of all entities, components, bindings, `public_list`, export tables - as its
    canonical form with lower-cased names.  Hence every theorem of this file that is stated for abstract programs
    holds for the program as it is written. -/
theorem spelling_irrelevant (v : Variant) (g sub : Bool) (rs : List RStmt) (ss : List Stmt) (h : SpellsAll rs ss) :
    runRaw v g sub rs = runUnit v sub ss := by
  unfold runRaw
  rw [keyed_spells_list g rs ss h]

/-- **Module-level entities as written** (`access_correct_partial` carried over to the source text): whenever the
    statements `rs` spell the specification part `pre ++ d :: post`, the permission FORD ends up with for every entity
    `d` declares is Fortran's accessibility - same hypotheses, same explicit exclusion. -/
theorem access_correct_as_written_partial (v : Variant) (g : Bool) (rs : List RStmt) (pre post : List Stmt) (d : Stmt)
    (c : Cat) (n : Str) (attrs : List Attr)
    (hs : SpellsAll rs (pre ++ d :: post))
    (hx : (c, n, attrs) ∈ declares d)
    (hnames : NamesOnce (pre ++ d :: post))
    (hbare : BareLegal (pre ++ d :: post))
    (hproc : isProc d = true → Stmt.contains ∈ pre)
    (hone : OneAccessSpec (pre ++ d :: post) attrs n)
    (hprot : hasProtected (pre ++ d :: post) attrs n = false)
    (hlate : ¬ LateDefault (pre ++ d :: post) post attrs n) :
    ∃ e ∈ (runRaw v g false rs).ents, e.cat = c ∧ e.name = n ∧
      e.perm = fortranAccess (pre ++ d :: post) attrs n := by
  rw [spelling_irrelevant v g false rs _ hs]
  exact access_correct_partial v pre post d c n attrs hx hnames hbare hproc hone hprot hlate

/-- non-vacuity of `SpellsAll`: `private` / `PUBLIC :: Grid , nlev` / `real :: grid (10, 10), NLEV(2) = 0` spells the
    canonical program, and the mechanism (variant `asIs`) reports both variables public -/
example :
    SpellsAll
      [.plain (.bare .priv), .accessR (.acc .pub) (chars! "Grid , nlev"),
       .varR (chars! "grid (10, 10), NLEV(2) = 0") []]
      [.bare .priv, .access (.acc .pub) [chars! "grid", chars! "nlev"], .var [chars! "grid", chars! "nlev"] []]
    ∧ ((runRaw asIs false false
      [.plain (.bare .priv), .accessR (.acc .pub) (chars! "Grid , nlev"),
       .varR (chars! "grid (10, 10), NLEV(2) = 0") []]).ents.map (fun e => (e.name, e.perm)))
      = [(chars! "grid", Perm.pub), (chars! "nlev", Perm.pub)] := by
  refine ⟨.cons (.plain _) (.cons ?_ (.cons ?_ .nil)), by decide +kernel⟩
  · exact Spells.access (.acc .pub) [⟨0, chars! "Grid", 1⟩, ⟨1, chars! "nlev", 0⟩] (List.cons_ne_nil _ _)
      (by decide +kernel)
  · exact Spells.var [⟨0, chars! "grid", 1, chars! "(10, 10)"⟩, ⟨1, chars! "NLEV", 0, chars! "(2) = 0"⟩] []
      (List.cons_ne_nil _ _) (by decide +kernel)

/-- **Finding (generic-spec written with other blanks; repaired in FORD by cbe48be, `g = true`).**  `private` / `public :: operator (+)` /
    `interface operator(+)`: the statement is filed under `operator (+)`, the interface looked up under
    `operator(+)`; the operator stays private (Fortran: public) and the unknown key ends in `public_list`.  With
    `g = true` (a key containing `(` loses its blanks on both sides) it is public.  The same
    spelling on both sides works either way. -/
theorem generic_spec_spelling_witness (v : Variant) :
    let prog := fun (s i : Str) => [RStmt.plain (.bare .priv), .accessR (.acc .pub) s, .genericR i [] [chars! "f"]]
    ((runRaw v false false (prog (chars! "operator (+)") (chars! "operator(+)"))).ents.map (·.perm) = [.priv])
    ∧ ((runRaw v true false (prog (chars! "operator (+)") (chars! "operator(+)"))).ents.map (·.perm) = [.pub])
    ∧ ((runRaw v false false (prog (chars! "Operator (+)") (chars! "OPERATOR (+)"))).ents.map (·.perm) = [.pub])
    ∧ fortranAccess [.bare .priv, .access (.acc .pub) [chars! "operator(+)"],
        .iface .generic (chars! "operator(+)") [] [chars! "f"]] [] (chars! "operator(+)") = .pub := by
  obtain ⟨d, early, spec⟩ := v
  revert early spec
  cases d <;> decide +kernel

/-- **Generic-specs, keying with `g = true`.**  The key under which an attribute statement files a
    generic-spec and the key under which the interface of that generic-spec is looked up coincide whenever the two
    spellings differ only in blanks and letter case. -/
theorem generic_spec_key_repaired (a b : Str) (hp : '(' ∈ a)
    (h : (lower a).filter (fun c => !isSpace c) = (lower b).filter (fun c => !isSpace c)) :
    nameKey true a = ifaceKey true b := by
  have hlp : lowerChar '(' = '(' := by decide
  have hmem : '(' ∈ (lower a).filter (fun c => !isSpace c) := by
    simp only [List.mem_filter, lower, List.mem_map]
    exact ⟨⟨'(', hp, hlp⟩, by decide⟩
  have hkey : (lower (strip a)).filter (fun c => !isSpace c) = (lower a).filter (fun c => !isSpace c) := by
    rw [filter_noSpace_lower, filter_noSpace_strip, ← filter_noSpace_lower]
  have ha : (lower (strip a)).contains '(' = true := by
    have : '(' ∈ (lower (strip a)).filter (fun c => !isSpace c) := by rw [hkey]; exact hmem
    simpa using (List.mem_filter.1 this).1
  have hb : (lower b).contains '(' = true := by
    have : '(' ∈ (lower b).filter (fun c => !isSpace c) := by rw [← h]; exact hmem
    simpa using (List.mem_filter.1 this).1
  simp only [nameKey, ifaceKey, normKey, ha, hb, Bool.and_self, if_true]
  rw [hkey, h]

/-- the measured character tables of the name keying: an entity-decl loses its blanks (and nothing else), a name ends
    at `(`, `*`, `[` (these two the theorems above use), and `paren_split` nests on exactly the two bracket pairs the
    shared model `Ford.parenSplit` has built in (`splitLevelChars`, `splitPairs`: recorded here, read by no model
    function). -/
theorem name_tables_sound :
    declDropChars = [' '] ∧ cutChars = ['(', '*', '['] ∧ splitLevelChars = ['(', ')', '[', ']']
    ∧ splitPairs = [('(', ')'), (')', '('), ('[', ']'), (']', '[')] := by
  decide +kernel

/-! ## PROTECTED + access statement, implementations of separate module procedures -/

/-- **The measured transition tables say "a recognised word overwrites".**  The translator runs the real
    `process_attribs` on an entity of every list that already has the permission `cur` and is named in a statement
    `w :: name`, for all `cur`, `w` (`itemTrans` for procedures, types, interfaces; `varTrans` for variables).
    The model's application step (`applyAttrs` on one entry) reproduces every measured triple, and the tables cover
    every pair (for the item lists: every pair whose `cur` is `public` or `private`).  A guard such as "a protected
    variable keeps its permission" changes `varTrans` and breaks this theorem. -/
theorem apply_tables_sound (n : Str) :
    (∀ x ∈ varTrans, applyAttrs (wordsFor .var) n x.1 [(n, .acc x.2.1)] = x.2.2) ∧
    (∀ c : Cat, c ≠ .var → ∀ x ∈ itemTrans, applyAttrs (wordsFor c) n x.1 [(n, .acc x.2.1)] = x.2.2) ∧
    (∀ cur w : Perm, (cur, w) ∈ varTrans.map (fun x => (x.1, x.2.1))) ∧
    (∀ cur w : Perm, cur ≠ .prot → (cur, w) ∈ itemTrans.map (fun x => (x.1, x.2.1))) := by
  refine ⟨?_, ?_, ?_, ?_⟩
  · intro x hx
    rw [applyAttrs_single]
    revert x; decide
  · intro c hc x hx
    rw [applyAttrs_single]
    have hw : wordsFor c = applyWords := by simp [wordsFor, hc]
    rw [hw]
    revert x; decide
  · intro cur w; cases cur <;> cases w <;> decide
  · intro cur w h; cases cur <;> cases w <;> first | decide | exact absurd rfl h

/-- **An explicit `private` in an access statement wins - PROTECTED or not.**  A module variable declared without an
    access-spec (its declaration may carry `protected` and anything else), named in exactly one access statement,
    `private :: n`, which is the last attribute statement naming it (`protected :: n`, `save :: n` ... may stand
    before it): FORD's mechanism reports it `private`, which is Fortran's accessibility - wherever the statements
    stand relative to the declaration, whatever the module default, in every variant.  (With the attribute
    statements in the other order the result is the known defect `C04-protected-overrides-private`.) -/
theorem private_statement_on_protected_variable (v : Variant) (pre post : List Stmt) (ns : List Str) (attrs : List Attr)
    (n : Str) (ws : List Attr) (hn : n ∈ ns)
    (hnames : NamesOnce (pre ++ .var ns attrs :: post))
    (hattr : attrs.filterMap accessWord = [])
    (hstmt : stmtWords (pre ++ .var ns attrs :: post) n = ws ++ [.acc .priv])
    (hone : ws.filterMap accessWord = []) :
    (∃ e ∈ (runUnit v false (pre ++ .var ns attrs :: post)).ents, e.cat = .var ∧ e.name = n ∧ e.perm = .priv) ∧
    fortranAccess (pre ++ .var ns attrs :: post) attrs n = .priv := by
  have hst : entriesFor n (stmtEntries (pre ++ .var ns attrs :: post)) = ws ++ [.acc .priv] :=
    stmtWords_eq _ n ▸ hstmt
  constructor
  · obtain ⟨e, he, hc, hn', hp⟩ := runUnit_declared v false pre post (.var ns attrs) .var n attrs
      (List.mem_map.2 ⟨n, hn, rfl⟩) hnames (fun h => nomatch h)
    refine ⟨e, he, hc, hn', ?_⟩
    rw [hp, hst]
    exact declPerm_last _ .priv (by decide) ws [] _ (fun _ h => nomatch h)
  · have h1 : explicitOf attrs = none := by rw [explicitOf_eq_head, hattr]; rfl
    have h2 : stmtAccess (pre ++ .var ns attrs :: post) n = some .priv := by
      rw [stmtAccess_eq, hst, explicitOf_eq_head, List.filterMap_append, hone]; rfl
    simp [fortranAccess, h1, h2]

/-- worked instances: `integer, protected :: v` + `private :: v` (either order), and `protected :: v` before
    `private :: v`: private in FORD's mechanism and in Fortran -/
example :
    ((runUnit asIs false [.var [chars! "v"] [.acc .prot], .access (.acc .priv) [chars! "v"]]).ents.map (·.perm) = [.priv]) ∧
    ((runUnit asIs false [.access (.acc .priv) [chars! "v"], .var [chars! "v"] [.acc .prot]]).ents.map (·.perm) = [.priv]) ∧
    ((runUnit asIs false [.var [chars! "v"] [], .access (.acc .prot) [chars! "v"], .access (.acc .priv) [chars! "v"]]).ents.map
      (·.perm) = [.priv]) ∧
    fortranAccess [.var [chars! "v"] [.acc .prot], .access (.acc .priv) [chars! "v"]] [.acc .prot] (chars! "v") = .priv := by
  decide +kernel

/-- **Implementations in a submodule stay private (short form).**  The body of a separate module procedure written
    `module procedure f ... end procedure` in a submodule - which cannot contain a bare access statement - is
    reported private after `correlate`, **whatever the accessibility of the interface body `f` in the ancestor
    module** (`host`, arbitrary) and whatever else the submodule declares: nothing in a submodule is accessible by
    use association.  Rests on the measured `implShortTakesIface = false` (does `correlate` hand the interface's
    permission to the implementation?) and `submoduleInit = private`. -/
theorem submodule_implementations_private (v : Variant) (g : Bool) (host : List (Str × Perm)) (xs : List XStmt)
    (h : ∀ r, XStmt.stmt r ∈ xs → ∀ q, keyed g r ≠ .bare q) :
    ∀ k ∈ (runX v g true host xs).impls, k.perm = .priv := by
  intro k hk
  simp only [runX, List.mem_map] at hk
  obtain ⟨k0, hk0, rfl⟩ := hk
  have := implsFrom_const g (init true).perm xs h k0 hk0
  simp only [takeHost, implShortTakesIface, Bool.false_eq_true, if_false]
  rw [this]; rfl

/-- **Implementations in a submodule stay private (long form)** - and so does every other entity: in a submodule
    written without access statements and attributes, every entity of its lists, the implementations
    `module subroutine f` / `module function f` among its procedures, is private after `correlate`, whatever the
    ancestor module says about `f` (`implLongTakesIface = false`). -/
theorem submodule_entities_private_after_correlate (v : Variant) (g : Bool) (host : List (Str × Perm)) (stmts : List Stmt)
    (h : AccessFree stmts) :
    ∀ e ∈ (runX v g true host ((stmts.map RStmt.plain).map XStmt.stmt)).out.ents, e.perm = .priv := by
  intro e he
  simp only [runX, xstmts_map_stmt, runRaw, map_keyed_plain, List.mem_map] at he
  obtain ⟨e0, he0, rfl⟩ := he
  have h0 := submodule_entities_private v stmts h e0 he0
  unfold hostEnt
  split
  · simp only [takeHost, implLongTakesIface, Bool.false_eq_true, if_false]; exact h0
  · exact h0

/-- non-vacuity: interface `f` public in the ancestor module, a submodule with a variable, the long-form
    implementation `g` and the short-form implementation `f`: all private -/
example :
    ((runX asIs false true [(chars! "f", .pub), (chars! "g", .pub)]
        [.stmt (.plain (.var [chars! "v"] [])), .stmt (.plain .contains), .impl (chars! "f"),
         .stmt (.plain (.proc false (chars! "g")))]).impls = [⟨chars! "f", .priv⟩]) ∧
    ((runX asIs false true [(chars! "f", .pub), (chars! "g", .pub)]
        [.stmt (.plain (.var [chars! "v"] [])), .stmt (.plain .contains), .impl (chars! "f"),
         .stmt (.plain (.proc false (chars! "g")))]).out.ents.map (fun e => (e.name, e.perm))
      = [(chars! "v", .priv), (chars! "g", .priv)]) := by
  decide +kernel

/-- the measured truth table of `correlate`'s metadata step: neither form of implementation takes the accessibility
    of its interface -/
theorem implementation_tables_sound : implShortTakesIface = false ∧ implLongTakesIface = false := by
  decide +kernel

/-! ### the body of a separate module procedure in the module of its own interface -/

/-- **One entity, one accessibility (long form).**  The body of a separate module procedure may stand in the
    module that declares its interface body; FORD then keeps two objects for the one entity: the interface entry
    (`interface ... module subroutine n ... end interface`, in `interfaces`) and the procedure `module subroutine n`
    / `module function n` (in `subroutines` / `functions`).  With the deletion order `afterLoop`
    (in FORD since bbe7689: an `attr_dict` entry outlives the first entity of its name), for **every** module
    `pre ++ [body of n] ++ post` whose specification part declares `n` in a plain interface block and whose
    access statements give `n` exactly one access word `q` - wherever the statement stands, whatever the module
    default is, whatever else is declared -: when `process_attribs` returns, the body and the interface entry both
    report `q`, and `q` is what Fortran says (`fortranAccess`).  A guard that keeps the attribute statements away
    from procedures with the MODULE prefix contradicts this theorem (and changes the measured `sepBodyTrans`). -/
theorem own_module_body_access_statement (early spec : Bool) (stmts : List Stmt) (n : Str) (f : Bool)
    (nm : Str) (ps rs : List Str) (q : Perm) (pre post : List Stmt)
    (hS : stmts = pre ++ .proc f n :: post) (hc : Stmt.contains ∈ pre)
    (hI : Stmt.iface .plain nm ps rs ∈ stmts) (hn : n ∈ ps)
    (hstmt : (entriesFor n (stmtEntries stmts)).filterMap accessWord = [q])
    (hprot : Attr.acc .prot ∉ entriesFor n (stmtEntries stmts)) :
    (∃ b ∈ (runUnit ⟨.afterLoop, early, spec⟩ false stmts).attr, ∃ i ∈ (runUnit ⟨.afterLoop, early, spec⟩ false stmts).attr,
      b.cat = (if f then .func else .sub) ∧ b.name = n ∧ i.cat = .iface ∧ i.wrapper = true ∧ i.name = n ∧
      b.perm = q ∧ i.perm = q) ∧ fortranAccess stmts [] n = q := by
  refine ⟨?_, fortranAccess_one stmts n q hstmt hprot⟩
  obtain ⟨pg, ig, hGm⟩ := mem_entsFrom stmts (init false).perm false _ hI
  obtain ⟨g0, hg0, hgc, hgw, hgn⟩ : ∃ e0 ∈ mkEnts pg pg ig (.iface .plain nm ps rs),
      e0.cat = .iface ∧ e0.wrapper = true ∧ e0.name = n :=
    ⟨_, List.mem_map.2 ⟨n, hn, rfl⟩, rfl, rfl, rfl⟩
  obtain ⟨t0, ht0, htc, htn⟩ := proc_mem_entsFrom pre post f n (init false).perm hc
  rw [← hS] at ht0
  obtain ⟨t, ht, ht1, ht2, _, ht3⟩ :=
    afterLoop_same_name early spec false stmts n q hstmt hprot t0 ht0 (by rw [htc]; cases f <;> decide) htn
  obtain ⟨g, hg, hg1, hg2, hg4, hg3⟩ :=
    afterLoop_same_name early spec false stmts n q hstmt hprot g0 (hGm _ hg0) (by rw [hgc]; decide) hgn
  exact ⟨t, ht, g, hg, ht1.trans htc, ht2, hg1.trans hgc, hg4.trans hgw, hg2, ht3, hg3⟩

/-- worked instance (non-vacuity): default-private module, `public :: solve`, interface bodies `solve` and `setup`,
    both bodies in the module: `solve` public on both objects, `setup` private on both, and the module hands
    exactly `solve` to its users -/
example :
    (let o := runUnit ⟨.afterLoop, true, true⟩ false
        [.bare .priv, .access (.acc .pub) [chars! "solve"], .iface .plain [] [chars! "solve", chars! "setup"] [],
         .contains, .proc false (chars! "solve"), .proc false (chars! "setup")]
     (o.ents.map (fun e => (e.cat, e.name, e.perm)), o.exports))
    = ([(.iface, chars! "solve", .pub), (.iface, chars! "setup", .priv), (.sub, chars! "solve", .pub),
        (.sub, chars! "setup", .priv)], [(.procs, chars! "solve")]) := by
  decide +kernel

/-- **Why the deletion order matters here.**  With `perEntity` the procedure -
    first in `process_attribs`' order - takes the statement and deletes it: the interface entry of the same entity
    keeps the module default, and, being the later entry of `all_procs`, keeps the public procedure out of
    `pub_procs`.  With `afterLoop` both are public and the procedure is exported.  Fortran: public. -/
theorem own_module_body_deletion_order_witness :
    let prog : List Stmt := [.bare .priv, .access (.acc .pub) [chars! "f"], .iface .plain [] [chars! "f"] [],
      .contains, .proc false (chars! "f")]
    ((runUnit asIs false prog).ents.map (fun e => (e.cat, e.perm)) = [(.iface, .priv), (.sub, .pub)]) ∧
    (runUnit asIs false prog).exports = [] ∧
    ((runUnit ⟨.afterLoop, false, false⟩ false prog).ents.map (fun e => (e.cat, e.perm)) = [(.iface, .pub), (.sub, .pub)]) ∧
    (runUnit ⟨.afterLoop, false, false⟩ false prog).exports = [(.procs, chars! "f")] ∧
    fortranAccess prog [] (chars! "f") = .pub := by
  decide +kernel

/-- **Finding (short-form body in the module of its interface; repaired in FORD by 29840eb, `implAttr`).**  `private` / `public :: f` /
    `interface; module subroutine f` / `contains` / `module procedure f`: the body (`modprocedures`, a list
    `process_attribs` never walks) keeps the module default `private` although the entity is public, while the
    interface entry is public; the other way round for `private :: f` in a default-public module.  With
    `implAttr` (fixes/C04-own-module-short-body.diff) the body takes the statement's word. -/
theorem own_module_short_body_witness (v : Variant) (g : Bool) :
    let prog (d w : Perm) : List XStmt :=
      [.stmt (.plain (.bare d)), .stmt (.plain (.access (.acc w) [chars! "f"])),
       .stmt (.plain (.iface .plain [] [chars! "f"] [])), .stmt (.plain .contains), .impl (chars! "f")]
    (runXI v g false false [] (prog .priv .pub)).impls = [⟨chars! "f", .priv⟩] ∧
    (runXI v g false false [] (prog .pub .priv)).impls = [⟨chars! "f", .pub⟩] ∧
    (runXI v g false true [] (prog .priv .pub)).impls = [⟨chars! "f", .pub⟩] ∧
    (runXI v g false true [] (prog .pub .priv)).impls = [⟨chars! "f", .priv⟩] ∧
    ((runXI v g false false [] (prog .priv .pub)).out.ents.map (fun e => (e.cat, e.perm)) = [(.iface, .pub)]) ∧
    fortranAccess [.bare .priv, .access (.acc .pub) [chars! "f"], .iface .plain [] [chars! "f"] [], .contains] []
      (chars! "f") = .pub := by
  obtain ⟨d, early, spec⟩ := v
  revert early spec g
  cases d <;> decide +kernel

/-- **Short-form body with `implAttr`.**  With the loop over `modprocedures` (`implAttr`), for every module (any variant,
    any host, any other statements, the body anywhere in the procedure part): a short-form body `n` whose name the
    attribute statements of the module give exactly one access word `q` reports `q` after `correlate` - the
    accessibility of the entity, the same as its interface entry by `own_module_body_access_statement`'s argument.
    Rests on the measured `implShortTakesIface = false` (correlate leaves the permission alone). -/
theorem own_module_short_body_repaired (v : Variant) (g : Bool) (host : List (Str × Perm)) (xs : List XStmt)
    (n : Str) (q : Perm) (hi : XStmt.impl n ∈ xs)
    (hstmt : (entriesFor n (attrsOf g false xs)).filterMap accessWord = [q])
    (hprot : Attr.acc .prot ∉ entriesFor n (attrsOf g false xs)) :
    ∃ k ∈ (runXI v g false true host xs).impls, k.name = n ∧ k.perm = q := by
  obtain ⟨k0, hk0, hn0⟩ := implsFrom_mem g n xs (init false).perm hi
  refine ⟨⟨n, q⟩, ?_, rfl, rfl⟩
  simp only [runXI, List.mem_map]
  refine ⟨implUpd true (attrsOf g false xs) k0, ⟨k0, hk0, rfl⟩, ?_⟩
  simp only [implUpd, if_true, takeHost, implShortTakesIface, Bool.false_eq_true, if_false, hn0]
  rw [applyAttrs_one n _ _ q hstmt hprot]

/-- **The measured tables of the own-module bodies say what the theorems above use.**  The translator parses, with the
    code under test, a module `[private] / w :: e1, e2 / interface bodies e1, e2 / contains / module subroutine e1 /
    module procedure e2` for every default and access word and records the permission of each object after
    `process_attribs`.  Long-form body and interface entries: the model's application step reproduces every triple
    ("a recognised word overwrites"), every pair default x word is covered.  Short-form body: either nothing reaches
    it (the finding repaired by 29840eb) or the application step as well (the tables measured on FORD since then). -/
theorem own_module_body_tables_sound (n : Str) :
    (∀ x ∈ sepBodyTrans, applyAttrs applyWords n x.1 [(n, .acc x.2.1)] = x.2.2) ∧
    (∀ x ∈ sepIfaceTrans, applyAttrs applyWords n x.1 [(n, .acc x.2.1)] = x.2.2) ∧
    (∀ cur w : Perm, cur ≠ .prot → (cur, w) ∈ sepBodyTrans.map (fun x => (x.1, x.2.1))) ∧
    (∀ cur w : Perm, cur ≠ .prot → (cur, w) ∈ sepShortTrans.map (fun x => (x.1, x.2.1))) ∧
    ((∀ x ∈ sepShortTrans, x.2.2 = x.1) ∨
     (∀ x ∈ sepShortTrans, applyAttrs applyWords n x.1 [(n, .acc x.2.1)] = x.2.2)) := by
  refine ⟨?_, ?_, ?_, ?_, ?_⟩
  · intro x hx; rw [applyAttrs_single]; revert x; decide
  · intro x hx; rw [applyAttrs_single]; revert x; decide
  · intro cur w h; cases cur <;> cases w <;> first | decide | exact absurd rfl h
  · intro cur w h; cases cur <;> cases w <;> first | decide | exact absurd rfl h
  · first
    | (left; decide)
    | (right; intro x hx; rw [applyAttrs_single]; revert x; decide)

/-! ### the visibility words on the generated module page -/

/-- **The measured table of the page templates**: at every kind of place of the module page where a visibility word
    stands - variable row, type heading, component row, binding row, generic-interface heading, procedure listed
    under a generic interface (declared or referenced), procedure of a non-generic / abstract interface entry,
    function / subroutine / module-procedure heading - the template prints the `permission` of **the entity itself**
    (token probe of the translator on the real `mod_page.html`).  A template that prints the generic's visibility in
    front of its specific procedures, or drops the word for one kind, changes `pageSrc` and breaks this theorem. -/
theorem page_tables_sound : ∀ k : PKind, srcOf k = .own := by
  intro k; cases k <;> decide

/-- **What the module page prints is the entity's permission.**  For every unit result (any variant, any program):
    every entity of the unit has its line on the page with its own permission as the visibility word; so has every
    component and binding of every type, every procedure declared by an interface body of a generic interface, and
    every `module procedure` body; and a `module procedure r` reference is printed with the permission of the
    module procedure `r`. -/
theorem module_page_shows_own_permission (unit : Perm) (o : XOut) :
    (∀ e ∈ o.out.ents, ∃ l ∈ pageView unit o, l.owner = [] ∧ l.name = e.name ∧ l.shown = some e.perm) ∧
    (∀ e ∈ o.out.ents, e.cat = .type → (∀ k ∈ e.comps, ⟨.comp, e.name, k.name, some k.perm⟩ ∈ pageView unit o) ∧
      (∀ k ∈ e.binds, ⟨.bind, e.name, k.name, some k.perm⟩ ∈ pageView unit o)) ∧
    (∀ e ∈ o.out.ents, e.cat = .iface → e.wrapper = false →
      (∀ k ∈ e.procs, ⟨.member, e.name, k.name, some k.perm⟩ ∈ pageView unit o) ∧
      (∀ r ∈ e.refs, ∀ p, procPerm o.out.ents r.name = some p → ⟨.ref, e.name, r.name, some p⟩ ∈ pageView unit o)) ∧
    (∀ k ∈ o.impls, ⟨.mproc, [], k.name, some k.perm⟩ ∈ pageView unit o) := by
  have hs : ∀ (k : PKind) (a b : Perm), shownPerm k a b = some a := by
    intro k a b; simp [shownPerm, page_tables_sound k]
  have hin : ∀ e ∈ o.out.ents, ∀ l ∈ entLines unit o.out.ents e, l ∈ pageView unit o := by
    intro e he l hl
    exact List.mem_append_left _ (List.mem_flatMap.2 ⟨e, he, hl⟩)
  refine ⟨?_, ?_, ?_, ?_⟩
  · intro e he
    -- every branch of `entLines` starts with the entity's own line
    have h1 : ∃ k, (⟨k, [], e.name, shownPerm k e.perm unit⟩ : PLine) ∈ entLines unit o.out.ents e := by
      cases hc : e.cat with
      | var => exact ⟨.var, by simp only [entLines, hc, List.mem_singleton]⟩
      | type => exact ⟨.type, by simp only [entLines, hc, List.mem_cons, true_or]⟩
      | iface =>
        cases hw : e.wrapper with
        | true => exact ⟨.wrapper, by simp only [entLines, hc, hw, if_true, List.mem_singleton]⟩
        | false => exact ⟨.generic, by simp only [entLines, hc, hw, Bool.false_eq_true, if_false, List.mem_cons, true_or]⟩
      | absIface => exact ⟨.absIface, by simp only [entLines, hc, List.mem_singleton]⟩
      | func => exact ⟨.func, by simp only [entLines, hc, List.mem_singleton]⟩
      | sub => exact ⟨.sub, by simp only [entLines, hc, List.mem_singleton]⟩
    obtain ⟨k, hk⟩ := h1
    exact ⟨_, hin e he _ hk, rfl, rfl, hs k _ _⟩
  · intro e he hc
    refine ⟨fun k hk => hin e he _ ?_, fun k hk => hin e he _ ?_⟩
    · simp only [entLines, hc, List.mem_cons, List.mem_append, List.mem_map]
      exact Or.inr (Or.inl ⟨k, hk, by simp [hs]⟩)
    · simp only [entLines, hc, List.mem_cons, List.mem_append, List.mem_map]
      exact Or.inr (Or.inr ⟨k, hk, by simp [hs]⟩)
  · intro e he hc hw
    refine ⟨fun k hk => hin e he _ ?_, fun r hr p hp => hin e he _ ?_⟩
    · simp only [entLines, hc, hw, Bool.false_eq_true, if_false, List.mem_cons, List.mem_append, List.mem_map]
      exact Or.inr (Or.inl ⟨k, hk, by simp [hs]⟩)
    · simp only [entLines, hc, hw, Bool.false_eq_true, if_false, List.mem_cons, List.mem_append, List.mem_filterMap]
      exact Or.inr (Or.inr ⟨r, hr, by simp [hp, hs]⟩)
  · intro k hk
    exact List.mem_append_right _ (List.mem_map.2 ⟨k, hk, by simp [hs]⟩)

/-- **The module page shows Fortran's accessibility** (`access_correct_partial` carried to the second observation
    point).  For every module `pre ++ d :: post` (written in abstract statements, no host, any variant, either value of
    `implAttr`) and every entity `(c, n, attrs)` that `d` declares, under the hypotheses of `access_correct_partial`
    (legal program, no PROTECTED, not in the class of the late-`private` defect): the page has a line for `n`, listed
    by the module itself, whose visibility word is `fortranAccess`. -/
theorem module_page_shows_fortran_access_partial (v : Variant) (g ia : Bool) (pre post : List Stmt) (d : Stmt) (c : Cat)
    (n : Str) (attrs : List Attr)
    (hx : (c, n, attrs) ∈ declares d)
    (hnames : NamesOnce (pre ++ d :: post))
    (hbare : BareLegal (pre ++ d :: post))
    (hproc : isProc d = true → Stmt.contains ∈ pre)
    (hone : OneAccessSpec (pre ++ d :: post) attrs n)
    (hprot : hasProtected (pre ++ d :: post) attrs n = false)
    (hlate : ¬ LateDefault (pre ++ d :: post) post attrs n) (unit : Perm) :
    ∃ l ∈ pageView unit (runXI v g false ia [] (((pre ++ d :: post).map RStmt.plain).map XStmt.stmt)),
      l.owner = [] ∧ l.name = n ∧ l.shown = some (fortranAccess (pre ++ d :: post) attrs n) := by
  obtain ⟨e, he, _, hn, hp⟩ := access_correct_partial v pre post d c n attrs hx hnames hbare hproc hone hprot hlate
  have hents : (runXI v g false ia [] (((pre ++ d :: post).map RStmt.plain).map XStmt.stmt)).out.ents
      = (runUnit v false (pre ++ d :: post)).ents := by
    simp only [runXI, runX, xstmts_map_stmt, runRaw, map_keyed_plain]
    conv => rhs; rw [← List.map_id (runUnit v false (pre ++ d :: post)).ents]
    apply List.map_congr_left
    intro x _
    unfold hostEnt
    split
    · simp [takeHost, implLongTakesIface]
    · rfl
  obtain ⟨l, hl, ho, hln, hs⟩ := (module_page_shows_own_permission unit
    (runXI v g false ia [] (((pre ++ d :: post).map RStmt.plain).map XStmt.stmt))).1 e (by rw [hents]; exact he)
  exact ⟨l, hl, ho, by rw [hln, hn], by rw [hs, hp]⟩

/-- non-vacuity / worked instance: the page of `private` / `public :: v, g` / `integer :: v, w` / `interface g` with the
    interface body `x` and the reference `s` / `contains` / `subroutine s`: the lines and their words -/
example :
    pageView .priv (runXI ⟨.afterLoop, true, true⟩ false false false []
      [.stmt (.plain (.bare .priv)), .stmt (.plain (.access (.acc .pub) [chars! "v", chars! "g"])),
       .stmt (.plain (.var [chars! "v", chars! "w"] [])),
       .stmt (.plain (.iface .generic (chars! "g") [chars! "x"] [chars! "s"])),
       .stmt (.plain .contains), .stmt (.plain (.proc false (chars! "s")))])
    = [⟨.var, [], chars! "v", some .pub⟩, ⟨.var, [], chars! "w", some .priv⟩, ⟨.generic, [], chars! "g", some .pub⟩,
       ⟨.member, chars! "g", chars! "x", some .priv⟩, ⟨.ref, chars! "g", chars! "s", some .priv⟩,
       ⟨.sub, [], chars! "s", some .priv⟩] := by
  decide +kernel

end Ford.C04
