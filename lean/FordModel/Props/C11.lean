/-
  C11 - `[[name(kind):item(kind)]]` references link to the entity the documented
  rules select.  Property theorems only; the mechanism is FordModel/Links.lean
  (mirrors ford/_markdown.py convert_link, sourceform.py find_child/children/get_url,
  fortran_project.py Project.find), the documented lookup is FordModel/LinksSpec.lean,
  helper lemmas are in FordModel/Lemmas/Links.lean, LinkPath.lean, LinkSites.lean, LinkSyntax.lean and
  LinkWarn.lean (two about code spans are in FordModel/InlineOrder.lean).
  The tables LINK_TYPES, SUBLINK_TYPES, the `children` attribute order and the class
  tuples of get_dir/get_url are regenerated from the source on every run
  (FordModel/Generated/C11.lean).
-/
import FordModel.Links
import FordModel.LinksSpec
import FordModel.Lemmas.Links
import FordModel.Lemmas.LinkPath
import FordModel.Lemmas.LinkSites
import FordModel.LinkSyntax
import FordModel.Lemmas.LinkSyntax
import FordModel.LinkWarn
import FordModel.Lemmas.LinkWarn
import FordModel.InlineOrder
namespace Ford.C11
open Ford Ford.Links

/-! ### The kind qualifiers (tables regenerated from the source and the user guide) -/

/-- Every kind name the user guide documents for the *component* part
    (writing_documentation.rst, extracted on every run) is a key of LINK_TYPES. -/
theorem documented_component_kinds_known :
    Generated.C11.docComponentKinds.all (fun k => (Generated.C11.linkTypes.lookup k).isSome) = true := by decide +kernel

/-- Every kind name the user guide documents for the *item* part is a key of SUBLINK_TYPES. -/
theorem documented_item_kinds_known :
    Generated.C11.docItemKinds.all (fun k => (Generated.C11.sublinkTypes.lookup k).isSome) = true := by decide +kernel

/-- The documented synonyms designate the same collection: "procedure", "proc", "subroutine",
    "function" all mean the project's procedures; "interface" and "absinterface" the abstract
    interfaces; and every `ext` spelling of a documented component kind that exists maps to an
    `ext*` collection. -/
theorem documented_synonyms_agree :
    (["procedure", "proc", "subroutine", "function"].map (fun k => List.lookup k Generated.C11.linkTypes)).all
      (· == some "procedures") = true ∧
    (["interface", "absinterface"].map (fun k => List.lookup k Generated.C11.linkTypes)).all
      (· == some "absinterfaces") = true ∧
    (Generated.C11.linkTypes.filter (fun kv => kv.1.toList.take 3 == ['e', 'x', 't'])).all
      (fun kv => kv.2.toList.take 3 == ['e', 'x', 't']) = true := by
  decide +kernel

/-- Which candidate wins project-wide when a name exists in several collections and no kind is
    given: the collections are searched in this order (dict order of LINK_TYPES, first occurrence). -/
theorem project_search_order :
    (Generated.C11.linkTypes.map (·.2)).eraseDups =
      ["modules", "submodules", "extModules", "types", "extTypes", "procedures", "extProcedures",
       "allfiles", "absinterfaces", "extInterfaces", "programs", "blockdata", "namelists"] := by decide +kernel

/-- Within one entity an unqualified name is searched in this attribute order (the tuple inside
    `FortranBase.children`), then in the three single-object attributes. -/
theorem children_search_order :
    Generated.C11.childrenOrder =
      ["absinterfaces", "args", "blockdata", "bindings", "boundprocs", "common", "enums", "functions",
       "modprocedures", "modules", "namelists", "programs", "submodules", "subroutines", "types",
       "variables", "interfaces", "finalprocs"] ∧
    Generated.C11.nonListChildren = ["constructor", "procedure", "retvar"] := ⟨rfl, rfl⟩

/-- The model's `getDir` knows every `get_dir` override present in the source: each entity class
    inherits `get_dir` from one of the four classes the model distinguishes. -/
theorem getDir_overrides_modelled :
    Generated.C11.getDirOwner.all (fun kv =>
      ["FortranBase", "FortranSubmodule", "FortranProcedure", "FortranInterface"].contains kv.2) = true := by decide +kernel

/-- **The project file's text is converted where the base URL points** (`ford.main`, read from the
    source on every run): the `path=` given to the conversion of the project file's text is the very
    setting the Markdown object gets as `base_url`, so that `url_correct_from_page_below_base` (with
    `d = []`, the front page) applies to it - also when `project_url` differs from `output_dir`. -/
theorem project_file_converted_at_base_url :
    Generated.C11.projDocsPath = Generated.C11.mdBaseUrl := rfl

/-- The conversion sites of the context-free texts (`ford.main`: project file, summary,
    `get_page_tree`'s root; `PageNode.__init__`: `<root> / "page" / ...`) use only settings the
    harness and the model know; `"none"` = no `path=` at all (finding C11-context-without-url). -/
theorem conversion_sites_modelled :
    ["proj_data.project_url", "proj_data.output_dir"].contains Generated.C11.mdBaseUrl = true ∧
    ["proj_data.project_url", "proj_data.output_dir"].contains Generated.C11.projDocsPath = true ∧
    ["proj_data.project_url", "proj_data.output_dir", "none"].contains Generated.C11.summaryPath = true ∧
    ["proj_data.project_url", "proj_data.output_dir"].contains Generated.C11.pageTreeRoot = true ∧
    ["output_dir", "self.base_url", "md.base_url"].contains Generated.C11.pagePathRoot = true := by decide +kernel

/-- **Lookup order.**  For all projects, contexts and references: `convert_link`'s cascade
    (find_child in the context under `suppress(ValueError)`, then in the context's parent, the item
    part inside the hit, `Project.find`, the parent-only fall-back) computes exactly the documented
    first-match lookup `lookupSpec` - own contents, then the parent's, then the whole project, the
    item resolved inside the nearest component - *provided no Python exception is due*:
    `hK`/`hC` no qualifier names a single-object attribute (`constructor`), `hP` the component
    kind is one LINK_TYPES knows (true for every documented one, `documented_component_kinds_known`),
    `hH` the item kind is one the component hit can hold.  The excluded classes are genuine
    defects of the code (the witnesses below). -/
theorem lookup_order_partial (P : Project) (ctx : Option Nat) (r : Ref)
    (hK : ∀ e ∈ P.ents, raisesTypeError e r.kind = false)
    (hC : ∀ e ∈ P.ents, raisesTypeError e r.childKind = false)
    (hP : knownComponentKind r.kind = true)
    (hH : ∀ id e, P.get id = some e →
        (findInList P r.name (localCandidates P ctx r.kind) = some id ∨
         findInList P r.name (projItems P r.kind) = some id) → canHold e r.childKind = true) :
    lookup P ctx r = .ok (lookupSpec P ctx r) := by
  have hpf := projectFind_eq P r.name r.kind r.child r.childKind hP hC (fun id e he h => hH id e he (Or.inr h))
  -- the parent-only fall-back is the same search without item part
  have hpp := projectFind_eq P r.name r.kind none none hP (fun _ _ => rfl) (fun _ _ _ _ => rfl)
  unfold lookup lookupSpec
  simp only []
  rw [hpf, hpp]
  -- every level now is `.ok` of an option: what is left is that the nested matches of the cascade are
  -- `orElse'`, checked on the values (`none`/`some`) of the options involved
  cases hcb : ctx.bind P.get with
  | none =>
    -- no context: only the project is searched
    have hl : localCandidates P ctx r.kind = [] := by simp [localCandidates, hcb]
    simp only [hl, findInList_nil]
    cases hch : r.child with
    | none =>
      simp only
      cases findInList P r.name (projItems P r.kind) <;> simp [orElse']
    | some ch =>
      simp only
      cases childIn P (findInList P r.name (projItems P r.kind)) ch r.childKind <;>
        cases findInList P r.name (projItems P r.kind) <;> simp [orElse', childIn]
  | some c =>
    -- a context: its own and its parent's contents come first
    simp only
    rw [localLookup_eq P ctx c r hcb hK hC (fun id e he h => hH id e he (Or.inl h))]
    cases hch : r.child with
    | none =>
      simp only
      cases findInList P r.name (localCandidates P ctx r.kind) <;>
        cases findInList P r.name (projItems P r.kind) <;> simp [orElse']
    | some ch =>
      simp only
      cases childIn P (findInList P r.name (localCandidates P ctx r.kind)) ch r.childKind <;>
        cases childIn P (findInList P r.name (projItems P r.kind)) ch r.childKind <;>
        cases findInList P r.name (projItems P r.kind) <;> simp [orElse']

/-- Full strength for bare references `[[name]]`: no hypothesis at all. The result is the first
    entity of that name in (children of the context ++ children of its parent ++ every project
    collection in LINK_TYPES order). -/
theorem lookup_order_bare (P : Project) (ctx : Option Nat) (n : Str) :
    lookup P ctx { name := n } =
      .ok (findInList P n (localCandidates P ctx none ++ projItems P none)) := by
  rw [lookup_order_partial P ctx { name := n } (fun _ _ => rfl) (fun _ _ => rfl) rfl (fun _ _ _ _ => rfl)]
  simp [lookupSpec, findInList_append]

/-- Which candidate wins when the name exists at several levels: one in the documented entity's
    own contents beats everything in the parent and in the project. -/
theorem own_contents_win (P : Project) (i : Nat) (c : Ent) (n : Str) (id : Nat)
    (hc : P.get i = some c) (h : findInList P n (children c) = some id) :
    lookup P (some i) { name := n } = .ok (some id) := by
  rw [lookup_order_bare]
  rw [localCandidates_some P (some i) c none hc]
  simp [findInList_append, itemsOf, h, orElse']

/-- ... and one in the parent's contents beats the project-wide one when the context itself has none. -/
theorem parent_contents_win (P : Project) (i j : Nat) (c p : Ent) (n : Str) (id : Nat)
    (hc : P.get i = some c) (hpar : c.parent = some j) (hp : P.get j = some p)
    (h0 : findInList P n (children c) = none) (h : findInList P n (children p) = some id) :
    lookup P (some i) { name := n } = .ok (some id) := by
  rw [lookup_order_bare]
  rw [localCandidates_some P (some i) c none hc]
  simp [findInList_append, itemsOf, h0, h, hpar, hp, orElse']

/-- **No kind of entity is exempt from the lookup order.**  The lookup reads names, attributes,
    parents and collections only: replacing the classes / `obj` / identifiers of all entities (`f`
    arbitrary) never changes which entity a reference selects.  In particular the parent step is
    taken whatever the parent is - a source file (program units and external procedures of the same
    file), a module, a type, a procedure. -/
theorem lookup_ignores_entity_classes (f : List Anc → List Anc) (P : Project) (ctx : Option Nat) (r : Ref) :
    lookup (reclass f P) ctx r = lookup P ctx r := by
  unfold lookup
  simp only [reclass_bind_get, reclass_projectFind]
  cases ctx.bind P.get with
  | none => rfl
  | some c => simp only [Option.map_some, reclass_localLookup]

/-- ... so the parent's contents win over every project-wide namesake for parents of every class. -/
theorem parent_contents_win_for_every_parent_class (f : List Anc → List Anc) (P : Project) (i j : Nat)
    (c p : Ent) (n : Str) (id : Nat)
    (hc : P.get i = some c) (hpar : c.parent = some j) (hp : P.get j = some p)
    (h0 : findInList P n (children c) = none) (h : findInList P n (children p) = some id) :
    lookup (reclass f P) (some i) { name := n } = .ok (some id) := by
  rw [lookup_ignores_entity_classes]
  exact parent_contents_win P i j c p n id hc hpar hp h0 h

/-- **Qualifier honoured** (component part): when `[[name(kind)]]` yields a link, the target is an
    element of the collection the kind designates - the SUBLINK_TYPES list of the context or of its
    parent, or the LINK_TYPES collection of the project - never something of another kind. -/
theorem qualifier_honoured (P : Project) (ctx : Option Nat) (n k : Str) (id : Nat)
    (hK : ∀ e ∈ P.ents, raisesTypeError e (some k) = false)
    (hP : knownComponentKind (some k) = true)
    (h : lookup P ctx { name := n, kind := some k } = .ok (some id)) :
    Item.ent id ∈ localCandidates P ctx (some k) ∨ Item.ent id ∈ projItems P (some k) := by
  rw [lookup_order_partial P ctx { name := n, kind := some k } hK (fun _ _ => rfl) hP (fun _ _ _ _ => rfl)] at h
  simp only [lookupSpec, Except.ok.injEq] at h
  cases h1 : findInList P n (localCandidates P ctx (some k)) with
  | some i =>
    simp only [h1, orElse', Option.some.injEq] at h
    subst h
    exact Or.inl (findInList_mem P n _ i h1).1
  | none =>
    simp only [h1, orElse'] at h
    exact Or.inr (findInList_mem P n _ id h).1

/-- **Qualifier honoured** (item part): the item of `[[comp:item(kind)]]` is taken from the list the
    item kind designates inside the component that was hit. -/
theorem item_qualifier_honoured (P : Project) (e : Ent) (n k : Str) (id : Nat)
    (h : findChild P e n (some k) = .ok (some id)) :
    Item.ent id ∈ itemsOf e (some k) :=
  (findInList_mem P n _ id (findChild_some P e n (some k) id h)).1

/-- Whatever is linked is (a) an element of a collection the site is built from and (b) carries,
    case-insensitively, the component name or the item name that was written - for every project,
    context and reference, no hypothesis. -/
theorem linked_entity_is_listed_and_named (P : Project) (ctx : Option Nat) (r : Ref) (id : Nat)
    (h : lookup P ctx r = .ok (some id)) :
    Listed P id ∧ (nameMatches P r.name id = true ∨ ∃ ch, r.child = some ch ∧ nameMatches P ch id = true) :=
  lookup_listed P ctx r id h

/-- **Absent is text.**  If no listed entity carries the component name, the reference is rendered
    as plain text (the name as written) from every context and for every spelling. -/
theorem absent_is_text (env : Env) (P : Project) (ctx : Option Nat) (path : Option Path) (r : Ref)
    (hK : ∀ e ∈ P.ents, raisesTypeError e r.kind = false)
    (hC : ∀ e ∈ P.ents, raisesTypeError e r.childKind = false)
    (hP : knownComponentKind r.kind = true)
    (habs : ∀ id, nameMatches P r.name id = false) :
    convertLink env P ctx path r = .text r.name := by
  have h1 : ∀ l, findInList P r.name l = none := fun l => findInList_none_of_no_match P r.name l (fun id _ => habs id)
  have := lookup_order_partial P ctx r hK hC hP (by intro id e _ h; rcases h with h | h <;> simp [h1] at h)
  simp [convertLink, this, lookupSpec, h1, orElse', childIn]
  cases r.child <;> simp

/-- ... and without any hypothesis on the qualifiers (whatever exceptions the kinds may cause) a
    reference none of whose names is carried by an entity is never a link. -/
theorem absent_never_links (env : Env) (P : Project) (ctx : Option Nat) (path : Option Path) (r : Ref)
    (habs : ∀ id, nameMatches P r.name id = false)
    (habs2 : ∀ ch, r.child = some ch → ∀ id, nameMatches P ch id = false) (t h : Str) :
    convertLink env P ctx path r ≠ .link t h := by
  intro hc
  unfold convertLink at hc
  split at hc
  · cases hc
  · cases hc
  · rename_i id hl
    obtain ⟨_, hn⟩ := lookup_listed P ctx r id hl
    rcases hn with hn | ⟨ch, hch, hn⟩
    · simp [habs id] at hn
    · simp [habs2 ch hch id] at hn

/-- **Hidden is text.**  `prune` removes the entities that are not displayed from every collection;
    after it no reference, from any context, in any spelling, links to one of them. -/
theorem hidden_is_never_linked (keep : Nat → Bool) (P : Project) (ctx : Option Nat) (r : Ref) (id : Nat)
    (h : lookup (prune keep P) ctx r = .ok (some id)) : keep id = true :=
  listed_prune keep P id (lookup_listed (prune keep P) ctx r id h).1

/-- The lookup is case-insensitive in both names: it depends on them only through `lower`. -/
theorem lookup_case_insensitive (P : Project) (n n' : Str) (l : List Item) (h : lower n = lower n') :
    findInList P n l = findInList P n' l := by
  have hm : ∀ id, nameMatches P n id = nameMatches P n' id := by
    intro id; unfold nameMatches; rw [h]
  induction l with
  | nil => rfl
  | cons x xs ih =>
    cases x with
    | other => simpa [findInList] using ih
    | ent id => simp only [findInList, hm id, ih]

/-! ### How a reference is recognised in a text (the pattern `LINK_RE` and the inline loop) -/

/-- **The pattern the tokenizer mirrors is the pattern of the source** (`FordLinkProcessor.LINK_RE`,
    parsed with Python's regex parser and dumped canonically on every run): `[[`, the `name` group =
    one or more `\w` followed by the separator tail described by `linkNameSeps` / `linkNameMany`, an
    optional `(\w+)`, an optional `:\w+` with its own optional `(\w+)`, `]]`; matched under
    `re.UNICODE` without IGNORECASE/ASCII/DOTALL; the groups carry the parameter names of
    `Project.find`, which receives them as `**m.groupdict()`; the inline processor hands this very
    pattern to Markdown and replaces exactly the matched span. -/
theorem link_pattern_modelled :
    Generated.C11.linkRe =
      ["seq(lit([)", "lit([)",
       "group:name[0,0](seq(max_repeat(1,inf,seq(in[category_word]))", "NAMETAIL(None)))",
       "max_repeat(0,1,seq(lit(()", "group:entity[0,0](seq(max_repeat(1,inf,seq(in[category_word]))))", "lit())))",
       "max_repeat(0,1,seq(lit(:)", "group:child_name[0,0](seq(max_repeat(1,inf,seq(in[category_word]))))",
       "max_repeat(0,1,seq(lit(()", "group:child_entity[0,0](seq(max_repeat(1,inf,seq(in[category_word]))))", "lit())))))",
       "lit(])", "lit(]))"] ∧
    Generated.C11.linkNameRecognised = true ∧
    Generated.C11.linkReFlags = ["UNICODE", "VERBOSE"] ∧
    Generated.C11.linkGroups = ["name", "entity", "child_name", "child_entity"] ∧
    Generated.C11.linkFindParams = Generated.C11.linkGroups ∧
    Generated.C11.linkHandle = "self.LINK_RE ; (self.convert_link(m), m.start(0), m.end(0))" :=
  ⟨rfl, rfl, rfl, rfl, rfl, rfl⟩

/-- The separators of the `name` group (read from the source) include `.` - so that `stem.ext`, the
    name of a source file, can be written - and none of them is a word character or one of the
    delimiters `(`, `:`, `[`, `]`: the tokenizer never has to backtrack. -/
theorem link_pattern_separators_safe : linkCfg.ok = true := by decide +kernel

/-- The character class of every part of a reference contains all letters, all digits and the
    underscore - no position of a name is restricted (a name may start with a digit). -/
theorem word_class_covers_letters_digits_underscore (c : Char)
    (h : isAlpha c = true ∨ isDigit c = true ∨ c = '_') : isWordU c = true := by
  apply isWordU_of_isWord
  rcases h with h | h | h <;> simp [isWord, h]

/-- **Every documented spelling is recognised.**  For every reference written as the user guide says
    - component = a name or `stem.ext`, made of letters, digits and underscores *in any order*,
    optional `(kind)`, optional `:item` with optional `(kind)` - and whatever text follows it, the
    pattern of the working tree matches the reference, yields exactly the four parts as written and
    ends where the reference ends. -/
theorem documented_reference_recognised (r : Ref) (rest : Str) (h : r.Documented) :
    matchLinkAt linkCfg (r.render ++ rest) = some (r, rest) :=
  matchLinkAt_render linkCfg link_pattern_separators_safe r rest
    (nameAccepted_documented linkCfg link_pattern_separators_safe r h) h.2.1 h.2.2.1 h.2.2.2.1 h.2.2.2.2

/-- The same for every component name the pattern accepts (word runs joined by single separator
    characters; which names these are is decidable, `nameAccepted`) and for every pattern
    configuration whose separators are safe - in particular for the pattern that admits `-` and
    several dots (finding C11-file-name-outside-link-pattern, repaired in FORD by 33b5570). -/
theorem accepted_name_recognised (cfg : NameCfg) (hok : cfg.ok = true) (r : Ref) (rest : Str)
    (hn : nameAccepted cfg r.name = true)
    (hk : ∀ k, r.kind = some k → WordStr k) (hc : ∀ c, r.child = some c → WordStr c)
    (hck : ∀ k, r.childKind = some k → WordStr k) (hcc : r.child = none → r.childKind = none) :
    matchLinkAt cfg (r.render ++ rest) = some (r, rest) :=
  matchLinkAt_render cfg hok r rest hn hk hc hck hcc

/-- **Every reference of a text is found.**  A documentation text written as
    `pre₁ [[r₁]] pre₂ [[r₂]] ... post` (no `[` in the plain parts, any number of references, each in
    a documented spelling) is cut by the inline loop into exactly these pieces: nothing is skipped,
    nothing outside the brackets is swallowed, the order is kept. -/
theorem references_of_a_text_recognised (parts : List (Str × Ref)) (post : Str)
    (hdoc : ∀ p ∈ parts, p.2.Documented)
    (hpre : ∀ p ∈ parts, ∀ c ∈ p.1, c ≠ '[') (hpost : ∀ c ∈ post, c ≠ '[') :
    segments linkCfg (renderParts parts post) = partsSegs parts post :=
  segGo_parts linkCfg parts post
    (fun p hp rest => documented_reference_recognised p.2 rest (hdoc p hp)) hpre hpost

/-- **The written reference is what is looked up.**  The conversion of such a text is the
    conversion of its pieces: each `[[rᵢ]]` is replaced by what `convert_link` gives for exactly the
    parts written (so every lookup theorem above speaks about the text as written), the plain parts
    stay. -/
theorem text_references_reach_lookup (env : Env) (P : Project) (ctx : Option Nat) (path : Option Path)
    (parts : List (Str × Ref)) (post : Str)
    (hdoc : ∀ p ∈ parts, p.2.Documented)
    (hpre : ∀ p ∈ parts, ∀ c ∈ p.1, c ≠ '[') (hpost : ∀ c ∈ post, c ≠ '[') :
    convertText linkCfg env P ctx path (renderParts parts post) =
      convertSegs env P ctx path (partsSegs parts post) := by
  rw [convertText, references_of_a_text_recognised parts post hdoc hpre hpost]

/-- One reference inside running text: the text before and after it is kept, the reference becomes
    the link / the plain name / the exception `convert_link` yields for it. -/
theorem reference_in_running_text (env : Env) (P : Project) (ctx : Option Nat) (path : Option Path)
    (pre post : Str) (r : Ref) (hdoc : r.Documented)
    (hpre : ∀ c ∈ pre, c ≠ '[') (hpost : ∀ c ∈ post, c ≠ '[') :
    convertText linkCfg env P ctx path (pre ++ r.render ++ post) =
      match convertLink env P ctx path r with
      | .err e => .error e
      | .link t h => .ok ((if pre.isEmpty then [] else [.plain pre]) ++ .link t h :: (if post.isEmpty then [] else [.plain post]))
      | .text t => .ok ((if pre.isEmpty then [] else [.plain pre]) ++ .text t :: (if post.isEmpty then [] else [.plain post])) := by
  have := text_references_reach_lookup env P ctx path [(pre, r)] post
    (by intro p hp; simp at hp; subst hp; exact hdoc)
    (by intro p hp; simp at hp; subst hp; exact hpre) hpost
  simp only [renderParts, partsSegs] at this
  rw [this]
  exact convertSegs_single env P ctx path pre post r

/-- **A reference to something that does not exist, in running text, is the name as written** -
    also when the name starts with a digit (`[[1]]`, `[[2nd_pass]]`) - and the text around it stays. -/
theorem absent_reference_in_text_is_plain_name (env : Env) (P : Project) (ctx : Option Nat) (path : Option Path)
    (pre post : Str) (r : Ref) (hdoc : r.Documented)
    (hpre : ∀ c ∈ pre, c ≠ '[') (hpost : ∀ c ∈ post, c ≠ '[')
    (hK : ∀ e ∈ P.ents, raisesTypeError e r.kind = false)
    (hC : ∀ e ∈ P.ents, raisesTypeError e r.childKind = false)
    (hP : knownComponentKind r.kind = true)
    (habs : ∀ id, nameMatches P r.name id = false) :
    convertText linkCfg env P ctx path (pre ++ r.render ++ post) =
      .ok ((if pre.isEmpty then [] else [.plain pre]) ++ .text r.name :: (if post.isEmpty then [] else [.plain post])) := by
  rw [reference_in_running_text env P ctx path pre post r hdoc hpre hpost,
    absent_is_text env P ctx path r hK hC hP habs]

/-- A text without `[` is left alone. -/
theorem text_without_brackets_unchanged (cfg : NameCfg) (s : Str) (h : ∀ c ∈ s, c ≠ '[') :
    segments cfg s = flush s.reverse := by
  have := segGo_plain cfg s [] [] h
  simpa [segments, segGo] using this

/-- Non-vacuity: a source file whose name starts with a
    digit, referenced with and without the `file` qualifier inside running text next to a reference
    with both qualifiers; names made of digits only or starting with an underscore. -/
theorem digit_leading_names_example :
    segments linkCfg (chars! "see [[2d_mesh.f90]], [[2D_MESH.f90(file)]] and [[m_1(module):v_(variable)]].") =
      [.plain (chars! "see "),
       .ref { name := chars! "2d_mesh.f90" },
       .plain (chars! ", "),
       .ref { name := chars! "2D_MESH.f90", kind := some (chars! "file") },
       .plain (chars! " and "),
       .ref { name := chars! "m_1", kind := some (chars! "module"), child := some (chars! "v_"),
              childKind := some (chars! "variable") },
       .plain (chars! ".")] ∧
    segments linkCfg (chars! "[[1]][[_x]]") = [.ref { name := chars! "1" }, .ref { name := chars! "_x" }] := by
  decide +kernel

/-- **File names the pattern cannot spell** (finding C11-file-name-outside-link-pattern, repaired in FORD by
    33b5570): with the `name` group `\w+(?:\.\w+)?` (the variant `{ seps := ['.'], many := false }`) a reference to the source file `mesh-tools.f90` or `mesh.v2.f90` is
    not recognised at all - the text stays verbatim, without a warning - although `file` is a
    documented kind of link target; with the group `\w+(?:[.-]\w+)*` (`many := true`) both are read. -/
theorem file_name_outside_pattern_witness :
    findLink { seps := ['.'], many := false } (chars! "[[mesh-tools.f90]]") = none ∧
    findLink { seps := ['.'], many := false } (chars! "[[mesh.v2.f90(file)]]") = none ∧
    segments { seps := ['.', '-'], many := true } (chars! "[[mesh-tools.f90]] [[mesh.v2.f90(file)]]") =
      [.ref { name := chars! "mesh-tools.f90" }, .plain [' '],
       .ref { name := chars! "mesh.v2.f90", kind := some (chars! "file") }] := by
  decide +kernel

/-! ### "... is rendered as plain text **with a warning**" (the `warn` calls of `convert_link`) -/

/-- The element `convert_link` returns is the one all theorems above speak about: adding the
    warnings to the model changes nothing of what is rendered. -/
theorem warnings_do_not_change_the_rendering (env : Env) (P : Project) (ctx : Option Nat) (path : Option Path) (r : Ref) :
    (convertLinkW env P ctx path r).1 = convertLink env P ctx path r :=
  convertLinkW_fst env P ctx path r

/-- **Plain text comes with a warning** - for every project, context, path and reference, without
    any hypothesis: whenever a reference is rendered as plain text, the text is the component name as
    written and a "not found" warning is printed during that very conversion which quotes the
    reference as written (`m.group()`) and names the component. -/
theorem plain_text_is_always_warned (env : Env) (P : Project) (ctx : Option Nat) (path : Option Path) (r : Ref) (t : Str)
    (h : (convertLinkW env P ctx path r).1 = .text t) :
    t = r.name ∧ Warn.notFound r.render r.name ∈ (convertLinkW env P ctx path r).2 := by
  rw [convertLinkW_fst] at h
  have hl : lookup P ctx r = .ok none := (convertLink_text_iff env P ctx path r).1 ⟨t, h⟩
  constructor
  · simp [convertLink, hl] at h; exact h.symm
  · show _ ∈ (lookupW P ctx r).2
    rcases lookupW_cases P ctx r with ⟨_, h2⟩ | ⟨h1, _, _⟩ | ⟨ch, _, ⟨_, h2⟩ | ⟨h1, _⟩⟩
    · exact absurd hl h2
    · simp [h1]
    · exact absurd hl h2
    · simp [h1]

/-- ... and only then: a "not found" warning is printed only for a reference that is rendered as
    plain text, and it quotes that reference and its component name. -/
theorem not_found_warning_only_for_plain_text (env : Env) (P : Project) (ctx : Option Nat) (path : Option Path)
    (r : Ref) (l n : Str) (h : Warn.notFound l n ∈ (convertLinkW env P ctx path r).2) :
    (convertLinkW env P ctx path r).1 = .text r.name ∧ l = r.render ∧ n = r.name := by
  rw [convertLinkW_fst]
  change _ ∈ (lookupW P ctx r).2 at h
  rcases lookupW_cases P ctx r with ⟨h1, _⟩ | ⟨h1, _, hl⟩ | ⟨ch, _, ⟨h1, _⟩ | ⟨h1, hl⟩⟩
  · simp [h1] at h
  · simp [h1] at h; exact ⟨by simp [convertLink, hl], h.1, h.2⟩
  · simp [h1] at h
  · simp [h1] at h; exact ⟨by simp [convertLink, hl], h.1, h.2⟩

/-- **A link is silent unless it is the fall-back to the component's page**: when a reference becomes
    a link, either nothing is printed, or the reference has an item part that was not found and the
    one warning says so (it quotes the reference, the item and the component whose page is linked
    instead).  A reference without item part that becomes a link prints nothing. -/
theorem link_warned_only_on_fallback (env : Env) (P : Project) (ctx : Option Nat) (path : Option Path) (r : Ref)
    (t h : Str) (hl : (convertLinkW env P ctx path r).1 = .link t h) :
    (convertLinkW env P ctx path r).2 = [] ∨
      ∃ ch, r.child = some ch ∧ (convertLinkW env P ctx path r).2 = [.childNotFound r.render ch r.name] := by
  rw [convertLinkW_fst] at hl
  have hne : lookup P ctx r ≠ .ok none := by
    intro h0; simp [convertLink, h0] at hl
  change (lookupW P ctx r).2 = [] ∨ ∃ ch, r.child = some ch ∧ (lookupW P ctx r).2 = _
  rcases lookupW_cases P ctx r with ⟨h1, _⟩ | ⟨_, _, h0⟩ | ⟨ch, hch, ⟨h1, _⟩ | ⟨_, h0⟩⟩
  · exact Or.inl h1
  · exact absurd h0 hne
  · exact Or.inr ⟨ch, hch, h1⟩
  · exact absurd h0 hne

/-- Every warning quotes the reference as it was written in the text (and by
    `documented_reference_recognised` the written reference is what the pattern matched). -/
theorem warning_quotes_reference_as_written (env : Env) (P : Project) (ctx : Option Nat) (path : Option Path)
    (r : Ref) (w : Warn) (h : w ∈ (convertLinkW env P ctx path r).2) : w.link = r.render := by
  change w ∈ (lookupW P ctx r).2 at h
  rcases lookupW_cases P ctx r with ⟨h1, _⟩ | ⟨h1, _, _⟩ | ⟨ch, _, ⟨h1, _⟩ | ⟨h1, _⟩⟩
  · simp [h1] at h
  · simp [h1] at h; subst h; rfl
  · simp [h1] at h; subst h; rfl
  · simp [h1] at h
    rcases h with h | h <;> subst h <;> rfl

/-- **Absent is text with a warning.**  Under the hypotheses of `absent_is_text` (no exception class)
    a reference whose component name no entity carries is rendered as the name as written and
    prints: for `[[name]]` / `[[name(kind)]]` exactly one "not found" warning; with an item part
    first the "item not found in component" warning, then the "not found" warning. -/
theorem absent_is_text_with_warning (env : Env) (P : Project) (ctx : Option Nat) (path : Option Path) (r : Ref)
    (hK : ∀ e ∈ P.ents, raisesTypeError e r.kind = false)
    (hC : ∀ e ∈ P.ents, raisesTypeError e r.childKind = false)
    (hP : knownComponentKind r.kind = true)
    (habs : ∀ id, nameMatches P r.name id = false) :
    convertLinkW env P ctx path r =
      (.text r.name,
       match r.child with
       | none => [.notFound r.render r.name]
       | some ch => [.childNotFound r.render ch r.name, .notFound r.render r.name]) := by
  have ht := absent_is_text env P ctx path r hK hC hP habs
  have hl : lookup P ctx r = .ok none := (convertLink_text_iff env P ctx path r).1 ⟨_, ht⟩
  refine Prod.ext (by rw [convertLinkW_fst, ht]) ?_
  show (lookupW P ctx r).2 = _
  rcases lookupW_cases P ctx r with ⟨_, h3⟩ | ⟨h3, hch, _⟩ | ⟨ch, hch, ⟨_, h3⟩ | ⟨h3, _⟩⟩
  · exact absurd hl h3
  · simp [h3, hch]
  · exact absurd hl h3
  · simp [h3, hch]

/-- **The warnings of a text**: a documentation text `pre₁ [[r₁]] pre₂ [[r₂]] ... post` whose
    references convert without exception prints exactly the warnings of its references, one after the
    other in the order written - none is dropped, merged or reordered. -/
theorem text_warnings_in_order (env : Env) (P : Project) (ctx : Option Nat) (path : Option Path)
    (parts : List (Str × Ref)) (post : Str)
    (hdoc : ∀ p ∈ parts, p.2.Documented)
    (hpre : ∀ p ∈ parts, ∀ c ∈ p.1, c ≠ '[') (hpost : ∀ c ∈ post, c ≠ '[')
    (hok : ∀ p ∈ parts, ∀ e, convertLink env P ctx path p.2 ≠ .err e) :
    (convertTextW linkCfg env P ctx path (renderParts parts post)).2 =
      parts.flatMap (fun p => (convertLinkW env P ctx path p.2).2) := by
  simp only [convertTextW]
  rw [references_of_a_text_recognised parts post hdoc hpre hpost]
  exact warnSegs_parts env P ctx path parts post hok

/-- **The same broken reference written `n` times is warned about `n` times** (a text that mentions
    a removed entity in several places): no de-duplication by the reference's text. -/
theorem repeated_absent_reference_warned_each_time (env : Env) (P : Project) (ctx : Option Nat) (path : Option Path)
    (n : Nat) (pre post : Str) (r : Ref) (hdoc : r.Documented) (hch : r.child = none)
    (hpre : ∀ c ∈ pre, c ≠ '[') (hpost : ∀ c ∈ post, c ≠ '[')
    (hK : ∀ e ∈ P.ents, raisesTypeError e r.kind = false)
    (hC : ∀ e ∈ P.ents, raisesTypeError e r.childKind = false)
    (hP : knownComponentKind r.kind = true)
    (habs : ∀ id, nameMatches P r.name id = false) :
    (convertTextW linkCfg env P ctx path (renderParts (List.replicate n (pre, r)) post)).2 =
      List.replicate n (.notFound r.render r.name) := by
  have ht := absent_is_text env P ctx path r hK hC hP habs
  have hw := absent_is_text_with_warning env P ctx path r hK hC hP habs
  rw [text_warnings_in_order env P ctx path _ post
    (by intro p hp; rw [List.eq_of_mem_replicate hp]; exact hdoc)
    (by intro p hp; rw [List.eq_of_mem_replicate hp]; exact hpre) hpost
    (by intro p hp e; rw [List.eq_of_mem_replicate hp]; simp [ht])]
  induction n with
  | zero => rfl
  | succ k ih => simp [List.replicate_succ, hw, hch] at ih ⊢; exact ih

/-- **No memory between conversions**: the warnings of a run (project file, every entity's text,
    every static page, converted one after the other by the same Markdown object) are the
    concatenation of the warnings of the single conversions - what is printed for a text never
    depends on what was converted before it (the same broken reference in a second entity or on a
    second page is reported again). -/
theorem run_warnings_have_no_memory (cfg : NameCfg) (env : Env) (P : Project)
    (a b : List (Option Nat × Option Path × Str)) :
    runWarnings cfg env P (a ++ b) = runWarnings cfg env P a ++ runWarnings cfg env P b := by
  induction a with
  | nil => rfl
  | cons x xs ih =>
    obtain ⟨c, p, t⟩ := x
    simp [runWarnings, ih]

/-- **The warning says where**: for text that belongs to an entity the message starts with the
    entity's source file and name; for a page converted with an explicit path, with that path
    relative to the working directory; the project summary (no context, no path) has no prefix. -/
theorem warning_says_where (env : Env) (P : Project) (i : Nat) (c : Ent) (path : Option Path) (p : Path) (w : Warn)
    (hc : P.get i = some c) :
    w.message env P (some i) path = "In '".toList ++ c.filename ++ ':' :: c.name ++ "': ".toList ++ w.body ∧
    w.message env P none (some p) = "In file '".toList ++ joinSep '/' (relpath p env.cwd) ++ "': ".toList ++ w.body ∧
    w.message env P none none = w.body := by
  simp only [Warn.message, warnPrefix, Option.bind_some, Option.bind_none, hc, List.nil_append, and_self]

/-! ### "references inside code spans or blocks stay verbatim" (the pattern's place among Markdown's inline patterns) -/

/-- **Where the link pattern is registered** (table read from the inline-pattern registry of a live
    `MetaMarkdown` on every run, listed in the order of application): the priorities never increase
    along the list; the code-span pattern `backtick` is applied *before* FORD's link pattern, which in
    turn is applied before Markdown's own bracket syntax (`reference`, `link`, `short_reference`), so
    that the brackets of a reference reach it untouched; fenced and indented code blocks are taken out
    by a preprocessor / block processor, i.e. before any inline pattern runs. -/
theorem link_pattern_position :
    descending Generated.C11.inlinePatterns = true ∧
    codeShielded = true ∧
    (["reference", "link", "short_reference"].all fun n =>
        appliedBefore Generated.C11.inlinePatterns Generated.C11.linkPatternName n) = true ∧
    Generated.C11.preprocessors.contains "fenced_code_block" = true ∧
    Generated.C11.blockProcessors.contains "code" = true := by decide +kernel

/-- **Code spans stay verbatim.**  For every project, context, path and every text cut at its code
    spans (any number of spans, any content - references in any spelling included): with the patterns
    applied in the registered order, whenever the conversion succeeds every span comes out with its
    content exactly as written, every piece of running text is converted as `convertText` says, in
    the order written, nothing added or lost. -/
theorem code_spans_stay_verbatim (env : Env) (P : Project) (ctx : Option Nat) (path : Option Path)
    (pieces : List Piece) (out : List OutPiece)
    (h : convertPieces codeShielded linkCfg env P ctx path pieces = .ok out) :
    PiecesOk linkCfg env P ctx path pieces out := by
  rw [link_pattern_position.2.1] at h
  exact convertPieces_shielded linkCfg env P ctx path pieces out h

/-- ... and a reference inside a code span prints no warning, whether or not it names something. -/
theorem references_in_code_spans_not_warned (env : Env) (P : Project) (ctx : Option Nat) (path : Option Path)
    (s : Str) (rest : List Piece) :
    warnPieces codeShielded linkCfg env P ctx path (.code s :: rest) =
      warnPieces codeShielded linkCfg env P ctx path rest := by
  rw [link_pattern_position.2.1]
  exact warnPieces_shielded_code linkCfg env P ctx path s rest

/-- Every URL `get_url` produces has exactly two path segments (`dir/file`), so
    `Path(url).parent.parent` is the base and every entity page is one level below it. -/
theorem url_two_segments (c : List Anc) (u : Url) (_h : urlOfChain c = some u) :
    u.segs.length = 2 ∧ u.segs.dropLast.dropLast = [] := by simp [Url.segs]

/-- **URL correct from every entity page.**  Text that belongs to an entity with a URL is converted
    with `current_path = base/"non-existent dir"`; the emitted href, resolved from *any* directory
    `base/d` one level below the base (the entity's own page, its parent's page, a list page), is
    the target's page and anchor. -/
theorem url_correct_from_every_entity_page (env : Env) (P : Project) (ctx : Option Nat) (c t : Ent) (uc u : Url)
    (hc : ctx.bind P.get = some c) (hce : c.extUrl = none) (hcu : urlOfChain c.chain = some uc)
    (hte : t.extUrl = none) (htu : urlOfChain t.chain = some u)
    (hdir : (u.dir == nonExistentDir) = false) (hplain : Plain u.segs) (d : Str) :
    ∃ rel, hrefOf env (currentPath env P ctx none) t = .ok (joinSep '/' rel) ∧
      resolve (env.base ++ [d]) rel = env.base ++ u.segs := by
  refine ⟨relpath (env.base ++ u.segs) (env.base ++ [nonExistentDir]), ?_, ?_⟩
  · simp [hrefOf, hte, htu, currentPath_entity env P ctx c uc hc hce hcu]
  · exact resolve_from_any_sibling env.base u.dir nonExistentDir d [u.lastSeg] hdir hplain

/-- **URL correct from the project file and from static pages at any depth**: with an explicit
    `path` (the directory of the page being written) the href resolves from that directory to the
    target, whatever the directory is. -/
theorem url_correct_from_given_path (env : Env) (P : Project) (ctx : Option Nat) (t : Ent) (u : Url) (p : Path)
    (hte : t.extUrl = none) (htu : urlOfChain t.chain = some u) (hplain : Plain (env.base ++ u.segs)) :
    ∃ rel, hrefOf env (currentPath env P ctx (some p)) t = .ok (joinSep '/' rel) ∧
      resolve p rel = env.base ++ u.segs := by
  refine ⟨relpath (env.base ++ u.segs) p, ?_, resolve_relpath _ p hplain⟩
  simp [hrefOf, hte, htu, currentPath]

/-- **The hrefs do not depend on where the site is written or served.**  The pages are written below
    `output_dir` and may be served from anywhere (`out` arbitrary), the hrefs are computed below the
    base URL (`project_url`): the href of text belonging to an entity resolves, from every directory
    one level below *any* root `out`, to the target's page below that same root. -/
theorem url_correct_from_every_written_entity_page (env : Env) (P : Project) (ctx : Option Nat) (c t : Ent) (uc u : Url)
    (hc : ctx.bind P.get = some c) (hce : c.extUrl = none) (hcu : urlOfChain c.chain = some uc)
    (hte : t.extUrl = none) (htu : urlOfChain t.chain = some u)
    (hdir : (u.dir == nonExistentDir) = false) (hplain : Plain u.segs) (out : Path) (d : Str) :
    ∃ rel, hrefOf env (currentPath env P ctx none) t = .ok (joinSep '/' rel) ∧
      resolve (out ++ [d]) rel = out ++ u.segs := by
  refine ⟨relpath (env.base ++ u.segs) (env.base ++ [nonExistentDir]), ?_, ?_⟩
  · simp [hrefOf, hte, htu, currentPath_entity env P ctx c uc hc hce hcu]
  · rw [relpath_common_root env.base, ← relpath_common_root out]
    exact resolve_from_any_sibling out u.dir nonExistentDir d [u.lastSeg] hdir hplain

/-- ... and text without entity context (project file: `d = []`; static page: `d = page/...`) that is
    converted at `base/d` gets hrefs that resolve from `out/d` to the target below `out`, for every
    root `out` the site is written to - *provided the text is converted below the base URL*
    (`project_file_converted_at_base_url`; not so for static pages: witness below). -/
theorem url_correct_from_page_below_base (env : Env) (P : Project) (ctx : Option Nat) (t : Ent) (u : Url)
    (out d : Path) (hte : t.extUrl = none) (htu : urlOfChain t.chain = some u) (hplain : Plain (out ++ u.segs)) :
    ∃ rel, hrefOf env (currentPath env P ctx (some (env.base ++ d))) t = .ok (joinSep '/' rel) ∧
      resolve (out ++ d) rel = out ++ u.segs := by
  refine ⟨relpath (env.base ++ u.segs) (env.base ++ d), ?_, resolve_relpath_other_root _ _ _ _ hplain⟩
  simp [hrefOf, hte, htu, currentPath]

/-- The relative-path round trip the URL theorems above rest on: for all `..`-free targets and all start
    directories, resolving `relpath target start` against `start` gives `target`. -/
theorem relpath_roundtrip (t s : Path) (ht : Plain t) : resolve s (relpath t s) = t :=
  resolve_relpath t s ht

/-! ### Witnesses: behaviour of the code as it is that violates the property -/

namespace W
def anc (cls obj ident : String) : Anc :=
  { cls := cls, obj := obj.toList, ident := ident.toList, unnamed := false, ifaceProc := false }
def aFile := anc "FortranSourceFile" "sourcefile" "a.f90"
def aMod := anc "FortranModule" "module" "m"
def aSub := anc "FortranSubroutine" "proc" "s"
def aTyp := anc "FortranType" "type" "t"
def aVar := anc "FortranVariable" "variable" "v"
/-- file a.f90 > module m > subroutine s(v) > type t (local to s); `t` has no URL -/
def P : Project :=
  { ents := [
      { name := "a.f90".toList, chain := [aFile], extUrl := none, parent := none,
        attrs := [("modules", .many [.ent 1])] },
      { name := "m".toList, chain := [aMod, aFile], extUrl := none, parent := some 0,
        attrs := [("subroutines", .many [.ent 2]), ("variables", .many []), ("types", .many [])] },
      { name := "s".toList, chain := [aSub, aMod, aFile], extUrl := none, parent := some 1,
        attrs := [("args", .many [.ent 4]), ("variables", .many []), ("types", .many [.ent 3])] },
      { name := "t".toList, chain := [aTyp, aSub, aMod, aFile], extUrl := none, parent := some 2,
        attrs := [("variables", .many []), ("boundprocs", .many []), ("constructor", .noneVal)] },
      { name := "v".toList, chain := [aVar, aSub, aMod, aFile], extUrl := none, parent := some 2, attrs := [] }],
    lists := [("modules", [.ent 1]), ("procedures", [.ent 2]), ("types", []), ("allfiles", [.ent 0])] }
def env : Env := { base := ["w".toList, "doc".toList], cwd := ["w".toList] }
end W

/-- **Context without URL** (finding C11-context-without-url): the doc of a type local to a
    procedure is converted with `current_path = None`; `[[m]]` becomes `doc/module/m.html`
    (relative to the process's working directory `/w`), which from the page it is displayed on
    (`/w/doc/proc/s.html`) does not resolve to the module's page. -/
theorem context_without_url_witness :
    convertLink W.env W.P (some 3) none { name := "m".toList } = .link "m".toList "doc/module/m.html".toList ∧
    resolve (W.env.base ++ ["proc".toList]) ["doc".toList, "module".toList, "m.html".toList]
      ≠ W.env.base ++ ["module".toList, "m.html".toList] := by
  -- a literal is `String.ofList` of its characters: its `toList` is rewritten, not evaluated
  -- (the kernel would decode the UTF-8 bytes of each literal, quadratic in its length)
  simp -index only [String.toList_ofList]
  decide +kernel

/-- The same reference from a context that has a URL is correct (non-vacuity of the theorems above). -/
theorem context_with_url_example :
    convertLink W.env W.P (some 2) none { name := "m".toList } = .link "m".toList "../module/m.html".toList ∧
    resolve (W.env.base ++ ["proc".toList]) ["..".toList, "module".toList, "m.html".toList]
      = W.env.base ++ ["module".toList, "m.html".toList] := by
  simp -index only [String.toList_ofList]
  decide +kernel

/-- **Target without page** (finding C11-target-without-page-raises): `[[t]]` written in the doc of
    the procedure that contains the local type `t` selects `t`, which has no URL: RuntimeError. -/
theorem target_without_url_witness :
    convertLink W.env W.P (some 2) none { name := "t".toList } = .err .noUrl := by
  simp -index only [String.toList_ofList]
  decide +kernel

/-- **`constructor` qualifier** (finding C11-constructor-qualifier-raises): SUBLINK_TYPES maps the
    documented item kind "constructor" to a single-object attribute; `list(None)` raises TypeError,
    which `suppress(ValueError)` does not catch. -/
theorem constructor_qualifier_witness :
    convertLink W.env W.P (some 3) none { name := "x".toList, kind := some "constructor".toList }
      = .err .notIterable := by
  simp -index only [String.toList_ofList]
  decide +kernel

/-- **Item kind the component cannot hold** (finding C11-impossible-item-kind-raises): the user
    guide promises "a warning message is issued and the link is not generated"; the code raises
    ValueError out of `convert_link` (the run aborts). -/
theorem impossible_item_kind_witness :
    convertLink W.env W.P none none
      { name := "m".toList, child := some "v".toList, childKind := some "bound".toList } = .err .cannotHaveChild := by
  simp -index only [String.toList_ofList]
  decide +kernel

/-- **`variable` qualifier misses dummy arguments** (finding C11-variable-qualifier-misses-arguments):
    `[[s:v]]` links the argument `v`, `[[s:v(variable)]]` does not find it (arguments live in
    `args`, SUBLINK_TYPES["variable"] is `variables`) and falls back to the page of `s`. -/
theorem variable_qualifier_witness :
    convertLink W.env W.P none (some W.env.base) { name := "s".toList, child := some "v".toList }
      = .link "v".toList "proc/s.html#variable-v".toList ∧
    convertLink W.env W.P none (some W.env.base)
      { name := "s".toList, child := some "v".toList, childKind := some "variable".toList }
      = .link "s".toList "proc/s.html".toList := by
  simp -index only [String.toList_ofList]
  decide +kernel

namespace W
/-- `project_url: https://example.com/docs`: the base URL is a relative `pathlib.Path`
    (`https:/example.com/docs`), `relpath` takes it from the working directory `/w` -/
def envUrl : Env :=
  { base := absolutize ["w".toList] false ["https:".toList, "example.com".toList, "docs".toList], cwd := ["w".toList] }
/-- where the site is written: `/w/doc` -/
def out : Path := ["w".toList, "doc".toList]
end W

/-- **Static page with `project_url`** (finding C11-static-page-with-project-url): `PageNode`
    converts the page text at `output_dir/page` although the targets live below `project_url`; the
    href leaves the site.  Converted below the base URL (as the project file's text is) the same
    reference is correct from the written page `/w/doc/page/index.html`. -/
theorem static_page_with_project_url_witness :
    convertLink W.envUrl W.P none (some (W.out ++ ["page".toList])) { name := "m".toList }
      = .link "m".toList "../../https:/example.com/docs/module/m.html".toList ∧
    resolve (W.out ++ ["page".toList])
        ["..".toList, "..".toList, "https:".toList, "example.com".toList, "docs".toList, "module".toList, "m.html".toList]
      ≠ W.out ++ ["module".toList, "m.html".toList] ∧
    convertLink W.envUrl W.P none (some (W.envUrl.base ++ ["page".toList])) { name := "m".toList }
      = .link "m".toList "../module/m.html".toList ∧
    resolve (W.out ++ ["page".toList]) ["..".toList, "module".toList, "m.html".toList]
      = W.out ++ ["module".toList, "m.html".toList] := by
  simp -index only [String.toList_ofList]
  decide +kernel

namespace W2
/-- two command line tools, one per file: `a.f90` = subroutine usage + program alpha_tool,
    `b.f90` = subroutine usage (identifier `usage~2`) + program beta_tool -/
def P : Project :=
  { ents := [
      { name := "a.f90".toList, chain := [W.aFile], extUrl := none, parent := none,
        attrs := [("subroutines", .many [.ent 1]), ("programs", .many [.ent 2])] },
      { name := "usage".toList, chain := [W.anc "FortranSubroutine" "proc" "usage", W.aFile], extUrl := none,
        parent := some 0, attrs := [("args", .many []), ("variables", .many [])] },
      { name := "alpha_tool".toList, chain := [W.anc "FortranProgram" "program" "alpha_tool", W.aFile], extUrl := none,
        parent := some 0, attrs := [("variables", .many []), ("subroutines", .many [])] },
      { name := "b.f90".toList, chain := [W.anc "FortranSourceFile" "sourcefile" "b.f90"], extUrl := none, parent := none,
        attrs := [("subroutines", .many [.ent 4]), ("programs", .many [.ent 5])] },
      { name := "usage".toList,
        chain := [W.anc "FortranSubroutine" "proc" "usage~2", W.anc "FortranSourceFile" "sourcefile" "b.f90"],
        extUrl := none, parent := some 3, attrs := [("args", .many []), ("variables", .many [])] },
      { name := "beta_tool".toList,
        chain := [W.anc "FortranProgram" "program" "beta_tool", W.anc "FortranSourceFile" "sourcefile" "b.f90"],
        extUrl := none, parent := some 3, attrs := [("variables", .many []), ("subroutines", .many [])] }],
    lists := [("procedures", [.ent 1, .ent 4]), ("programs", [.ent 2, .ent 5]), ("allfiles", [.ent 0, .ent 3])] }
end W2

/-- The parent step with a source file as parent (non-vacuity of
    `parent_contents_win_for_every_parent_class`): in the doc of `program beta_tool`, `[[usage]]` and
    `[[usage(subroutine)]]` select the `usage` of the same file, not the project's first `usage`;
    from the project file (no context) the first one is taken. -/
theorem same_file_unit_wins_example :
    convertLink W.env W2.P (some 5) none { name := "usage".toList }
      = .link "usage".toList "../proc/usage~2.html".toList ∧
    convertLink W.env W2.P (some 5) none { name := "usage".toList, kind := some "subroutine".toList }
      = .link "usage".toList "../proc/usage~2.html".toList ∧
    convertLink W.env W2.P (some 2) none { name := "usage".toList }
      = .link "usage".toList "../proc/usage.html".toList ∧
    convertLink W.env W2.P none (some W.env.base) { name := "usage".toList }
      = .link "usage".toList "proc/usage.html".toList := by
  simp -index only [String.toList_ofList]
  decide +kernel

/-- non-vacuity of `lookup_order_partial`: its hypotheses hold for a qualified two-part reference -/
example : convertLink W.env W.P (some 1) none
      { name := "S".toList, kind := some "subroutine".toList, child := some "V".toList }
    = .link "v".toList "../proc/s.html#variable-v".toList := by
  simp -index only [String.toList_ofList]
  decide +kernel

namespace W
/-- the project `W.P` with the file name every entity reports (`.filename`) -/
def PF : Project := { W.P with ents := W.P.ents.map fun e => { e with filename := "a.f90".toList } }
end W

/-- Non-vacuity: what the model prints for the three outcomes, as message texts. -/
theorem warning_messages_example :
    (convertLinkW W.env W.PF (some 1) none { name := "nosuch".toList }).1 = .text "nosuch".toList ∧
    (convertLinkW W.env W.PF (some 1) none { name := "nosuch".toList }).2.map (Warn.message W.env W.PF (some 1) none) =
      ["In 'a.f90:m': Could not substitute link [[nosuch]], 'nosuch' not found".toList] ∧
    (convertLinkW W.env W.PF none (some (W.env.base ++ ["page".toList]))
        { name := "s".toList, child := some "zz".toList }).1 = .link "s".toList "../proc/s.html".toList ∧
    (convertLinkW W.env W.PF none (some (W.env.base ++ ["page".toList]))
        { name := "s".toList, child := some "zz".toList }).2.map
          (Warn.message W.env W.PF none (some (W.env.base ++ ["page".toList]))) =
      ["In file 'doc/page': Could not substitute link [[s:zz]], \"zz\" not found in \"s\", linking to page for \"s\" instead".toList] ∧
    (convertLinkW W.env W.PF none none { name := "q".toList, child := some "zz".toList }).2.map
          (Warn.message W.env W.PF none none) =
      ["Could not substitute link [[q:zz]], \"zz\" not found in \"q\", linking to page for \"q\" instead".toList,
       "Could not substitute link [[q:zz]], 'q' not found".toList] ∧
    (convertLinkW W.env W.PF (some 1) none { name := "S".toList, child := some "V".toList }).2 = [] ∧
    (convertTextW linkCfg W.env W.PF (some 1) none (chars! "old [[gone]] and [[gone]], see [[s]]")).2 =
      [.notFound (chars! "[[gone]]") (chars! "gone"), .notFound (chars! "[[gone]]") (chars! "gone")] := by
  simp -index only [String.toList_ofList]
  decide +kernel

/-- non-vacuity of `repeated_absent_reference_warned_each_time` / `text_warnings_in_order`: their
    hypotheses hold for a documented reference to an absent name -/
example : (convertTextW linkCfg W.env W.PF none none
      (renderParts (List.replicate 3 ("x ".toList, ({ name := "gone".toList } : Ref))) (chars! "."))).2
    = List.replicate 3 (.notFound (chars! "[[gone]]") (chars! "gone")) := by
  simp -index only [String.toList_ofList]
  decide +kernel

/-- **The order of the registry is what protects the spans** (non-vacuity of `code_spans_stay_verbatim`
    and of its dependence on the table): in the registered order `` `[[m]]` `` stays as written and
    the absent `[[gone]]` inside a span prints nothing; were the link pattern applied first, the
    reference inside the span would become a link inside `<code>`. -/
theorem code_span_order_example :
    (convertPieces codeShielded linkCfg W.env W.PF (some 2) none
        [.plain (chars! "see [[m]] and "), .code (chars! "call [[m]](x)"), .plain (chars! " or "), .code (chars! "[[gone]]")]).toOption =
      some [.segs [.plain (chars! "see "), .link (chars! "m") (chars! "../module/m.html"), .plain (chars! " and ")],
           .code (chars! "call [[m]](x)"), .segs [.plain (chars! " or ")], .code (chars! "[[gone]]")] ∧
    warnPieces codeShielded linkCfg W.env W.PF (some 2) none
        [.plain (chars! "see [[m]] and "), .code (chars! "call [[m]](x)"), .plain (chars! " or "), .code (chars! "[[gone]]")] = [] ∧
    (convertPieces false linkCfg W.env W.PF (some 2) none [.code (chars! "[[m]]")]).toOption =
      some [.codeSegs [.link (chars! "m") (chars! "../module/m.html")]] := by
  decide +kernel

end Ford.C11
