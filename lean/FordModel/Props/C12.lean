/-
  C12 — output is a deterministic function of the inputs.
  Property theorems only; helper lemmas live in FordModel/Lemmas/Order.lean.
  Sets / hash-ordered iteration are modelled as adversarial permutations: a
  statement "for all l₁ ~ l₂" quantifies over every hash seed and every
  enumeration order of the file system.
-/
import FordModel.Order
import FordModel.Lemmas.Order
namespace Ford.C12
open Ford Ford.Order

/-- Specification of the model of Python's `sorted`: the result is ordered by the
    key (code-point lexicographic `<=`) and is a permutation of the input. -/
theorem sorted_spec {α : Type} (key : α → Str) (l : List α) :
    (sortOn key l).Pairwise (fun a b => strLe (key a) (key b) = true) ∧ (sortOn key l).Perm l :=
  ⟨sortOn_sorted key l, sortOn_perm_self key l⟩

/-- Clause "regardless of string-hash randomisation" for every stage that sorts a
    set before iterating it (graph node sets, `toposort`'s levels, ...): whatever
    order the set is iterated in (any permutation), sorting on a key that
    distinguishes the elements yields one and the same list. -/
theorem sorted_stage_order_irrelevant {α : Type} (key : α → Str) (l₁ l₂ : List α)
    (hp : l₁.Perm l₂) (hkey : ∀ a b, a ∈ l₁ → b ∈ l₁ → key a = key b → a = b) :
    sortOn key l₁ = sortOn key l₂ :=
  sortOn_perm key l₁ l₂ hp hkey

/-- Graph emission: node sets hold nodes with pairwise different `ident`
    (`BaseNode.__eq__`/`__hash__` are on `ident`), so the emitted node sequence
    does not depend on the iteration order of the set. -/
theorem graph_nodes_emitted_in_fixed_order (n₁ n₂ : List Node) (hp : n₁.Perm n₂)
    (hid : (n₁.map (·.ident)).Nodup) : emitNodes n₁ = emitNodes n₂ :=
  sortOn_perm_of_nodup _ n₁ n₂ hp hid

/-- Every loop over a node collection in `ford/graphs.py` (table regenerated from
    the source on every run) goes through `sorted(...)`. -/
theorem graph_node_sites_all_sorted : ∀ s ∈ Gen.C12.nodeIterSites, s.2 = true := by decide +kernel

/-- Clause "regardless of the order in which the file system enumerates source
    files", repaired variant: once the file set is sorted by path before it is
    parsed, *everything* downstream (`down` is arbitrary: numbering, project lists,
    search index, copies, pages) is the same for every enumeration order. -/
theorem deterministic_when_files_sorted {β : Type} (down : List SrcFile → β) (e₁ e₂ : List SrcFile)
    (hp : e₁.Perm e₂) (hpaths : (e₁.map (·.path)).Nodup) :
    down (parseOrder .repaired e₁) = down (parseOrder .repaired e₂) := by
  simp only [parseOrder]
  rw [sortOn_perm_of_nodup _ e₁ e₂ hp hpaths]

/-- ... in particular the modelled site (identifiers/URLs, search-index order, src/ copies). -/
theorem site_deterministic_repaired (e₁ e₂ : List SrcFile) (hp : e₁.Perm e₂)
    (hpaths : (e₁.map (·.path)).Nodup) : site .repaired e₁ = site .repaired e₂ :=
  deterministic_when_files_sorted siteOf e₁ e₂ hp hpaths

/-- The variant switch is read from the working tree (`fileIterSorted` is generated
    from the AST of `Project.__init__`): if the tree sorts the file set, the tree's
    site is deterministic. -/
theorem tree_site_deterministic_of_sorted (h : Gen.C12.fileIterSorted = true) (e₁ e₂ : List SrcFile)
    (hp : e₁.Perm e₂) (hpaths : (e₁.map (·.path)).Nodup) :
    site variantOfTree e₁ = site variantOfTree e₂ := by
  simp only [variantOfTree, h, if_true]
  exact site_deterministic_repaired e₁ e₂ hp hpaths

private def wa : SrcFile :=
  { path := "src/a.f90".toList, base := "a.f90".toList, content := "A".toList,
    ent := ⟨1, "sourcefile".toList, "a.f90".toList⟩,
    units := [{ list := "modules".toList, ent := ⟨2, "module".toList, "ma".toList⟩,
                inner := [{ list := "subroutines".toList, ent := ⟨3, "proc".toList, "foo".toList⟩ }] }],
    top := [] }
private def wb : SrcFile :=
  { path := "src/b.f90".toList, base := "b.f90".toList, content := "B".toList,
    ent := ⟨4, "sourcefile".toList, "b.f90".toList⟩,
    units := [{ list := "modules".toList, ent := ⟨5, "module".toList, "mb".toList⟩,
                inner := [{ list := "subroutines".toList, ent := ⟨6, "proc".toList, "foo".toList⟩ }] }],
    top := [] }

/-- As the code is (the set is iterated unsorted): two files that both define a
    procedure `foo`; the two enumeration orders give different URL assignments
    (`proc/foo.html` vs `proc/foo~2.html`) and a different search-index order. -/
theorem file_order_witness :
    (site .asIs [wa, wb]).idents ≠ (site .asIs [wb, wa]).idents ∧
    (site .asIs [wa, wb]).search ≠ (site .asIs [wb, wa]).search ∧
    site .repaired [wa, wb] = site .repaired [wb, wa] :=
  ⟨by decide +kernel, by decide +kernel,
   site_deterministic_repaired [wa, wb] [wb, wa] (List.Perm.swap _ _ _) (by decide +kernel)⟩

/-- What holds for both variants of the counter key (`lk = false`: name as written, the
    variant of the findings repaired in FORD by 8dec555; `lk = true`: lower-cased name): if no two entities share the key
    `(get_dir(), name)`, every entity gets number 1 (its plain lower-cased name) whatever the
    order of the `get_name` requests — so its URL is independent of file order and hash seed. -/
theorem numbering_order_irrelevant_partial (lk : Bool) (reqs : List Ent)
    (hkeys : ∀ a b, a ∈ reqs → b ∈ reqs → a.keyAs lk = b.keyAs lk → a.uid = b.uid)
    (e : Ent) (he : e ∈ reqs) : numOf (numberNWith lk reqs) e.uid = some 1 := by
  unfold numOf numberNWith
  obtain ⟨p, hp, hpe⟩ := exists_numberAux_of_mem (lk := lk) [] reqs e he rfl
  cases hf : (numberAux lk [] reqs).find? (fun p => p.1.uid == e.uid) with
  | none => exact absurd (beq_iff_eq.mpr hpe) (List.find?_eq_none.mp hf p hp)
  | some q => rw [Option.map_some, numberAux_eq_one [] reqs hkeys q (List.mem_of_find?_eq_some hf)]

/-- ... hence any two request orders (any two runs) agree on every entity. -/
theorem numbering_two_runs_agree_partial (lk : Bool) (r₁ r₂ : List Ent) (hp : r₁.Perm r₂)
    (hkeys : ∀ a b, a ∈ r₁ → b ∈ r₁ → a.keyAs lk = b.keyAs lk → a.uid = b.uid)
    (e : Ent) (he : e ∈ r₁) : numOf (numberNWith lk r₁) e.uid = numOf (numberNWith lk r₂) e.uid := by
  rw [numbering_order_irrelevant_partial lk r₁ hkeys e he]
  rw [numbering_order_irrelevant_partial lk r₂
    (fun a b ha hb => hkeys a b (hp.mem_iff.mpr ha) (hp.mem_iff.mpr hb)) e (hp.mem_iff.mp he)]

/-- ... in particular for the NameSelector of the working tree (the key variant is read
    from the AST of `get_name` on every run). -/
theorem tree_numbering_two_runs_agree_partial (r₁ r₂ : List Ent) (hp : r₁.Perm r₂)
    (hkeys : ∀ a b, a ∈ r₁ → b ∈ r₁ → a.key = b.key → a.uid = b.uid)
    (e : Ent) (he : e ∈ r₁) : numOf (numberN r₁) e.uid = numOf (numberN r₂) e.uid :=
  numbering_two_runs_agree_partial Gen.C12.countKeyLower r₁ r₂ hp hkeys e he

/-- An identifier, once handed out, never changes during a run: the numbering of a
    request sequence is a prefix of the numbering of any extension of it. -/
theorem numbering_stable (lk : Bool) (r₁ r₂ : List Ent) :
    ∃ rest, numberNWith lk (r₁ ++ r₂) = numberNWith lk r₁ ++ rest := by
  obtain ⟨s, hs⟩ := numberAux_append (lk := lk) [] r₁ r₂
  exact ⟨numberAux lk s r₂, hs⟩

/-- Two different items never get the same number under the same counter key, for every
    request sequence.  With the lower-cased key (`lk = true`) this is what separates `Foo`
    from `foo`: same key, hence different numbers, hence `foo` and `foo~2`. -/
theorem numbering_same_key_distinct_numbers (lk : Bool) (reqs : List Ent) (p q : Ent × Nat)
    (hp : p ∈ numberNWith lk reqs) (hq : q ∈ numberNWith lk reqs)
    (hk : p.1.keyAs lk = q.1.keyAs lk) (hn : p.2 = q.2) : p = q :=
  numberAux_distinct (lk := lk) [] reqs p q hp hq hk hn

/-- Names that differ only in case: counted under the name as written both become `foo`
    (one page, one graph node, one graph file for two entities — the root of the findings
    C12-case-collision-hash-order and C12-parallel-graph-file-race); counted under the
    lower-cased name they become `foo` and `foo~2`. -/
theorem case_variants_witness :
    numberWith false [⟨1, "proc".toList, "Foo".toList⟩, ⟨2, "proc".toList, "foo".toList⟩]
      = [(⟨1, "proc".toList, "Foo".toList⟩, "foo".toList), (⟨2, "proc".toList, "foo".toList⟩, "foo".toList)] ∧
    numberWith true [⟨1, "proc".toList, "Foo".toList⟩, ⟨2, "proc".toList, "foo".toList⟩]
      = [(⟨1, "proc".toList, "Foo".toList⟩, "foo".toList), (⟨2, "proc".toList, "foo".toList⟩, "foo~2".toList)] := by
  -- a string literal is `String.ofList [chars]`: this turns every `"..".toList` into its character list by a
  -- lemma; evaluating `toList` of a literal costs time quadratic in its length (the witnesses with one or two short
  -- literals are evaluated as they stand)
  simp -index only [String.toList_ofList]
  decide +kernel

/-- The defect: with two equally named entities in one directory the numbering is
    first-come, so the request order (file order, hash order) decides who is `foo`
    and who is `foo~2`. -/
theorem numbering_first_come_witness :
    number [⟨1, "proc".toList, "foo".toList⟩, ⟨2, "proc".toList, "foo".toList⟩]
      = [(⟨1, "proc".toList, "foo".toList⟩, "foo".toList), (⟨2, "proc".toList, "foo".toList⟩, "foo~2".toList)] ∧
    number [⟨2, "proc".toList, "foo".toList⟩, ⟨1, "proc".toList, "foo".toList⟩]
      = [(⟨2, "proc".toList, "foo".toList⟩, "foo".toList), (⟨1, "proc".toList, "foo".toList⟩, "foo~2".toList)] := by
  simp -index only [String.toList_ofList]
  decide +kernel

/-- Repaired variant (iterate `uses` through a sort): the "Uses" list is the same
    for every iteration order of the set. -/
theorem uses_list_order_irrelevant_when_sorted (ω₁ ω₂ : List Str) (hp : ω₁.Perm ω₂) :
    usesShown true ω₁ = usesShown true ω₂ := by
  simp only [usesShown, if_true]
  exact sortOn_perm id ω₁ ω₂ hp (fun a b _ _ h => h)

/-- As the code is, the list is deterministic for units with at most one used module. -/
theorem uses_list_partial (ω₁ ω₂ : List Str) (hp : ω₁.Perm ω₂) (h1 : ω₁.length ≤ 1) :
    usesShown false ω₁ = usesShown false ω₂ := by
  rw [usesShown, usesShown, perm_eq_of_length_le_one hp.symm h1]

/-- ... and order-dependent as soon as two modules are used. -/
theorem uses_list_order_witness :
    usesShown false ["mb".toList, "mc".toList] ≠ usesShown false ["mc".toList, "mb".toList] ∧
    usesShown true ["mb".toList, "mc".toList] = usesShown true ["mc".toList, "mb".toList] :=
  ⟨by decide +kernel, uses_list_order_irrelevant_when_sorted _ _ (List.Perm.swap _ _ _)⟩

/-- Clause "regardless of what an earlier run left in the output directory": for
    every statement list that removes the output directory before its first write,
    the content below `out` after the run is the same for any two prior file systems. -/
theorem stale_output_irrelevant_steps (steps : List Str) (h : removeFirst steps = true) (out : Path)
    (ws : List (List (Path × Str))) (fs₁ fs₂ : FS) (p : Path) (hp : isUnder out p = true) :
    look (run (stepsOps out steps ws) fs₁) p = look (run (stepsOps out steps ws) fs₂) p := by
  induction steps generalizing ws with
  | nil => cases h
  | cons s ss ih =>
    unfold stepsOps
    unfold removeFirst at h
    by_cases h1 : (s == kwRemove) = true
    · rw [if_pos h1]
      exact look_run_of_rmtree [] _ out fs₁ fs₂ p hp
    · rw [if_neg h1] at h ⊢
      by_cases h2 : (s == kwWrite) = true
      · rw [if_pos h2] at h
        cases h
      · rw [if_neg h2] at h ⊢
        exact ih h ws

/-- ... and what a run of the tree does at the output directory (event list observed on every check:
    a real run over a stale output directory with the file-system primitives wrapped) is such a list. -/
theorem stale_output_irrelevant (out : Path) (ws : List (List (Path × Str))) (fs₁ fs₂ : FS) (p : Path)
    (hp : isUnder out p = true) :
    look (run (writeoutOps out ws) fs₁) p = look (run (writeoutOps out ws) fs₂) p :=
  stale_output_irrelevant_steps Gen.C12.writeoutSteps (by decide +kernel) out ws fs₁ fs₂ p hp

/-- ... also when a plain file stands where the output directory goes (second observed run). -/
theorem stale_output_irrelevant_plain_file (out : Path) (ws : List (List (Path × Str))) (fs₁ fs₂ : FS) (p : Path)
    (hp : isUnder out p = true) :
    look (run (stepsOps out Gen.C12.writeoutStepsPlainFile ws) fs₁) p
      = look (run (stepsOps out Gen.C12.writeoutStepsPlainFile ws) fs₂) p :=
  stale_output_irrelevant_steps Gen.C12.writeoutStepsPlainFile (by decide +kernel) out ws fs₁ fs₂ p hp

/-- Without the removal a stale file survives (why `removeFirst` is needed). -/
theorem stale_output_witness :
    look (run (stepsOps ["doc".toList] ["write".toList] [[(["a".toList], "x".toList)]])
      [(["doc".toList, "old".toList], "stale".toList)]) ["doc".toList, "old".toList] = some "stale".toList ∧
    look (run (stepsOps ["doc".toList] ["removeOut".toList, "write".toList] [[(["a".toList], "x".toList)]])
      [(["doc".toList, "old".toList], "stale".toList)]) ["doc".toList, "old".toList] = none := by decide +kernel

/-- Clause "regardless of the number of worker processes": the graph files written
    by `output_graphs` are the same for every `parallel` value and every completion
    order of the workers, because the tasks write pairwise different files. -/
theorem parallel_irrelevant (n₁ n₂ : Nat) (sched₁ sched₂ : List (Path × Str) → List (Path × Str))
    (h₁ : ∀ t, (sched₁ t).Perm t) (h₂ : ∀ t, (sched₂ t).Perm t)
    (tasks : List (Path × Str)) (hnd : (tasks.map (·.1)).Nodup) (fs : FS) (p : Path) :
    look (run (graphWrites n₁ sched₁ tasks) fs) p = look (run (graphWrites n₂ sched₂ tasks) fs) p := by
  have key : ∀ (n : Nat) (sched : List (Path × Str) → List (Path × Str)), (∀ t, (sched t).Perm t) →
      look (run (graphWrites n sched tasks) fs) p = look (run (tasks.map (fun w => Op.write w.1 w.2)) fs) p := by
    intro n sched hs
    have : tasks.Perm (if n == 0 then tasks else sched tasks) := by
      split
      · exact .refl _
      · exact (hs tasks).symm
    exact (look_run_writes_perm tasks _ this hnd fs p).symm
  rw [key n₁ sched₁ h₁, key n₂ sched₂ h₂]

/-- The serial and the `process_map` branch of `output_graphs` write the same graphs
    of the same collections (both tables regenerated from the source). -/
theorem parallel_branches_same_graphs : Gen.C12.serialGraphs = Gen.C12.parallelGraphs := rfl

/-- The hypothesis is needed: two tasks writing the same file make the schedule visible. -/
theorem parallel_collision_witness :
    look (run (graphWrites 0 id [(["g".toList], "1".toList), (["g".toList], "2".toList)]) []) ["g".toList]
      ≠ look (run (graphWrites 2 List.reverse [(["g".toList], "1".toList), (["g".toList], "2".toList)]) [])
          ["g".toList] := by decide +kernel

/-- `src/<basename>` copies: with pairwise different basenames the copied tree does
    not depend on the file order ... -/
theorem src_copies_order_irrelevant_partial (f₁ f₂ : List SrcFile) (hp : f₁.Perm f₂)
    (hb : (f₁.map (·.base)).Nodup) (fs : FS) (p : Path) :
    look (run (srcCopyOps f₁) fs) p = look (run (srcCopyOps f₂) fs) p := by
  have e : ∀ f : List SrcFile, srcCopyOps f =
      (f.map (fun x => ((["src".toList, x.base] : Path), x.content))).map (fun w => Op.write w.1 w.2) :=
    fun f => by
      rw [List.map_map]
      rfl
  rw [e, e]
  refine look_run_writes_perm _ _ (hp.map _) ?_ fs p
  rw [List.map_map]
  exact List.pairwise_map.mpr
    ((List.pairwise_map.mp hb).imp fun hne he => hne (List.cons.inj (List.cons.inj he).2).1)

/-- ... and with two files of the same basename the survivor is decided by the order. -/
theorem src_copies_order_witness :
    look (run (srcCopyOps [wa, { wb with base := "a.f90".toList }]) []) ["src".toList, "a.f90".toList]
      ≠ look (run (srcCopyOps [{ wb with base := "a.f90".toList }, wa]) []) ["src".toList, "a.f90".toList] := by
  decide +kernel

/-- Specification of the include look-up (`FortranReader.include`): the file is taken from the including
    file's own directory if it is there, else from the *first* directory of the list that holds it. -/
theorem include_first_hit_wins (has : Str → Bool) (own d : Str) (dirs : List Str)
    (h : resolveInclude has own dirs = some d) :
    has d = true ∧ ((d = own) ∨ (has own = false ∧ ∃ pre post, dirs = pre ++ d :: post ∧ ∀ x ∈ pre, has x = false)) := by
  unfold resolveInclude at h
  rw [List.find?_cons] at h
  cases ho : has own with
  | true =>
    rw [ho] at h
    obtain rfl : own = d := Option.some.inj h
    exact ⟨ho, .inl rfl⟩
  | false =>
    rw [ho] at h
    obtain ⟨hd, pre, post, he, hpre⟩ := List.find?_eq_some_iff_append.mp h
    exact ⟨hd, .inr ⟨rfl, pre, post, he, fun x hx => by simpa using hpre x hx⟩⟩

/-- Clause "regardless of string-hash randomisation" for `include` files, as the tree is: the reader keeps
    and probes the configured directories in the order given (switch regenerated from the AST of
    `FortranReader.__init__` / `include` on every run), so the file that is documented does not depend on
    any iteration order `ω` — whatever the directories hold. -/
theorem include_resolution_tree_deterministic (ω₁ ω₂ : List Str → List Str) (has : Str → Bool) (own : Str)
    (cfg : List Str) : resolveIncludeTree ω₁ has own cfg = resolveIncludeTree ω₂ has own cfg := by
  have h : Gen.C12.incDirsOrdered = true := rfl
  simp [resolveIncludeTree, incDirsKept, h]

/-- What holds even when the directories go through a hash-ordered collection: if at most one of them holds
    the file, every iteration order finds the same file ... -/
theorem include_resolution_perm_partial (has : Str → Bool) (own : Str) (d₁ d₂ : List Str) (hp : d₁.Perm d₂)
    (hu : ∀ a b, a ∈ d₁ → b ∈ d₁ → has a = true → has b = true → a = b) :
    resolveInclude has own d₁ = resolveInclude has own d₂ := by
  unfold resolveInclude
  rw [List.find?_cons, List.find?_cons]
  cases has own with
  | true => rfl
  | false => exact find?_perm_unique has d₁ d₂ hp hu

/-- ... and a file next to the including source file always wins. -/
theorem include_own_dir_first (has : Str → Bool) (own : Str) (d₁ d₂ : List Str) (h : has own = true) :
    resolveInclude has own d₁ = resolveInclude has own d₂ := by
  simp [resolveInclude, h]

/-- Two directories holding the file, iterated in hash order: the documented file depends on the order. -/
theorem include_resolution_order_witness :
    resolveInclude (fun d => d != "src".toList) "src".toList (incDirsKept false List.reverse ["a".toList, "b".toList])
      ≠ resolveInclude (fun d => d != "src".toList) "src".toList (incDirsKept false id ["a".toList, "b".toList]) ∧
    resolveInclude (fun d => d != "src".toList) "src".toList (incDirsKept true List.reverse ["a".toList, "b".toList])
      = resolveInclude (fun d => d != "src".toList) "src".toList (incDirsKept true id ["a".toList, "b".toList]) := by
  decide +kernel

/-- The inherited bindings keep the parent's declaration order ... -/
theorem inherited_bindings_source_order (parent own : List Binding) :
    (inheritedBindings parent own).Sublist parent := by
  unfold inheritedBindings
  exact List.filter_sublist

/-- ... and are exactly the parent's bindings that are neither private nor overridden. -/
theorem inherited_bindings_mem (parent own : List Binding) (bp : Binding) :
    bp ∈ inheritedBindings parent own ↔ bp ∈ parent ∧ bp.priv = false ∧ overrides own bp = false := by
  simp [inheritedBindings, List.mem_filter]

/-- Source order is the *only* admissible result: any enumeration of the inherited bindings (for instance the
    iteration order of a set of them) that respects the parent's declaration order is the model's list.  So
    "the page lists them in declaration order" leaves no freedom that a hash seed could fill. -/
theorem inherited_bindings_only_source_order (parent own l : List Binding) (hn : parent.Nodup)
    (hperm : l.Perm (inheritedBindings parent own)) (hsub : l.Sublist parent) :
    l = inheritedBindings parent own :=
  sublist_eq_filter_of_perm hsub hperm

/-- Clause "regardless of string-hash randomisation" for the bindings and components a type shows, as the tree
    is: the loops of `FortranType.correlate` that collect inherited entities walk the parent's lists (switch
    regenerated from the AST on every run), so no iteration order `ω` is visible — for a single type ... -/
theorem type_bindings_tree_deterministic (ω₁ ω₂ : List Binding → List Binding) (parent own : List Binding) :
    typeBindings Gen.C12.inheritedIterOrdered ω₁ parent own = typeBindings Gen.C12.inheritedIterOrdered ω₂ parent own ∧
    typeComps Gen.C12.inheritedIterOrdered ω₁ parent own = typeComps Gen.C12.inheritedIterOrdered ω₂ parent own := by
  have h : Gen.C12.inheritedIterOrdered = true := rfl
  simp [typeBindings, typeComps, h]

/-- ... and along an inheritance chain of any depth. -/
theorem chain_bindings_tree_deterministic (ω₁ ω₂ : List Binding → List Binding) (levels : List (List Binding)) :
    chainBindings Gen.C12.inheritedIterOrdered ω₁ levels = chainBindings Gen.C12.inheritedIterOrdered ω₂ levels ∧
    chainComps Gen.C12.inheritedIterOrdered ω₁ levels = chainComps Gen.C12.inheritedIterOrdered ω₂ levels := by
  have h : Gen.C12.inheritedIterOrdered = true := rfl
  simp [chainBindings, chainComps, typeBindings, typeComps, h]

/-- What holds even when the inherited bindings are collected from a hash-ordered collection: with at most
    one inherited binding there is only one order. -/
theorem type_bindings_perm_partial (ω₁ ω₂ : List Binding → List Binding) (hω₁ : ∀ l, (ω₁ l).Perm l)
    (hω₂ : ∀ l, (ω₂ l).Perm l) (parent own : List Binding) (h1 : (inheritedBindings parent own).length ≤ 1) :
    typeBindings false ω₁ parent own = typeBindings false ω₂ parent own := by
  simp only [typeBindings, Bool.false_eq_true, if_false]
  rw [perm_eq_of_length_le_one (hω₁ _) h1, perm_eq_of_length_le_one (hω₂ _) h1]

/-- Two inherited bindings collected in hash order: the page of the child lists them in either order. -/
theorem type_bindings_order_witness :
    typeBindings false List.reverse [⟨"area".toList, false⟩, ⟨"show".toList, false⟩, ⟨"init".toList, true⟩]
        [⟨"Show".toList, false⟩, ⟨"scale".toList, false⟩]
      = [⟨"area".toList, false⟩, ⟨"Show".toList, false⟩, ⟨"scale".toList, false⟩] ∧
    typeBindings false List.reverse [⟨"area".toList, false⟩, ⟨"show".toList, false⟩] []
      ≠ typeBindings false id [⟨"area".toList, false⟩, ⟨"show".toList, false⟩] [] ∧
    typeBindings true List.reverse [⟨"area".toList, false⟩, ⟨"show".toList, false⟩] []
      = typeBindings true id [⟨"area".toList, false⟩, ⟨"show".toList, false⟩] [] := by
  simp -index only [String.toList_ofList]
  decide +kernel

/-- Clause "regardless of what an earlier run left in the output directory", input side: `find_all_files`
    returns the same files for any two file systems that differ only below a directory on the exclude list —
    so the copies of the sources (`src/*.f90`) or any other stale output below an excluded output directory are
    never parsed, even when that directory lies inside a source directory. -/
theorem stale_output_never_read (srcDirs excl : List Path) (exts : List Str) (out : Path) (h : out ∈ excl)
    (fs₁ fs₂ : FS)
    (hfs : (fs₁.map (·.1)).filter (fun p => !isBelow out p) = (fs₂.map (·.1)).filter (fun p => !isBelow out p)) :
    findSources srcDirs excl exts fs₁ = findSources srcDirs excl exts fs₂ := by
  rw [findSources_eq_filter_notBelow srcDirs excl exts out h fs₁,
      findSources_eq_filter_notBelow srcDirs excl exts out h fs₂, hfs]

/-- However the output directory is configured (table probed on every run through the real `load_settings`,
    `parse_arguments` and `find_all_files`: project file / default / command line, with and without
    `project_url`), it ends up excluded from the source search — or the configuration is one of
    `defectiveOutDirConfigs` (finding C12-cli-output-dir-not-excluded, repaired in FORD by 4833068: every row of the
    table is `true`).  A change that excludes it only under some condition makes this fail. -/
theorem output_dir_excluded_however_configured :
    ∀ c ∈ Gen.C12.outputDirExcludedIn, c.2 = true ∨ c.1 ∈ defectiveOutDirConfigs := by
  decide +kernel

/-- ... hence, as the tree is, for every probed configuration outside `defectiveOutDirConfigs`: what the output
    directory holds before the run does not change the set of files that are parsed. -/
theorem stale_output_never_read_tree (cfg : Str) (hc : cfg ∈ Gen.C12.outputDirExcludedIn.map (·.1))
    (hd : cfg ∉ defectiveOutDirConfigs) (srcDirs userExcl : List Path) (out : Path) (exts : List Str)
    (fs₁ fs₂ : FS)
    (hfs : (fs₁.map (·.1)).filter (fun p => !isBelow out p) = (fs₂.map (·.1)).filter (fun p => !isBelow out p)) :
    findSourcesTree cfg srcDirs userExcl out exts fs₁ = findSourcesTree cfg srcDirs userExcl out exts fs₂ := by
  have he : outDirExcluded cfg = true := by
    unfold outDirExcluded
    cases hf : Gen.C12.outputDirExcludedIn.find? (fun c => c.1 == cfg) with
    | none =>
      obtain ⟨c, hc', rfl⟩ := List.mem_map.mp hc
      exact absurd (beq_self_eq_true c.1) (List.find?_eq_none.mp hf c hc')
    | some c =>
      have hcfg : c.1 = cfg := beq_iff_eq.mp (List.find?_some (p := fun c : Str × Bool => c.1 == cfg) hf)
      rcases output_dir_excluded_however_configured c (List.mem_of_find?_eq_some hf) with h | h
      · exact h
      · exact absurd (hcfg ▸ h) hd
  unfold findSourcesTree excludeDirsTree
  rw [he]
  exact stale_output_never_read srcDirs (userExcl ++ [out]) exts out (by simp) fs₁ fs₂ hfs

/-- Why the exclusion is needed: an output directory inside the source directory that still holds the copy of
    a source file from an earlier run — not excluded, the copy is parsed as a second source file. -/
theorem stale_output_read_witness :
    findSources [[cs! "src"]] [] [cs! "f90"]
        [([cs! "src", cs! "a.f90"], []), ([cs! "src", cs! "html", cs! "src", cs! "a.f90"], [])]
      = [[cs! "src", cs! "a.f90"], [cs! "src", cs! "html", cs! "src", cs! "a.f90"]] ∧
    findSources [[cs! "src"]] [[cs! "src", cs! "html"]] [cs! "f90"]
        [([cs! "src", cs! "a.f90"], []), ([cs! "src", cs! "html", cs! "src", cs! "a.f90"], [])]
      = findSources [[cs! "src"]] [[cs! "src", cs! "html"]] [cs! "f90"] [([cs! "src", cs! "a.f90"], [])] := by
  decide +kernel

/-- Deciding the kind of a file (free / fixed form, preprocessed or not, extra file type, skipped) from the
    *last suffix* of its name by membership tests: the order in which `settings.extensions` — a
    `list(set(..) | set(..))` — lists the extensions is invisible. -/
theorem file_kind_by_suffix_order_irrelevant (c : ExtCfg) (e' : List Str) (hp : e'.Perm c.exts) (name : Str) :
    fileKind true { c with exts := e' } name = fileKind true c name := by
  simp only [fileKind, extensionOf, if_true]
  rw [(hp.append_right c.fixed).contains_eq]

/-- Clause "regardless of string-hash randomisation" for the extension list, as the tree is (switch probed on
    the real `Project.__init__` on every run): whether a file is parsed, preprocessed, read as fixed form or
    treated as an extra file does not depend on the order `ω` of the set union. -/
theorem file_kind_tree_deterministic (ω₁ ω₂ : List Str → List Str) (h₁ : ∀ l, (ω₁ l).Perm l)
    (h₂ : ∀ l, (ω₂ l).Perm l) (c : ExtCfg) (name : Str) : fileKindTree ω₁ c name = fileKindTree ω₂ c name := by
  have h : Gen.C12.extensionBySuffix = true := rfl
  unfold fileKindTree
  rw [h, file_kind_by_suffix_order_irrelevant c (ω₁ c.exts) (h₁ c.exts) name,
      file_kind_by_suffix_order_irrelevant c (ω₂ c.exts) (h₂ c.exts) name]

/-- What holds even when the first configured extension the name ends with wins: if the name ends with at most
    one configured extension, the order of the list is still invisible ... -/
theorem file_kind_first_match_partial (c : ExtCfg) (e' : List Str) (hp : e'.Perm c.exts) (name : Str)
    (hu : ∀ a b, a ∈ c.exts ++ c.fixed ++ c.extra → b ∈ c.exts ++ c.fixed ++ c.extra →
      endsWithExt name a = true → endsWithExt name b = true → a = b) :
    fileKind false { c with exts := e' } name = fileKind false c name := by
  have hf := find?_perm_unique (endsWithExt name) _ _ ((hp.append_right c.fixed).append_right c.extra).symm hu
  simp only [fileKind, extensionOf, Bool.false_eq_true, if_false, ← hf]
  rw [(hp.append_right c.fixed).contains_eq]

/-- ... and visible as soon as one configured extension is a dotted suffix of another (`f90` / `pp.f90`):
    `x.pp.f90` is preprocessed or not depending on the hash order.  By the last suffix it never is. -/
theorem file_kind_first_match_order_witness :
    fileKind false ⟨[cs! "f90", cs! "pp.f90"], [], [cs! "pp.f90"], []⟩ (cs! "x.pp.f90") = .fortran false false ∧
    fileKind false ⟨[cs! "pp.f90", cs! "f90"], [], [cs! "pp.f90"], []⟩ (cs! "x.pp.f90") = .fortran true false ∧
    fileKind true ⟨[cs! "f90", cs! "pp.f90"], [], [cs! "pp.f90"], []⟩ (cs! "x.pp.f90") = .fortran false false ∧
    fileKind true ⟨[cs! "pp.f90", cs! "f90"], [], [cs! "pp.f90"], []⟩ (cs! "x.pp.f90") = .fortran false false := by
  decide +kernel

/-- Every place in `ford/*.py` where a syntactically hash-ordered collection (set, set operator on sets or dict
    views, a name or attribute bound to one) is iterated, listed, joined or unpacked (table regenerated from the
    sources on every run) goes through `sorted(...)`, or is one of the sites reviewed as order-insensitive, or is
    one of `defectiveHashIterSites` (finding C12-inheritedby-children-set-order, repaired in FORD by 930e8a9: the site is
    sorted).  A new `list(set(..))` / `for x in a.keys() - b` makes this fail. -/
theorem hash_iter_sites_all_reviewed :
    ∀ s ∈ Gen.C12.hashIterSites,
      s.2 = true ∨ s.1 ∈ reviewedHashIterSites ∨ s.1 ∈ defectiveHashIterSites := by
  decide +kernel

/-- Clause "regardless of string-hash randomisation" for every `sorted(<set of graph nodes>)`, as the tree is:
    `BaseNode.__lt__` compares the identifier the set is keyed by (switch regenerated from the AST on every
    run), so whatever order the set is iterated in, the nodes are emitted in one order - also when several
    nodes carry the same label. -/
theorem graph_nodes_tree_deterministic (n₁ n₂ : List Node) (hp : n₁.Perm n₂)
    (hid : (n₁.map (·.ident)).Nodup) : emitNodesTree n₁ = emitNodesTree n₂ := by
  have h : Gen.C12.nodeLtByIdent = true := rfl
  rw [emitNodesTree, emitNodesTree, h]
  exact sortOn_perm_of_nodup (nodeKeyOf true) n₁ n₂ hp hid

/-- ... and the same for `sorted(<set of entities>)` (`FortranBase.__lt__`; toposort levels, `graph_all`),
    for sets whose members have pairwise different identifiers. -/
theorem entities_sorted_tree_deterministic (e₁ e₂ : List Node) (hp : e₁.Perm e₂)
    (hid : (e₁.map (·.ident)).Nodup) : sortEntitiesTree e₁ = sortEntitiesTree e₂ := by
  have h : Gen.C12.entityLtByIdent = true := rfl
  rw [sortEntitiesTree, sortEntitiesTree, h]
  exact sortOn_perm_of_nodup (nodeKeyOf true) e₁ e₂ hp hid

/-- What holds for any compared key: node sets in which the key happens to distinguish the members. -/
theorem graph_nodes_any_key_partial (byIdent : Bool) (n₁ n₂ : List Node) (hp : n₁.Perm n₂)
    (hk : (n₁.map (nodeKeyOf byIdent)).Nodup) : emitNodesBy byIdent n₁ = emitNodesBy byIdent n₂ :=
  sortOn_perm_of_nodup _ n₁ n₂ hp hk

/-- Ordered by the label, two equally named procedures of different modules come out in the iteration order
    of the set; ordered by the identifier they do not. -/
theorem graph_nodes_label_key_witness :
    emitNodesBy false [⟨cs! "proc~helper", cs! "helper"⟩, ⟨cs! "proc~helper~2", cs! "Helper"⟩]
      ≠ emitNodesBy false [⟨cs! "proc~helper~2", cs! "Helper"⟩, ⟨cs! "proc~helper", cs! "helper"⟩] ∧
    emitNodesBy true [⟨cs! "proc~helper", cs! "helper"⟩, ⟨cs! "proc~helper~2", cs! "Helper"⟩]
      = emitNodesBy true [⟨cs! "proc~helper~2", cs! "Helper"⟩, ⟨cs! "proc~helper", cs! "helper"⟩] := by
  refine ⟨?_, graph_nodes_any_key_partial true _ _ (List.Perm.swap _ _ _) (by decide +kernel)⟩
  rw [emitNodesBy, emitNodesBy, sortOn_of_sorted _ _ (by decide +kernel), sortOn_of_sorted _ _ (by decide +kernel)]
  decide +kernel

/-- Every class of `ford/*.py` that defines an order (table regenerated on every run) compares the identifier,
    and where the class also defines the identity of its objects in a set (`__eq__`, `__hash__`) it is the same
    attribute: the order distinguishes whatever the set distinguishes. -/
theorem order_defs_compare_the_set_identity :
    ∀ d ∈ Gen.C12.orderDefs, d.2.1 = cs! "ident" ∧ (d.2.2.1 = [] ∨ d.2.2.1 = d.2.1) ∧ (d.2.2.2 = [] ∨ d.2.2.2 = d.2.1) := by
  decide +kernel

/-- Every `sorted()` / `.sort()` / keyed `min`, `max` of `ford/*.py` and every sort filter of the templates
    (table regenerated on every run) uses the natural order of its elements (no `key=`, not reversed), or is one
    of the keyed sorts reviewed as working on an input whose order is itself determined.  In particular no sort of
    a set or of a directory listing has a key. -/
theorem sort_sites_natural_or_reviewed :
    ∀ s ∈ Gen.C12.sortSites,
      (s.2.2.1 = [] ∧ s.2.2.2 = []) ∨
      (s.2.1 = cs! "other" ∧ s.2.2.2 = [] ∧ (s.1, s.2.2.1) ∈ reviewedKeyedSorts) := by
  decide +kernel

/-- Clause "regardless of the order in which the file system enumerates" for the page tree, as the tree is:
    the listing of a page directory is sorted by the entry names themselves (switch regenerated from the AST of
    `get_page_tree` on every run) and the names in one directory are pairwise different, so the entries are
    walked in one order whatever `os.listdir` returns - for every `ordered_subpage` list. -/
theorem page_entries_tree_deterministic (ordered e₁ e₂ : List Str) (hp : e₁.Perm e₂) (hnd : e₁.Nodup) :
    pageFileListTree ordered e₁ = pageFileListTree ordered e₂ := by
  have h : Gen.C12.pageListNatural = true := rfl
  simp only [pageFileListTree, pageFileList, h]
  rw [sortOn_perm_of_nodup (pageKey true) e₁ e₂ hp (by rwa [show pageKey true = id from rfl, List.map_id])]

/-- What holds for a keyed listing too: directories in which the key distinguishes the entries. -/
theorem page_entries_any_key_partial (natural : Bool) (ordered e₁ e₂ : List Str) (hp : e₁.Perm e₂)
    (hk : (e₁.map (pageKey natural)).Nodup) : pageFileList natural ordered e₁ = pageFileList natural ordered e₂ := by
  simp only [pageFileList]
  rw [sortOn_perm_of_nodup _ e₁ e₂ hp hk]

/-- The walk starts with the user's `ordered_subpage` entries (those that are shown), in the order given:
    the listing only decides the rest. -/
theorem page_entries_user_order_first (natural : Bool) (o : Str) (ordered enum : List Str) :
    ∃ rest, pageFileList natural (o :: ordered) enum = (if pageVisible o then [o] else []) ++ rest := by
  simp only [pageFileList, List.isEmpty_cons, Bool.false_eq_true, if_false, List.cons_append, dedupAux,
    List.contains_nil, List.filter_cons]
  split <;> exact ⟨_, rfl⟩

/-- Sorted by the lower-cased stem, a page `usage.md` next to a sub-directory `usage` (or `FAQ.md` next to
    `faq.md`) is walked in the order of the file system; sorted by name it is not. -/
theorem page_entries_stem_key_witness :
    pageFileList false [] [cs! "index.md", cs! "usage.md", cs! "usage"]
      ≠ pageFileList false [] [cs! "index.md", cs! "usage", cs! "usage.md"] ∧
    pageFileList false [] [cs! "FAQ.md", cs! "faq.md"] ≠ pageFileList false [] [cs! "faq.md", cs! "FAQ.md"] ∧
    pageFileList true [] [cs! "index.md", cs! "usage.md", cs! "usage"]
      = pageFileList true [] [cs! "index.md", cs! "usage", cs! "usage.md"] := by
  refine ⟨?_, ?_, page_entries_any_key_partial true [] _ _ ((List.Perm.swap _ _ _).cons _) (by decide +kernel)⟩
  · simp only [pageFileList]
    rw [sortOn_of_sorted _ _ (by decide +kernel), sortOn_of_sorted _ _ (by decide +kernel)]
    decide +kernel
  · simp only [pageFileList]
    rw [sortOn_of_sorted _ _ (by decide +kernel), sortOn_of_sorted _ _ (by decide +kernel)]
    decide +kernel

/-- Clause "regardless of string-hash randomisation" for the colours of the edges of a graph hop
    (`coloured_edges`), as the tree is (switch probed on the real `FortranGraph.add_nodes` on every run): the
    colour number of a node is its position in the *sorted* hop, so for every two iteration orders of the node set
    (`n₁ ~ n₂`) and whatever the set hands out (`ω₁`, `ω₂`), every edge gets the same colour. -/
theorem edge_colours_tree_deterministic (ω₁ ω₂ : List Node → List Node) (n₁ n₂ : List Node) (hp : n₁.Perm n₂)
    (hid : (n₁.map (·.ident)).Nodup) : hopColoursTree ω₁ n₁ = hopColoursTree ω₂ n₂ := by
  have h : Gen.C12.edgeColourBySortedIndex = true := rfl
  simp only [hopColoursTree, hopColours, h, if_true]
  rw [graph_nodes_tree_deterministic n₁ n₂ hp hid]

/-- The emission order never depends on how the colours are numbered: with either rule the nodes of the hop come
    out in the one sorted order (only the colour numbers can move). -/
theorem edge_colours_emission_order (b : Bool) (ω : List Node → List Node) (nodes : List Node) :
    (hopColours b ω nodes).map (·.1) = (emitNodesTree nodes).map (·.ident) := by
  simp [hopColours, Function.comp_def]

/-- What numbering by iteration order still guarantees: a hop with at most one node. -/
theorem edge_colours_iteration_order_partial (ω₁ ω₂ : List Node → List Node) (nodes : List Node)
    (h₁ : ∀ l, (ω₁ l).Perm l) (h₂ : ∀ l, (ω₂ l).Perm l) (hlen : nodes.length ≤ 1) :
    hopColours false ω₁ nodes = hopColours false ω₂ nodes := by
  simp only [hopColours, Bool.false_eq_true, if_false]
  rw [perm_eq_of_length_le_one (h₁ nodes) hlen, perm_eq_of_length_le_one (h₂ nodes) hlen]

/-- Numbering the nodes by enumerating the set: the two iteration orders of a two-node hop give every edge the
    other colour; numbering the sorted list gives one colouring. -/
theorem edge_colours_set_order_witness :
    hopColours false id [⟨cs! "proc~assemble", cs! "assemble"⟩, ⟨cs! "proc~solve", cs! "solve"⟩]
      ≠ hopColours false List.reverse [⟨cs! "proc~assemble", cs! "assemble"⟩, ⟨cs! "proc~solve", cs! "solve"⟩] ∧
    hopColours true id [⟨cs! "proc~assemble", cs! "assemble"⟩, ⟨cs! "proc~solve", cs! "solve"⟩]
      = hopColours true List.reverse [⟨cs! "proc~assemble", cs! "assemble"⟩, ⟨cs! "proc~solve", cs! "solve"⟩] := by
  have h : Gen.C12.nodeLtByIdent = true := rfl
  refine ⟨?_, by simp [hopColours]⟩
  simp only [hopColours, emitNodesTree, emitNodesBy, h]
  rw [sortOn_of_sorted _ _ (by decide +kernel)]
  decide +kernel

/-- `findSources` is the `firstCome = false` instance on the paths of the file system. -/
theorem find_sources_listed_eq_findSources (real : Path → Path) (srcDirs excl : List Path) (exts : List Str) (fs : FS) :
    findSourcesListed false real srcDirs excl exts (fs.map (·.1)) = findSources srcDirs excl exts fs := by
  simp [findSourcesListed, findSources]

/-- Clause "regardless of ... the order in which the file system enumerates source files" for the *set* of source
    files, as the tree is (switch probed on the real `find_all_files` over a directory with symbolic links,
    enumerated in two orders, on every run): two enumeration orders of the same directory entries give the same
    files (as a set: one a permutation of the other) - also when several paths lead to one file. -/
theorem find_sources_enumeration_order_irrelevant_tree (real : Path → Path) (srcDirs excl : List Path) (exts : List Str)
    (l₁ l₂ : List Path) (hp : l₁.Perm l₂) :
    (findSourcesListedTree real srcDirs excl exts l₁).Perm (findSourcesListedTree real srcDirs excl exts l₂) := by
  have h : Gen.C12.sourceAliasesFirstCome = false := rfl
  simp only [findSourcesListedTree, findSourcesListed, h]
  exact hp.filter _

/-- ... and therefore the order in which the files are parsed (the sorted set) is one list for every enumeration
    order, for a sort key that tells the paths apart. -/
theorem parse_order_enumeration_irrelevant_tree (real : Path → Path) (srcDirs excl : List Path) (exts : List Str)
    (key : Path → Str) (hkey : ∀ a b, key a = key b → a = b)
    (l₁ l₂ : List Path) (hp : l₁.Perm l₂) :
    sortOn key (findSourcesListedTree real srcDirs excl exts l₁) = sortOn key (findSourcesListedTree real srcDirs excl exts l₂) :=
  sortOn_perm key _ _ (find_sources_enumeration_order_irrelevant_tree real srcDirs excl exts l₁ l₂ hp)
    (fun a b _ _ hab => hkey a b hab)

/-- Keeping the first path of every file is harmless when no file has two paths: if `real` is injective on
    the listing, nothing is dropped. -/
theorem find_sources_first_come_partial (real : Path → Path) (seen l : List Path)
    (hnd : (l.map real).Nodup) (hs : ∀ p ∈ l, real p ∉ seen) : dedupByReal real seen l = l := by
  induction l generalizing seen with
  | nil => rfl
  | cons p ps ih =>
    rw [List.map_cons, List.nodup_cons] at hnd
    have hp : ¬ seen.contains (real p) = true := fun h => hs p List.mem_cons_self (List.contains_iff_mem.mp h)
    rw [dedupByReal, if_neg hp, ih (real p :: seen) hnd.2]
    intro q hq
    rw [List.mem_cons, not_or]
    exact ⟨fun e => hnd.1 (e ▸ List.mem_map_of_mem hq), hs q (List.mem_cons_of_mem _ hq)⟩

/-- First-come among the paths of one file: `compat/blas_axpy.f90` is a link to `legacy/axpy.f90`; listed in two
    orders, two different files are documented.  With every path kept the two listings give the same set. -/
theorem find_sources_first_come_order_witness :
    let a : Path := [cs! "src", cs! "legacy", cs! "axpy.f90"]
    let b : Path := [cs! "src", cs! "compat", cs! "blas_axpy.f90"]
    let real : Path → Path := fun p => if p == b then a else p
    findSourcesListed true real [[cs! "src"]] [] [cs! "f90"] [a, b] = [a] ∧
    findSourcesListed true real [[cs! "src"]] [] [cs! "f90"] [b, a] = [b] ∧
    findSourcesListed false real [[cs! "src"]] [] [cs! "f90"] [a, b] = [a, b] ∧
    findSourcesListed false real [[cs! "src"]] [] [cs! "f90"] [b, a] = [b, a] := by
  decide +kernel

/-- Every value the `sort` option may take (keys of `SORT_KEY_FUNCTIONS`, regenerated from the source on every
    run) is `src` or has its key function in the model. -/
theorem sort_modes_all_modelled :
    ∀ m ∈ Gen.C12.sortModes, m = cs! "src" ∨ (sortKeyFn m).isSome = true := by
  decide +kernel

/-- `sort: src` (the default) leaves every list in source order. -/
theorem sort_components_src_identity (l : List Comp) : sortComponents (cs! "src") l = l := by
  have h : sortKeyFn (lower (cs! "src")) = none := by decide +kernel
  simp [sortComponents, h]

/-- Sorting loses and invents nothing: the sorted list is a permutation of the source-order list. -/
theorem sort_components_perm (mode : Str) (l : List Comp) : (sortComponents mode l).Perm l := by
  unfold sortComponents
  split
  · exact sortOn_perm_self _ l
  · exact List.Perm.refl l

/-- ... and it is ordered by the key of the mode. -/
theorem sort_components_ordered (mode : Str) (key : Comp → Str) (h : sortKeyFn (lower mode) = some key) (l : List Comp) :
    (sortComponents mode l).Pairwise (fun a b => strLe (key a) (key b) = true) := by
  simp only [sortComponents, h]
  exact sortOn_sorted key l

/-- The part of the clause "output is a function of the inputs" that a key with ties (`permission`, `type`: many
    entities share a key) rests on: `list.sort` is stable, so the entities that share a key value `k` keep exactly
    their source order - no other order (hash, enumeration) can enter through the ties.  For every mode, every
    list, every key value. -/
theorem sort_components_ties_keep_source_order (mode : Str) (key : Comp → Str) (h : sortKeyFn (lower mode) = some key)
    (l : List Comp) (k : Str) :
    (sortComponents mode l).filter (fun c => key c == k) = l.filter (fun c => key c == k) := by
  simp only [sortComponents, h]
  exact sortOn_filter_key key l k

/-- Why the lists handed to the sort must themselves be in a determined (source) order: two entities of equal
    permission, given in two orders, come out in two orders under `sort: permission`.  (The last conjunct: under
    `alpha` the names tell the two apart, and both orders give one list.) -/
theorem sort_components_input_order_witness :
    let v : VarSig := ⟨cs! "integer", [], [], []⟩
    let a : Comp := ⟨1, cs! "beta", cs! "variable", cs! "public", v, [], none⟩
    let b : Comp := ⟨2, cs! "alpha", cs! "variable", cs! "public", v, [], none⟩
    sortComponents (cs! "permission") [a, b] = [a, b] ∧ sortComponents (cs! "permission") [b, a] = [b, a] ∧
    sortComponents (cs! "alpha") [a, b] = sortComponents (cs! "alpha") [b, a] := by
  have hp : sortKeyFn (lower (cs! "permission")) = some (fun c => showNat (permRank c.permission)) := by rfl
  have ha : sortKeyFn (lower (cs! "alpha")) = some (·.name) := by rfl
  refine ⟨?_, ?_, ?_⟩
  · simp only [sortComponents, hp]
    exact sortOn_of_sorted _ _ (by decide +kernel)
  · simp only [sortComponents, hp]
    exact sortOn_of_sorted _ _ (by decide +kernel)
  · simp only [sortComponents, ha]
    exact sortOn_perm_of_nodup _ _ _ (List.Perm.swap _ _ _) (by decide +kernel)

end Ford.C12
