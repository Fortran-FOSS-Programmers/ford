/-
  C17 - static pages mirror the page directory, in the documented order.
  Property theorems only; the model is FordModel/PageTree.lean (tied to the source by the
  generated constants of Generated/C17.lean and by differential execution in harness/c17.py),
  the specification vocabulary is FordModel/PageTreeSpec.lean (`Sorted` and `Plain` are defined in
  Lemmas/PageTree.lean), helper lemmas are in
  FordModel/Lemmas/PageTree.lean (order, paths, one directory, mirror), Lemmas/PageTreeNodup.lean (multiplicity)
  and Lemmas/PageCopy.lean (the copy loops).
  The text level of the aliases is FordModel/PageAlias.lean with Lemmas/PageAlias.lean, the containment guard of
  the walk Lemmas/PageGuard.lean; the two probe tables are Generated/C17.lean and Generated/C17Probe.lean.
-/
import FordModel.PageTree
import FordModel.PageTreeSpec
import FordModel.Lemmas.PageTree
import FordModel.Lemmas.PageTreeNodup
import FordModel.PageAlias
import FordModel.Lemmas.PageAlias
import FordModel.Lemmas.PageGuard
import FordModel.Lemmas.PageCopy
import FordModel.Generated.C17Probe
namespace Ford.C17
open Ford Ford.PT Ford.Gen.C17

/-- "alphabetically": the listing that `get_page_tree` walks is a permutation of the directory's
    names that is ascending in code-point order (Python's `sorted()` on `str`), for every directory. -/
theorem listing_sorted (nms : List Str) : Sorted (sortNames nms) ∧ (sortNames nms).Perm nms :=
  ⟨sortNames_sorted nms, sortNames_perm nms⟩

/-- ... and that order is a genuine total order on names (so "the" alphabetical order is unique):
    reflexive, total, transitive, antisymmetric. -/
theorem listing_order_total (a b c : Str) :
    strLe a a = true ∧ (strLe a b = true ∨ strLe b a = true) ∧
    (strLe a b = true → strLe b c = true → strLe a c = true) ∧
    (strLe a b = true → strLe b a = true → a = b) :=
  ⟨strLe_refl a, strLe_total a b, strLe_trans a b c, strLe_antisymm a b⟩

/-- "pages are ordered by `ordered_subpage` first and alphabetically after": for every directory
    (distinct entry names) and every `ordered_subpage` list - valid, partial, with repetitions, naming
    index.md or missing entries - the sequence of names the loop visits is the requested names
    (first occurrences, index.md dropped) followed by the sorted listing without index.md and
    without the requested names. -/
theorem order_documented (ordered nms : List Str) (hn : nms.Nodup) :
    mergedList ordered nms =
      dedup (ordered.filter (fun x => x != indexName)) ++
        ((sortNames nms).erase indexName).filter
          (fun y => !(ordered.filter (fun x => x != indexName)).contains y) :=
  mergedList_eq ordered nms hn

/-- merging loses no sibling and visits none twice: a name is visited iff it is requested or present
    (and is not index.md), exactly once. -/
theorem order_complete (ordered nms : List Str) (hn : nms.Nodup) :
    (∀ x, x ∈ mergedList ordered nms ↔ x ≠ indexName ∧ (x ∈ ordered ∨ x ∈ nms)) ∧
    (mergedList ordered nms).Nodup :=
  ⟨fun x => mem_mergedList x ordered nms hn, mergedList_nodup ordered nms hn⟩

/-- the navigation order of a node is the documented order: the sub-pages (and recorded files) of the
    top page are, in that order, what the visited names contribute one by one; the contribution of a
    name depends on that entry alone (`pageAt`), never on its neighbours in the list.  When some
    name raises, the result is the first such error. -/
theorem nav_order (v : Variant) (pc : Option (List Str)) (loc : PathS) (rs : List (Str × Bool × Res))
    (l : List Str) :
    walk v pc loc rs l =
      match l.findSome? (abortAt v pc loc rs) with
      | some p => .abort p
      | none => .ok (l.filterMap (pageAt v pc rs)) (l.filter (fileAt v pc rs)) :=
  walk_eq v pc loc rs l

/-- In the variant `MissingOrdered.skips` (report and continue; finding C17-missing-ordered-subpage-aborts,
    repaired in FORD by b41dfee) no page directory whatsoever makes `get_page_tree` raise. -/
theorem missing_ordered_isolated (v : Variant) (hv : v.mo = .skips) (e : Entry)
    (own : List Str) (hier : List (PathS × Str)) (loc : PathS) (sibs : List Entry) (p : PathS) :
    entryRes v own hier loc sibs e ≠ .abort p :=
  entryRes_skips_no_abort v hv e own hier loc sibs p

/-- Every variant, `MissingOrdered.raises` included, raises only for inputs of the class of finding
    C17-missing-ordered-subpage-aborts: when every `ordered_subpage` item names an entry of its
    directory (or index.md, or a hidden/backup name), nothing raises, at any depth. -/
theorem missing_ordered_isolated_partial (v : Variant) (e : Entry)
    (own : List Str) (hier : List (PathS × Str)) (loc : PathS) (sibs : List Entry) (p : PathS)
    (hwf : wfEntry e = true) (hok : orderedOk e = true) :
    entryRes v own hier loc sibs e ≠ .abort p := by
  induction e using entry_ind_aux generalizing own hier loc sibs p with
  | hf n m => exact entryRes_file_ne_abort
  | hd n cs ih =>
    simp only [wfEntry, Bool.and_eq_true, decide_eq_true_eq] at hwf
    simp only [orderedOk, Bool.and_eq_true] at hok
    rw [entryRes_dir]
    apply dirRes_ne_abort
    · -- a visited visible name that is no entry would be an `ordered_subpage` item that `orderedOk` excludes
      intro m t hidx x hxm hs hf
      exfalso
      have hnot := findEntry_none hf
      simp only [hidx, List.all_eq_true, Bool.or_eq_true, beq_iff_eq, List.contains_iff_mem] at hok
      obtain ⟨hni, hmem⟩ := (mem_mergedList _ _ _ hwf.1).mp hxm
      rcases hmem with ho | hn
      · rcases hok.1 x ho with (h | h) | h
        · exact hni h
        · rw [hs] at h
          cases h
        · exact hnot h
      · exact hnot hn
    · exact fun c hc o hier q =>
        ih c hc o hier _ _ q (wfEntries_iff.mp hwf.2 c hc) (orderedOkL_iff.mp hok.2 c hc)

/-- ... and the variant `MissingOrdered.raises` does raise on the witness of the finding: `ordered_subpage: gone.md` next to a good
    page `a.md` aborts the whole tree (the sibling is lost, not just the bad entry). -/
theorem missing_ordered_witness :
    (match getPageTree Variant.asIs
        [.file "index.md".toList ⟨some ['T'], ["gone.md".toList], [], []⟩,
         .file "a.md".toList ⟨some ['A'], [], [], []⟩] with
     | .abort p => p == ["gone.md".toList]
     | _ => false) = true := by
  -- the literals are turned into character lists first: evaluating `"…".toList` is slow
  simp -index only [String.toList_ofList]
  decide +kernel

/-- **Mirror.**  For every page directory of any size and nesting depth (distinct names per
    directory), a path is a page of the tree that `get_page_tree` builds iff the property statement
    expects it: `index.html` for every directory reached through titled index.md files, and
    `<stem>.html` at the same relative location for every visible titled `*.md` in such a directory -
    nothing else, nothing missing, whatever `ordered_subpage` / `copy_subdir` say and however many
    untitled pages, index-less directories, hidden, backup and other files sit in between.
    Partial: the three decidable hypotheses cut out exactly the classes of the known findings
    (dotted stems; a directory named in its grandparent's `copy_subdir`; a run that aborts on a
    dangling `ordered_subpage`, see `missing_ordered_isolated_partial`). -/
theorem mirror_partial (v : Variant) (cs : List Entry)
    (hn : (names cs).Nodup) (hwf : wfEntries cs = true)
    (hstems : plainStemsL cs = true)
    (hgp : gpFreeL v none (match indexMeta cs with | some (m, _) => some m.copySub | none => none) cs = true)
    (hnoab : ∀ q, getPageTree v cs ≠ .abort q) (p : PathS) :
    p ∈ resPaths (getPageTree v cs) ↔ p ∈ expPages cs := by
  rw [getPageTree_eq_dirRes] at hnoab ⊢
  exact dirRes_mirror hn hwf hstems hgp (fun c _ => entryRes_mirror v c) hnoab p

/-- ... and for a sub-directory at any location (the statement by which the induction goes). -/
theorem mirror_subtree_partial (v : Variant) (e : Entry) (own : List Str) (hier : List (PathS × Str))
    (loc : PathS) (sibs : List Entry) (pc : Option (List Str))
    (hwf : wfEntry e = true) (hstems : plainStems e = true) (hgp : gpFree v pc (some own) e = true)
    (hnoab : ∀ q, entryRes v own hier loc sibs e ≠ .abort q) (p : PathS) :
    p ∈ resPaths (entryRes v own hier loc sibs e) ↔ p ∈ expEntry loc e :=
  entryRes_mirror v e own hier loc sibs pc hwf hstems hgp hnoab p

/-- In the variant without the `copy_subdir` recursion test (`CopyCheck.ignored`, a candidate repair) and with
    dangling `ordered_subpage` entries skipped (`MissingOrdered.skips`, FORD since b41dfee) the mirror holds
    with no hypothesis besides well-formedness and plain stems. -/
theorem mirror_repaired_partial (v : Variant) (hcc : v.cc = .ignored) (hmo : v.mo = .skips)
    (cs : List Entry) (hn : (names cs).Nodup) (hwf : wfEntries cs = true)
    (hstems : plainStemsL cs = true) (p : PathS) :
    p ∈ resPaths (getPageTree v cs) ↔ p ∈ expPages cs :=
  mirror_partial v cs hn hwf hstems
    (gpFreeL_iff.mpr (fun c _ => gpFree_ignored v hcc c _ _))
    (getPageTree_skips_no_abort v hmo cs) p

/-- **A bad page is isolated.**  An entry from which no page is expected - in particular an `*.md`
    without a title, or a sub-directory whose index.md is missing or untitled - removes exactly itself
    (its sub-tree): the pages of the directory that contains it are exactly the pages expected of the
    directory *without* it; no sibling, before or after it in any order, is lost. -/
theorem bad_page_isolated_partial (v : Variant) (l₁ l₂ : List Entry) (b : Entry)
    (hb : b.name ≠ indexName) (hbad : expEntry [] b = [])
    (hn : (names (l₁ ++ b :: l₂)).Nodup) (hwf : wfEntries (l₁ ++ b :: l₂) = true)
    (hstems : plainStemsL (l₁ ++ b :: l₂) = true)
    (hgp : gpFreeL v none (match indexMeta (l₁ ++ b :: l₂) with | some (m, _) => some m.copySub | none => none)
            (l₁ ++ b :: l₂) = true)
    (hnoab : ∀ q, getPageTree v (l₁ ++ b :: l₂) ≠ .abort q) (p : PathS) :
    p ∈ resPaths (getPageTree v (l₁ ++ b :: l₂)) ↔ p ∈ expPages (l₁ ++ l₂) := by
  rw [← expPages_remove l₁ l₂ b hb hbad]
  exact mirror_partial v _ hn hwf hstems hgp hnoab p

/-- the two kinds of bad page the statement names do expect no page -/
theorem untitled_expects_nothing (loc : PathS) (n : Str) (m : Meta) (ds : List Entry)
    (hm : m.title = none) (hd : indexMeta ds = none) :
    expEntry loc (.file n m) = [] ∧ expEntry loc (.dir n ds) = [] := by
  simp [expEntry, titled, indexed, hm, hd]

/-- non-vacuity: a three-level directory with an untitled page, an index-less directory, hidden and
    other files, a partial `ordered_subpage` and a `copy_subdir` satisfies every hypothesis of
    `mirror_partial`, and produces five pages. -/
example :
    let w : List Entry :=
      [.file "z.md".toList ⟨some ['Z'], [], [], []⟩,
       .file "index.md".toList ⟨some ['T'], ["z.md".toList, "sub".toList], ["img".toList], []⟩,
       .file "bad.md".toList ⟨none, [], [], []⟩,
       .file ".hidden.md".toList ⟨some ['H'], [], [], []⟩,
       .file "data.txt".toList ⟨none, [], [], []⟩,
       .dir "img".toList [.file "p.png".toList ⟨none, [], [], []⟩],
       .dir "sub".toList [.file "index.md".toList ⟨some ['S'], [], [], []⟩,
                          .file "a.md".toList ⟨some ['A'], [], [], []⟩,
                          .dir "deep".toList [.file "index.md".toList ⟨some ['D'], [], [], []⟩]]]
    (names w).Nodup ∧ wfEntries w = true ∧ plainStemsL w = true ∧
    gpFreeL Variant.asIs none (some ["img".toList]) w = true ∧ orderedOkL w = true ∧
    (resPaths (getPageTree Variant.asIs w)).length = 5 := by
  simp -index only [String.toList_ofList]
  decide +kernel

/-- "at the same relative path" never sends two Markdown files of one directory to the same page:
    `<stem>.md -> <stem>.html` is injective on names with suffix `.md`. -/
theorem same_page_same_file (a b : Str) (ha : isMd a = true) (hb : isMd b = true)
    (h : specHtml a = specHtml b) : a = b :=
  specHtml_inj a b ha hb h

/-- "EXACTLY ONE page", specification side: the pages that the statement expects of a page directory
    (distinct entry names per directory, at every depth) are pairwise distinct - two different titled
    Markdown files never claim the same page, a file page `loc/x.html` is never a page below a
    sub-directory `loc/n/...`, and only index.md claims `index.html`.  Full strength: no exclusion. -/
theorem expected_pages_distinct (cs : List Entry) (hn : (names cs).Nodup) (hwf : wfEntries cs = true) :
    (expPages cs).Nodup :=
  expDir_nodup [] cs hn (fun c hc => expEntry_nodup c [] (wfEntries_iff.mp hwf c hc))

/-- ... and for the sub-tree of one entry at any location. -/
theorem expected_subtree_distinct (e : Entry) (loc : PathS) (hwf : wfEntry e = true) :
    (expEntry loc e).Nodup :=
  expEntry_nodup e loc hwf

/-- The expected pages are the titled Markdown files, one page each, "at the same relative path":
    `expPages` is the list of titled files mapped through `<dir>/<stem>.md -> <dir>/<stem>.html`; that
    map is injective on the titled files of a page directory, and no file is listed twice. -/
theorem expected_pages_are_titled_files (cs : List Entry) (hn : (names cs).Nodup) (hwf : wfEntries cs = true) :
    expPages cs = (titledFiles cs).map pageOf ∧ (titledFiles cs).Nodup ∧
    (∀ a ∈ titledFiles cs, ∀ b ∈ titledFiles cs, pageOf a = pageOf b → a = b) := by
  have h := expected_pages_distinct cs hn hwf
  rw [expPages_eq_map] at h
  exact ⟨expPages_eq_map cs, nodup_of_nodup_map pageOf _ h, inj_of_nodup_map pageOf _ h⟩

/-- "EXACTLY ONE page", implementation side: the pages of the tree that `get_page_tree` builds are
    pairwise distinct - no page path is produced twice, whatever `ordered_subpage` lists (a name twice,
    a name that the directory listing finds as well, index.md, hidden and backup names, names that do
    not exist), whatever `copy_subdir` says, in every variant, and also when the run aborts (then
    there is no page).  Partial: only the class of finding C17-dotted-stem-truncated is excluded
    (`plainStemsL`; see `dotted_stem_collision_witness`); the `copy_subdir` and dangling
    `ordered_subpage` exclusions of `mirror_partial` are not needed here. -/
theorem pages_distinct_partial (v : Variant) (cs : List Entry)
    (hn : (names cs).Nodup) (hwf : wfEntries cs = true) (hstems : plainStemsL cs = true) :
    (resPaths (getPageTree v cs)).Nodup := by
  rw [getPageTree_eq_dirRes]
  exact dirRes_nodup hn (plainStemsL_iff.mp hstems) (fun c hc o hier =>
    entryRes_nodup v c o hier _ _ (wfEntries_iff.mp hwf c hc) (plainStemsL_iff.mp hstems c hc))

/-- ... and for the sub-tree built from one entry at any location, with any `copy_subdir` of the
    directory above. -/
theorem pages_distinct_subtree_partial (v : Variant) (e : Entry) (own : List Str)
    (hier : List (PathS × Str)) (loc : PathS) (sibs : List Entry)
    (hwf : wfEntry e = true) (hstems : plainStems e = true) :
    (resPaths (entryRes v own hier loc sibs e)).Nodup :=
  entryRes_nodup v e own hier loc sibs hwf hstems

/-- ... and for every project encoding, on the directory as it is on disk. -/
theorem pages_distinct_any_encoding_partial (v : Variant) (enc : Str) (cs : List RawEntry)
    (hn : (names (viewL enc cs)).Nodup) (hwf : wfEntries (viewL enc cs) = true)
    (hstems : plainStemsL (viewL enc cs) = true) :
    (resPaths (getPageTreeRaw CallSites.gen v enc cs)).Nodup := by
  rw [getPageTreeRaw_gen]
  exact pages_distinct_partial v _ hn hwf hstems

/-- **Bijection "titled Markdown file <-> page".**  Under the hypotheses of `mirror_partial`, the
    sequence of page paths of the tree that `get_page_tree` builds is a rearrangement of the list
    `titledFiles cs` mapped through `<stem>.md -> <stem>.html` - every titled Markdown file occurs
    exactly once in that list and the map is injective on it (`expected_pages_are_titled_files`) - so
    every titled file has exactly one page (`count = 1`), at the same relative path, and there is no
    other page. -/
theorem pages_bijection_partial (v : Variant) (cs : List Entry)
    (hn : (names cs).Nodup) (hwf : wfEntries cs = true)
    (hstems : plainStemsL cs = true)
    (hgp : gpFreeL v none (match indexMeta cs with | some (m, _) => some m.copySub | none => none) cs = true)
    (hnoab : ∀ q, getPageTree v cs ≠ .abort q) :
    (resPaths (getPageTree v cs)).Perm ((titledFiles cs).map pageOf) ∧
    (∀ f ∈ titledFiles cs, (resPaths (getPageTree v cs)).count (pageOf f) = 1) := by
  have hd := pages_distinct_partial v cs hn hwf hstems
  have hp : (resPaths (getPageTree v cs)).Perm ((titledFiles cs).map pageOf) := by
    rw [← expPages_eq_map]
    exact (List.perm_ext_iff_of_nodup hd (expected_pages_distinct cs hn hwf)).mpr
      (mirror_partial v cs hn hwf hstems hgp hnoab)
  refine ⟨hp, fun f hf => ?_⟩
  rw [hd.count, if_pos (hp.mem_iff.mpr (List.mem_map_of_mem hf))]

/-- non-vacuity: `z.md` is listed twice in `ordered_subpage` and is found by the directory listing as
    well, `sub` is listed and found, index.md is listed explicitly, next to hidden / backup names and a
    three-level tree; the hypotheses of `pages_bijection_partial` hold, the six pages are built once
    each, and they are the pages of the six titled files. -/
example :
    let w : List Entry :=
      [.file "z.md".toList ⟨some ['Z'], [], [], []⟩,
       .file "index.md".toList
         ⟨some ['T'], ["z.md".toList, "index.md".toList, "sub".toList, "z.md".toList, ".h.md".toList, "sub".toList],
          [], []⟩,
       .file "a.md".toList ⟨some ['A'], [], [], []⟩,
       .file ".h.md".toList ⟨some ['H'], [], [], []⟩,
       .file "old.md~".toList ⟨some ['O'], [], [], []⟩,
       .dir "sub".toList [.file "index.md".toList ⟨some ['S'], ["a.md".toList, "a.md".toList], [], []⟩,
                          .file "a.md".toList ⟨some ['A'], [], [], []⟩,
                          .dir "deep".toList [.file "index.md".toList ⟨some ['D'], [], [], []⟩]]]
    (names w).Nodup ∧ wfEntries w = true ∧ plainStemsL w = true ∧
    gpFreeL Variant.asIs none (some []) w = true ∧ orderedOkL w = true ∧
    (resPaths (getPageTree Variant.asIs w)).length = 6 ∧ (resPaths (getPageTree Variant.asIs w)).Nodup ∧
    titledFiles w = [["index.md".toList], ["z.md".toList], ["a.md".toList], ["sub".toList, "index.md".toList],
                     ["sub".toList, "a.md".toList], ["sub".toList, "deep".toList, "index.md".toList]] ∧
    resPaths (getPageTree Variant.asIs w) =
      [["index.html".toList], ["z.html".toList], ["sub".toList, "index.html".toList],
       ["sub".toList, "a.html".toList], ["sub".toList, "deep".toList, "index.html".toList], ["a.html".toList]] := by
  simp -index only [String.toList_ofList]
  decide +kernel

/-- C17-dotted-stem-truncated: `v1.2.md` is written to `v1.html`, the statement expects `v1.2.html`. -/
theorem dotted_stem_witness :
    resPaths (getPageTree Variant.asIs
      [.file "index.md".toList ⟨some ['T'], [], [], []⟩, .file "v1.2.md".toList ⟨some ['V'], [], [], []⟩])
      = [["index.html".toList], ["v1.html".toList]] ∧
    expPages [.file "index.md".toList ⟨some ['T'], [], [], []⟩, .file "v1.2.md".toList ⟨some ['V'], [], [], []⟩]
      = [["index.html".toList], ["v1.2.html".toList]] := by
  simp -index only [String.toList_ofList]
  decide +kernel

/-- C17-dotted-stem-truncated, multiplicity: the exclusion `plainStemsL` of `pages_distinct_partial` is
    needed for the code as it is.  The titled files `v1.2.md` and `v1.3.md` (and likewise `v1.md` next to
    `v1.2.md`) are both given the page path `v1.html`: the tree has two pages at one path (one file
    overwrites the other), while the statement expects two distinct pages. -/
theorem dotted_stem_collision_witness :
    let w : List Entry :=
      [.file "index.md".toList ⟨some ['T'], [], [], []⟩,
       .file "v1.2.md".toList ⟨some ['A'], [], [], []⟩, .file "v1.3.md".toList ⟨some ['B'], [], [], []⟩]
    let w' : List Entry :=
      [.file "index.md".toList ⟨some ['T'], [], [], []⟩,
       .file "v1.md".toList ⟨some ['A'], [], [], []⟩, .file "v1.2.md".toList ⟨some ['B'], [], [], []⟩]
    (names w).Nodup ∧ wfEntries w = true ∧ plainStemsL w = false ∧
    resPaths (getPageTree Variant.asIs w) = [["index.html".toList], ["v1.html".toList], ["v1.html".toList]] ∧
    ¬ (resPaths (getPageTree Variant.asIs w)).Nodup ∧
    expPages w = [["index.html".toList], ["v1.2.html".toList], ["v1.3.html".toList]] ∧
    resPaths (getPageTree Variant.asIs w') = [["index.html".toList], ["v1.html".toList], ["v1.html".toList]] ∧
    expPages w' = [["index.html".toList], ["v1.html".toList], ["v1.2.html".toList]] := by
  simp -index only [String.toList_ofList]
  decide +kernel

/-- C17-copy-subdir-checked-on-grandparent: `copy_subdir: img` in the top index.md makes the titled
    sub-tree `sub/img` disappear (while the statement expects it, and the variant without the test
    produces it). -/
theorem copy_subdir_grandparent_witness :
    let w : List Entry :=
      [.file "index.md".toList ⟨some ['T'], [], ["img".toList], []⟩,
       .dir "sub".toList [.file "index.md".toList ⟨some ['S'], [], [], []⟩,
                          .dir "img".toList [.file "index.md".toList ⟨some ['I'], [], [], []⟩]]]
    resPaths (getPageTree Variant.asIs w) = [["index.html".toList], ["sub".toList, "index.html".toList]] ∧
    expPages w = [["index.html".toList], ["sub".toList, "index.html".toList],
                  ["sub".toList, "img".toList, "index.html".toList]] ∧
    resPaths (getPageTree ⟨.ignored, .raises⟩ w) = expPages w := by
  simp -index only [String.toList_ofList]
  decide +kernel

/-- `os.path.relpath` followed from the start directory arrives at the target, for all normalised
    paths: the lemma behind every relative URL FORD writes. -/
theorem relpath_roundtrip (start t : PathS) (hs : Plain start) (ht : Plain t) :
    resolveFrom start (relpath t start) = t :=
  PT.relpath_roundtrip start t hs ht

/-- Sidebar and breadcrumb links are correct from every nesting depth: for any two pages `p`, `q`
    (any locations), the href that `relurl` writes on `q` for `p.url`, followed from the directory
    of `q`'s output file, is `p`'s output file.  Uses the generated constants: it needs
    `PageNode.url` and `PagetreePage.outfile` to put pages under the same directory. -/
theorem nav_link_correct (base : PathS) (p q : Node) (hb : Plain base) (hp : Plain p.path) (hq : Plain q.loc) :
    resolveFrom (outDir base q) (relpath (nodeUrl base p) (outDir base q)) = outFile base p := by
  have hseg : nodeUrlSeg = pageDirSeg := by decide +kernel
  unfold nodeUrl outDir outFile
  rw [hseg]
  exact PT.relpath_roundtrip _ _ ((hb.append plain_pageDirSeg).append hq) ((hb.append plain_pageDirSeg).append hp)

/-- The `|page|`, `|media|` and `|url|` aliases are correct from every nesting depth: for every
    alias of the table in `ford.main` and every path `rest` below it, the absolute target is
    recognised as lying inside the output directory, rewritten relative to the page being converted,
    and that relative link followed from the page's output directory is the aliased file
    `<output>/<alias segments>/<rest>`. -/
theorem alias_link_correct (base : PathS) (q : Node) (a : Str) (segs rest : PathS)
    (ha : (a, segs) ∈ aliasTable) (hne : segs ++ rest ≠ [])
    (hb : Plain base) (hr : Plain rest) (hq : Plain q.loc) :
    ∃ r, fixSegs base (pageDir base q) (norm (base ++ segs ++ rest)) = some r ∧
      resolveFrom (outDir base q) r = base ++ segs ++ rest := by
  have hconv : convPathSeg = pageDirSeg := by decide +kernel
  have hsegs : Plain segs := by
    have : ∀ x ∈ aliasTable, Plain x.2 := by decide +kernel
    exact this _ ha
  have hfull : Plain (base ++ segs ++ rest) := (hb.append hsegs).append hr
  have hnorm : norm (base ++ segs ++ rest) = base ++ segs ++ rest := by
    simpa [norm] using normAux_plain [] _ hfull
  refine ⟨relpath (base ++ segs ++ rest) (pageDir base q), ?_, ?_⟩
  · rw [hnorm]
    unfold fixSegs
    rw [List.append_assoc, properPrefix_append base (segs ++ rest) hne]
    simp
  · unfold pageDir outDir
    rw [hconv]
    exact PT.relpath_roundtrip _ _ ((hb.append plain_pageDirSeg).append hq) hfull

/-- `|page|` points at the directory the pages are written to (so `|page|/<path of p>` is `p`'s file). -/
theorem alias_page_is_page_dir : (['p', 'a', 'g', 'e'], pageDirSeg) ∈ aliasTable ∧ locSeg = pageDirSeg := by
  decide +kernel

/-- "relative links can be used as though the links were being made between the Markdown files":
    because the output mirrors the source (`<output>/page/<loc>` for `<page_dir>/<loc>`), the relative
    path from the directory of one source file to another file, followed from the output directory of
    the first, arrives at the mirrored position of the second - for all locations, at every depth. -/
theorem relative_link_mirrored (base la t : PathS) (hb : Plain base) (hla : Plain la) (ht : Plain t) :
    resolveFrom (base ++ pageDirSeg ++ la) (relpath t la) = base ++ pageDirSeg ++ t := by
  exact resolve_relpath (base ++ pageDirSeg) la t (hb.append plain_pageDirSeg) hla ht

/-- a link that is not inside the output directory is left exactly as written -/
theorem outside_link_untouched (base cur full : PathS) (h : properPrefix base full = false) :
    fixSegs base cur full = none := by
  simp [fixSegs, h]

/-- `|media|` names the place the media directory is put: the alias table of `ford.main` maps `media`
    to exactly the segments below the output directory that `Documentation.writeout` copies the
    project's `media_dir` setting to (whatever the source directory is called), and the setting that
    is copied is `media_dir`.  Two code sites; stated over both generated tables. -/
theorem alias_media_is_media_copy :
    (['m', 'e', 'd', 'i', 'a'], mediaDestSeg) ∈ aliasTable ∧
    (∀ x ∈ aliasTable, x.1 = ['m', 'e', 'd', 'i', 'a'] → x.2 = mediaDestSeg) ∧
    mediaSrcKey = ['m', 'e', 'd', 'i', 'a', '_', 'd', 'i', 'r'] ∧
    outDirKey = ['o', 'u', 't', 'p', 'u', 't', '_', 'd', 'i', 'r'] := by
  decide +kernel

/-- `|url|` is the root of the generated documentation (no segment appended), and the predefined
    aliases are exactly the three documented ones. -/
theorem alias_url_is_output_root :
    (['u', 'r', 'l'], []) ∈ aliasTable ∧
    aliasTable.map (·.1) = [['u', 'r', 'l'], ['m', 'e', 'd', 'i', 'a'], ['p', 'a', 'g', 'e']] := by
  decide +kernel

/-- The predefined aliases are rooted at the same directory that `RelativeLinksTreeProcessor` makes
    links relative in (`url_path = Path(e)`, `MetaMarkdown(base_url=e)` with the same `e`) - the `base`
    shared by `aliasText` and `fixAttrib` in `alias_link_correct` - and they are the last layer
    `aliases` is built from, so no user-defined alias or external project replaces them. -/
theorem aliases_rooted_at_base_url :
    aliasRootExpr = mdBaseUrlExpr ∧ aliasLayers.getLast? = some predefinedLayer ∧
    aliasLayers.count predefinedLayer = 1 := by
  decide +kernel

/-- `|media|` is correct from every nesting depth, for every media directory: whatever the project's
    media directory contains (any tree `es`, any name of the source directory - the name does not occur),
    for every file or directory `p` below it and every page `q` at any depth, the link `|media|/<p>` is
    recognised as internal, rewritten relative to `q`, and followed from `q`'s output directory it arrives
    at an entry that `Documentation.writeout` has created, of the same kind. -/
theorem media_link_reaches_copied_file (base : PathS) (q : Node) (es : List Entry) (p : PathS) (d : Bool)
    (segs : PathS) (ha : (['m', 'e', 'd', 'i', 'a'], segs) ∈ aliasTable)
    (hp : (p, d) ∈ listAll.listAllL es) (hpl : Plain p) (hb : Plain base) (hq : Plain q.loc) :
    ∃ r, fixSegs base (pageDir base q) (norm (base ++ segs ++ p)) = some r ∧
      ∃ o ∈ mediaOutputs (some es), resolveFrom (outDir base q) r = base ++ o.1 ∧ o.2 = d := by
  have hseg : segs = mediaDestSeg := alias_media_is_media_copy.2.1 _ ha rfl
  have hne0 : mediaDestSeg ≠ [] := by decide +kernel
  have hne : segs ++ p ≠ [] := by
    rw [hseg]
    intro h
    exact hne0 (List.append_eq_nil_iff.mp h).1
  obtain ⟨r, hr1, hr2⟩ := alias_link_correct base q _ segs p ha hne hb hpl hq
  refine ⟨r, hr1, (mediaDestSeg ++ p, d), ?_, ?_, rfl⟩
  · simp only [mediaOutputs, List.mem_cons, List.mem_map]
    exact Or.inr ⟨(p, d), hp, rfl⟩
  · rw [hr2, hseg, List.append_assoc]

/-- The first entry of the navigation bar (the link to the top static page) is correct from every page at
    every nesting depth: followed from the page's output directory it is the file the top page is written to. -/
theorem top_nav_link_correct (base : PathS) (top q : Node) (hb : Plain base) (ht : Plain top.path)
    (hq : Plain q.loc) :
    resolveFrom (outDir base q) (relpath (nodeUrl base top) (outDir base q)) = outFile base top :=
  nav_link_correct base top q hb ht hq

/-- Every level of the walk hands all of its per-run arguments to the next one unchanged: in the
    recursive `get_page_tree(...)` call every parameter of `get_page_tree` is passed, `topdir` is the
    sub-directory, `parent` is the node just built, and every other parameter (`proj_copy_subdir`,
    `output_dir`, `md`, `progress`, `encoding`, and whatever is added later) is the caller's own value
    - none omitted (which would silently fall back to its default below the top directory).
    Stated over the generated call table, which is OBSERVED (the walk is run with a recognisable
    value for every argument and the arguments that arrive one and two levels down are named by what they are:
    `<entry>` = the directory entry being processed, `<node>` = the PageNode of the calling level's index.md). -/
theorem recursive_call_forwards :
    ∀ p ∈ gptParams.map Prod.fst,
      recCall.lookup p =
        some (if p == (pt! "topdir") then (pt! "<entry>") else if p == (pt! "parent") then (pt! "<node>") else p) := by
  decide +kernel

/-- Both `PageNode(...)` calls (index.md of the directory, sibling page in the loop) pass every parameter
    of `PageNode.__init__`; `md`, `output_dir`, `proj_copy_subdir` and `encoding` are the values of the
    enclosing `get_page_tree` call, and `PageNode` decodes the file with exactly that `encoding`. -/
theorem page_reads_forward :
    (∀ p ∈ pageNodeParams.map Prod.fst,
      indexNodeCall.lookup p =
        some (if p == (pt! "path") then (pt! "<index>") else p) ∧
      subNodeCall.lookup p =
        some (if p == (pt! "path") then (pt! "<entry>") else if p == (pt! "parent") then (pt! "<node>") else p)) ∧
    readTextArg = encParam := by
  decide +kernel

/-- `ford.main` starts the walk with the project's `encoding` setting. -/
theorem main_passes_project_encoding :
    mainCall.lookup encParam = some (pt! "proj_data.encoding") := by decide +kernel

/-- **Every file at every nesting depth is decoded with the project's encoding.**  For every directory
    tree on disk (any depth, any mixture of ASCII files, files written in the project's encoding and
    files written in some other encoding) and every project encoding, what the walk of the source
    under test reads is what a reader who uses the project's encoding for *every* file reads.
    Depends on the generated call tables (`recCall`, `indexNodeCall`, `subNodeCall`, `readTextArg`,
    the defaults in `gptParams` / `pageNodeParams`). -/
theorem encoding_reaches_every_depth (enc : Str) (cs : List RawEntry) :
    decodeL CallSites.gen enc cs = viewL enc cs :=
  decodeL_gen enc cs

/-- **Mirror, for every project encoding.**  The pages built from the directory on disk by a run with
    `encoding = enc` are exactly the pages the property statement expects of that directory read in
    `enc` - at every depth.  Same decidable exclusions as `mirror_partial` (known findings). -/
theorem mirror_any_encoding_partial (v : Variant) (enc : Str) (cs : List RawEntry)
    (hn : (names (viewL enc cs)).Nodup) (hwf : wfEntries (viewL enc cs) = true)
    (hstems : plainStemsL (viewL enc cs) = true)
    (hgp : gpFreeL v none (match indexMeta (viewL enc cs) with | some (m, _) => some m.copySub | none => none)
            (viewL enc cs) = true)
    (hnoab : ∀ q, getPageTreeRaw CallSites.gen v enc cs ≠ .abort q) (p : PathS) :
    p ∈ resPaths (getPageTreeRaw CallSites.gen v enc cs) ↔ p ∈ expPages (viewL enc cs) := by
  rw [getPageTreeRaw_gen] at hnoab ⊢
  exact mirror_partial v _ hn hwf hstems hgp hnoab p

/-- When the page directory is written in the project's encoding (every file ASCII or in `enc`), the
    run produces exactly the tree of the correctly decoded directory, for every `enc`: no titled page
    is lost or changed because of the encoding, at any depth. -/
theorem project_encoding_loses_nothing (v : Variant) (enc : Str) (cs : List RawEntry)
    (hw : writtenInL enc cs = true) :
    getPageTreeRaw CallSites.gen v enc cs = getPageTree v (plainL cs) := by
  rw [getPageTreeRaw_gen, viewL_writtenIn enc cs hw]

/-- ... and this does depend on the call table: if the recursive call omits `encoding` (so that the
    default `utf-8` is used below the top directory), a titled ISO-8859-1 page in a sub-directory of an
    ISO-8859-1 project is lost while its top-level twin is kept. -/
theorem encoding_not_forwarded_witness :
    let c : CallSites := { CallSites.gen with recCall := CallSites.gen.recCall.filter (fun kv => kv.1 != encParam) }
    let l1 : Str := pt! "iso-8859-1"
    let w : List RawEntry :=
      [.file (pt! "index.md") [] ⟨some ['T'], [], [], []⟩,
       .file (pt! "c.md") l1 ⟨some ['C'], [], [], []⟩,
       .dir (pt! "sub") [.file (pt! "index.md") [] ⟨some ['S'], [], [], []⟩,
                         .file (pt! "c.md") l1 ⟨some ['D'], [], [], []⟩]]
    writtenInL l1 w = true ∧
    resPaths (getPageTreeRaw c Variant.asIs l1 w) =
      [[pt! "index.html"], [pt! "c.html"], [pt! "sub", pt! "index.html"]] ∧
    resPaths (getPageTreeRaw CallSites.gen Variant.asIs l1 w) =
      [[pt! "index.html"], [pt! "c.html"], [pt! "sub", pt! "index.html"], [pt! "sub", pt! "c.html"]] ∧
    expPages (viewL l1 w) =
      [[pt! "index.html"], [pt! "c.html"], [pt! "sub", pt! "index.html"], [pt! "sub", pt! "c.html"]] := by
  decide +kernel

/-- `AliasPreprocessor.run` treats every line of the page, in place and in order: the result is the list
    of the images of the lines under the per-line substitution - no line is exempt (whatever it starts with),
    none is dropped, added or moved. -/
theorem alias_run_every_line (al : List (Str × Str)) (lines : List Str) :
    PA.aliasRun al lines = lines.map (PA.aliasLine al) ∧ (PA.aliasRun al lines).length = lines.length := by
  rw [PA.aliasRun_eq_map]
  simp

/-- Indentation plays no role: a line that starts with any number of blanks and tabs (the continuation
    paragraph of a list item, a nested list item, ...) is substituted exactly like the same line without them. -/
theorem alias_indentation_irrelevant (al : List (Str × Str)) (ws s : Str)
    (hws : ∀ c ∈ ws, c = ' ' ∨ c = '\t') :
    PA.aliasLine al (ws ++ s) = ws ++ PA.aliasLine al s := by
  have hp : '|' ∉ ws := fun h => by rcases hws _ h with h' | h' <;> exact absurd h' (by decide)
  have hb : '\\' ∉ ws := fun h => by rcases hws _ h with h' | h' <;> exact absurd h' (by decide)
  exact PA.aliasLine_prefix al ws s hp hb

/-- An alias is replaced wherever it stands on its line: for every text `pre` before it (indentation, list
    or quote markers, the text of a link, ... - anything without a pipe or a backslash), every alias name
    without blank and pipe that the dictionary knows, and every text `post` after it, the line
    `pre|name|post` becomes `pre<value>post`. -/
theorem alias_substituted_anywhere (al : List (Str × Str)) (pre name val post : Str)
    (hpre : '|' ∉ pre) (hpreb : '\\' ∉ pre)
    (hne : name ≠ []) (hs : ' ' ∉ name) (hp : '|' ∉ name) (hl : al.lookup name = some val)
    (hval : '\\' ∉ val) (hpost : '|' ∉ post) (hpostb : '\\' ∉ post) :
    PA.aliasLine al (pre ++ '|' :: name ++ '|' :: post) = pre ++ val ++ post := by
  have hlk : PA.lookupAlias al name = val := by simp [PA.lookupAlias, hl]
  have h := PA.aliasLine_alias al pre name post hpre hne hs hp hpost
  rw [hlk] at h
  apply h
  simp only [List.mem_append, not_or]
  exact ⟨⟨hpreb, hval⟩, hpostb⟩

/-- The text level and the link level agree: with the dictionary that `ford.main` builds, a link written
    `|alias|rest` anywhere on a line (after any `pre`, before any `post`) is handed to Python-Markdown as
    `linkHref` - the href that `alias_link_correct` and `media_link_reaches_copied_file` are about -
    also for an unknown alias (left as written). -/
theorem alias_line_is_link_href (base : PathS) (l : Link) (pre post : Str)
    (hpre : '|' ∉ pre) (hpreb : '\\' ∉ pre)
    (hne : l.alias ≠ []) (hs : ' ' ∉ l.alias) (hp : '|' ∉ l.alias)
    (hrest : '|' ∉ l.rest ++ post) (hpostb : '\\' ∉ post) (hval : '\\' ∉ linkHref base l) :
    PA.aliasLine (mainAliases base) (pre ++ '|' :: l.alias ++ '|' :: (l.rest ++ post)) =
      pre ++ linkHref base l ++ post := by
  have e : PA.lookupAlias (mainAliases base) l.alias ++ (l.rest ++ post) = linkHref base l ++ post := by
    rw [← List.append_assoc, PA.lookupAlias_linkHref base l hne]
  have h := PA.aliasLine_alias (mainAliases base) pre l.alias (l.rest ++ post) hpre hne hs hp hrest
  rw [List.append_assoc, e, ← List.append_assoc] at h
  apply h
  simp only [List.mem_append, not_or]
  exact ⟨⟨hpreb, hval⟩, hpostb⟩

/-- The model is the code on the probe lines: the alias preprocessor that `MetaMarkdown(aliases=...)` registers
    was run on `aliasProbeIn` (aliases at the start of a line, behind one to eight blanks, behind tabs, list
    and quote markers, escaped, unknown, unterminated) when the tables were generated; what it returned is what
    the model computes.  (A source that exempts any kind of line changes `aliasProbeOut`.) -/
theorem alias_probe_agrees : PA.aliasRun aliasProbeAliases aliasProbeIn = aliasProbeOut := by
  decide +kernel

/-- non-vacuity of `alias_substituted_anywhere` / documented escape: a nested list item, a tab, an escaped alias -/
example :
    PA.aliasLine [(pt! "page", pt! "/o/page")] (pt! "    - [alpha](|page|/alpha.html)") = pt! "    - [alpha](/o/page/alpha.html)" ∧
    PA.aliasLine [(pt! "page", pt! "/o/page")] (pt! "\tsee |page|/a.html and |page|/b.html") = pt! "\tsee /o/page/a.html and /o/page/b.html" ∧
    PA.aliasLine [(pt! "page", pt! "/o/page")] (pt! "    \\|page| stays, |nope| too") = pt! "    |page| stays, |nope| too" := by
  decide +kernel

/-- "hidden / backup files": of all printable ASCII characters a file name can begin or end with (probed on
    the real `get_page_tree`, one directory entry per character), exactly a leading `.` and a trailing `~` make
    the walk pass over an entry - the rule the specification (`expPages`) and the oracle use. -/
theorem hidden_and_backup_names_skipped : skipFirst = ['.'] ∧ skipLast = ['~'] := by
  decide +kernel

/-- The guard that keeps `ordered_subpage` entries inside their directory never rejects an entry of the
    directory itself: for every directory and every name that is one plain path segment (what `os.listdir`
    returns: not empty, not `.` / `..`, no `/`), `relpath(topdir / name, topdir)` is `name` and the guard lets it
    through.  The computation is on the names only: whether the entry is a regular file, a directory or a
    symbolic link to something kept elsewhere cannot matter. -/
theorem guard_keeps_directory_entries (topdir : PathS) (name : Str) (ht : Plain topdir) (hn : Plain [name])
    (hs : '/' ∉ name) : guardSkips topdir name = false := by
  have hnorm : norm (topdir ++ [name]) = topdir ++ [name] := by
    simpa [norm] using normAux_plain [] _ (ht.append hn)
  have hdd : name ≠ dotdot := (hn name (by simp)).1
  simp [guardSkips, splitSlash_plain name hs, hnorm, relpath_child, escapes, hdd]

/-- ... while user-given entries that leave the directory (or name the directory itself) are rejected, and
    entries below it are not (non-vacuity of the guard). -/
theorem guard_rejects_escape_witness :
    guardSkips [pt! "w", pt! "pages"] (pt! "../outside.md") = true ∧
    guardSkips [pt! "w", pt! "pages"] (pt! "sub/../../x.md") = true ∧
    guardSkips [pt! "w", pt! "pages"] (pt! ".") = true ∧
    guardSkips [pt! "w", pt! "pages"] (pt! "sub/x.md") = false := by
  decide +kernel

/-- The page directory is what it looks like through its links: on the probe directory - `changelog.md`, an
    asset, a folder with pages and a page inside a folder are symbolic links to things kept OUTSIDE the page
    directory, `news.md` is a link to its sibling `a.md`, `broken.md` a link to nothing, and index.md names
    `../outside.md` - the real `get_page_tree` (run when the tables were generated) built exactly the pages, in
    exactly the order, and recorded exactly the files that the model computes for the directory with every
    link replaced by what it points to. -/
theorem symlinks_transparent_probe :
    resPaths (getPageTree ⟨.asIs, .skips⟩ walkProbeDir) = walkProbePages ∧
    resPaths (getPageTree ⟨.ignored, .skips⟩ walkProbeDir) = walkProbePages ∧
    (match getPageTree ⟨.asIs, .skips⟩ walkProbeDir with
     | .page nd => (preorder nd).map Node.files
     | _ => []) = walkProbeFiles := by
  decide +kernel

/-- ... and that is the whole directory: every titled Markdown file of the probe directory, linked or not,
    has its page among the pages the real code built, and nothing else was built (`../outside.md` was not). -/
theorem symlink_probe_mirrors :
    (∀ p ∈ expPages walkProbeDir, p ∈ walkProbePages) ∧ (∀ p ∈ walkProbePages, p ∈ expPages walkProbeDir) ∧
    walkProbePages.length = 9 := by
  decide +kernel

/-- **Every page is written** where `PagetreePage.outfile` says: for every tree of page nodes (any shape, any
    `copy_subdir` / file lists) and every node of it, the node's path exists below `<output>/page` after all
    `writeout`s - nothing a later page copies or writes removes it. -/
theorem page_file_written (top n : Node) (hn : n ∈ preorder top) : n.path ∈ paths (outputs top) :=
  foldl_writeNode_of_mem hn (fun _ => writeNode_has_path)

/-- **"other files ... are copied next to their pages"**: every file recorded for a page (`node.files`) exists
    next to that page after the run, for every tree of nodes, whatever the page's `copy_subdir` loop did before
    (missing directories, directories that exist already) and whatever the other pages do. -/
theorem other_files_copied_next_to_pages (top n : Node) (f : Str) (hn : n ∈ preorder top) (hf : f ∈ n.files) :
    n.loc ++ [f] ∈ paths (outputs top) :=
  foldl_writeNode_of_mem hn (fun _ => writeNode_has_file hf)

/-- **"`copy_subdir` directories are copied next to their pages": every listed item is attempted.**  For every
    tree of nodes, every page and every item of its `copy_subdir` whose source is a directory, that directory
    exists next to the page after the run - wherever the item stands in the list, i.e. also behind items that
    could not be copied (names that are no directory next to this page, names whose place is taken). -/
theorem copy_subdir_every_item_attempted (top n : Node) (it : Str) (listing : List (PathS × Bool))
    (hn : n ∈ preorder top) (hm : (it, some listing) ∈ n.copies) (hroot : ([it], true) ∈ listing) :
    n.loc ++ [it] ∈ paths (outputs top) :=
  foldl_writeNode_of_mem hn (fun _ => writeNode_has_copy hm hroot)

/-- ... and the listing that the walk attaches to an item is rooted at the item's own directory (the hypothesis
    `hroot` above holds for every node that `get_page_tree` builds). -/
theorem copy_listing_rooted (sibs : List Entry) (item : Str) (l : List (PathS × Bool))
    (h : copyListing sibs item = (item, some l)) : ([item], true) ∈ l :=
  copyListing_rooted sibs item l h

/-- **Every page that `get_page_tree` builds attempts every item of its `copy_subdir`**: for every page directory,
    every variant and every page of the resulting tree, the copy loop of the page runs over exactly the items of
    the page's `copy_subdir` (none is dropped, in order), and every item that is a directory next to the page is
    a directory next to the written page after the run - no hypothesis on the lists (missing names, files,
    repetitions, names of sub-trees), on the order of the pages, or on what other pages copy. -/
theorem built_pages_copy_every_listed_directory (v : Variant) (cs : List Entry) (top n : Node)
    (h : getPageTree v cs = .page top) (hn : n ∈ preorder top) :
    n.copies.map Prod.fst = n.copySub ∧
    ∀ it l, (it, some l) ∈ n.copies → n.loc ++ [it] ∈ paths (outputs top) := by
  obtain ⟨h1, h2, _⟩ := copyOk_of_getPageTree h hn
  exact ⟨h1, fun it l hm => copy_subdir_every_item_attempted top n it l hn hm (h2 it l hm)⟩

/-- ... in particular for a run of the source under test with any project `copy_subdir` and any project encoding,
    on the directory as it is on disk. -/
theorem project_run_copies_every_listed_directory (v : Variant) (enc : Str) (pcs : List Str) (cs : List RawEntry)
    (top n : Node) (h : getPageTreeProj CallSites.gen v enc pcs cs = .page top) (hn : n ∈ preorder top) :
    n.copies.map Prod.fst = n.copySub ∧
    ∀ it l, (it, some l) ∈ n.copies → n.loc ++ [it] ∈ paths (outputs top) :=
  -- `getPageTreeProj c v enc pcs cs` unfolds to `getPageTree v (projTop c pcs (decodeL c enc cs))`
  built_pages_copy_every_listed_directory v _ top n h hn

/-- **The copy loop copies whole directories**: in a `copy_subdir` list of distinct names (listings rooted at
    their own names, as `copyListing` makes them), every directory whose place next to the page is still free
    when the loop starts is copied completely - every file and directory below it, at the same relative path -
    however many other items of the list fail.  (`_partial`: a place that is already taken - an earlier page
    copied or created a directory of that name - makes `shutil.copytree` fail; the item is then skipped with a
    warning, see `copy_into_existing_directory_witness`.) -/
theorem copy_loop_copies_whole_directory_partial (loc : PathS) (items : List (Str × Option (List (PathS × Bool))))
    (st : List (PathS × Bool)) (it : Str) (listing : List (PathS × Bool))
    (hm : (it, some listing) ∈ items) (hnd : (items.map Prod.fst).Nodup)
    (hrooted : ∀ i l, (i, some l) ∈ items → ∀ p ∈ l, p.1.head? = some i)
    (hfree : loc ++ [it] ∉ paths st) :
    ∀ p ∈ listing, (loc ++ p.1, p.2) ∈ copyItems loc items st :=
  copyItems_complete hm hnd hrooted hfree

/-- **A `copy_subdir` directory is copied next to its page with everything in it** - for every page directory,
    every variant, every page `n` that `get_page_tree` builds (`pre` = the pages written before it, `post` = after)
    and every directory `it` of a `copy_subdir` without repetitions: if nothing occupies the place `n.loc/it` when
    the page's `writeout` starts, every file and directory below the source is below `<output>/page/n.loc/it` at
    the same relative path after the run, whatever the other items of the list are (missing, files, taken) and
    whatever the later pages do.  (`_partial`: the place must be free and the directory must not be called like
    the page file; the witness below shows the excluded class.) -/
theorem built_page_copies_whole_directory_partial (v : Variant) (cs : List Entry) (top n : Node) (pre post : List Node)
    (h : getPageTree v cs = .page top) (hsplit : preorder top = pre ++ n :: post)
    (it : Str) (l : List (PathS × Bool)) (hm : (it, some l) ∈ n.copies) (hnd : n.copySub.Nodup)
    (hfree : n.loc ++ [it] ∉ paths (pre.foldl writeNode [])) (hne : it ≠ n.file) :
    ∀ p ∈ l, (n.loc ++ p.1, p.2) ∈ outputs top := by
  have hn : n ∈ preorder top := by rw [hsplit]; simp
  obtain ⟨h1, _, h3⟩ := copyOk_of_getPageTree h hn
  exact outputs_copies_whole hsplit hm (h1 ▸ hnd) h3 hfree hne

/-- The excluded class is real: when the place is taken (here by the sub-tree `sub/` written before the leaf
    page `z.md` is), the directory named by the leaf page's `copy_subdir` is not copied again, and what only the
    copy would have brought (`sub/.hidden`) is missing. -/
theorem copy_into_existing_directory_witness :
    let w : List Entry :=
      [.file (pt! "index.md") ⟨some ['T'], [], [], []⟩,
       .dir (pt! "sub") [.file (pt! "index.md") ⟨some ['S'], [], [], []⟩, .file (pt! ".hidden") ⟨none, [], [], []⟩],
       .file (pt! "z.md") ⟨some ['Z'], [], [pt! "sub"], []⟩]
    (match getPageTree Variant.asIs w with
     | .page top => ([pt! "sub", pt! ".hidden"], false) ∈ outputs top
     | _ => true) = false ∧
    ([pt! "sub", pt! ".hidden"], false) ∈ expAssets [] w := by
  decide +kernel

/-- **File option first, project setting otherwise** (`self.meta.copy_subdir or proj_copy_subdir`): a page that
    sets `copy_subdir` keeps exactly its own list, a page that sets none gets exactly the project's. -/
theorem copy_subdir_file_option_first (pcs own : List Str) :
    (own ≠ [] → effCopy pcs own = own) ∧ (own = [] → effCopy pcs own = pcs) := by
  constructor
  · intro h
    cases own with
    | nil => exact absurd rfl h
    | cons a r => rfl
  · intro h
    subst h
    rfl

/-- `ford.main` starts the walk with the project's `copy_subdir` setting. -/
theorem main_passes_project_copy_subdir :
    mainCall.lookup copyParam = some (pt! "proj_data.copy_subdir") := by decide +kernel

/-- **The project's `copy_subdir` reaches every page at every depth unchanged**: for every page directory and
    every project list, what the walk of the source under test takes as `copy_subdir` of a page - through the
    recursive call and the two `PageNode(...)` calls as the generated tables describe them - is the page's own
    option if it has one and the PROJECT's list otherwise, never the list of an ancestor page.
    Depends on `recCall`, `indexNodeCall`, `subNodeCall`. -/
theorem project_copy_subdir_reaches_every_depth (pcs : List Str) (cs : List Entry) :
    projTop CallSites.gen pcs cs = withProjL pcs cs :=
  projL_gen pcs _ cs

/-- ... and this does depend on the call table: if the recursive call handed down the list in effect for the
    enclosing index page instead, a sub-directory without an own option below a page that sets one would lose
    the project's directory (`sub/media`) and be given the ancestor's list. -/
theorem copy_subdir_not_forwarded_witness :
    let c : CallSites := { CallSites.gen with
      recCall := CallSites.gen.recCall.map (fun kv => if kv.1 == copyParam then (kv.1, nodeCopyExpr) else kv) }
    let w : List Entry :=
      [.file (pt! "index.md") ⟨some ['T'], [], [pt! "images"], []⟩,
       .dir (pt! "images") [.file (pt! "i.png") ⟨none, [], [], []⟩],
       .dir (pt! "sub") [.file (pt! "index.md") ⟨some ['S'], [], [], []⟩,
                         .dir (pt! "media") [.file (pt! "y.png") ⟨none, [], [], []⟩]]]
    (match getPageTree Variant.asIs (projTop c [pt! "media"] w) with
     | .page top => (preorder top).map Node.copySub
     | _ => []) = [[pt! "images"], [pt! "images"]] ∧
    (match getPageTree Variant.asIs (projTop CallSites.gen [pt! "media"] w) with
     | .page top => (preorder top).map Node.copySub
     | _ => []) = [[pt! "images"], [pt! "media"]] ∧
    ([pt! "sub", pt! "media", pt! "y.png"], false) ∈ expAssets [pt! "media"] w := by
  decide +kernel

/-- **The copy loops and the hand-down, probed on the real code**: on the probe directory (pages with and
    without an own `copy_subdir` at four depths, lists whose first entries do not exist next to the page, a leaf
    page and its index page naming the same directories, files before and after) the real `get_page_tree`,
    started with the project list, gave every page exactly the `copy_subdir` the model computes, and the real
    `PagetreePage.writeout`s left below `<output>/page` exactly what the model's `outputs` contains. -/
theorem copy_probe_agrees :
    (match getPageTree ⟨.asIs, .skips⟩ (projTop CallSites.gen copyProbeProj copyProbeDir) with
     | .page top =>
       decide ((preorder top).map (fun n => (n.path, n.copySub)) = copyProbeNodes) &&
       (outputs top).all (fun p => copyProbeOut.contains p) &&
       copyProbeOut.all (fun p => (outputs top).contains p)
     | _ => false) = true := by
  decide +kernel

/-- ... and that is what the statement asks for: everything expected next to the pages of the probe directory
    (`expAssets`: the other files, and every directory named by a page's own `copy_subdir` or else by the
    project's, with everything in it) is in the output the real code produced, as the same kind of entry. -/
theorem copy_probe_assets_next_to_pages :
    ∀ p ∈ expAssets copyProbeProj copyProbeDir, p ∈ copyProbeOut := by
  decide +kernel

/-- ... and nothing else: everything the real code left below `<output>/page` for the probe directory is a page the
    statement expects, a directory that holds such a page, or one of the expected assets (a page that sets its own
    `copy_subdir` did NOT get the project's directories as well: `solo/media/`, next to a page whose own list is
    `keep`, is not in the output). -/
theorem copy_probe_nothing_else :
    copyProbeOut.all (fun p =>
      (expAssets copyProbeProj copyProbeDir).contains p ||
      (!p.2 && (expPages copyProbeDir).contains p.1) ||
      (p.2 && (expPages copyProbeDir).any (fun q => properPrefix p.1 q))) = true := by
  decide +kernel

/-- Non-vacuity: the probe expects 37 assets (with repetitions: a leaf page and its index page may name the same
    directory), among them directories behind a missing first item. -/
example :
    (expAssets copyProbeProj copyProbeDir).length = 37 ∧
    ([pt! "tut", pt! "media", pt! "sub", pt! "deep.dat"], false) ∈ expAssets copyProbeProj copyProbeDir ∧
    ([pt! "tut", pt! "howto", pt! "downloads", pt! "tool.zip"], false) ∈ expAssets copyProbeProj copyProbeDir := by
  decide +kernel

end Ford.C17
