/-
  C20 — an unparseable file is skipped without disturbing the rest.
  Property theorems only; the models are FordModel/ProjectLoop.lean (per-file loop of
  Project.__init__, _fortran_file) and FordModel/Nesting.lean (statement loop of
  FortranContainer.__init__ as a stack machine over statement kinds, driven by the
  cascade / hasattr / isinstance tables generated from the source); further FordModel/Reader.lean
  (the reader at the end of a file), Backtrack.lean (the regular expressions), Markup.lean (the
  diagnostic on the terminal), EnumValues.lean and IncludeNest.lean; `chars!` literals come from
  TypeSpec.lean; helper lemmas live in FordModel/Lemmas.
-/
import FordModel.ProjectLoop
import FordModel.Lemmas.ProjectLoop
import FordModel.Lemmas.Nesting
import FordModel.Lemmas.Backtrack
import FordModel.Lemmas.Markup
import FordModel.Lemmas.EnumValues
import FordModel.Lemmas.IncludeNest
import FordModel.TypeSpec
namespace Ford.C20
open Ford

/-- **Contained.**  A file whose constructor raised, put at *any* position `k`
    (before, between, after the others) leaves every project-wide list - files,
    modules, submodules, procedures, programs, block data, each with its order -
    exactly as if the file were absent. -/
theorem contained (k : Nat) (f : Str) (e : Err) (good : List (Str × Except Err FileTree)) :
    (loadAll true (insertFileAt k (f, .error e) good)).reg = (loadAll true good).reg := by
  unfold loadAll
  rw [loadFrom_reg_filter, filter_insertFileAt_error, ← loadFrom_reg_filter]

/-- ... and for any number of rejected files at any positions: the registered
    state is that of the project consisting of the accepted files only. -/
theorem contained_many (fs : List (Str × Except Err FileTree)) :
    (loadAll true fs).reg = (loadAll true (fs.filter isOkFile)).reg :=
  loadFrom_reg_filter {} fs

/-- **Named in the diagnostic.**  The warnings name exactly the rejected files, each
    once, in the order they were read, with the exception that rejected them. -/
theorem rejected_named (fs : List (Str × Except Err FileTree)) :
    (loadAll true fs).warned
      = fs.filterMap rejection := by
  rw [loadAll, loadFrom_true]
  exact List.nil_append _

/-- **Skipped.**  The registered files are exactly the accepted ones, in reading
    order; a rejected file is never registered (nothing of it: `contained_many`). -/
theorem registered_files (fs : List (Str × Except Err FileTree)) :
    (loadAll true fs).reg.files.map (·.1) = (fs.filter isOkFile).map (·.1) := by
  simp [loadAll, loadFrom_files]

/-- **The run goes on.**  With `dbg` no exception of a file's constructor ends the loop. -/
theorem never_aborts (fs : List (Str × Except Err FileTree)) : (loadAll true fs).aborted = none := by
  rw [loadAll, loadFrom_true]

/-- Without `dbg` the first rejected file ends the run (the property is stated for the
    default settings only; this is the witness that the setting matters). -/
theorem abort_without_dbg_witness :
    (loadAll false [("a".toList, .ok {}), ("b".toList, .error .nested), ("c".toList, .ok {})]).aborted
        = some ("b".toList, .nested)
    ∧ (loadAll false [("a".toList, .ok {}), ("b".toList, .error .nested), ("c".toList, .ok {})]).reg.files.map (·.1)
        = ["a".toList] := by
  -- a literal is `String.ofList` of its characters: rewriting gives the list, evaluating `toList` is slow
  simp -index only [String.toList_ofList]
  decide +kernel

/-- **Contained, from the sources.**  Whatever makes the bad file's constructor raise -
    undecodable bytes, a reader error, or a statement sequence on which the parser model
    raises - and wherever the file is read, the registered state of the project is the
    one of the project without it. -/
theorem project_contained (cfg : Cfg) (hd : cfg.dbg = true) (k : Nat) (f : Str) (bad : Src)
    (hbad : (srcOutcome cfg bad).isSkipped = true) (good : List (Str × Src)) :
    (loadProject cfg (insertFileAt k (f, bad) good)).reg = (loadProject cfg good).reg := by
  unfold loadProject
  rw [hd]
  cases hso : srcOutcome cfg bad with
  | registered p r => simp [hso, Outcome.isSkipped] at hbad
  | skipped e r =>
    simp only [map_insertFileAt, hso, toLoad]
    exact contained k f e _

/-- **Truncated.**  If the statements run out while any container is still open
    (stack depth ≥ 2) the file is rejected with "File ended while still nested". -/
theorem truncated_rejected (cfg : Cfg) (ss : List Stmt) (st : MS)
    (hrun : run cfg initMS ss = .ok st) (hdepth : st.stack.length ≥ 2) :
    parseFile cfg ss = .skipped .nested st.reps := by
  simp only [parseFile, parseFrom, hrun, finish]
  match hs : st.stack with
  | [] => simp [hs] at hdepth
  | [f] => simp [hs] at hdepth
  | f :: g :: r => rfl

/-- **Unclosed unit.**  Any prefix `pre`, then any statement `o` that the parser accepts
    as the opening of a nested container (the stack grows), then any non-empty run of
    statements that neither open nor close anything: the file is rejected as nested.
    (This is every truncation of a file inside a unit body, for all bodies.) -/
theorem unclosed_unit_rejected (cfg : Cfg) (hd : cfg.dbg = true) (pre : List Stmt) (o : Stmt)
    (body : List Stmt) (st st1 : MS)
    (hpre : runMid cfg initMS pre = .ok st)
    (hopen : step cfg st o false = .ok st1) (hgrow : st1.stack.length = st.stack.length + 1)
    (hbody : ∀ s ∈ body, neutral s.kind = true) (hne : body ≠ []) :
    ∃ reps, parseFile cfg (pre ++ o :: body) = .skipped .nested reps := by
  have hst : st.stack ≠ [] := (runMid_inv _ _ _ _ hpre).nonempty (List.cons_ne_nil _ _)
  obtain ⟨s1, r1⟩ := st1
  match s1, hgrow with
  | [], hg => simp at hg
  | [f], hg =>
    simp at hg
    exact absurd hg hst
  | f :: g :: rest, _ =>
    obtain ⟨f', reps', h2⟩ := run_neutral cfg hd body hbody f (g :: rest) r1
    refine ⟨reps', ?_⟩
    have hb : body.isEmpty = false := by cases body <;> simp_all
    simp only [parseFile, parseFrom, run_append_cons, hpre, run, hb, hopen, h2, finish]

/-- **Unbalanced END.**  An END (bare or of any unit kind) met at file level outside any
    BLOCK is reported and then rejects the file (the file object has no `_cleanup`),
    whatever follows it. -/
theorem stray_end_rejected (cfg : Cfg) (hd : cfg.dbg = true) (pre suf : List Stmt) (s : Stmt)
    (f : Frame) (reps : List Rep)
    (hpre : runMid cfg initMS pre = .ok { stack := [f], reps := reps })
    (hb : f.blocklevel = 0) (hend : isEndUnit s.kind = true) :
    parseFile cfg (pre ++ s :: suf) = .skipped .notImplemented (reps ++ [.endOutside]) := by
  simp only [parseFile, parseFrom, run_append_cons, hpre, run, step_endUnit_file cfg hd f reps s hb hend]

/-- **Undecodable bytes / reader errors** reject the file before any statement is parsed. -/
theorem undecodable_and_reader_errors_rejected (cfg : Cfg) :
    (srcOutcome cfg .undecodable).isSkipped = true ∧ (srcOutcome cfg .readerError).isSkipped = true := by
  simp [srcOutcome, Outcome.isSkipped]

/-- **Reader errors are contained.**  Whenever the reader model of C02 (`readAll`: illegal
    leading `&`, inline pre-doc, ...) raises on the lines of a file, the project is the
    one without that file - whatever the statements before the error were. -/
theorem reader_error_contained (cfg : Cfg) (hd : cfg.dbg = true) (k : Nat) (f : Str) (m : Marks)
    (classify : List Str → List Stmt) (lines : List Str) (e : RErr)
    (h : readAll m lines = .error e) (good : List (Str × Src)) :
    (loadProject cfg (insertFileAt k (f, srcOfLines m classify lines) good)).reg = (loadProject cfg good).reg :=
  project_contained cfg hd k f _ (by simp [srcOfLines, h, srcOutcome, Outcome.isSkipped]) good

/-- **The reader stops at the end of the file, in whatever state it is.**  When the physical
    lines run out - after a complete statement, in the middle of a continued statement,
    inside a `!>` / `!|` block whose statement never came, inside a `!*` block - nothing
    more is yielded and no further line is asked for: the iteration ends (what is
    buffered is dropped). -/
theorem reader_stops_at_eof (m : Marks) (s : RS) : readFrom m s [] = .ok [] := rfl

/-- **The real reader does so too** (table `Gen.eofProbes`, regenerated on every run by
    running `FortranReader` under a watchdog on files that end in each of its states):
    on every probe the reader model yields exactly what the code yielded - in particular the
    code came back (`hung` is not a value of the model) and did not raise. -/
theorem reader_eof_probes : ∀ p ∈ Gen.eofProbes, readerObs Marks.default p.1 = p.2 := by
  decide +kernel

/-- **Truncation at any line.**  Cutting a file after any physical line gives the reader a
    prefix of the logical lines of the whole file: a truncated source is, for the parser,
    a truncated statement sequence (never something new). -/
theorem reader_truncation_prefix (m : Marks) (pre suf : List Str) (all : List Str)
    (h : readAll m (pre ++ suf) = .ok all) :
    ∃ xs ys, readAll m pre = .ok xs ∧ all = xs ++ ys :=
  readFrom_prefix m {} pre suf all h

/-- **A source cut inside a unit is contained.**  Take the first `n` physical lines of any
    file, at any `n`: if the reader model delivers them and the statements run out while a
    container is open, the file is rejected and the project is the one without it -
    wherever the file is read. -/
theorem truncated_source_contained (cfg : Cfg) (hd : cfg.dbg = true) (k : Nat) (f : Str) (m : Marks)
    (classify : List Str → List Stmt) (lines : List Str) (n : Nat) (items : List Str) (st : MS)
    (hread : readAll m (lines.take n) = .ok items)
    (hrun : run cfg initMS (classify items) = .ok st) (hdepth : st.stack.length ≥ 2)
    (good : List (Str × Src)) :
    (loadProject cfg (insertFileAt k (f, srcOfLines m classify (lines.take n)) good)).reg
      = (loadProject cfg good).reg := by
  apply project_contained cfg hd
  simp [srcOfLines, hread, srcOutcome, truncated_rejected cfg _ st hrun hdepth, Outcome.isSkipped]

/-- **Parsing requests no identifier.**  No constructor asks the process-wide NameSelector
    for an identifier while a file is parsed (generated table `Gen.reservesAtParse`,
    probed on the code for every container kind in every parent; `otherReservations`
    counts requests for anything else): for every statement sequence, accepted or
    rejected, the parse leaves the name table alone. -/
theorem parse_reserves_nothing (cfg : Cfg) (ss : List Stmt) :
    reservedBy cfg ss = [] ∧ Gen.otherReservations = 0 :=
  -- `reservedBy` is `reservedWith Gen.reservesAtParse`, and that table is empty
  ⟨reservedWith_nil _, rfl⟩

/-- **The name table is contained.**  Whatever the additional file is (undecodable, a
    reader error, any statement sequence - rejected or not) and wherever it is read, the
    state of the NameSelector when `Project(settings)` returns is the one without it. -/
theorem names_contained (cfg : Cfg) (hd : cfg.dbg = true) (k : Nat) (f : Str) (bad : Src)
    (good : List (Str × Src)) :
    projectNames cfg (insertFileAt k (f, bad) good) = projectNames cfg good := by
  unfold projectNames
  rw [hd]
  have hb : srcReserved cfg bad = [] := by
    cases bad <;> simp [srcReserved, (parse_reserves_nothing cfg _).1]
  rw [map_insertFileAt]
  exact namesFrom_insert_nil k _ hb _

/-- **Identifiers are contained.**  Every entity of the other files gets the same
    identifier number (`name`, `name~2`, ...) with and without the additional file: the
    pages and links of the valid files do not move. -/
theorem idents_contained (cfg : Cfg) (hd : cfg.dbg = true) (k : Nat) (f : Str) (bad : Src)
    (good : List (Str × Src)) (key : NameKey) :
    nextNumber (projectNames cfg (insertFileAt k (f, bad) good)) key
      = nextNumber (projectNames cfg good) key := by
  rw [names_contained cfg hd]

/-- **Witness: what the empty table excludes.**  Were the identifier of a top-level module
    requested when its constructor starts (table `[(file, module, "module")]`), a file cut
    inside that module would be rejected *and* leave its request behind, and an equally
    named module of a valid file read later would become `m~2`. -/
theorem reservation_would_leak_witness :
    parseFile {} [⟨.module, ['M']⟩, ⟨.variable, ['x']⟩, ⟨.contains, []⟩]
        = .skipped .nested []
    ∧ reservedWith [(.file, .module, ['m', 'o', 'd', 'u', 'l', 'e'])]
        (opened {} [⟨.module, ['M']⟩, ⟨.variable, ['x']⟩, ⟨.contains, []⟩])
        = [(['m', 'o', 'd', 'u', 'l', 'e'], ['m'])]
    ∧ nextNumber [(['m', 'o', 'd', 'u', 'l', 'e'], ['m'])] (['m', 'o', 'd', 'u', 'l', 'e'], ['m']) = 2 := by
  decide +kernel

/-- The parser's recursion depth (number of open containers) never exceeds the number
    of statements read plus one, and the file frame is never popped: the recursive
    descent cannot run away, and the loop is a fold that reads each statement once. -/
theorem recursion_depth_bounded (cfg : Cfg) (ss : List Stmt) (st : MS) (h : run cfg initMS ss = .ok st) :
    1 ≤ st.stack.length ∧ st.stack.length ≤ ss.length + 1 := by
  have i := run_inv _ _ _ _ h
  exact ⟨List.length_pos_iff.mpr (i.nonempty (List.cons_ne_nil _ _)), Nat.add_comm .. ▸ i.depth⟩


/-- **The matcher and its ways.**  The backtracking matcher of the model (`Rx.matchK`: try the
    ways of the expression one after the other, hand the rest to the continuation, stop at
    the first success - this is what the driver runs against `re` in the correspondence)
    succeeds exactly when the continuation accepts one of `Rx.paths`; when the continuation
    rejects them all, it has been called on every one of them: `(paths r s).length` is what a
    failure costs. -/
theorem matcher_walks_paths (n0 : Nat) (r : Rx) (s : Str) (k : Str → Bool) :
    Rx.matchK n0 r s k = (Rx.paths n0 r s).any k := by
  induction r generalizing s k with
  | cls m =>
    match s with
    | [] => simp [Rx.matchK, Rx.paths]
    | c :: t => simp only [Rx.matchK, Rx.paths]; split <;> simp_all
  | eps | lookb => simp [Rx.matchK, Rx.paths]
  | bos | eos => simp only [Rx.matchK, Rx.paths]; split <;> simp_all
  | look neg r ih =>
    simp only [Rx.matchK, Rx.paths, ih]
    have : (Rx.paths n0 r s).any (fun _ => true) = !(Rx.paths n0 r s).isEmpty := by
      cases Rx.paths n0 r s <;> simp
    rw [this]
    split <;> simp_all
  | seq a b iha ihb =>
    simp only [Rx.matchK, Rx.paths, List.any_flatMap]
    rw [iha]
    congr 1
    funext t
    exact ihb t k
  | alt a b iha ihb => simp [Rx.matchK, Rx.paths, List.any_append, iha, ihb]
  | rep lo hi a iha =>
    simp only [Rx.matchK, Rx.paths]
    exact Rx.iterK_eq_any _ _ (fun s k => iha s k) lo hi _ _ _ _

/-- **One way only.**  An expression of the `functional` class (fixed sequences of character
    sets, alternatives that start with different characters, a run of one character set
    closed by something that starts outside the set) has at most one way to match, at any
    position of any subject. -/
theorem functional_body_single_way (n0 : Nat) (a : Rx) (h : Rx.functional a = true) (s : Str) :
    (Rx.paths n0 a s).length ≤ 1 :=
  Rx.functional_le_one n0 a h s

/-- **A loop over such a body is linear.**  Whatever the bounds of the repetition, the
    number of ways the loop can match at a position - what a backtracking matcher walks
    through when the rest of the pattern fails - is at most the number of characters left
    plus one: no subject, however long or corrupt, makes it blow up. -/
theorem functional_loop_linear (n0 : Nat) (a : Rx) (h : Rx.functional a = true) (lo : Nat) (hi : Option Nat)
    (s : Str) : (Rx.paths n0 (.rep lo hi a) s).length ≤ s.length + 1 := by
  simp only [Rx.paths]
  exact Rx.iter_linear _ (Rx.functional_le_one n0 a h) lo hi _ _ _

/-- **The patterns FORD applies while it reads and parses a file** (generated table
    `Gen.patterns`: every compiled pattern of ford/reader.py, ford/sourceform.py, ford/utils.py,
    ford/fortran_project.py, the ones built at run time and the inline ones, as `re` parses
    them): in every pattern outside the listed finding, every loop that can be entered again
    after a failure has a `functional` body.  Partial: `knownBacktracking` (the component
    chain of `CALL_RE`, finding C20-call-chain-backtracking) is excluded. -/
theorem statement_patterns_loops_functional_partial :
    ∀ p ∈ Gen.patterns, p.1 ∉ knownBacktracking → Rx.badLoops p.2 = [] := by
  decide +kernel

/-- ... hence, for every such pattern, every loop that can be re-entered after a failure
    has at most `|s| + 1` ways to match, at every position of every statement `s`:
    none of them can make FORD hang on any input. -/
theorem statement_patterns_loops_linear_partial (p : Str × Rx) (hp : p ∈ Gen.patterns)
    (hk : p.1 ∉ knownBacktracking) (a : Rx) (ha : a ∈ Rx.loopsCF p.2 true) (lo : Nat) (hi : Option Nat)
    (n0 : Nat) (s : Str) : (Rx.paths n0 (.rep lo hi a) s).length ≤ s.length + 1 := by
  apply functional_loop_linear
  have hb := statement_patterns_loops_functional_partial p hp hk
  simp only [Rx.badLoops, List.filter_eq_nil_iff] at hb
  simpa using hb a ha

/-- **Witness (finding C20-call-chain-backtracking).**  The loop
    `(?:\s*\w+\s*(?:\(\))?\s*%\s*)+` of the `CALL_RE` that FORD had up to 0a49937: the blanks around a `%` can be
    given to either of two `\s*`, so `a % ` has 4 ways, `a % a % ` 20, `a % a % a % ` 84 ...:
    a chain of component accesses that is not followed by `name(` costs a number of steps
    that is exponential in the length of the chain. -/
theorem call_chain_backtracking_witness :
    let sp := Rx.cls 0x100003e00
    let w := Rx.cls 0x7fffffe87fffffe03ff000000000000
    let body := seqs [.rep 0 none sp, .rep 1 none w, .rep 0 none sp,
                      .rep 0 (some 1) (seqs [.cls 0x10000000000, .cls 0x20000000000]),
                      .rep 0 none sp, .cls 0x2000000000, .rep 0 none sp]
    Rx.functional body = false
    ∧ Rx.ways (.rep 1 none body) ['a', ' ', '%', ' '] = 4
    ∧ Rx.ways (.rep 1 none body) ['a', ' ', '%', ' ', 'a', ' ', '%', ' '] = 20
    ∧ Rx.ways (.rep 1 none body) ['a', ' ', '%', ' ', 'a', ' ', '%', ' ', 'a', ' ', '%', ' '] = 84 := by
  decide +kernel

/-- **Witness: what the table theorem excludes.**  A list loop `(?:\w+,?\s*)+` (names, the
    comma optional) is harmless at the very end of a pattern - nothing after it can fail, so
    it is never re-entered (`badLoops` is empty) - but once anything that can fail follows it
    (here `$`), the loop is re-entered and the number of ways doubles with every character of a
    name: 1, 3, 7, ... 2^n - 1. -/
theorem ambiguous_list_loop_witness :
    let w := Rx.cls 0x7fffffe87fffffe03ff000000000000
    let loop := Rx.rep 1 none (seqs [.rep 1 none w, .rep 0 (some 1) (.cls 0x100000000000), .rep 0 none (.cls 0x100003e00)])
    Rx.badLoops loop = [] ∧ Rx.badLoops (.seq loop .eos) ≠ []
    ∧ Rx.ways loop ['a', '='] = 1 ∧ Rx.ways loop ['a', 'a', '='] = 3
    ∧ Rx.ways loop ['a', 'a', 'a', '='] = 7 ∧ Rx.ways loop ['a', 'a', 'a', 'a', 'a', 'a', 'a', 'a', '='] = 255 := by
  decide +kernel

/-- **Witness (finding C20-reported-not-skipped).**  With the default settings a
    misplaced CONTAINS is reported and the file is nevertheless registered - alone
    and in a project, where its (partial) content reaches the project lists. -/
theorem reported_not_skipped_witness :
    parseFile {} [⟨.contains, []⟩] = .registered [] [.unexpectedContains]
    ∧ parseFile {} [⟨.module, "m".toList⟩, ⟨.contains, []⟩, ⟨.contains, []⟩, ⟨.endUnit, []⟩]
        = .registered ["modules:m".toList] [.multipleContains]
    ∧ (loadProject {} [("bad.f90".toList, .stmts [⟨.module, "m".toList⟩, ⟨.contains, []⟩, ⟨.contains, []⟩, ⟨.endUnit, []⟩])]).reg.modules
        = ["m".toList] := by
  simp -index only [String.toList_ofList]
  decide +kernel

/-- **Witness (finding C20-malformed-not-detected).**  Statements matching no pattern
    are ignored and an END is never compared with its opener: arbitrary text, and a
    MODULE closed by END SUBROUTINE, are registered without any report. -/
theorem junk_not_detected_witness :
    parseFile {} [⟨.other, []⟩, ⟨.other, []⟩] = .registered [] []
    ∧ parseFile {} [⟨.module, "m".toList⟩, ⟨.endUnitSub, "s".toList⟩] = .registered ["modules:m".toList] [] := by
  simp -index only [String.toList_ofList]
  decide +kernel

/-- **Partial (strict settings).**  With `dbg = false` nothing is ever reported-and-kept:
    a file that is registered had no report at all (print_error raised or, with `force`,
    was silent). -/
theorem registered_clean_partial (cfg : Cfg) (hd : cfg.dbg = false) (ss : List Stmt)
    (paths : List Str) (reps : List Rep) (h : parseFile cfg ss = .registered paths reps) : reps = [] := by
  obtain ⟨st, hrun, rfl, _⟩ := parseFile_registered h
  exact (run_inv _ _ _ _ hrun).nodbg hd

/-- **Repaired variant.**  If the file's constructor rejects the file whenever something
    was reported (`skipReported`, the candidate repair), "reported" implies "skipped" for
    every statement sequence: a registered file has an empty report list. -/
theorem repaired_reported_implies_skipped (cfg : Cfg) (hr : cfg.skipReported = true) (ss : List Stmt)
    (paths : List Str) (reps : List Rep) (h : parseFile cfg ss = .registered paths reps) : reps = [] := by
  obtain ⟨_, _, _, hnone⟩ := parseFile_registered h
  exact hnone hr

/-- Reports are only ever appended: what was diagnosed stays diagnosed, whichever way
    the file ends. -/
theorem reports_only_grow (cfg : Cfg) (st : MS) (more : List Stmt) (st2 : MS)
    (h : run cfg st more = .ok st2) : ∃ extra, st2.reps = st.reps ++ extra :=
  (run_inv _ _ _ _ h).reps

/-- **Escaped text is inert** (`rich.markup.escape` followed by `rich.markup.render`, as they are):
    whatever the text contains - brackets, closing-tag look-alikes such as `[/ 1.0 /]`, backslashes -
    nothing of it is interpreted as a tag, rendering does not raise, and what is shown is the text
    itself (a single trailing backslash comes out doubled).  Partial: a backslash directly in front
    of a `[` that opens no tag (`lostBackslash`; `render` drops it), and - when emoji codes are
    replaced - a `:...:` without blanks (`emojiCandidate`), are excluded. -/
theorem escaped_text_shown_verbatim_partial (cfg : Markup.Cfg) (msg : Str)
    (hl : Markup.lostBackslash msg = false) (he : cfg.emoji = false ∨ Markup.emojiCandidate msg = false) :
    ∃ t, (t = [] ∨ t = ['\\']) ∧ Markup.render cfg (Markup.escape msg) = .shown (msg ++ t) := by
  obtain ⟨t, ht, e⟩ := Markup.go_escape cfg {} msg rfl hl he
  exact ⟨t, ht, by simpa [Markup.render] using e⟩

/-- **`warn` hands its message over inertly** (generated table `Gen.warnSpec`, ford/console.py):
    either as `escape(msg)` at the end of one markup string whose literal part consists of complete
    tags, or as a `Text` after a markup literal. -/
theorem warn_message_is_inert : (Markup.inertShape Gen.emojiSample Gen.warnSpec).isSome = true := by
  decide +kernel

/-- **What a warning shows.**  For every message (outside the two excluded classes when the
    message is escaped rather than passed as `Text`), `warn(msg)` puts the literal prefix and then
    the message itself on the terminal: nothing in the message can make it raise or vanish. -/
theorem warn_shows_message_partial (i : Markup.Inert) (msg : Str)
    (hi : Markup.inertShape Gen.emojiSample Gen.warnSpec = some i)
    (hs : Markup.safeMsg Gen.warnSpec i msg = true) :
    ∃ t, (t = [] ∨ t = ['\\']) ∧
      Markup.warnShown Gen.emojiSample Gen.warnSpec msg = .shown (i.pre ++ msg ++ t) :=
  Markup.warn_inert _ _ i msg hi hs

/-- **The per-file handler** of `Project.__init__` (generated table `Gen.handlerSteps`,
    *observed*: the loop is run with a constructor that raises - every built-in exception class,
    every shape of `args`, with and without `dbg` - and all probes agree): without `dbg` the
    exception leaves the loop and nothing is printed; with `dbg` there is exactly one call of `warn`
    before the next file, and the next file is read and registered - nothing else (this is what
    `loadFrom` models).  (`continue_` is the observed fact that the loop goes on: it may not be
    absent.) -/
theorem handler_warns_and_continues :
    Gen.handlerSteps = [.reraiseUnlessDbg, .warn, .continue_] := by
  decide

/-- **The handler's message does not depend on what the exception says** about files: every rule of
    `Gen.rejectionRules` contains the path piece and the last resort is unconditional (this is the
    table fact the theorem below rests on; it is false as soon as one class of exception texts is
    passed on without the path). -/
theorem every_rejection_rule_names_the_file : Markup.rulesNameFile Gen.rejectionRules = true := by
  decide

/-- **A rejected file is named in the diagnostic.**  The message of the handler (generated table
    `Gen.rejectionRules`: a decision list over the text of the exception, observed by running the
    per-file loop with a constructor that raises) contains the path of the file of *this*
    iteration whichever rule applies, and `warn` shows it: for every path and every exception text
    - also one that already names a file, as the reader's `In file ...` errors do, possibly an
    INCLUDEd file - the path of the rejected file appears on the terminal, character by character. -/
theorem rejected_file_named_on_terminal_partial (i : Markup.Inert) (path err : Str)
    (hi : Markup.inertShape Gen.emojiSample Gen.warnSpec = some i)
    (hs : Markup.safeMsg Gen.warnSpec i (Markup.rejectionText Gen.rejectionRules path err) = true) :
    ∃ a b, Markup.warnShown Gen.emojiSample Gen.warnSpec (Markup.rejectionText Gen.rejectionRules path err)
      = .shown (a ++ path ++ b) := by
  obtain ⟨t, _, e⟩ := warn_shows_message_partial i _ hi hs
  obtain ⟨a, b, e2⟩ := Markup.rejectionText_names Gen.rejectionRules path err every_rejection_rule_names_the_file
  exact ⟨i.pre ++ a, b ++ t, by rw [e, e2]; simp⟩

open Ford.TypeSpec in
/-- **Witness: why every rule has to name the file.**  A handler that passes on a text starting with
    `In file ` as it is ("the reader has said it already"): for an error in an INCLUDEd file the
    reader names *that* file - the rejected source file `src/solver.f90` is then nowhere in the
    message, although the default rule would have named it. -/
theorem verbatim_reader_message_witness :
    let rules : List (Markup.ErrGuard × List Markup.MsgPiece) :=
      [(.errPrefix (chars! "In file "), [.err]),
       (.any, [.lit (chars! "Error parsing "), .path, .lit (chars! ". "), .err])]
    let err := chars! "In file /p/src/limits.inc 1| integer :: n !| doc"
    Markup.rulesNameFile rules = false
    ∧ Markup.rejectionText rules (chars! "src/solver.f90") err = err
    ∧ Markup.occursIn (chars! "solver") (Markup.rejectionText rules (chars! "src/solver.f90") err) = false
    ∧ Markup.occursIn (chars! "src/solver.f90")
        (Markup.rejectionText rules (chars! "src/solver.f90") (chars! "File ended while still nested.")) = true := by
  decide +kernel

/-- **The real `warn` does so too** (table `Gen.warnProbes`, regenerated on every run by calling
    `ford.console.warn` on messages with brackets, closing-tag look-alikes, backslashes and emoji
    codes): on every probe the model shows what the terminal showed. -/
theorem warn_probes : ∀ p ∈ Gen.warnProbes, Markup.warnObs Gen.emojiSample Gen.warnSpec p.1 = p.2 := by
  decide +kernel

/-- **The progress bar survives the file names** it is given (`Gen.progressSpec`, ford/utils.py):
    showing the current file cannot raise when the column is not rendered as markup, or when the
    path contains nothing that looks like a tag.  Partial: with a column that is rendered as markup
    and not escaped, a path with a tag look-alike is excluded - finding C20-progress-markup-abort,
    repaired in FORD by 902df0a (`Gen.progressSpec.markup = false`). -/
theorem progress_display_survives_partial (path : Str)
    (h : Gen.progressSpec.markup = false ∨ (Gen.progressSpec.escaped = false ∧ Markup.hasTag path = false)) :
    Markup.progressObs Gen.emojiSample Gen.progressSpec path ≠ .raised :=
  Markup.progress_survives _ _ path h

/-- ... and the real progress bar agrees with the model on the probes (`Gen.progressProbes`). -/
theorem progress_probes :
    ∀ p ∈ Gen.progressProbes,
      (Markup.progressObs Gen.emojiSample Gen.progressSpec p.1 == .raised) = p.2 := by
  decide +kernel

open Ford.TypeSpec in
/-- **Witness: what `escape` is there for.**  Were the message handed to `console.print` as it is
    (every `str` argument is markup), the offending line `& = [/ 1.0 /]` of a reader error would
    raise `MarkupError` inside the handler - the whole run aborts - and the `[old]` of
    `solver[old].f90` would vanish from the diagnostic. -/
theorem unescaped_message_witness :
    let raw : Markup.WarnSpec := { args := [.markup [.lit (chars! "[bold red]Warning:[/]")], .markup [.msg]] }
    Markup.warnShown [] raw (chars! "Error parsing m.f90. '&': & = [/ 1.0 /]") = .raised
    ∧ Markup.warnShown [] raw (chars! "Error parsing solver[old].f90.")
        = .shown (chars! "Warning: Error parsing solver.f90.") := by
  decide +kernel

open Ford.TypeSpec in
/-- **Witness (finding C20-progress-markup-abort).**  The column of the progress bar as FORD had it up to 902df0a -
    markup, the path not escaped: a file called `z[/b].f90` makes rendering raise. -/
theorem progress_markup_abort_witness :
    Markup.progressObs [] { markup := true, escaped := false } (chars! "src/z[/b].f90") = .raised
    ∧ Markup.progressObs [] { markup := false } (chars! "src/z[/b].f90") = .shown (chars! "src/z[/b].f90") := by
  decide +kernel

open Ford.TypeSpec in
/-- **Witness (finding C20-diagnostic-rewrites-name): what the two exclusions are.**  Escaped and
    rendered, `a\[1].f90` comes out as `a[1].f90` and `z:x:.f90` with the emoji for `x`. -/
theorem escape_quirks_witness :
    Markup.render {} (Markup.escape (chars! "a\\[1].f90")) = .shown (chars! "a[1].f90")
    ∧ Markup.render { tbl := [(['x'], some ['X'])] } (Markup.escape (chars! "z:x:.f90")) = .shown (chars! "zX.f90")
    ∧ Markup.lostBackslash (chars! "a\\[1].f90") = true ∧ Markup.emojiCandidate (chars! "z:x:.f90") = true := by
  decide +kernel

/-! ## defects that are found when a block is closed (enumerator values), and what a rejected
   file leaves behind in the process (models FordModel/EnumValues.lean; tables `Gen.enumProbes`,
   `Gen.enumLateRaise`, `Gen.leftBehind`, observed on the code by translate/c20late.py) -/

/-- **Reported and skipped - enumerators.**  An ENUM block with an enumerator whose given value is not an
    integer literal for `int` (after `remove_kind_suffix`) makes `_cleanup` raise - wherever in the block it
    stands, whatever the other enumerators are. -/
theorem non_integer_enumerator_raises (es : List EnumValues.Enumerator)
    (h : es.any EnumValues.badEnumerator = true) : EnumValues.enumOk es = false :=
  EnumValues.enumOk_false_of_bad es h

/-- **Nothing is left for a later stage.**  When `_cleanup` comes through, every enumerator has its integer
    value (one per enumerator) and none of them is a bad one: there is no enumerator whose value still has to
    be worked out - and could fail - after the file was registered, outside the per-file handler. -/
theorem enumerator_values_complete (es : List EnumValues.Enumerator) (vs : List Int)
    (h : EnumValues.enumCleanup es = .ok vs) :
    vs.length = es.length ∧ ∀ e ∈ es, EnumValues.badEnumerator e = false :=
  EnumValues.cleanupFrom_ok es (-1) vs h

/-- **Contained.**  A file with such an ENUM block - whatever its statements are otherwise, whatever other
    ENUM blocks it has - read at *any* position leaves all project lists as if it were absent. -/
theorem non_integer_enumerator_contained (k : Nat) (f : Str) (o : Outcome)
    (enums : List (List EnumValues.Enumerator)) (good : List (Str × Except Err FileTree))
    (h : enums.any (fun es => es.any EnumValues.badEnumerator) = true) :
    (loadAll true (insertFileAt k (f, toLoad (EnumValues.fileWithEnums o enums)) good)).reg = (loadAll true good).reg := by
  obtain ⟨e, r, he⟩ := EnumValues.fileWithEnums_skipped o enums h
  rw [he]
  exact contained k f e good

/-- A registered file has come through the `_cleanup` of every one of its ENUM blocks. -/
theorem registered_file_has_all_enumerator_values (o : Outcome) (enums : List (List EnumValues.Enumerator))
    (p : List Str) (r : List Rep) (h : EnumValues.fileWithEnums o enums = .registered p r) :
    ∀ es ∈ enums, ∃ vs, EnumValues.enumCleanup es = .ok vs ∧ vs.length = es.length := by
  intro es hes
  cases o with
  | skipped e r' => simp [EnumValues.fileWithEnums] at h
  | registered p' r' =>
    have hall : enums.all EnumValues.enumOk = true := by
      cases hq : enums.all EnumValues.enumOk with
      | true => rfl
      | false => simp [EnumValues.fileWithEnums, hq] at h
    have hok := (List.all_eq_true.mp hall) es hes
    unfold EnumValues.enumOk at hok
    cases hc : EnumValues.enumCleanup es with
    | error n => simp [hc] at hok
    | ok vs => exact ⟨vs, rfl, (EnumValues.cleanupFrom_ok es (-1) vs hc).1⟩

/-- Over the generated `enumProbes`: on every probe the model = what the real `FortranEnum._cleanup` did
    inside the file's constructor (raised, or the values it gave the enumerators without `= value`). -/
theorem enum_probes : Gen.enumProbes.all (fun p => decide (EnumValues.probeObs p.1 = p.2)) = true := by
  decide +kernel

/-- Over the generated `enumLateRaise`: no probe got through the constructor and made `Project.correlate()`
    raise afterwards - a defect of an enumerator comes to light inside the per-file handler or never. -/
theorem enum_errors_surface_inside_the_handler : Gen.enumLateRaise = [] := by decide

/-- Over the generated `leftBehind`: no class- or module-level object of the reading / parsing modules has
    another value after `Project()` over valid + rejected files (rejected in the constructor, in the reader,
    inside an INCLUDE: reader error, recursion, missing, undecodable) than after the valid files alone. -/
theorem rejected_files_leave_no_process_state : Gen.leftBehind = [] := by decide

open Ford.TypeSpec in
/-- `remove_kind_suffix` + `int` as they are: `2_int8` is 2, `10_8` is read as 108, `3_c_int` (a legal kind)
    and a named constant are rejected; a bad enumerator in the middle rejects the block. -/
theorem enumerator_value_quirks_witness :
    EnumValues.valuesOf [⟨['a'], some (chars! "2_int8")⟩, ⟨['b'], none⟩] = some [2, 3]
    ∧ EnumValues.valuesOf [⟨['a'], some (chars! "10_8")⟩, ⟨['b'], none⟩] = some [108, 109]
    ∧ EnumValues.raisedFor [⟨['a'], some (chars! "3_c_int")⟩] = some ['a']
    ∧ EnumValues.raisedFor [⟨['a'], some (chars! "1")⟩, ⟨['b'], some (chars! "offset")⟩, ⟨['c'], none⟩] = some ['b'] := by
  decide +kernel

/-! ## INCLUDE: nested readers over a directory tree (model FordModel/IncludeNest.lean) -/

/-- **A failure inside an INCLUDE is a failure of the file that is being parsed.**  The first INCLUDE line of
    a file (nothing but ordinary statements before it) names a file on which the nested reader raises - a
    missing file further down, undecodable bytes, a line the reader refuses, the recursion limit -: the reader
    of the including file ends with that very exception, whatever follows the line, at any nesting depth. -/
theorem include_failure_rejects_the_including_file (fs : IncludeNest.Fs) (dirs : List IncludeNest.Path) (d : Nat)
    (top p : IncludeNest.Path) (pre : List Str) (s : Str) (post : List Str) (e : IncludeNest.IncErr)
    (hbody : fs.get top = some (.items (pre ++ s :: post)))
    (hpre : IncludeNest.noInclude pre = true) (hs : IncludeNest.isIncludeLine s = true)
    (hres : IncludeNest.resolve fs (IncludeNest.includeName s) (IncludeNest.dirOf top :: dirs) = some p)
    (herr : IncludeNest.readFile fs dirs d p = .error e) :
    IncludeNest.readFile fs dirs (d + 1) top = .error e :=
  IncludeNest.readFile_nested_error fs dirs d top p pre s post e hbody hpre hs hres herr

/-- **Never hangs - a file that includes itself.**  Whatever the recursion limit `d` is, reading a file whose first
    INCLUDE line resolves to the file itself ends, with `RecursionError` (an `Exception`: the per-file handler
    sees it); `readFile` is total by structural recursion on `d`. -/
theorem self_include_ends_in_recursion_error (fs : IncludeNest.Fs) (dirs : List IncludeNest.Path)
    (top : IncludeNest.Path) (pre : List Str) (s : Str) (post : List Str)
    (hbody : fs.get top = some (.items (pre ++ s :: post)))
    (hpre : IncludeNest.noInclude pre = true) (hs : IncludeNest.isIncludeLine s = true)
    (hres : IncludeNest.resolve fs (IncludeNest.includeName s) (IncludeNest.dirOf top :: dirs) = some top) (d : Nat) :
    IncludeNest.readFile fs dirs d top = .error .recursion := by
  induction d with
  | zero => rfl
  | succ n ih =>
    exact IncludeNest.readFile_nested_error fs dirs n top top pre s post .recursion hbody hpre hs hres ih

/-- **Contained.**  A source file whose reader - nested readers included - raises is rejected, and read at any
    position it leaves the project as if it were absent. -/
theorem include_failure_contained (cfg : Cfg) (hd : cfg.dbg = true) (k : Nat) (f : Str)
    (classify : List Str → List Stmt) (fs : IncludeNest.Fs) (dirs : List IncludeNest.Path) (d : Nat)
    (top : IncludeNest.Path) (e : IncludeNest.IncErr) (herr : IncludeNest.readFile fs dirs d top = .error e)
    (good : List (Str × Src)) :
    (loadProject cfg (insertFileAt k (f, IncludeNest.srcOfRead classify (IncludeNest.readFile fs dirs d top)) good)).reg
      = (loadProject cfg good).reg := by
  apply project_contained cfg hd
  rw [herr]
  cases e <;> simp [IncludeNest.srcOfRead, srcOutcome, Outcome.isSkipped]

/-- **The other files are read as before.**  A file without INCLUDE lines is delivered item by item as its own
    reader made it, whatever else is on disk and whatever `inc_dirs` says. -/
theorem file_without_include_unchanged (fs : IncludeNest.Fs) (dirs : List IncludeNest.Path) (d : Nat)
    (top : IncludeNest.Path) (its : List Str) (hbody : fs.get top = some (.items its))
    (h : IncludeNest.noInclude its = true) : IncludeNest.readFile fs dirs (d + 1) top = .ok its := by
  simp [IncludeNest.readFile, hbody, IncludeNest.expandWith_noInclude fs dirs _ top its h]

/-- The directory of the file that holds the INCLUDE line is searched first, before every entry of `inc_dirs`. -/
theorem include_searched_beside_the_includer_first (fs : IncludeNest.Fs) (name : Str) (here : IncludeNest.Path)
    (dirs : List IncludeNest.Path) (h : (fs.get (IncludeNest.joinPath (IncludeNest.dirOf here) name)).isSome = true) :
    IncludeNest.resolve fs name (IncludeNest.dirOf here :: dirs) = some (IncludeNest.joinPath (IncludeNest.dirOf here) name) :=
  IncludeNest.resolve_first fs name _ dirs h

open Ford.TypeSpec in
/-- The exception of a nested reader names the *include* file (`/r/inc/limits.inc`), not the source file that is
    rejected (`/r/solver.f90`) - why the handler's message has to carry the path itself; a `.h` file
    that is not found is no error; the same name beside the includer wins over `inc_dirs`. -/
theorem include_error_names_the_include_file_witness :
    IncludeNest.errOf (IncludeNest.readFile
        [([chars! "r", chars! "solver.f90"], .items [chars! "module m", chars! "include 'inc/limits.inc'", chars! "end module m"]),
         ([chars! "r", chars! "inc", chars! "limits.inc"], .refusedAfter [chars! "integer :: n"])]
        [] 8 [chars! "r", chars! "solver.f90"]) = some (.refused [chars! "r", chars! "inc", chars! "limits.inc"])
    ∧ IncludeNest.itemsOf (IncludeNest.readFile
        [([chars! "r", chars! "a.f90"], .items [chars! "INCLUDE \"conf.h\"", chars! "x = 1"])] [] 8 [chars! "r", chars! "a.f90"])
        = some [chars! "INCLUDE \"conf.h\"", chars! "x = 1"]
    ∧ IncludeNest.itemsOf (IncludeNest.readFile
        [([chars! "r", chars! "sub", chars! "a.f90"], .items [chars! "include'c.inc'"]),
         ([chars! "r", chars! "inc", chars! "c.inc"], .items [chars! "y = 2"]),
         ([chars! "r", chars! "sub", chars! "c.inc"], .items [chars! "y = 1"])]
        [[chars! "r", chars! "inc"]] 8 [chars! "r", chars! "sub", chars! "a.f90"]) = some [chars! "y = 1"] := by
  decide +kernel

-- `hopen`, `hgrow` of `unclosed_unit_rejected` can be met, and its conclusion on a file
example : (match step {} initMS ⟨.module, "m".toList⟩ false with
           | .ok st1 => st1.stack.length | .error _ => 0) = initMS.stack.length + 1 := by
  simp -index only [String.toList_ofList]
  decide +kernel
example : parseFile {} [⟨.module, "m".toList⟩, ⟨.contains, []⟩, ⟨.subroutine, "s".toList⟩, ⟨.use, "x".toList⟩]
    = .skipped .nested [] := by
  simp -index only [String.toList_ofList]
  decide +kernel
-- `stray_end_rejected`
example : parseFile {} [⟨.module, "m".toList⟩, ⟨.endUnit, []⟩, ⟨.endUnit, []⟩]
    = .skipped .notImplemented [.endOutside] := by
  simp -index only [String.toList_ofList]
  decide +kernel
-- `h` of `reader_error_contained`
example : (match readAll Marks.default ["module m".toList, "& x = 1".toList] with
           | .error e => decide (e = .ampStart) | .ok _ => false) = true := by
  simp -index only [String.toList_ofList]
  decide +kernel
-- the probe tables of `reader_eof_probes` are not trivial; a buffered `!>` line is dropped at the end
example : Gen.eofProbes.length ≥ 12 ∧ (Gen.eofProbes.any (fun p => p.2 != .items [] && p.1.length ≥ 2)) = true := by decide +kernel
example : readerObs Marks.default [['m'], ['!', '>', ' ', 'd']] = .items [['m']] := by decide +kernel
-- there are constructors that `parse_reserves_nothing` speaks about
example : (opened {} [⟨.module, ['m']⟩, ⟨.contains, []⟩, ⟨.subroutine, ['s']⟩, ⟨.use, ['x']⟩])
    = [(.file, .module, ['m']), (.module, .subroutine, ['s'])] := by decide +kernel
-- `statement_patterns_loops_functional_partial` is about many loops, not only over single character sets
example : Gen.patterns.length ≥ 50 ∧ (Gen.patterns.map (fun p => (Rx.loopsCF p.2 true).length)).sum ≥ 150 := by decide +kernel
example : Gen.patterns.any (fun p => (Rx.loopsCF p.2 true).any (fun a => match a with | .cls _ => false | _ => true)) = true := by
  decide +kernel
-- `hi`, `hs` of `rejected_file_named_on_terminal_partial`, with a path and a text full of brackets
open Ford.TypeSpec in
example : ∃ i, Markup.inertShape Gen.emojiSample Gen.warnSpec = some i
    ∧ Markup.safeMsg Gen.warnSpec i (Markup.rejectionText Gen.rejectionRules (chars! "src/solver[old].f90") (chars! "& = [/ 1.0 /]")) = true := by
  decide +kernel
example : Gen.warnProbes.length ≥ 10 ∧ Gen.progressProbes.length ≥ 6
    ∧ (Gen.warnProbes.any (fun p => p.1.any (· == '[') && p.1.any (· == '/'))) = true := by decide +kernel
-- `registered_clean_partial`, `repaired_reported_implies_skipped`: the settings make a difference
example : parseFile { dbg := false } [⟨.contains, []⟩] = .skipped .printError [] := by decide +kernel
example : parseFile { skipReported := true } [⟨.contains, []⟩] = .skipped .reported [.unexpectedContains] := by decide +kernel
-- `enum_probes` covers both outcomes; `h` of `non_integer_enumerator_contained`
example : Gen.enumProbes.length ≥ 20 ∧ (Gen.enumProbes.any (fun p => p.2.isNone)) = true
    ∧ (Gen.enumProbes.any (fun p => p.2.isSome)) = true := by decide +kernel
open Ford.TypeSpec in
example : EnumValues.fileWithEnums (parseFile {} [⟨.module, ['m']⟩, ⟨.enum, []⟩, ⟨.variable, ['a']⟩, ⟨.endUnit, []⟩, ⟨.endUnit, []⟩])
    [[⟨['a'], some (chars! "1.5")⟩]] = .skipped .enumValue [] := by decide +kernel
-- the hypotheses of `self_include_ends_in_recursion_error`; the recognisers of INCLUDE lines
open Ford.TypeSpec in
example : IncludeNest.errOf (IncludeNest.readFile
    [([chars! "r", chars! "a.f90"], .items [chars! "x = 0", chars! "include 'a.f90'"])] [] 40 [chars! "r", chars! "a.f90"])
    = some .recursion := by decide +kernel
open Ford.TypeSpec in
example : IncludeNest.isIncludeLine (chars! "Include  'x.inc'") = true ∧ IncludeNest.isIncludeLine (chars! "include_me = 1") = false
    ∧ IncludeNest.includeName (chars! "include 'inc/x.inc'") = chars! "inc/x.inc"
    ∧ IncludeNest.joinPath [chars! "r", chars! "inc"] (chars! "../up/./x.inc") = [chars! "r", chars! "up", chars! "x.inc"] := by decide +kernel

end Ford.C20
