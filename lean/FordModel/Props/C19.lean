/-
  C19 - a run touches nothing outside its output directory (and graph directory).
  Property theorems only; the model is FordModel/Fs.lean (write-out), FsPages.lean (page tree) and
  FsGlob.lean (fnmatch), helper lemmas are in FordModel/Lemmas/ under the same names, the tables are
  regenerated from the repo into FordModel/Generated/C19.lean on every run.
-/
import FordModel.Fs
import FordModel.FsPages
import FordModel.Lemmas.Fs
import FordModel.Lemmas.FsPages
import FordModel.FsGlob
import FordModel.Lemmas.FsGlob
namespace Ford.C19
open Ford Ford.Fs

/-- **Prefix lemma.** Joining a relative path that never climbs above its starting
    point (`safe 0 x`: at no point more `..` than real segments before it) to a
    normal base and letting the OS resolve `.`, `..` and `//` gives a path below
    the base - for every base and every such `x`, of any length. -/
theorem norm_under (o : Path) (ho : Normal o) (x : List Seg) (hx : safe 0 x = true) :
    o <+: norm (o ++ x) := under_of_safe o ho x hx

/-- The prefix lemma with a budget: starting `y.length` segments below the base,
    `x` may climb up to `y.length` levels (this is why the shipped example
    `copy_subdir: ../images` stays inside the output directory). -/
theorem norm_under_budget (o y : Path) (ho : Normal o) (hy : Normal y) (x : List Seg)
    (hx : safe y.length x = true) : o <+: norm (o ++ y ++ x) := by
  rw [norm_append, norm_of_normal (List.forall_mem_append.2 ⟨ho, hy⟩), List.reverse_append]
  exact normAux_under o x y.reverse (by rwa [List.length_reverse])

/-- Whatever the placement of `output_dir` / `graph_dir` (relative, absolute, with
    `..`, `.`, `//`, reached through symbolic links), the normalised directories the
    run works with contain no `.`/`..`/empty segment: the base of every later join
    is normal. -/
theorem dirs_normal (c : Cfg) (hl : LinksOk c.links) :
    Normal (outDir c) ∧ ∀ g, graphDir c = some g → Normal g :=
  ⟨resolve_normal _ hl _, graphDir_normal c hl⟩

/-- `NameSelector.get_name` (with the replacement table as it is in the source):
    the page file name of *every* entity name - any characters, any homonym number -
    is a single path segment that is not `..`, so `out_dir / get_dir() / ident.html`
    cannot leave `out_dir / get_dir()`. Editing `/` out of the table breaks this proof. -/
theorem ident_safe (name : Str) (num : Nat) : safeRel (identFile name num) = true := by
  apply safeRel_of_no_slash _ _ (identFile_ne_dotdot name num)
  rw [identFile, List.mem_append, not_or]
  exact ⟨ident_no_slash name num, by decide +kernel⟩

/-- Every fixed name that `writeout` joins to the output directory (generated
    tables: sub-directories, copied installation directories, list pages, string
    constants) cannot climb. -/
theorem fixed_names_safe :
    (∀ d ∈ Generated.C19.outDirs, safeRel d = true) ∧ (∀ d ∈ Generated.C19.libDirs, safeRel d = true) ∧
    (∀ d ∈ Generated.C19.listPages, safeRel d = true) ∧ (∀ d ∈ Generated.C19.fixedNames, safeRel d = true) :=
  tables_safe

/-- **Symbolic links inside copied trees are dereferenced.** For every tree that FORD copies
    verbatim (`media_dir`, a page's `copy_subdir` directory, its own css/js/fonts) and *every* table
    of symbolic links among its entries - pointing inside the tree, elsewhere in the project or
    anywhere on disk, existing or dangling - the attempts of the copy (including FORD's `touch` pass
    over the result) are the same as for the link-free tree: where the links point is irrelevant.
    Rests on the generated constant `copytreeSymlinks` (the `symlinks=` argument of the
    `shutil.copytree` call in `ford.output.copytree`): keeping links as links breaks this proof. -/
theorem copy_dereferences_links (dst : Path) (t : Tree) (l : List (Str × Path)) :
    copyTree dst { t with links := l } = copyTree dst t := by
  rw [copyTree_eq_deref, copyTree_eq_deref]
  rfl

/-- ... and the copy never creates a symbolic link, so the output directory (wiped at the start of
    the run) holds regular files and directories only and `Path.touch()` cannot be redirected. -/
theorem copy_creates_no_link (dst : Path) (t : Tree) : ∀ p ∈ copyTree dst t, p.kind ≠ .symlink := by
  intro p hp
  rw [copyTree_eq_deref] at hp
  rcases mem_copyTreeDeref dst t p hp with ⟨_, hk⟩ | ⟨e, _, he⟩ | ⟨r, _, rfl⟩
  · rcases hk with hk | hk | hk <;> simp [hk]
  · rcases (mem_walkOps_entry dst e p he).2 with ⟨_, hk | hk⟩ | ⟨_, hk⟩ | ⟨_, hk | hk⟩ <;> simp [hk]
  · simp

/-- **Why links must be dereferenced.** Had the copy kept links as links (`copyTreeKeep`, the
    behaviour of `symlinks=True`), a tree `{a -> /v/f, b -> /v/gone (dangling)}` copied to `/o/media`
    would make the `touch` pass set the times of `/v/f` and create `/v/gone`, both outside `/o`. -/
theorem kept_links_escape_witness :
    let t : Tree := ⟨[(0, ['a']), (3, ['b'])], [['a']], [(['a'], [['v'], ['f']]), (['b'], [['v'], ['g', 'o', 'n', 'e']])]⟩
    (⟨.utime, [['v'], ['f']]⟩ ∈ copyTreeKeep [['o'], ['m', 'e', 'd', 'i', 'a']] t) ∧
    (⟨.wr, [['v'], ['g', 'o', 'n', 'e']]⟩ ∈ copyTreeKeep [['o'], ['m', 'e', 'd', 'i', 'a']] t) ∧
    (∀ p ∈ copyTreeDeref [['o'], ['m', 'e', 'd', 'i', 'a']] t, [['o']] <+: p.path) := by
  decide +kernel

/-- **FORD only touches what it has just created.** In a copy (coherent listing, `treeWf`), every
    `utime` attempt - `copystat` on the directories and the `touch` pass over `rglob("*")` - targets
    the destination directory itself or a path for which the same copy made an `open`-for-write or
    `mkdir` attempt. Nothing that existed before the copy is touched. -/
theorem touch_only_own_copies (dst : Path) (t : Tree) (hwf : treeWf t = true) :
    ∀ p ∈ copyTree dst t, p.kind = .utime →
      p.path = dst ∨ ∃ q ∈ copyTree dst t, (q.kind = .wr ∨ q.kind = .mk) ∧ q.path = p.path := by
  intro p hp hk
  simp only [treeWf, Bool.and_eq_true, List.all_eq_true, Bool.or_eq_true, List.contains_iff_mem,
    bne_iff_ne, ne_eq] at hwf
  obtain ⟨hT, hW⟩ := hwf
  rw [copyTree_eq_deref] at hp ⊢
  have hsub : ∀ q ∈ walkOps dst t.walk, q ∈ copyTreeDeref dst t := by
    intro q hq; simp [copyTreeDeref, hq]
  have hrel : ∀ rel, (0, rel) ∈ t.walk ∨ (1, rel) ∈ t.walk →
      ∃ q ∈ copyTreeDeref dst t, (q.kind = .wr ∨ q.kind = .mk) ∧ q.path = sub dst rel := by
    rintro rel (h | h)
    · exact ⟨_, hsub _ (walkOps_file dst t.walk rel h), Or.inl rfl, rfl⟩
    · exact ⟨_, hsub _ (walkOps_dir dst t.walk rel h), Or.inr rfl, rfl⟩
  rcases mem_copyTreeDeref dst t p hp with ⟨hd, _⟩ | ⟨e, he, hpe⟩ | ⟨r, hr, rfl⟩
  · exact Or.inl hd
  · obtain ⟨hpath, hkind⟩ := mem_walkOps_entry dst e p hpe
    rcases hkind with ⟨_, h' | h'⟩ | ⟨_, h'⟩ | ⟨h2, _⟩
    · rw [hk] at h'; cases h'
    · rw [hk] at h'; cases h'
    · rw [hk] at h'; cases h'
    · right
      rw [hpath]
      rcases hW e he with h' | h'
      · exact absurd h2 h'
      · exact hrel _ (Or.inr h')
  · exact Or.inr (hrel r (hT r hr))

/-- **The containment guard of page-level `copy_subdir`** (`self.out_dir in target.parents`, with
    `parents` as pathlib defines it) accepts a target exactly when it lies strictly below the output
    directory *component by component*. -/
theorem guard_iff_strictly_below (o dst : Path) :
    guardAccepts o dst = true ↔ o <+: dst ∧ o ≠ dst := by
  simp [guardAccepts, mem_parents_iff_proper]

/-- With the guard, *whatever* the `copy_subdir` item is - absolute, any number of `..`, a name
    that merely resembles the output directory's (`doc` / `docs`, `doc-assets`, `doc.old`), the
    output directory itself or an ancestor - every attempt of the copy lies below the output
    directory; items the guard rejects cause no attempt at all. -/
theorem guarded_copy_below (c : Cfg) (o : Path) (to : List Seg) (created : List Path) (pc : PCopy)
    (hv : c.repaired = true) (ht : ∀ t, pc.tree = some t → (∀ e ∈ t.walk, safeRel e.2 = true) ∧ ∀ e ∈ t.touch, safeRel e = true) :
    (∀ p ∈ pcopyOps c o to created pc, o <+: p.path) ∧
    (guardAccepts o (norm (joinRaw to pc.item)) = false → pcopyOps c o to created pc = []) := by
  refine ⟨pcopyOps_under c o to created pc (Or.inl hv) ht, ?_⟩
  intro hg
  simp [pcopyOps, hv, hg]

/-- **Why the guard must compare components.** The textual test
    `str(target).startswith(str(out_dir))` accepts the sibling `/p/docs` (and `/p/doc-assets`) of
    the output directory `/p/doc`, which the guard rejects and which is not below it. -/
theorem string_prefix_guard_unsound_witness :
    let o : Path := [['p'], ['d', 'o', 'c']]
    let d1 : Path := [['p'], ['d', 'o', 'c', 's'], ['x']]
    let d2 : Path := [['p'], ['d', 'o', 'c', '-', 'a', 's', 's', 'e', 't', 's']]
    strPrefixGuard o d1 = true ∧ guardAccepts o d1 = false ∧ ¬ o <+: d1 ∧
    strPrefixGuard o d2 = true ∧ guardAccepts o d2 = false ∧ ¬ o <+: d2 := by
  decide +kernel

/-- **Confinement (repaired variant).** For all placements of `output_dir` and
    `graph_dir`, all option combinations (graph, search, media_dir, css, favicon,
    incl_src, mathjax_config, page_dir with copy_subdir, externalize), all projects
    and page trees of any size: every file-system attempt of the run targets the
    output directory or the graph directory (or creates a missing ancestor of them).
    Side conditions: names that come from directory listings do not climb (`SiteOk`); the copied
    trees may contain symbolic links to anywhere (`Tree.links` is unconstrained). -/
theorem confined (c : Cfg) (s : Site) (hl : LinksOk c.links) (hs : SiteOk s) (hv : c.repaired = true) :
    ∀ p ∈ run c s, Allowed (outDir c) (graphDir c) p :=
  runW_allowed _ c s hl hs (Or.inl hv)

/-- **Confinement, variant without the guard** (`repaired = false`; finding C19-copy-subdir-escape, repaired in
    FORD by ba14ce5). The same, provided no page's `copy_subdir`
    item is absolute or climbs out of the output directory (`noEscape`, decidable). -/
theorem confined_partial (c : Cfg) (s : Site) (hl : LinksOk c.links) (hs : SiteOk s)
    (hne : noEscape s = true) : ∀ p ∈ run c s, Allowed (outDir c) (graphDir c) p :=
  runW_allowed _ c s hl hs (Or.inr hne)

/-- **Witness of the defect.** Project in `/p`, `output_dir: doc`, top page with
    `copy_subdir: ../../x` (source directory containing `a`): the unrepaired run
    writes `/p/x/a`, outside `/p/doc`; the repaired variant performs no attempt
    outside. -/
theorem copy_subdir_escape_witness :
    let c : Cfg := { dir := ["p".toList], out := "doc".toList }
    let s : Site := { pages := [{ loc := [], stem := "index".toList, files := [],
                                  copies := [{ item := "../../x".toList, tree := some ⟨[(0, "a".toList)], ["a".toList], []⟩ }] }] }
    noEscape s = false ∧ (∃ p ∈ run c s, ¬ Allowed (outDir c) (graphDir c) p) ∧
    (run { c with repaired := true } s).all (fun p => (outDir c).isPrefixOf p.path) = true := by
  intro c s
  refine ⟨by decide +kernel, ⟨⟨.wr, ["p".toList, "x".toList, "a".toList]⟩, by decide +kernel, ?_⟩, by decide +kernel⟩
  exact not_allowed_of_outside rfl (by decide +kernel) (by decide)

/-- **A source file is copied under its last path component only.** Wherever a source file lies - below
    the project, in a directory several levels above the project file, anywhere on disk, whatever `..` its
    path contains - and however many files share its name, `incl_src` writes it to `src/<last component>`:
    inside `output_dir/src`. No hypothesis on the path: no part of the file's directory reaches the target
    (a copy placed under the file's project-relative path would not have this property). -/
theorem src_copy_confined (o : Path) (ho : Normal o) (path : Str) :
    ∀ q ∈ copyFile (norm (o ++ ["src".toList] ++ [baseName path])), o <+: q.path := srcCopy_under o ho path

/-- **`os.path.relpath` below its start.** When `start` is, after normalisation, a prefix of `p`, the
    relative path is what remains of `p` - a path without `.`, `..` or empty components. -/
theorem relpath_below (p start : List Seg) (h : norm start <+: norm p) :
    relpath p start = (norm p).drop (norm start).length ∧ Normal (relpath p start) :=
  ⟨relpath_of_prefix p start h, relpath_normal_of_prefix p start h⟩

/-- **The containment test of `get_page_tree`** (repaired variant: `rel = os.path.relpath(filename, topdir)`
    must be neither `.` nor start with `..`) accepts an entry `name` of a page in `topdir` exactly when
    `topdir / name` lies, after lexical normalisation, strictly below `topdir` - whatever the entry is:
    nested, absolute, with `..` anywhere, with `//` or `.` components. -/
theorem subpage_guard_iff_strictly_inside (topdir : List Seg) (name : Str) :
    relOutside (joinLex topdir name) topdir = false ↔
      norm topdir <+: norm (joinLex topdir name) ∧ norm topdir ≠ norm (joinLex topdir name) :=
  relOutside_false_iff _ _

/-- **Every static page is placed inside `page/` (repaired variant).** For every page directory - any
    listings, any symbolic links inside it pointing anywhere (sections shared with other projects, linked
    page files, dangling links), any `ordered_subpage` entries in any page's metadata (names, nested paths,
    `..` to any depth, absolute paths, naming directories, page files or plain files inside or outside the
    page directory) - the `location` of every node of the page tree is a path without `..`: the page is
    written below `output_dir/page`. The location is computed lexically (`relpath`), never through a link:
    where a linked section really lies does not enter it. -/
theorem page_locations_inside (pin : PageIn) :
    ∀ n ∈ pageTree true pin, Normal n.loc ∧ safe 0 n.loc = true := by
  intro n hn
  have h := pageTree_locs true pin (Or.inl rfl) n hn
  exact ⟨h, safe_of_normal _ h 0⟩

/-- **... variant without the containment test** (`subGuard = false`; finding C19-ordered-subpage-escape),
    under the decidable hypothesis on the *input* that no `ordered_subpage` entry
    (and no name of a directory listing) is absolute or climbs above the directory of the page that lists
    it (`noSubpageEscape`). -/
theorem page_locations_inside_partial (pin : PageIn) (h : noSubpageEscape pin = true) :
    ∀ n ∈ pageTree false pin, Normal n.loc ∧ safe 0 n.loc = true := by
  intro n hn
  have h := pageTree_locs false pin (Or.inr h) n hn
  exact ⟨h, safe_of_normal _ h 0⟩

/-- **Confinement as a function of the input page tree (both repairs).** The static pages are not given
    but *computed* from what lies in the page directory and what the metadata says (`pageTree`, the model of
    `get_page_tree` / `PageNode`): for all placements, options, sites and page directories every attempt of
    the run targets the output directory or the graph directory. No hypothesis on page locations or on
    `ordered_subpage` entries is left; the side conditions are those on directory listings (`SiteOk` for the
    non-page part, `TreesOk` for the directories that `copy_subdir` items name). -/
theorem confined_from_input (c : Cfg) (s : Site) (pin : Option PageIn) (hl : LinksOk c.links) (hs : SiteOk s)
    (ht : ∀ p, pin = some p → TreesOk p) (hv : c.repaired = true) (hg : c.subGuard = true) :
    ∀ p ∈ runIn c s pin, Allowed (outDir c) (graphDir c) p :=
  runW_allowed _ c _ hl (siteOk_withPages _ _ s pin hs (fun q hq => ⟨Or.inl hg, ht q hq⟩)) (Or.inl hv)

/-- **... either variant of each**: the same under the two decidable hypotheses on the input, `noSubpageEscape` (no
    `ordered_subpage` entry leaves its directory; not needed once `get_page_tree` tests containment) and
    `noEscape` (no page-level `copy_subdir` item leaves the output directory; not needed with the guard of
    `PagetreePage.writeout`). -/
theorem confined_from_input_partial (c : Cfg) (s : Site) (pin : Option PageIn) (hl : LinksOk c.links) (hs : SiteOk s)
    (ht : ∀ p, pin = some p → TreesOk p)
    (hv : c.repaired = true ∨ noEscape (withPages c.subGuard (outDir c) s pin) = true)
    (hg : c.subGuard = true ∨ ∀ p, pin = some p → noSubpageEscape p = true) :
    ∀ p ∈ runIn c s pin, Allowed (outDir c) (graphDir c) p :=
  runW_allowed _ c _ hl (siteOk_withPages _ _ s pin hs (fun q hq => ⟨hg.imp_right (· q hq), ht q hq⟩)) hv

/-- ... and so is every subsequence of the attempts: a run aborted at any operation, or going on after
    caught failures. -/
theorem crash_closed_from_input (c : Cfg) (s : Site) (pin : Option PageIn) (hl : LinksOk c.links) (hs : SiteOk s)
    (ht : ∀ p, pin = some p → TreesOk p)
    (hv : c.repaired = true ∨ noEscape (withPages c.subGuard (outDir c) s pin) = true)
    (hg : c.subGuard = true ∨ ∀ p, pin = some p → noSubpageEscape p = true)
    (l : List Prim) (h : l.Sublist (runIn c s pin)) : ∀ p ∈ l, Allowed (outDir c) (graphDir c) p :=
  fun p hp => confined_from_input_partial c s pin hl hs ht hv hg p (h.subset hp)

/-- **The order of the attempts is immaterial.** The check compares the attempts of a real run with the
    model's up to the order of attempts in different sub-trees (a write-out whose independent statements
    were re-ordered performs a permutation of the model's run). Confinement does not depend on the
    order: a list made of attempts of the model's run - in any order, any part of it, with
    repetitions - is confined. -/
theorem any_order_closed_from_input (c : Cfg) (s : Site) (pin : Option PageIn) (hl : LinksOk c.links) (hs : SiteOk s)
    (ht : ∀ p, pin = some p → TreesOk p)
    (hv : c.repaired = true ∨ noEscape (withPages c.subGuard (outDir c) s pin) = true)
    (hg : c.subGuard = true ∨ ∀ p, pin = some p → noSubpageEscape p = true)
    (l : List Prim) (h : ∀ p ∈ l, p ∈ runIn c s pin) : ∀ p ∈ l, Allowed (outDir c) (graphDir c) p :=
  fun p hp => confined_from_input_partial c s pin hl hs ht hv hg p (h p hp)

/-- ... in particular a permutation of the run that is aborted at the n-th attempt, all n. -/
theorem reordered_prefix_closed_from_input (c : Cfg) (s : Site) (pin : Option PageIn) (hl : LinksOk c.links)
    (hs : SiteOk s) (ht : ∀ p, pin = some p → TreesOk p)
    (hv : c.repaired = true ∨ noEscape (withPages c.subGuard (outDir c) s pin) = true)
    (hg : c.subGuard = true ∨ ∀ p, pin = some p → noSubpageEscape p = true)
    (l : List Prim) (h : l.Perm (runIn c s pin)) (n : Nat) :
    ∀ p ∈ l.take n, Allowed (outDir c) (graphDir c) p :=
  any_order_closed_from_input c s pin hl hs ht hv hg _ (fun _ hp => h.subset (List.mem_of_mem_take hp))

/-- **Witness of the defect "an `ordered_subpage` entry leaves the page directory".** Project in `/w/p`,
    `page_dir: pages`, `output_dir: out/doc`; `pages/index.md` lists `sub/../../../elsewhere` and
    `/w/elsewhere/index.md` exists. Without the containment test (`subGuard = false`) that page gets the location `../../elsewhere` and
    writes `/w/p/out/elsewhere/index.html`, outside `/w/p/out/doc`; with the containment test in
    `get_page_tree` the entry is skipped and every attempt lies below the output directory. -/
theorem ordered_subpage_escape_witness :
    let w : Seg := chars! "w"
    let pp : Seg := chars! "p"
    let pages : Seg := chars! "pages"
    let els : Seg := chars! "elsewhere"
    let pin : PageIn :=
      { pageDir := [w, pp, pages]
        nodes := [([w], .dir [chars! "elsewhere", chars! "p"]), ([w, pp], .dir [chars! "pages"]),
                  ([w, pp, pages], .dir [chars! "index.md", chars! "sub"]),
                  ([w, pp, pages, chars! "index.md"], .file (some { ordered := [chars! "sub/../../../elsewhere"] })),
                  ([w, pp, pages, chars! "sub"], .dir []),
                  ([w, els], .dir [chars! "index.md"]),
                  ([w, els, chars! "index.md"], .file (some {}))] }
    let c : Cfg := { dir := [w, pp], out := chars! "out/doc" }
    noSubpageEscape pin = false ∧
    (pageTree false pin).map (·.loc) = [[], [dotdot, dotdot, els]] ∧
    (∃ p ∈ runIn c {} (some pin), p = ⟨.wr, [w, pp, chars! "out", els, chars! "index.html"]⟩ ∧
        ¬ Allowed (outDir c) (graphDir c) p) ∧
    (pageTree true pin).map (·.loc) = [[]] ∧
    (runIn { c with subGuard := true } {} (some pin)).all (fun p => (outDir c).isPrefixOf p.path) = true := by
  intro w pp pages els pin c
  refine ⟨by decide +kernel, by decide +kernel, ⟨_, by decide +kernel, rfl, ?_⟩, by decide +kernel, by decide +kernel⟩
  exact not_allowed_of_outside rfl (by decide +kernel) (by decide)

/-- **Nothing that was left in the old output directory survives the clean-up.** For every table of
    symbolic links lying in the old output directory - at any depth, under any name (also the names
    the run is about to create: `page`, `media`, `css`, `index.html` ...), pointing to files or
    directories anywhere on disk - none is still there when the run starts to write, provided every
    removal succeeds. Rests on the generated constant `wipeWholeTree` (the clean-up of
    `Documentation.writeout` is `shutil.rmtree(out_dir)` on the output directory itself, which unlinks
    links without following them): emptying the directory entry by entry instead breaks this proof. -/
theorem wipe_leaves_no_link (c : Cfg) (hin : ∀ l ∈ c.old, outDir c <+: l.loc) (hk : ∀ l ∈ c.old, l.kept = false) :
    survivors c = [] :=
  -- `survivors` is `survivorsW` at the generated constant `wipeWholeTree`, which is `true`
  survivorsW_whole c hin hk

/-- ... hence the place where the OS performs each attempt is the place its path names: the physical
    run equals the lexical one (the assumption under which `norm` models the OS's resolution). -/
theorem physical_eq_lexical (c : Cfg) (s : Site) (hin : ∀ l ∈ c.old, outDir c <+: l.loc)
    (hk : ∀ l ∈ c.old, l.kept = false) : runPhys c s = run c s :=
  -- `runPhys` is `runPhysW` at the generated constants; `wipeWholeTree` unfolds to `true`
  runPhysW_whole _ _ c s hin hk

/-- **Confinement of the physical run.** With any symbolic links whatsoever left in the old output
    directory, every attempt of the run - resolved through whatever links are still there - targets
    the output directory or the graph directory. Excluded, as explicit hypotheses: a link whose
    removal fails while the run goes on regardless (`kept`; finding C19-wipe-failure-ignored, witness
    below - not excluded once a failing `mkdir` of the output directory ends the run, generated constant
    `wipeFailureFatal`), and links lying in a graph directory outside the output directory, which is
    never cleaned (`hin`; finding C19-graphdir-stale-link, witness below). `wipeFailureFatal = true` stands as
    a hypothesis, not evaluated, so that the theorem is checked whichever value is regenerated. -/
theorem confined_physical_partial (c : Cfg) (s : Site) (hl : LinksOk c.links) (hs : SiteOk s)
    (hv : c.repaired = true ∨ noEscape s = true) (hin : ∀ l ∈ c.old, outDir c <+: l.loc)
    (hk : Generated.C19.wipeFailureFatal = true ∨ ∀ l ∈ c.old, l.kept = false) :
    ∀ p ∈ runPhys c s, Allowed (outDir c) (graphDir c) p := by
  intro p hp
  apply runW_allowed Generated.C19.graphSkipsLinks c s hl hs hv
  rcases hk with hf | hk
  · rw [runPhys, hf] at hp
    exact runPhysW_fatal_subset _ c s hin p hp
  · rwa [physical_eq_lexical c s hin hk] at hp

/-- ... and physically, through whatever symbolic links were left in the old output directory. -/
theorem confined_physical_from_input (c : Cfg) (s : Site) (pin : Option PageIn) (hl : LinksOk c.links) (hs : SiteOk s)
    (ht : ∀ p, pin = some p → TreesOk p)
    (hv : c.repaired = true ∨ noEscape (withPages c.subGuard (outDir c) s pin) = true)
    (hg : c.subGuard = true ∨ ∀ p, pin = some p → noSubpageEscape p = true)
    (hin : ∀ l ∈ c.old, outDir c <+: l.loc)
    (hk : Generated.C19.wipeFailureFatal = true ∨ ∀ l ∈ c.old, l.kept = false) :
    ∀ p ∈ runPhysIn c s pin, Allowed (outDir c) (graphDir c) p := by
  exact confined_physical_partial c _ hl (siteOk_withPages _ _ s pin hs (fun q hq => ⟨hg.imp_right (· q hq), ht q hq⟩))
    hv hin hk

/-- **Why the old output must be removed as a whole.** Project in `/p`, `output_dir: doc`, one static
    page; the old `doc/` holds `page -> /v` (a directory elsewhere), `index.html -> /v/f` and, inside a
    real sub-directory, `lists/l -> /v`. Emptying `doc/` entry by entry (`is_dir()` follows the link,
    `rmtree` refuses to remove one) leaves `page`, and the page is then written to `/v/index.html`;
    the other two links are removed either way. After `rmtree(doc)` every attempt lands below `/p/doc`. -/
theorem entrywise_wipe_escape_witness :
    let c : Cfg := { dir := ["p".toList], out := "doc".toList, outKind := 2,
                     old := [⟨["p".toList, "doc".toList, "page".toList], ["v".toList], true, false⟩,
                             ⟨["p".toList, "doc".toList, "index.html".toList], ["v".toList, "f".toList], false, false⟩,
                             ⟨["p".toList, "doc".toList, "lists".toList, "l".toList], ["v".toList], true, false⟩] }
    let s : Site := { pages := [{ loc := [], stem := "index".toList, files := [], copies := [] }] }
    (survivorsW false c).map (·.loc) = [["p".toList, "doc".toList, "page".toList]] ∧
    ⟨.wr, ["v".toList, "index.html".toList]⟩ ∈ runPhysW false false false c s ∧
    survivorsW true c = [] ∧
    (runPhysW true false false c s).all (fun p => (outDir c).isPrefixOf p.path) = true := by
  -- the literals are rewritten to character lists first: evaluating `"…".toList` takes time quadratic in their length
  simp -index only [String.toList_ofList]
  decide +kernel

/-- **Witness of the defect "a failed clean-up is ignored".** Same project; the removal of
    `doc/page -> /v` fails (`kept`). `rmtree(..., ignore_errors=True)` swallows that, the failing
    `mkdir` of the still existing `doc/` is only reported, and the page is written to `/v/index.html`.
    If the failing `mkdir` ends the run (`fatal`), nothing is attempted outside `/p/doc`. -/
theorem failed_wipe_escape_witness :
    let c : Cfg := { dir := ["p".toList], out := "doc".toList, outKind := 2,
                     old := [⟨["p".toList, "doc".toList, "page".toList], ["v".toList], true, true⟩] }
    let s : Site := { pages := [{ loc := [], stem := "index".toList, files := [], copies := [] }] }
    ⟨.wr, ["v".toList, "index.html".toList]⟩ ∈ runPhysW true false false c s ∧
    (runPhysW true true false c s).all (fun p => (outDir c).isPrefixOf p.path) = true := by
  simp -index only [String.toList_ofList]
  decide +kernel

/-- **Witness of the defect "a link left in the graph directory is written through".** `graph_dir: g`
    (outside `doc/`, never cleaned) holds `n.svg -> /v/f`; saving the graph `n` lets graphviz write
    `/v/f`. If `_create_image_file` skips graphs whose files are symbolic links (`skipLinks`), every
    attempt lands below `/p/doc` or `/p/g`. -/
theorem graphdir_stale_link_witness :
    let c : Cfg := { dir := ["p".toList], out := "doc".toList, gdir := some "g".toList, graph := true,
                     old := [⟨["p".toList, "g".toList, "n.svg".toList], ["v".toList, "f".toList], false, false⟩] }
    let s : Site := { graphs := ["n".toList] }
    ⟨.wr, ["v".toList, "f".toList]⟩ ∈ runPhysW true false false c s ∧
    (runPhysW true false true c s).all (fun p => (outDir c).isPrefixOf p.path ||
      ["p".toList, "g".toList].isPrefixOf p.path) = true := by
  simp -index only [String.toList_ofList]
  decide +kernel

/-- **Crash points / injected faults.** Whatever subsequence of the attempts is
    actually executed - a run aborted at any operation, or continuing after a
    caught failure - it is confined. -/
theorem crash_closed (c : Cfg) (s : Site) (hl : LinksOk c.links) (hs : SiteOk s)
    (hv : c.repaired = true ∨ noEscape s = true) (l : List Prim) (h : l.Sublist (run c s)) :
    ∀ p ∈ l, Allowed (outDir c) (graphDir c) p :=
  fun p hp => runW_allowed _ c s hl hs hv p (h.subset hp)

/-- ... in particular every prefix of the run (abort at the n-th operation, all n). -/
theorem prefix_closed (c : Cfg) (s : Site) (hl : LinksOk c.links) (hs : SiteOk s)
    (hv : c.repaired = true ∨ noEscape s = true) (n : Nat) :
    ∀ p ∈ (run c s).take n, Allowed (outDir c) (graphDir c) p :=
  crash_closed c s hl hs hv _ (List.take_sublist n _)

/-- **Refusal.** `parse_arguments` refuses exactly when the output directory is a
    source directory or an ancestor of one (after normalisation: through `..`,
    symbolic links, any of several source directories) ... -/
theorem refusal_iff (c : Cfg) : refuses c = true ↔ ∃ d ∈ srcDirsN c, outDir c <+: d := by
  simp only [refuses, List.any_eq_true, self_or_parent_iff]

/-- ... and the refusal precedes the first file-system operation: such a run does nothing. -/
theorem refusal_no_ops (c : Cfg) (s : Site) (h : ∃ d ∈ srcDirsN c, outDir c <+: d) : run c s = [] := by
  simp [run, runW, (refusal_iff c).2 h]

/-- **Inputs are read-only.** A path `q` that is not inside the output directory
    nor inside the graph directory (a source file, the project file, the page or
    media directory, anything else on disk): no attempt of the run targets `q` or an
    ancestor of `q`, except `mkdir` (which cannot alter what exists). -/
theorem inputs_read_only (c : Cfg) (s : Site) (hl : LinksOk c.links) (hs : SiteOk s)
    (hv : c.repaired = true ∨ noEscape s = true) (q : Path)
    (hq : ¬ outDir c <+: q) (hg : ∀ g, graphDir c = some g → ¬ g <+: q) :
    ∀ p ∈ run c s, p.path <+: q → p.kind = .mk := by
  intro p hp hpq
  rcases runW_allowed _ c s hl hs hv p hp with h | ⟨g, hgd, h⟩ | ⟨hk, _⟩
  · exact absurd (h.trans hpq) hq
  · exact absurd (h.trans hpq) (hg g hgd)
  · exact hk

/-- **Source directories survive.** If the run does anything at all, then no source
    directory, and nothing above one, is removed, overwritten or renamed - unless the
    user put the graph directory there. -/
theorem sources_untouched (c : Cfg) (s : Site) (hl : LinksOk c.links) (hs : SiteOk s)
    (hv : c.repaired = true ∨ noEscape s = true) (d : Path) (hd : d ∈ srcDirsN c)
    (hg : ∀ g, graphDir c = some g → ¬ g <+: d) :
    ∀ p ∈ run c s, p.path <+: d → p.kind = .mk := by
  intro p hp
  have hne : ¬ outDir c <+: d := by
    intro h
    rw [refusal_no_ops c s ⟨d, hd, h⟩] at hp
    cases hp
  exact inputs_read_only c s hl hs hv d hne hg p hp

/-- non-vacuity: a listing with a link to a directory outside and a dangling link is coherent -/
example : treeWf ⟨[(0, ['a']), (1, ['d']), (0, ['d', '/', 'x']), (2, ['d']), (3, ['g'])], [['a'], ['d'], ['d', '/', 'x']],
    [(['d'], [['v'], ['i']]), (['g'], [['v'], ['g']])]⟩ = true := by decide +kernel

/-- non-vacuity: the shipped example `copy_subdir: ../images` is not in the defect class,
    a deeper climb is -/
example : copyEscapes { loc := [], stem := "index".toList, copies := [], files := [] }
    { item := "../images".toList, tree := none } = false := by
  simp -index only [String.toList_ofList]
  decide +kernel
example : copyEscapes { loc := ["sub".toList], stem := "index".toList, copies := [], files := [] }
    { item := "../../../victim".toList, tree := none } = true := by
  simp -index only [String.toList_ofList]
  decide +kernel
example : copyEscapes { loc := [], stem := "index".toList, copies := [], files := [] }
    { item := "/abs/img".toList, tree := none } = true := by
  simp -index only [String.toList_ofList]
  decide +kernel

/-! ## Directory names are arbitrary strings: the pattern test of the source search and the refusal -/

section Names
open Ford.FsGlob

/-- **`fnmatch` on a pattern without `*`, `?`, `[` is string equality** - for every name and every
    such pattern, of any length (the base case of everything below: only these three characters
    are given a meaning). -/
theorem fnmatch_plain_iff_eq (s p : Str) (hp : plain p = true) : fnmatch s p = true ↔ s = p := by
  unfold fnmatch
  rw [tokenize_plain p hp]
  have := globT_lits p [] s
  simp only [List.append_nil] at this
  rw [this]
  constructor
  · rintro ⟨t, rfl, ht⟩
    cases t with
    | nil => simp
    | cons c t => simp [globT] at ht
  · rintro rfl
    exact ⟨[], by simp, by simp [globT]⟩

/-- **Clause "output directory excluded from source discovery", the test itself.** For a directory
    whose path contains no pattern character, `fnmatch(str(src), f"{dir}/*")` holds exactly for the
    strings that begin with `<dir>/` - any depth below it (`*` crosses `/`), not the directory's
    look-alike siblings (`<dir>s/...`), not the directory itself. -/
theorem exclude_plain_iff_prefix (d f : Str) (hd : plain d = true) :
    excludedBy d f = true ↔ (d ++ ['/']) <+: f := by
  unfold excludedBy fnmatch tokenize
  rw [tokAux_plain_append d _ hd, tok_slash_star]
  have : d.map Tok.lit ++ [Tok.lit '/', Tok.star] = (d ++ ['/']).map Tok.lit ++ [Tok.star] := by simp
  rw [this, globT_lits]
  constructor
  · rintro ⟨t, rfl, _⟩
    exact ⟨t, rfl⟩
  · rintro ⟨t, rfl⟩
    exact ⟨t, rfl, globT_star_nil t⟩

/-- **... the source search, by the pattern test alone (partial).** Whatever the user's `exclude_dir` entries
    and whatever files were found: a file whose path begins with `<output_dir>/` is not among the
    files `find_all_files` keeps - under the decidable hypothesis that the output directory's
    path contains none of `*`, `?`, `[` (`plain`).  Holds for both variants of the code
    (`Generated.C19.excludeOutputByPath`). -/
theorem output_excluded_partial (ue : List Str) (out : Str) (files : List Str) (f : Str)
    (hp : plain out = true) (hf : (out ++ ['/']) <+: f) : f ∉ keepSourcesGen ue out files := by
  intro h
  have h1 := keepSources_sub _ ue out files f h
  have h2 := ((mem_dropExcluded _ _ _).1 h1).2 out (by simp)
  rw [(exclude_plain_iff_prefix out f hp).2 hf] at h2
  exact absurd h2 (by simp)

/-- **... and why the hypothesis is needed (finding C19-output-exclude-glob).** Output directory
    `/w [v2]/p/src/doc` below the source directory: the copy an earlier run left in
    `doc/src/old.f90` is kept as a source file by the pattern test (`[v2]` is read as "one of `v`,
    `2`"), a look-alike directory `/w 2/p/src/doc` that has nothing to do with the run is dropped
    instead; with the location test of the repair exactly the files below the output directory go. -/
theorem output_exclude_glob_witness :
    keepSources false [] "/w [v2]/p/src/doc".toList
        ["/w [v2]/p/src/a.f90".toList, "/w [v2]/p/src/doc/src/old.f90".toList]
      = ["/w [v2]/p/src/a.f90".toList, "/w [v2]/p/src/doc/src/old.f90".toList]
    ∧ excludedBy "/w [v2]/p/src/doc".toList "/w 2/p/src/doc/x.f90".toList = true
    ∧ keepSources true [] "/w [v2]/p/src/doc".toList
        ["/w [v2]/p/src/a.f90".toList, "/w [v2]/p/src/doc/src/old.f90".toList]
      = ["/w [v2]/p/src/a.f90".toList] := by
  simp -index only [String.toList_ofList]
  decide +kernel

/-- **... repaired variant, every name.** With the location test (`output_dir in src.parents`) no
    kept file has the output directory among its ancestors - for every output path (any characters
    in any component), every list of user patterns, every file list; no hypothesis. -/
theorem output_excluded (ue : List Str) (out : Str) (files : List Str) (f : Str)
    (hf : belowStr out f = true) : f ∉ keepSources true ue out files := by
  intro h
  simp only [keepSources, if_true] at h
  have := (List.mem_filter.1 h).2
  simp [hf] at this

/-- ... and the location test drops nothing else: a file that no pattern matches and that is not
    below the output directory is kept (the repair cannot lose a source file). -/
theorem output_excluded_only (ue : List Str) (out : Str) (files : List Str) (f : Str)
    (hin : f ∈ files) (hu : ∀ d ∈ ue ++ [out], excludedBy d f = false) (hf : belowStr out f = false) :
    f ∈ keepSources true ue out files := by
  simp only [keepSources, if_true]
  exact List.mem_filter.2 ⟨(mem_dropExcluded _ _ _).2 ⟨hin, hu⟩, by simp [hf]⟩

/-- **Clause "for source directories FORD detects that case and refuses", every legal name.** On
    the path strings `normalise_paths` produces - components made of *any* characters, pattern
    characters, blanks, quotes included - the refusal holds iff the output directory is, component
    by component, a source directory or above one.  No hypothesis on the names. -/
theorem refusal_any_name (out : Str) (srcs : List Str) :
    refusesStr out srcs = true ↔ ∃ s ∈ srcs, norm (splitSlash out) <+: norm (splitSlash s) := by
  simp only [refusesStr, List.any_eq_true, self_or_parent_iff]

/-- The same decision taken with the pattern test of the source search
    (`fnmatch(f"{src}/", f"{out}/*")`) agrees with the textual prefix **only** when the output
    path contains no pattern character ... -/
theorem refusal_glob_plain (out : Str) (srcs : List Str) (hp : plain out = true) :
    refusesGlob out srcs = true ↔ ∃ s ∈ srcs, (out ++ ['/']) <+: (s ++ ['/']) := by
  simp only [refusesGlob, List.any_eq_true, ← exclude_plain_iff_prefix out _ hp, excludedBy]

/-- ... and is wrong in both directions otherwise: `/w [v2]/api` with the sources in
    `/w [v2]/api/src` is **not** refused (the run would wipe its own sources), `/w/a*` is refused
    for the unrelated source directory `/w/abc/src`; the component-wise test decides both
    correctly. -/
theorem refusal_glob_unsound_witness :
    refusesGlob "/w [v2]/api".toList ["/w [v2]/api/src".toList] = false
    ∧ refusesStr "/w [v2]/api".toList ["/w [v2]/api/src".toList] = true
    ∧ refusesGlob "/w/a*".toList ["/w/abc/src".toList] = true
    ∧ refusesStr "/w/a*".toList ["/w/abc/src".toList] = false := by
  simp -index only [String.toList_ofList]
  decide +kernel

/-- non-vacuity: the pattern language is really there (class, negated class, `?`, `*`
    across `/`, an unclosed `[` is literal, `]` first in a class is a member) -/
example : fnmatch "ab2/x".toList "a?[v2]*".toList = true
    ∧ fnmatch "a[".toList "a[".toList = true
    ∧ fnmatch "x]".toList "x[]]".toList = true
    ∧ fnmatch "xw".toList "x[!w]".toList = false
    ∧ fnmatch "[v2]".toList "[v2]".toList = false := by
  simp -index only [String.toList_ofList]
  decide +kernel

/-- non-vacuity of `output_excluded_partial` / `exclude_plain_iff_prefix` -/
example : plain "/w/p/doc".toList = true
    ∧ keepSources false ["/w/p/src/old*".toList] "/w/p/doc".toList
        ["/w/p/doc/src/a.f90".toList, "/w/p/docs/b.f90".toList, "/w/p/src/older/c.f90".toList, "/w/p/src/d.f90".toList]
      = ["/w/p/docs/b.f90".toList, "/w/p/src/d.f90".toList] := by
  simp -index only [String.toList_ofList]
  decide +kernel

end Names

end Ford.C19
