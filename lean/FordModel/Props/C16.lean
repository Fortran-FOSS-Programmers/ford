/-
  C16 — links into an externalised project hit the right pages of that project.
  Property theorems only; helper lemmas live in FordModel/Lemmas/External*.lean, the model in
  FordModel/External*.lean (with Path.lean), the specification vocabulary in FordModel/ExternalSpec.lean and, for
  `firstNamed` / `firstChild`, `listOf`, `Tbl.wf`, in Lemmas/ExternalChild, ExternalReach, ExternalAssoc; the
  tables in FordModel/Generated/C16.lean (regenerated from the source on every run).
-/
import FordModel.External
import FordModel.ExternalSpec
import FordModel.Lemmas.External
import FordModel.Lemmas.ExternalRT
import FordModel.Lemmas.ExternalReach
import FordModel.Lemmas.ExternalUrl
import FordModel.Lemmas.ExternalMulti
import FordModel.ExternalGraph
import FordModel.Lemmas.ExternalGraph
import FordModel.ExternalAssoc
import FordModel.Lemmas.ExternalAssoc
import FordModel.ExternalChild
import FordModel.Lemmas.ExternalChild
import FordModel.ExternalHref
import FordModel.Lemmas.ExternalHref
namespace Ford.C16
open Ford Ford.Ext

/-- **Round trip, exact form.**  For every entity tree of the exporting project whose kinds are
    keys of ENTITIES, `dict2obj (obj2dict e)` succeeds and is *exactly* the specified external
    object: same name, kind = `proctype or obj`, URL = first path segment stripped and re-based on
    A's location, children = the non-external children in ATTRIBUTES order, recursively.
    No bound on the size or depth of the tree. -/
theorem roundtrip_exact (b : Base) (p : Option Json) (e : Ent) (hv : validE e = true)
    (hn : isNode e = true) : dict2obj b p (exportE e) = .ok (specE b p e) := by
  cases e with
  | ext => cases hn
  | text s => cases hn
  | node name url obj pt attrs => exact rt_ent b _ hv p rfl

/-- **Round trip for a whole description.**  Loading the `modules.json` that `dump_modules`
    writes for any list of (valid) modules succeeds and yields the specified objects. -/
theorem roundtrip_document (b : Base) (version : Str) (mods : List Ent)
    (hv : validList mods = true) (hn : mods.all isNode = true) :
    importDoc b (dumpModules version mods) = .ok (mods.map (specE b none)) := by
  rw [importDoc_dumpModules]
  induction mods with
  | nil => rfl
  | cons m r ih =>
    simp only [validList, Bool.and_eq_true] at hv
    simp only [List.all_cons, Bool.and_eq_true] at hn
    simp only [exportList, importTop, roundtrip_exact b none m hv.1 hn.1, ih hv.2 hn.2, List.map_cons]

/-- **Round trip, the form of the property statement.**  Every entity `e` of A that is reachable
    through exported attributes (every public entity is: `pub_procs`, `pub_types`, `pub_vars`,
    `pub_absints` are exported) is found among the entities appended to B's lists, with its
    name, its kind, in the list its kind belongs to, and with url = A's location / `get_url e`. -/
theorem roundtrip (b : Base) (version : Str) (mods : List Ent) (hv : validList mods = true)
    (hn : mods.all isNode = true) (m : Ent) (hm : m ∈ mods) (e : Ent) (hr : Reach m e)
    (name : Str) (url : Option Str) (obj : Str) (pt : Option Str) (attrs : List (Str × Attr))
    (he : e = .node name url obj pt attrs) :
    ∃ os, importDoc b (dumpModules version mods) = .ok os ∧
      ∃ x ∈ entriesAll os, x.name = .str name ∧ x.cls = kindOf obj pt ∧
        x.list = listOf (kindOf obj pt) ∧ x.url = .str (rebase b (urlText url)) := by
  refine ⟨_, roundtrip_document b version mods hv hn, ?_⟩
  obtain ⟨x, hx, hp⟩ := reach_entries b m e hr name url obj pt attrs he none
  refine ⟨x, ?_, hp⟩
  rw [entriesAll_eq_flatMap]
  exact List.mem_flatMap.mpr ⟨_, List.mem_map_of_mem hm, hx⟩

/-- The URL an entity is imported with: the exporter writes `./` + `get_url()`, the importer
    strips the first path segment, so what is re-based is `get_url()` itself. -/
theorem strip_first_segment (u : Str) : afterFirstSlash ('.' :: '/' :: u) = u :=
  rfl

/-- A list-valued attribute (`functions`, `interfaces`, `types`, `variables`, `boundprocs` ...) is
    exported item by item: the i-th description is `obj2dict` of the i-th item itself, whatever was
    exported before it (no state is carried from one entity to the next). -/
theorem export_list_pointwise (xs : List Ent) : exportList xs = xs.map exportE := by
  induction xs with
  | nil => rfl
  | cons x r ih => simp only [exportList, List.map_cons, ih]

/-- ... and a dict-valued attribute (`pub_procs`, `pub_types`, `pub_vars`, `pub_absints`) value by
    value: under each key stands the description of the entity stored under that key. -/
theorem export_dict_pointwise (kvs : List (Str × Ent)) :
    exportDict kvs = kvs.map (fun kv => (kv.1, exportE kv.2)) := by
  induction kvs with
  | nil => rfl
  | cons x r ih => simp only [exportDict, List.map_cons, ih]

/-- `modules.json` lists exactly the project's modules, in order, by name. -/
theorem export_module_names (version : Str) (mods : List Ent) (hn : mods.all isNode = true) :
    (docModules (dumpModules version mods)).map (jField kName) = mods.map entName := by
  rw [docModules_dumpModules, export_list_pointwise, List.map_map]
  apply List.map_congr_left
  intro m hm
  cases m with
  | ext => cases List.all_eq_true.mp hn _ hm
  | text s => cases List.all_eq_true.mp hn _ hm
  | node name url obj pt attrs =>
    exact (header_lookups name url obj pt _ (lookup_kProctype_orderByTable (exportAttrs attrs))).1

/-- Per entity, the description has exactly the attributes that are in ATTRIBUTES and that the
    object has - nothing else, nothing missing (in particular `pub_procs`, `pub_absints`,
    `pub_types`, `pub_vars`: the public entities, table fact `pub_keys_exported`). -/
theorem export_attribute_exact (name : Str) (url : Option Str) (obj : Str) (pt : Option Str)
    (attrs : List (Str × Attr)) (k : Str) (hk : k ∈ Gen.attributes) :
    jField k (exportE (.node name url obj pt attrs)) = (attrs.lookup k).map exportAttr := by
  simp only [exportE, jField]
  rw [List.lookup_append, header_lookup_attr _ _ _ _ k hk, lookup_orderByTable, if_pos hk,
    exportAttrs_eq_map, lookup_map_snd]
  rfl

/-- A dict-valued attribute (`pub_procs` ...) is exported key by key: same keys, same order,
    each value the description of that entity. -/
theorem export_dict_keys (kvs : List (Str × Ent)) :
    (exportDict kvs).map (·.1) = kvs.map (·.1) := by
  rw [export_dict_pointwise, List.map_map]
  rfl

/-- The four tables of public entities are exported (they are in the generated ATTRIBUTES), and
    no ATTRIBUTES entry collides with the fixed keys of a description. -/
theorem pub_keys_exported :
    "pub_procs".toList ∈ Gen.attributes ∧ "pub_absints".toList ∈ Gen.attributes ∧
    "pub_types".toList ∈ Gen.attributes ∧ "pub_vars".toList ∈ Gen.attributes ∧
    Gen.attributes.Nodup ∧
    (∀ a ∈ Gen.attributes, a ≠ kName ∧ a ≠ kUrl ∧ a ≠ kObj ∧ a ≠ kProctype) := by
  -- a string literal is `String.ofList` of its characters: `"..".toList` is rewritten to that list first,
  -- since evaluating it is slow (quadratic in the length of the literal)
  simp -index only [String.toList_ofList]
  decide +kernel

/-- Entities that are themselves external to A (re-exported from a third project) are written as
    `null` and never become entities of B. -/
theorem external_items_not_reexported (b : Base) (q : Option Json) (xs : List Ent) :
    importList b q (exportList (.ext :: xs)) = importList b q (exportList xs) := by
  rfl

/-- The description of an entity carries that entity's own name, its own `get_url()` (behind `./`),
    its own `obj` and its own `proctype` - in particular two entities with the same name but of
    different kinds (a type and its constructor interface, a component and a module function named
    alike) are described by their own kinds and their own URLs. -/
theorem export_header_own (name : Str) (url : Option Str) (obj : Str) (pt : Option Str)
    (attrs : List (Str × Attr)) :
    jField kName (exportE (.node name url obj pt attrs)) = some (.str name) ∧
    jField kUrl (exportE (.node name url obj pt attrs)) = some (.str ('.' :: '/' :: urlText url)) ∧
    jField kObj (exportE (.node name url obj pt attrs)) = some (.str obj) ∧
    jField kProctype (exportE (.node name url obj pt attrs)) = pt.map Json.str :=
  header_lookups name url obj pt _ (lookup_kProctype_orderByTable (exportAttrs attrs))

/-- Non-vacuity for shared identifiers: a module with the type `vec_t` and the constructor interface
    `vec_t` lists, under `interfaces`, the interface's page and, under `types`, the type's page. -/
example :
    let ty := Ent.node ['v', 'e', 'c', '_', 't'] (some "type/vec_t.html".toList) "type".toList none []
    let ct := Ent.node ['v', 'e', 'c', '_', 't'] (some "interface/vec_t.html".toList) "proc".toList
      (some "Interface".toList) []
    let md := exportE (.node ['m'] (some "module/m.html".toList) "module".toList none
      [("pub_procs".toList, .dict [(['v', 'e', 'c', '_', 't'], ct)]),
       ("pub_types".toList, .dict [(['v', 'e', 'c', '_', 't'], ty)]),
       ("interfaces".toList, .list [ct]), ("types".toList, .list [ty])])
    listedUrl "interfaces".toList 0 md = some "./interface/vec_t.html".toList ∧
    listedUrl "types".toList 0 md = some "./type/vec_t.html".toList := by
  simp -index only [String.toList_ofList]
  decide +kernel

/-- For a remote external project written as `u` = `http(s)://authority...` in `external:`, with or
    without a trailing slash, every entity URL is the written URL, a slash (unless `u` already ends
    with one), and the entity's own `get_url()`: nothing of `u` is lost in `urljoin`, because the
    base handed to `dict2obj` is the *normalised* one. -/
theorem remote_entity_url_below_written_url (u pre rest rel : Str)
    (h : stripHttp u = some (pre, rest)) (hr : rest ≠ []) :
    rebase (remoteBase u) rel = normRemote u ++ rel :=
  urljoinSimple_normRemote u pre rest rel h hr

/-- ... the description is fetched from `<u>/modules.json` ... -/
theorem remote_index_url (u pre rest : Str) (h : stripHttp u = some (pre, rest)) (hr : rest ≠ []) :
    indexUrl u = normRemote u ++ kModulesJson :=
  urljoinSimple_normRemote u pre rest _ h hr

/-- ... and writing the trailing slash or not makes no difference at all. -/
theorem remote_trailing_slash_irrelevant (u : Str) (hs : endsWithSlash u = false) :
    remoteBase (u ++ ['/']) = remoteBase u ∧ indexUrl (u ++ ['/']) = indexUrl u := by
  simp [remoteBase, indexUrl, normRemote_append_slash u hs]

/-- **Round trip against a remote location.**  Every entity of A reachable through exported
    attributes is appended to B's lists with URL = written URL of A + `/` + `get_url e`. -/
theorem roundtrip_remote (u pre rest : Str) (h : stripHttp u = some (pre, rest)) (hr : rest ≠ [])
    (version : Str) (mods : List Ent) (hv : validList mods = true)
    (hn : mods.all isNode = true) (m : Ent) (hm : m ∈ mods) (e : Ent) (hre : Reach m e)
    (name : Str) (url : Option Str) (obj : Str) (pt : Option Str) (attrs : List (Str × Attr))
    (he : e = .node name url obj pt attrs) :
    ∃ os, importDoc (remoteBase u) (dumpModules version mods) = .ok os ∧
      ∃ x ∈ entriesAll os, x.name = .str name ∧ x.cls = kindOf obj pt ∧
        x.url = .str (normRemote u ++ urlText url) := by
  obtain ⟨os, hos, x, hx, h1, h2, _, h4⟩ :=
    roundtrip (remoteBase u) version mods hv hn m hm e hre name url obj pt attrs he
  exact ⟨os, hos, x, hx, h1, h2, by rw [h4, remote_entity_url_below_written_url u pre rest _ h hr]⟩

/-- Why the normalisation is load-bearing: `urljoin` on the URL as written (no trailing slash)
    replaces its last path segment, the normalised base keeps it. -/
theorem remote_base_needs_slash_witness :
    urljoinSimple "http://h/docs/proja".toList "module/m.html".toList = "http://h/docs/module/m.html".toList ∧
    rebase (remoteBase "http://h/docs/proja".toList) "module/m.html".toList
      = "http://h/docs/proja/module/m.html".toList := by
  simp -index only [String.toList_ofList]
  decide +kernel

/-- For every list of modules whose entity kinds (`proctype or obj`, lower-cased) are keys of the
    generated ENTITIES table, importing the exported description cannot fail. -/
theorem total_on_valid_export (b : Base) (version : Str) (mods : List Ent)
    (hv : validList mods = true) (hn : mods.all isNode = true) :
    isOk (importDoc b (dumpModules version mods)) = true := by
  rw [roundtrip_document b version mods hv hn]; rfl

/-- Which `proctype` values of the source are covered by ENTITIES: all but the two named ones. -/
theorem total_on_valid_export_partial :
    ∀ p ∈ Gen.proctypes, p ≠ kModProc → p ≠ kUnknown → (Gen.entities.lookup (lower p)).isSome = true := by
  decide +kernel

/-- ... and an entity whose `proctype` is "Module Procedure" (class attribute of
    FortranModuleProcedureImplementation, kept when no interface is matched) is exported to a
    description on which `dict2obj` raises KeyError. -/
theorem total_on_valid_export_witness :
    kModProc ∈ Gen.proctypes ∧
    errOf (dict2obj { remote := false, url := "/A/doc".toList } none
      (exportE (.node "orphan".toList (some "proc/orphan.html".toList) "proc".toList (some kModProc) [])))
      = some .keyError := by
  simp -index only [String.toList_ofList]
  decide +kernel

/-- USE resolution (`find_used_modules`): when B has a module of that name (case-insensitively),
    the USE is bound to one of B's modules, whatever the external projects contain. -/
theorem local_first_use (name : Str) (mods exts : List Named)
    (h : ∃ m ∈ mods, lower m.name = lower name) :
    ∃ m ∈ mods, resolveUse name mods exts = some m := by
  obtain ⟨m, hm, hf, _⟩ := findIn_of_mem name mods h
  refine ⟨m, hm, ?_⟩
  rw [resolveUse, findIn_append, hf]
  rfl

/-- ... and external modules are consulted exactly when B has none of that name. -/
theorem use_falls_back_to_external (name : Str) (mods exts : List Named)
    (h : ∀ m ∈ mods, lower m.name ≠ lower name) :
    resolveUse name mods exts = findIn name exts := by
  rw [resolveUse, findIn_append, findIn_eq_none name mods h]
  rfl

/-- `[[name(kind)]]` with a kind qualifier that does not start with `ext` searches one of B's own
    collections only (generated LINK_TYPES): it can never return an external entity. -/
theorem find_qualified_local_only :
    ∀ kv ∈ Gen.linkTypes, startsWith kv.1 "ext".toList = false → startsWith kv.2 "ext".toList = false := by
  simp -index only [String.toList_ofList]
  decide +kernel

/-- Unqualified `[[name]]`: a module of B with that name always wins (B's modules are the first
    collection `Project.find` chains). -/
theorem find_unqualified_local_first_partial (p : Colls) (name : Str) (m : Named)
    (h : findIn name (collection p "modules".toList) = some m) :
    projectFind p name none = some (some m) := by
  -- the statement spells the collection `"modules".toList`; that list is `kModulesColl`
  simp -index only [String.toList_ofList] at h
  have h' : findIn name (collection p kModulesColl) = some m := h
  obtain ⟨rest, hrest⟩ : ∃ rest, Gen.linkTypes.map (fun kv => collection p kv.2)
      = collection p kModulesColl :: rest := ⟨_, rfl⟩
  simp only [projectFind, hrest, List.flatten_cons, findIn_append, h']
  rfl

/-- Same-kind precedence in the generated LINK_TYPES order: each of B's collections is chained
    before the external collection of the same kind (so for a name that B and A both define *with
    the same kind* the unqualified `[[name]]` finds B's entity first). -/
theorem find_same_kind_local_first :
    let order := Gen.linkTypes.map (·.2)
    order.idxOf "modules".toList < order.idxOf "extModules".toList ∧
    order.idxOf "types".toList < order.idxOf "extTypes".toList ∧
    order.idxOf "procedures".toList < order.idxOf "extProcedures".toList ∧
    order.idxOf "absinterfaces".toList < order.idxOf "extInterfaces".toList ∧
    order.idxOf "extInterfaces".toList < order.length := by
  simp -index only [String.toList_ofList]
  decide +kernel

/-- ... but for other kinds the chain order of LINK_TYPES puts `extModules` and `extTypes` before
    B's procedures: an unqualified `[[foo]]` where B defines procedure `foo` and A a type `foo`
    is resolved to A's entity. -/
theorem find_unqualified_local_first_witness :
    projectFind [("procedures".toList, [{ name := "foo".toList, ext := false }]),
                 ("extTypes".toList, [{ name := "foo".toList, ext := true }])] "foo".toList none
      = some (some { name := "foo".toList, ext := true }) := by
  simp -index only [String.toList_ofList]
  decide +kernel

/-- If every way of failing to fetch / decode the description is caught by the `except` clause
    of `load_external_modules` (generated table), a failed fetch loads nothing and aborts nothing. -/
theorem bad_description_costs_only_links (b : Base)
    (hall : ∀ kv ∈ Gen.fetchErrors, kv.2 = true) (exc : Str) (he : exc ∈ Gen.fetchErrors.map (·.1)) :
    load b (.failed exc) = .loaded [] := by
  have hc : catches exc = true := by
    obtain ⟨kv, hkv, rfl⟩ := List.mem_map.mp he
    rw [catches_fetchErrors kv hkv, hall kv hkv]
  simp only [load, hc, if_true]

/-- What holds on the code as it is: the failures the `except` clause does name cost only the links. -/
theorem bad_description_costs_only_links_partial (b : Base) (exc : Str) (hc : catches exc = true) :
    load b (.failed exc) = .loaded [] := by
  simp [load, hc]

/-- ... and every failure it does not name aborts the run (the rows `false` of the table: on FORD before c22f2bf - findings
    C16-missing-description-aborts, C16-undecodable-description-aborts - FileNotFoundError, IsADirectoryError,
    PermissionError, TimeoutError, UnicodeDecodeError). -/
theorem bad_description_costs_only_links_witness (b : Base) :
    ∀ kv ∈ Gen.fetchErrors, kv.2 = false → (load b (.failed kv.1)).isAborted = true := by
  intro kv hkv hf
  have : catches kv.1 = false := by rw [catches_fetchErrors kv hkv, hf]
  simp only [load, this, Bool.false_eq_true, if_false, LoadResult.isAborted]

/-- A description that is valid JSON but not of the expected shape (here: a module without
    `name`) aborts the run as well: nothing in `load_external_modules` guards `dict2obj`. -/
theorem wrong_shape_aborts_witness :
    (load { remote := false, url := "/A/doc".toList }
      (.got (.arr [.obj [(kUrl, .str "./module/m.html".toList), (kObj, .str "module".toList)]]))).isAborted
      = true := by
  simp -index only [String.toList_ofList]
  decide +kernel

/-- What running `load_external_modules` showed (generated `handlerExits`): one entry per way of
    failing of the `fetchErrors` table, in the same order; each exit is one of the known ones; and a way of
    failing has a handler exactly when the `except` clause catches it. -/
theorem handler_exits_table :
    Gen.handlerExits.map (·.1) = Gen.fetchErrors.map (·.1) ∧
    (∀ kv ∈ Gen.handlerExits, kv.2 ∈ knownExits) ∧
    (∀ kv ∈ Gen.handlerExits, catches kv.1 = (kv.2 != kUncaught)) := by
  decide +kernel

/-- **No handler leaves the loop over the external projects.**  For every way of failing to fetch a
    description, the handler that catches it (generated table, observed by running the function) either falls through
    to the conversion with an empty description or continues with the next project - it never ends the
    loop (`break`, `return`) and never re-raises. -/
theorem handler_never_leaves_loop (exc : Str) :
    handlerFlow exc = .proceed ∨ handlerFlow exc = .next :=
  handlerFlow_goes_on (by decide +kernel) exc

/-- **An unusable external project is as if it were not listed.**  Whatever stands before and after it in
    the `external:` option - usable projects, other unusable ones, in any number and order -, a project
    whose description cannot be fetched (in a way the `except` clause names) changes nothing about what
    `load_external_modules` does with the others: the same objects are appended, in the same order, and the
    run ends (or not) exactly as without it. -/
theorem unusable_project_costs_only_its_own_links (pre post : List (Base × Fetch)) (b : Base)
    (exc : Str) (hc : catches exc = true) :
    loadAll (pre ++ (b, .failed exc) :: post) = loadAll (pre ++ post) :=
  loadAllWith_drop_failed handlerFlow b exc hc (handler_never_leaves_loop exc) pre post []

/-- **Every usable project is loaded completely.**  When each listed project either has a description
    that converts or fails to be fetched in a caught way, the run is not aborted and the objects appended
    are exactly those every project contributes when it is listed alone, project after project. -/
theorem every_usable_project_loaded (ps : List (Base × Fetch)) (h : ∀ p ∈ ps, harmless p = true) :
    loadAll ps = .loaded ((ps.map objsOf).flatten) := by
  simpa [loadAll] using loadAllWith_harmless handlerFlow handler_never_leaves_loop ps [] h

/-- **The round trip, with other external projects around.**  A is exported (valid kinds) and listed by B
    at any position among other external projects, each of which is usable or unusable in a caught way.
    Then the run is not aborted and every entity of A reachable through exported attributes is among the
    entities appended to B's lists with its name, its kind, its list, and URL = *A's own* location /
    `get_url e` - not the location of a neighbour. -/
theorem roundtrip_among_several (pre post : List (Base × Fetch))
    (hpre : ∀ p ∈ pre, harmless p = true) (hpost : ∀ p ∈ post, harmless p = true)
    (b : Base) (version : Str) (mods : List Ent) (hv : validList mods = true)
    (hn : mods.all isNode = true) (m : Ent) (hm : m ∈ mods) (e : Ent) (hr : Reach m e)
    (name : Str) (url : Option Str) (obj : Str) (pt : Option Str) (attrs : List (Str × Attr))
    (he : e = .node name url obj pt attrs) :
    ∃ os, loadAll (pre ++ (b, .got (dumpModules version mods)) :: post) = .loaded os ∧
      ∃ x ∈ entriesAll os, x.name = .str name ∧ x.cls = kindOf obj pt ∧
        x.list = listOf (kindOf obj pt) ∧ x.url = .str (rebase b (urlText url)) := by
  obtain ⟨osA, hA, x, hx, hp⟩ := roundtrip b version mods hv hn m hm e hr name url obj pt attrs he
  refine ⟨_, loadAllWith_got_among_harmless handlerFlow handler_never_leaves_loop pre post hpre hpost b _ osA hA [],
    x, ?_, hp⟩
  rw [entriesAll_eq_flatMap] at hx ⊢
  obtain ⟨o, ho, hxo⟩ := List.mem_flatMap.mp hx
  exact List.mem_flatMap.mpr
    ⟨o, List.mem_append_right _ (List.mem_append_right _ (List.mem_append_left _ ho)), hxo⟩

/-- A single listed project: the loop is the one-project `load` of the theorems above. -/
theorem single_project_load (b : Base) (f : Fetch) : loadAll [(b, f)] = load b f := by
  cases f with
  | got doc =>
    simp only [loadAll, loadAllWith, load]
    cases importDoc b doc <;> rfl
  | failed exc =>
    cases hc : catches exc with
    | false =>
      simp only [loadAll, loadAllWith, load, hc]
      rfl
    | true =>
      rw [loadAll, loadAllWith_failed_skip handlerFlow b exc [] [] hc (handler_never_leaves_loop exc),
        load, if_pos hc]
      rfl

/-- Why `handler_never_leaves_loop` is load-bearing: with a handler that ends the loop (`return` /
    `break`) an unusable project listed first costs every link into the usable project listed after it,
    while the run still succeeds - and with the order swapped nothing is lost. -/
theorem leaving_the_loop_loses_later_projects_witness :
    let a : Base × Fetch := ({ remote := false, url := ['/', 'A'] },
      .got (.arr [.obj [(kName, .str ['m']), (kUrl, .str ['.', '/', 'm', '.', 'h', 't', 'm', 'l']),
                        (kObj, .str ['m', 'o', 'd', 'u', 'l', 'e'])]]))
    let x : Base × Fetch := ({ remote := false, url := ['/', 'X'] },
      .failed ['U', 'R', 'L', 'E', 'r', 'r', 'o', 'r'])
    catches ['U', 'R', 'L', 'E', 'r', 'r', 'o', 'r'] = true →
    (loadAllWith (fun _ => .stop) [x, a] []).count = 0 ∧
    (loadAllWith (fun _ => .stop) [a, x] []).count = 1 ∧
    (loadAllWith (fun _ => .proceed) [x, a] []).count = 1 := by
  decide +kernel

/-! ## The nodes of B's graphs (used modules, called procedures, extended types, component types) -/

/-- "every public entity of A that B uses, extends, *calls* ... is linked to a URL that exists in A's
    documentation" - on the nodes of B's graphs: the node made for an entity imported from an external project
    carries exactly the URL the entity was imported with (`external_url`, re-based on A's location), whatever the
    path from the page back to the top of B's site (`parent_dir`), whether A is given by a local path or by a
    remote URL, and whichever External* class the entity has.  Holds for the test probed on
    `BaseNode.__init__` (`Gen.nodeVerbatim`) and the classes it turns into strings (`Gen.nodeStringified`). -/
theorem graph_node_of_external_entity_carries_its_url (parentDir cls name url : Str)
    (h : plainLink url name = true) :
    nodeUrl parentDir { external := true, cls := cls, name := name, url := some url, visible := true } = some url :=
  nodeUrlWith_external _ _ parentDir cls name url h (fun v => by cases v <;> rfl)

/-- Non-vacuity: local paths (spaces, `#anchor`) and remote URLs are in the class the theorem is stated for. -/
example : plainLink (chars! "/abs/with space/doc/type/t.html#boundprocedure-b") (chars! "b") = true ∧
    plainLink (chars! "https://ex.invalid/~user/a.b/module/m.html") (chars! "Amod1") = true := by
  decide +kernel

/-- The same with the URL spelled out: an entity exported with `get_url() = u` from a project at `b` (local
    directory or remote URL) is, on every node B's graphs make for it, linked to `b / u` - the page of A's own
    documentation (`roundtrip` gives the import, this the step from the imported object to the node). -/
theorem graph_node_roundtrip (b : Base) (parentDir cls name u : Str)
    (h : plainLink (rebase b u) name = true) :
    nodeUrl parentDir { external := true, cls := cls, name := name,
                        url := some (rebase b (afterFirstSlash ('.' :: '/' :: u))), visible := true }
      = some (rebase b u) := by
  rw [strip_first_segment]
  exact graph_node_of_external_entity_carries_its_url parentDir cls name (rebase b u) h

/-- "... costs only the links": an imported entity without a usable URL (falsy `external_url`) gives a node
    without a link - never a link to somewhere inside B.  Excluded (see the witness): a *name* that is itself
    written like a link. -/
theorem graph_node_without_url_is_not_a_link_partial (parentDir cls name : Str) (hn : parseLink name = none) :
    nodeUrl parentDir { external := true, cls := cls, name := name, url := none, visible := true } = none := by
  unfold nodeUrl nodeUrlWith
  cases hc : Gen.nodeStringified.contains cls <;> simp [strOfExternal, hn]

/-- The excluded class is real: the string made from the object is matched against HYPERLINK_RE whatever it came
    from, so a description whose `name` is `<a href='x'>y</a>` (and whose URL is empty) yields a node linked to `x`. -/
theorem graph_node_without_url_is_not_a_link_witness :
    nodeUrlWith (.or (.atom .fromstr) (.atom .hasExternalUrl)) [chars! "ExternalModule"] (chars! "../")
      { external := true, cls := chars! "ExternalModule", name := chars! "<a href='x'>y</a>", url := none,
        visible := true } = some ['x'] := by
  decide +kernel

/-- Why `graph_node_of_external_entity_carries_its_url` is load-bearing: with a test that looks at the URL instead
    ("it has a scheme, so it is complete"), the absolute file-system path of a local-path external project is
    taken for a path inside B and prefixed with `../` - a dead link - while a remote URL stays intact. -/
theorem scheme_test_breaks_local_externals_witness :
    let o (u : Str) : NodeObj := { external := true, cls := chars! "ExternalModule", name := ['m'],
                                   url := some u, visible := true }
    nodeUrlWith (.atom .urlHasScheme) Gen.nodeStringified (chars! "../") (o (chars! "/abs/A/doc/module/m.html"))
      = some (chars! "..//abs/A/doc/module/m.html") ∧
    nodeUrlWith (.atom .urlHasScheme) Gen.nodeStringified (chars! "../") (o (chars! "https://h/a/module/m.html"))
      = some (chars! "https://h/a/module/m.html") := by
  decide +kernel

/-! ## Entities of A inside B - `[[...]]` to parts of A that B's code does not use, and USE association
    through B's own modules -/

/-- "every public entity of A that B ... names in a `[[...]]` reference is linked": *whatever B's source
    contains*.  A is exported (valid kinds) and `m` is any of its modules; B is any project - its USE statements
    are not even a parameter: nothing of B decides what is loaded - that has no module, submodule or
    already-known external module of that name.  Then the description converts and the unqualified `[[name]]`
    is resolved by `Project.find` to an entity loaded from A's description that carries the module's name
    (modules, submodules and `extModules` are the first three collections of the generated LINK_TYPES). -/
theorem reference_to_any_exported_module_resolves (b : Base) (version : Str) (mods : List Ent)
    (hv : validList mods = true) (hn : mods.all isNode = true) (m : Ent) (hm : m ∈ mods)
    (name : Str) (url : Option Str) (obj : Str) (pt : Option Str) (attrs : List (Str × Attr))
    (he : m = .node name url obj pt attrs) (hmod : kindOf obj pt = kModule) (own : Colls)
    (h1 : findIn name (collection own kModulesColl) = none)
    (h2 : findIn name (collection own kSubmodulesColl) = none)
    (h3 : findIn name (collection own kExtModules) = none) :
    ∃ os, importDoc b (dumpModules version mods) = .ok os ∧
      ∃ x, projectFind (withLoaded own (entriesAll os)) name none = some (some x) ∧
        x.ext = true ∧ lower x.name = lower name := by
  obtain ⟨os, hos, e, hemem, hname, _, hlist, _⟩ :=
    roundtrip b version mods hv hn m hm m (Reach.refl m) name url obj pt attrs he
  refine ⟨os, hos, ?_⟩
  have hl : e.list = kExtModules := by rw [hlist, hmod]; decide +kernel
  obtain ⟨x, _, hfx, _⟩ := findIn_of_mem name (loadedIn kExtModules (entriesAll os))
    ⟨_, loadedIn_mem kExtModules (entriesAll os) e name hemem hname hl, rfl⟩
  -- the chain of `Project.find` starts with modules, submodules, `extModules`; in each, B's own part has
  -- nothing of that name, so the search goes through the loaded parts and ends in the third at the latest
  obtain ⟨k1, k2, k3, rest, hrest⟩ : ∃ k1 k2 k3 rest, Gen.linkTypes =
      (k1, kModulesColl) :: (k2, kSubmodulesColl) :: (k3, kExtModules) :: rest := ⟨_, _, _, _, rfl⟩
  have hmem : kModulesColl ∈ Gen.linkTypes.map (·.2) ∧ kSubmodulesColl ∈ Gen.linkTypes.map (·.2) ∧
      kExtModules ∈ Gen.linkTypes.map (·.2) := by
    decide +kernel
  simp only [projectFind, hrest, List.map_cons, List.flatten_cons, findIn_append,
    findIn_collection_withLoaded own _ name _ hmem.1 h1, findIn_collection_withLoaded own _ name _ hmem.2.1 h2,
    findIn_collection_withLoaded own _ name _ hmem.2.2 h3, hfx]
  cases hA : findIn name (loadedIn kModulesColl (entriesAll os)) with
  | some y => exact ⟨y, rfl, findIn_loadedIn name _ _ y hA⟩
  | none =>
    cases hB : findIn name (loadedIn kSubmodulesColl (entriesAll os)) with
    | some y => exact ⟨y, rfl, findIn_loadedIn name _ _ y hB⟩
    | none => exact ⟨x, rfl, findIn_loadedIn name _ _ x hfx⟩

/-- `filter_public` - what a module of B passes on of the entities it got by USE association - looks at the
    *name* only (public by default, or named in a PUBLIC statement): an entity is kept or dropped whether it is
    one of B's own or one imported from an external project. -/
theorem reexport_filter_ignores_origin (m : BMod) (t : Tbl) (k : Str) (v : Item) :
    (k, v) ∈ filterPublic m t ↔ (k, v) ∈ t ∧ shouldBePublic m k = true :=
  List.mem_filter

/-- "every public entity of A that B uses, extends ... is linked" when B gets it *indirectly*: module `P` of B
    uses module `mname` (of A - or of B, any depth: `pubM` is whatever that module passes on) and passes the
    name `k` on (public by default or listed PUBLIC); module `Q` of B uses `P`.  Then the very entity `e` that
    `mname` offers under `k` - with its class and its `external_url` - is what `P` passes on and what `Q`'s
    declarations (`extends(k)`, `type(k)`, `procedure(k)`, calls) are resolved to.  For each of the four tables;
    whatever else `P` and `Q` declare themselves. -/
theorem external_entity_passes_through_prelude (env ext : List (Str × Pub)) (mname : Str) (pubM : Pub)
    (P Q : BMod) (hM : lookupMod env ext mname = some pubM) (hP : P.uses = [(mname, .all)])
    (hQ : Q.uses = [(P.name, .all)]) (hfresh : findMod P.name env = none) (f : Fld) (k : Str) (e : Item)
    (hk : (pubM.get f).lookup k = some e) (hwM : (pubM.get f).wf) (hwP : (P.ownPub.get f).wf)
    (hpub : shouldBePublic P k = true) :
    (((correlateMod P env ext).1).get f).lookup k = some e ∧
    (((correlateMod Q (env ++ [(P.name, (correlateMod P env ext).1)]) ext).2).get f).lookup k = some e := by
  obtain ⟨_, hP1, hPw⟩ := correlateMod_single_all P env ext mname pubM hP hM f k e hk hwM
  have hlook : lookupMod (env ++ [(P.name, (correlateMod P env ext).1)]) ext P.name
      = some (correlateMod P env ext).1 := by
    simp only [lookupMod, findMod_append_fresh P.name env _ hfresh]
  exact ⟨hP1 hpub, (correlateMod_single_all Q _ ext P.name _ hQ hlook f k e (hP1 hpub) (hPw hwP)).1⟩

/-- Why `reexport_filter_ignores_origin` is load-bearing: with a `filter_public` that leaves out the entities
    of other external projects (say, when the project is itself documented with `externalize`), the prelude
    module passes nothing of A on and a type `t` of A is unknown in the module that uses the prelude - while
    the code as it is hands it through. -/
theorem reexport_dropping_external_entities_witness :
    let t : Item := { ext := true, cls := chars! "type", name := .str ['t'], url := .str (chars! "/A/doc/type/t.html") }
    let ext : List (Str × Pub) := [(['a'], { procs := [], absints := [], types := [(['t'], t)], vars := [] })]
    let P : BMod := { name := ['p'], isPublic := true, publicList := [], ownPub := Pub.empty, ownAll := Pub.empty,
                      uses := [(['a'], .all)] }
    let Q : BMod := { name := ['q'], isPublic := true, publicList := [], ownPub := Pub.empty, ownAll := Pub.empty,
                      uses := [(['p'], .all)] }
    let dropExt : BMod → Str → Item → Bool := fun m k it => shouldBePublic m k && !it.ext
    (((correlateModWith dropExt Q [(['p'], (correlateModWith dropExt P [] ext).1)] ext).2.types).lookup ['t']).isSome = false ∧
    (((correlateMod Q [(['p'], (correlateMod P [] ext).1)] ext).2.types).lookup ['t']).isSome = true := by
  decide +kernel

/-- Non-vacuity of the prelude theorem: with ONLY lists and a private prelude that names the type in a PUBLIC
    statement the entity still arrives, under the local name of a rename. -/
example :
    let t : Item := { ext := true, cls := chars! "type", name := .str ['t'], url := .str (chars! "/A/doc/type/t.html") }
    let ext : List (Str × Pub) := [(['a'], { procs := [], absints := [], types := [(['t'], t)], vars := [] })]
    let P : BMod := { name := ['p'], isPublic := false, publicList := [['u']], ownPub := Pub.empty, ownAll := Pub.empty,
                      uses := [(['A'], .only [(['u'], ['T'])])] }
    let Q : BMod := { name := ['q'], isPublic := true, publicList := [], ownPub := Pub.empty, ownAll := Pub.empty,
                      uses := [(['p'], .only [(['u'], ['u'])])] }
    ((correlateAll ext [P, Q] []).map (fun r => (r.1, r.2.2.types.map (·.1)))) = [(['p'], [['u']]), (['q'], [['u']])] := by
  decide +kernel

/-- Non-vacuity: a two-level module tree is valid, and its round trip appends the module and its
    public function with the re-based URLs. -/
example :
    ((importDoc { remote := false, url := "/A/doc".toList }
      (dumpModules "v".toList
        [.node "m".toList (some "module/m.html".toList) "module".toList none
          [("pub_procs".toList, .dict [("f".toList,
              .node "f".toList (some "proc/f.html".toList) "proc".toList (some "Function".toList) [])])]])).toOption.map
        (fun os => (entriesAll os).map (fun x => (x.list, x.cls)))) =
      some [("extModules".toList, "module".toList), ("extProcedures".toList, "function".toList)] := by
  simp -index only [String.toList_ofList]
  decide +kernel

/-! ## Module-qualified references into A (`[[module:entity]]`, `[[type:component]]`) and the
    state `dict2obj` leaves in the description -/

/-- **`[[parent:child]]`, exact form.**  For every entity `m` of A (a module, a type, ...: any name, URL, kind,
    attributes - no bound on their number or on the depth of the tree), looking the name `c` up among the
    children of the *imported* `m` (`find_child(c)`: the lazy chain `children` in the probed order
    `Gen.childrenOrder`, `_find_in_list`) never raises and finds exactly the import of the first entity of that
    name (case-insensitively) in the list attributes `m` was exported with, taken in that order - with the class
    defaults of the External class (`Gen.classDefaults`, a table fact: all iterable) for what the description
    does not carry. -/
theorem child_lookup_exact (b : Base) (p : Option Json) (name : Str) (url : Option Str) (obj : Str)
    (pt : Option Str) (attrs : List (Str × Attr)) (c : Str) :
    xFindChild (specE b p (.node name url obj pt attrs)) c none
      = .ok ((firstChild c attrs Gen.childrenOrder).map (specE b (some (.str name)))) := by
  simp only [specE, xFindChild]
  exact findLazy_spec b (some (.str name)) (kindOf obj pt) c attrs Gen.childrenOrder

/-- **`[[module:entity]]` reaches an entity of that name of that module, at its URL in A** (the clause "every
    public entity of A that B ... names in a `[[...]]` reference is linked to a URL that ... documents that
    entity", for the module-qualified form - the only form that reaches a module variable).  `e` is listed by `m`
    in a list attribute that is exported (`∈ ATTRIBUTES`) and that `children` visits: then the look-up of its name
    in the imported `m` succeeds, and what it finds is the import of an entity `c` that `m` lists under an exported,
    visited attribute, named like `e` up to case, carrying A's location / `get_url c`. -/
theorem child_reference_reaches_entity (b : Base) (p : Option Json) (name : Str) (url : Option Str) (obj : Str)
    (pt : Option Str) (attrs : List (Str × Attr)) (a : Str) (xs : List Ent)
    (ha : a ∈ Gen.childrenOrder) (hat : a ∈ Gen.attributes) (hl : attrs.lookup a = some (.list xs))
    (en : Str) (eu : Option Str) (eo : Str) (ept : Option Str) (eats : List (Str × Attr))
    (he : Ent.node en eu eo ept eats ∈ xs) :
    ∃ a' xs' cn cu co cpt cats,
      a' ∈ Gen.childrenOrder ∧ a' ∈ Gen.attributes ∧ attrs.lookup a' = some (.list xs') ∧
      Ent.node cn cu co cpt cats ∈ xs' ∧ lower en = lower cn ∧
      xFindChild (specE b p (.node name url obj pt attrs)) en none
        = .ok (some (specE b (some (.str name)) (.node cn cu co cpt cats))) ∧
      xUrl (specE b (some (.str name)) (.node cn cu co cpt cats)) = some (.str (rebase b (urlText cu))) := by
  obtain ⟨c, hc⟩ := firstChild_complete en attrs Gen.childrenOrder a xs ha hat hl en eu eo ept eats he rfl
  obtain ⟨a', xs', h1, h2, h3, h4, cn, cu, co, cpt, cats, h5, h6⟩ :=
    firstChild_sound en attrs Gen.childrenOrder c hc
  subst h5
  refine ⟨a', xs', cn, cu, co, cpt, cats, h1, h2, h3, h4, h6, ?_, ?_⟩
  · rw [child_lookup_exact, hc]; rfl
  · rfl

/-- **`[[parent:child(kind)]]`, exact form.**  With a kind that SUBLINK_TYPES maps to an exported attribute which
    `m` carries as a list: the look-up never raises and finds exactly the import of the first entity of that name
    in *that* list. -/
theorem qualified_child_lookup_exact (b : Base) (p : Option Json) (name : Str) (url : Option Str) (obj : Str)
    (pt : Option Str) (attrs : List (Str × Attr)) (kind a : Str) (xs : List Ent)
    (hk : Gen.sublinkTypes.lookup (lower kind) = some a) (hat : a ∈ Gen.attributes)
    (hl : attrs.lookup a = some (.list xs)) (c : Str) :
    xFindChild (specE b p (.node name url obj pt attrs)) c (some kind)
      = .ok ((firstNamed c xs).map (specE b (some (.str name)))) := by
  simp only [specE, xFindChild, hk, attrVal_spec, hat, if_true, hl]
  exact xFindIn_specList b (some (.str name)) c xs

/-- **`[[module:entity(kind)]]` reaches an entity of that name in the list of that kind.** -/
theorem qualified_child_reference_reaches_entity (b : Base) (p : Option Json) (name : Str) (url : Option Str)
    (obj : Str) (pt : Option Str) (attrs : List (Str × Attr)) (kind a : Str) (xs : List Ent)
    (hk : Gen.sublinkTypes.lookup (lower kind) = some a) (hat : a ∈ Gen.attributes)
    (hl : attrs.lookup a = some (.list xs))
    (en : Str) (eu : Option Str) (eo : Str) (ept : Option Str) (eats : List (Str × Attr))
    (he : Ent.node en eu eo ept eats ∈ xs) :
    ∃ cn cu co cpt cats, Ent.node cn cu co cpt cats ∈ xs ∧ lower en = lower cn ∧
      xFindChild (specE b p (.node name url obj pt attrs)) en (some kind)
        = .ok (some (specE b (some (.str name)) (.node cn cu co cpt cats))) ∧
      xUrl (specE b (some (.str name)) (.node cn cu co cpt cats)) = some (.str (rebase b (urlText cu))) := by
  obtain ⟨c, hc⟩ := firstNamed_complete en xs en eu eo ept eats he rfl
  obtain ⟨h4, cn, cu, co, cpt, cats, h5, h6⟩ := firstNamed_sound en xs c hc
  subst h5
  refine ⟨cn, cu, co, cpt, cats, h4, h6, ?_, ?_⟩
  · rw [qualified_child_lookup_exact b p name url obj pt attrs kind a xs hk hat hl, hc]; rfl
  · rfl

/-- **Table facts that meet the hypotheses of `child_reference_reaches_entity` and of the two qualified-child theorems**
    (`decide` on the probed tables): every plain list of entities a
    description carries - `functions`, `subroutines`, `interfaces`, `absinterfaces`, `types`, `variables`,
    `boundprocs` - is exported (`ATTRIBUTES`) *and* visited by `children`, and the kind words of the link syntax
    lead to these very lists; what the External classes set themselves can be iterated. -/
theorem child_lists_exported_and_visited :
    (∀ a ∈ [chars! "functions", chars! "subroutines", chars! "interfaces", chars! "absinterfaces", chars! "types",
            chars! "variables", chars! "boundprocs"], a ∈ Gen.attributes ∧ a ∈ Gen.childrenOrder) ∧
    (∀ kv ∈ [(chars! "function", chars! "functions"), (chars! "subroutine", chars! "subroutines"),
             (chars! "interface", chars! "interfaces"), (chars! "absinterface", chars! "absinterfaces"),
             (chars! "type", chars! "types"), (chars! "variable", chars! "variables"),
             (chars! "bound", chars! "boundprocs")], Gen.sublinkTypes.lookup kv.1 = some kv.2) ∧
    Gen.classDefaults.all (fun row => row.2.all (fun p => p.2 == kList || p.2 == kDict || p.2 == kStr)) = true := by
  exact ⟨by decide +kernel, by decide +kernel, classDefaults_iterable⟩

/-- **Why the plain lists have to be converted** (witness, `decide`): an imported module that has its `pub_vars`
    table but not its `variables` list - what "build only the `pub_*` tables" gives - answers `[[geom:origin]]`
    with nothing, so that `convert_link` falls back to the module's own page, and `[[geom:origin(variable)]]` with
    a ValueError that ends the run; the module imported as the code imports it reaches the variable. -/
theorem module_without_its_plain_lists_loses_child_references_witness :
    let v : XObj := .node (chars! "variable") (.str (chars! "origin")) (.str (chars! "/A/doc/module/geom.html#variable-origin"))
      (some (.str (chars! "geom"))) none []
    let lean : XObj := .node (chars! "module") (.str (chars! "geom")) (.str (chars! "/A/doc/module/geom.html")) none none
      [(chars! "pub_vars", .dict [(chars! "origin", v)])]
    let full : XObj := .node (chars! "module") (.str (chars! "geom")) (.str (chars! "/A/doc/module/geom.html")) none none
      [(chars! "pub_vars", .dict [(chars! "origin", v)]), (chars! "variables", .list [v])]
    outcome (xFindChild lean (chars! "origin") none) = [chars! "none"] ∧
    outcome (resolveRef (some lean) (some (chars! "origin")) none)
      = [chars! "module", chars! "geom", chars! "/A/doc/module/geom.html"] ∧
    outcome (xFindChild lean (chars! "origin") (some (chars! "variable"))) = [chars! "ValueError"] ∧
    outcome (resolveRef (some full) (some (chars! "Origin")) none)
      = [chars! "variable", chars! "origin", chars! "/A/doc/module/geom.html#variable-origin"] ∧
    outcome (xFindChild full (chars! "origin") (some (chars! "Variable")))
      = [chars! "variable", chars! "origin", chars! "/A/doc/module/geom.html#variable-origin"] := by
  decide +kernel

/-- **Stripping is not idempotent: the second conversion of the same dictionary loses the directory.**
    `dict2obj` stores `external_url.split("/", 1)[-1]` back into the dictionary it was given.  On the exported
    `./dir/rest` the first conversion leaves `dir/rest` (= `get_url()`, `strip_first_segment`); a second conversion
    of the *same* dictionary would re-base `rest` alone - for every directory name and every rest.  (The stored-back
    state is modelled by `rewriteJ` / `rewriteDoc`; only the witness below ties this theorem to it.) -/
theorem second_strip_loses_directory (dir rest : Str) (hd : '/' ∉ dir) :
    afterFirstSlash ('.' :: '/' :: (dir ++ '/' :: rest)) = dir ++ '/' :: rest ∧
    afterFirstSlash (afterFirstSlash ('.' :: '/' :: (dir ++ '/' :: rest))) = rest := by
  rw [strip_first_segment]
  exact ⟨rfl, afterFirstSlash_append dir rest hd⟩

/-- a stripped URL without a directory left is a fixed point: only then would a second conversion be harmless -/
theorem strip_fixed_point (s : Str) (h : '/' ∉ s) : afterFirstSlash s = s := by
  simp [afterFirstSlash, afterFirstSlashAux_none s h]

/-- **Every load has to start from a freshly parsed description** (witness, `decide`): the model of the state
    `dict2obj` leaves behind (`rewriteJ`, corresponded with the real dictionary after `load_external_modules`)
    converted a second time puts the module at `/A/doc/geom.html`; the description as parsed from the file at
    `/A/doc/module/geom.html`. -/
theorem converting_the_same_dictionary_twice_witness :
    let j : Json := .obj [(kName, .str (chars! "geom")), (kUrl, .str (chars! "./module/geom.html")),
                          (kObj, .str (chars! "module"))]
    let b : Base := { remote := false, url := chars! "/A/doc" }
    ((dict2obj b none j).toOption.bind xUrl).map jsonText = some (chars! "/A/doc/module/geom.html") ∧
    ((dict2obj b none (rewriteJ j)).toOption.bind xUrl).map jsonText = some (chars! "/A/doc/geom.html") := by
  decide +kernel

/-- Non-vacuity of `child_reference_reaches_entity` / `qualified_child_lookup_exact`: a module exported with a
    type and a constructor interface of the same name plus a variable: `[[m:origin]]` reaches the variable,
    `[[m:vec]]` the type (types come before interfaces in `children`), `[[m:vec(interface)]]` the interface. -/
example :
    let m : Ent := .node (chars! "m") (some (chars! "module/m.html")) (chars! "module") none
      [(chars! "interfaces", .list [.node (chars! "vec") (some (chars! "interface/vec.html")) (chars! "interface")
                                      (some (chars! "Interface")) []]),
       (chars! "types", .list [.node (chars! "vec") (some (chars! "type/vec.html")) (chars! "type") none []]),
       (chars! "variables", .list [.node (chars! "Origin") (some (chars! "module/m.html#variable-origin"))
                                      (chars! "variable") none []])]
    let b : Base := { remote := false, url := chars! "/A/doc" }
    outcome (xFindChild (specE b none m) (chars! "origin") none)
      = [chars! "variable", chars! "Origin", chars! "/A/doc/module/m.html#variable-origin"] ∧
    outcome (xFindChild (specE b none m) (chars! "VEC") none) = [chars! "type", chars! "vec", chars! "/A/doc/type/vec.html"] ∧
    outcome (xFindChild (specE b none m) (chars! "vec") (some (chars! "Interface")))
      = [chars! "interface", chars! "vec", chars! "/A/doc/interface/vec.html"] := by
  decide +kernel

/-! ## The `href` of a textual reference to an imported entity -/

/-- **A `[[...]]` reference to an entity imported from a local path leads, from the page it is shown on, to the
    entity's URL in A's documentation.**  `convert_link` writes `relpath(external_url, current_path)` with
    `current_path = <output dir>/<Path(context url).parent.parent>/non-existent dir` - the text is shown on the
    entity's own page and on list pages, so the reference has to work from every directory *next to* that one.
    For every output directory `base`, every `pre`, every sibling directory `d`, every absolute URL without `..`
    (what `dict2obj` builds: A's resolved location / `get_url`): following the reference from `base/pre/d`
    arrives exactly at the URL.  Excluded (decidable, witnessed below): A's documentation lying inside
    `base/pre/non-existent dir`. -/
theorem textual_link_leads_to_imported_url_partial (base pre : List Path.Seg) (d : Path.Seg) (itemUrl : Str)
    (hb : Path.Normal base) (hpre : Path.Normal pre) (hd : Path.NormalSeg d) (habs : isAbs itemUrl = true)
    (hup : Path.up ∉ pathSegs itemUrl)
    (hx : ¬ (base ++ pre ++ [kNonExistent]) <+: pathSegs itemUrl) :
    Path.resolve (base ++ pre ++ [d]) (linkRel base (base ++ pre ++ [kNonExistent]) itemUrl) = pathSegs itemUrl := by
  have ht := pathSegs_normal itemUrl hup
  have hP : Path.Normal (base ++ pre) := Path.normal_append hb hpre
  have hX : Path.NormalSeg kNonExistent := by decide +kernel
  have hcur : Path.Normal (base ++ pre ++ [kNonExistent]) :=
    Path.normal_append hP (fun s hs => List.mem_singleton.mp hs ▸ hX)
  -- `relpath` of normal paths is not empty here, so `relpath` as Python calls it is `Path.relpath`
  have hne : Path.relpath (pathSegs itemUrl) (base ++ pre ++ [kNonExistent]) ≠ [] := by
    obtain ⟨r, hr⟩ := Path.relpath_head_up _ _ hx
    rw [hr]
    exact List.cons_ne_nil _ _
  have h1 : linkRel base (base ++ pre ++ [kNonExistent]) itemUrl
      = Path.relpath (pathSegs itemUrl) (base ++ pre ++ [kNonExistent]) := by
    rw [linkRel, linkTarget, if_pos habs, Path.relpathPy, Path.norm_normal _ ht, Path.norm_normal _ hcur]
    exact if_neg hne
  rw [h1, Path.resolve, Path.norm,
    foldl_sibling (base ++ pre) (pathSegs itemUrl) d kNonExistent hP ht hd hX hx [],
    List.append_nil, List.reverse_reverse]

/-- the page directory the theorem speaks of is the one `MetaMarkdown.convert` computes from the context's URL -/
theorem current_path_is_sibling_of_page_directories (base ctxUrl : List Path.Seg) :
    currentPath base ctxUrl = base ++ ctxUrl.dropLast.dropLast ++ [kNonExistent] := rfl

/-- **A reference to an entity imported from a remote location is the imported URL, unchanged**, wherever the
    page is. -/
theorem remote_link_href_verbatim (base cur : List Path.Seg) (u : Str) (h : (stripHttp u).isSome = true) :
    linkHref base cur u = u := by
  rw [linkHref, if_pos (startsWith_kHttp u h)]

/-- the second look `RelativeLinksTreeProcessor` takes at every `href` changes nothing unless the reference,
    read from the working directory, happens to lie below the output directory -/
theorem tree_processor_leaves_foreign_href (base cwd cur : List Path.Seg) (href : Str)
    (h : properPrefix base (if isAbs href then Path.norm (pathSegs href) else Path.norm (cwd ++ pathSegs href)) = false) :
    fixHref base cwd cur href = href := by
  simp [fixHref, h]

/-- **Witnesses for the two exclusions** (`decide`): A documented inside `<B's output>/non-existent dir` - the
    reference made from there is followed from `module/` to a place inside B's `module/` directory; and a layout
    in which the reference, read from the working directory, lies below the output directory - the tree processor
    rewrites it into a reference to a page of B (as long as it reads relative references that way: the probed
    `Gen.treeProcessorReadsRelative`; with the candidate repair it leaves the reference alone). -/
theorem textual_link_exclusions_witness :
    let base : List Path.Seg := [chars! "w", chars! "doc"]
    Path.resolve (base ++ [chars! "module"])
        (linkRel base (base ++ [kNonExistent]) (chars! "/w/doc/" ++ kNonExistent ++ chars! "/A/module/m.html"))
      = [chars! "w", chars! "doc", chars! "module", chars! "A", chars! "module", chars! "m.html"] ∧
    (Gen.treeProcessorReadsRelative = true →
      pageHref base [chars! "w"] (base ++ [kNonExistent]) (chars! "/w/w/doc/A/m.html") = chars! "../A/m.html") ∧
    (Gen.treeProcessorReadsRelative = false →
      pageHref base [chars! "w"] (base ++ [kNonExistent]) (chars! "/w/w/doc/A/m.html") = chars! "../../w/doc/A/m.html") ∧
    linkHref base (base ++ [kNonExistent]) (chars! "/w/w/doc/A/m.html") = chars! "../../w/doc/A/m.html" := by
  decide +kernel

/-- Non-vacuity: B documented in `/w/B/doc`, A in `/w/A/doc`: the reference shown on `module/bmod.html` and on
    `lists/modules.html` is `../../../A/doc/module/geom.html` and leads to A's page from both. -/
example :
    let base : List Path.Seg := [chars! "w", chars! "B", chars! "doc"]
    hrefOf base [chars! "w", chars! "B"] (.context [chars! "module", chars! "bmod.html"]) (chars! "/w/A/doc/module/geom.html")
      = chars! "../../../A/doc/module/geom.html" ∧
    Path.resolve (base ++ [chars! "lists"]) (pathSegs (chars! "../../../A/doc/module/geom.html"))
      = [chars! "w", chars! "A", chars! "doc", chars! "module", chars! "geom.html"] ∧
    hrefOf base [chars! "w", chars! "B"] (.context [chars! "module", chars! "bmod.html"]) (chars! "https://ex.invalid/a/module/geom.html")
      = chars! "https://ex.invalid/a/module/geom.html" := by
  decide +kernel

/-! ## `Project.find` among the imported objects -/

/-- **Table fact (probed on every run): `Project.find` passes over imported type-bound procedures** when it looks
    for a bare name - they share `extProcedures` with the module procedures. -/
theorem find_skips_bindings : chars! "boundprocedure" ∈ Gen.findSkips := by decide +kernel

/-- **A bare (or kind-qualified) `[[name]]` never ends at an object of a class `Project.find` skips** - with the
    table fact above: never at a type-bound procedure of A, however the description orders its entities (bindings
    are reached through their type: `child_reference_reaches_entity`).  For every set of loaded objects. -/
theorem bare_name_never_reaches_a_skipped_class (skip : List Str) (os : List XObj) (name : Str) (kind : Option Str)
    (o : XObj) (h : findLoadedWith skip os name kind = .ok (some o)) : skip.contains (xCls o) = false := by
  cases kind with
  | none => exact xFindTop_not_skipped skip name _ o (by simpa [findLoadedWith] using h)
  | some k =>
    simp only [findLoadedWith] at h
    cases hl : Gen.linkTypes.lookup (lower k) with
    | none => simp [hl] at h
    | some c => simp only [hl] at h; exact xFindTop_not_skipped skip name _ o h

theorem bare_name_never_reaches_a_binding (os : List XObj) (name : Str) (kind : Option Str) (o : XObj)
    (h : findLoaded os name kind = .ok (some o)) : xCls o ≠ chars! "boundprocedure" := by
  have h1 := bare_name_never_reaches_a_skipped_class Gen.findSkips os name kind o h
  intro hc
  rw [hc, List.contains_iff_mem.mpr find_skips_bindings] at h1
  cases h1

/-- **Why the table fact is load-bearing** (witness, `decide`): a type `t` with a binding `s`, listed before the
    module subroutine `s`: without the skip `[[s]]` ends at the binding (`type/t.html#boundprocedure-s`), with the
    probed table at the subroutine's page. -/
theorem binding_found_by_bare_name_witness :
    let bnd : XObj := .node (chars! "boundprocedure") (.str (chars! "s")) (.str (chars! "/A/doc/type/t.html#boundprocedure-s"))
      (some (.str (chars! "t"))) none []
    let typ : XObj := .node (chars! "type") (.str (chars! "t")) (.str (chars! "/A/doc/type/t.html")) (some (.str (chars! "m"))) none
      [(chars! "boundprocs", .list [bnd])]
    let sub : XObj := .node (chars! "subroutine") (.str (chars! "s")) (.str (chars! "/A/doc/proc/s.html")) (some (.str (chars! "m"))) none []
    let m : XObj := .node (chars! "module") (.str (chars! "m")) (.str (chars! "/A/doc/module/m.html")) none none
      [(chars! "types", .list [typ]), (chars! "subroutines", .list [sub])]
    outcome (findLoadedWith [] [m] (chars! "s") none)
      = [chars! "boundprocedure", chars! "s", chars! "/A/doc/type/t.html#boundprocedure-s"] ∧
    outcome (findLoaded [m] (chars! "S") none) = [chars! "subroutine", chars! "s", chars! "/A/doc/proc/s.html"] ∧
    outcome (xConvertLink [m] (chars! "t") none (some (chars! "s")) none)
      = [chars! "boundprocedure", chars! "s", chars! "/A/doc/type/t.html#boundprocedure-s"] ∧
    outcome (xConvertLink [m] (chars! "m") none (some (chars! "nosuch")) none)
      = [chars! "module", chars! "m", chars! "/A/doc/module/m.html"] := by
  decide +kernel

/-- **`[[module:entity]]` through `Project.find` / `convert_link`.**  When the search for the parent's name among the
    loaded objects ends at the import of an exported entity `m` (for a module of A and a B without a module of that
    name it does: `reference_to_any_exported_module_resolves`), the whole reference resolves - without the fall-back
    to the parent's page - to the import of an entity of that name (one that `m` lists: `child_reference_reaches_entity`), at A's
    location / `get_url`. -/
theorem reference_through_project_find_reaches_entity (b : Base) (p : Option Json) (os : List XObj)
    (pname : Str) (pkind : Option Str) (name : Str) (url : Option Str) (obj : Str)
    (pt : Option Str) (attrs : List (Str × Attr)) (a : Str) (xs : List Ent)
    (htop : findLoaded os pname pkind = .ok (some (specE b p (.node name url obj pt attrs))))
    (ha : a ∈ Gen.childrenOrder) (hat : a ∈ Gen.attributes) (hl : attrs.lookup a = some (.list xs))
    (en : Str) (eu : Option Str) (eo : Str) (ept : Option Str) (eats : List (Str × Attr))
    (he : Ent.node en eu eo ept eats ∈ xs) :
    ∃ cn cu co cpt cats, lower en = lower cn ∧
      xConvertLink os pname pkind (some en) none = .ok (some (specE b (some (.str name)) (.node cn cu co cpt cats))) ∧
      xUrl (specE b (some (.str name)) (.node cn cu co cpt cats)) = some (.str (rebase b (urlText cu))) := by
  obtain ⟨_, _, cn, cu, co, cpt, cats, _, _, _, _, h5, h6, h7⟩ :=
    child_reference_reaches_entity b p name url obj pt attrs a xs ha hat hl en eu eo ept eats he
  refine ⟨cn, cu, co, cpt, cats, h5, ?_, h7⟩
  simp [xConvertLink, xProjectFind, htop, viaParent, h6]

end Ford.C16
