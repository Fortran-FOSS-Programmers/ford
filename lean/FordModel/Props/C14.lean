/-
  C14 — fixed-form sources document the same as their free-form equivalent.
  Property theorems only; the model is FordModel/Fixed.lean (converter) composed
  with FordModel/Reader.lean (free-form reader), the specification side is
  FordModel/FixedSpec.lean; FordModel/FixedTree.lean and FordModel/FixedProject.lean say how
  a project's files and their INCLUDEd files reach the converter; helper lemmas live in
  FordModel/Lemmas/Fixed.lean and FordModel/Lemmas/FixedRead.lean.
-/
import FordModel.Fixed
import FordModel.FixedSpec
import FordModel.FixedTree
import FordModel.FixedProject
import FordModel.Reader
import FordModel.Lemmas.Fixed
import FordModel.Lemmas.FixedRead
import FordModel.Generated.C14
namespace Ford.C14
open Ford Ford.Fixed

/-- **Tie of the constants.**  The literal tables of `FortranLine.__analyse`,
    `__convert` and `continueLine`, regenerated from the source on every run
    (`translate/c14.py`), have the values the model spells out: comment characters,
    the `len(line) <= 6` / `> 73` thresholds, the column limit 72 (slice and
    both `ljust`s), the `$omp` sentinel and the `0` of column 6; and the
    overflow mark of the variant read from the source (`sourceVariant`) is the
    literal that stands in `excess_line = ... + line[72:]`. -/
theorem model_constants_match_source :
    (∀ c : Char, commentHead (some c) = Gen.commentChars.contains c) ∧
    Gen.shortThreshold = 6 ∧ Gen.longThreshold = 73 ∧ Gen.colLimit = 72 ∧ Gen.padColumns = [72] ∧
    Gen.ompSentinel = ['$', 'o', 'm', 'p'] ∧ Gen.notContChar = ['0'] ∧
    excessMark sourceVariant = Gen.excessLiteral := by
  refine ⟨fun c => ?_, by decide, by decide, by decide, by decide, by decide, by decide, by decide⟩
  -- the table is derived by probing, in code-point order: compare as sets
  have h : Gen.commentChars = ['!', '*', 'C', 'c'] := by decide
  rw [h]
  simp only [commentHead, List.contains_cons, List.contains_nil, Bool.or_false]
  cases c == 'c' <;> cases c == 'C' <;> cases c == '*' <;> cases c == '!' <;> rfl

/-- The converter is line-for-line: whatever the input (junk included),
    whichever limit setting and whichever variant of the code, `convertToFree` yields exactly one output line per
    input line, so the hold-back in `linestack` never drops or duplicates a
    line and source line numbers of the `.f` file stay valid. -/
theorem convertToFree_length (v : Variant) (lim : Bool) (lines : List Str) :
    (convertToFree v lim lines).length = lines.length := by
  simp [convertToFree, convGo_length]

/-- **Simulation.**  For every well-formed fixed-form file - any number of
    statements, any number of continuation lines each, any continuation
    character, any label field, comment lines of every style / blank lines /
    preprocessor lines anywhere (also between continuation lines), any text
    beyond column 72, either limit setting, every variant of the code (for the
    repaired code also blank lines of any length and `!` comment lines starting
    in column 7 or later, anywhere) - the stateful converter
    (`linestack` hold-back, column analysis) produces exactly the equivalent
    free-form file `renderFree`: same lines in the same order, ` &` on exactly
    the lines whose statement goes on, labels in front, comment lines as `!`
    comments. -/
theorem convertToFree_simulation (v : Variant) (lim : Bool) (p : List Item) (h : WF v p) :
    convertToFree v lim (renderFixed p) = renderFree v lim p := by
  have := convGo_sim v lim p [] h.1 (Or.inr h.2)
  simpa [convertToFree, h.2] using this

/-- non-vacuity of the repaired variant's larger class: a statement, a blank line of 9
    blanks, a `!` comment line starting in column 9 and the continuation line form a
    well-formed file for the repaired code (and not for `Variant.asIs`) -/
example : WF Variant.repaired [.init blanks5 ' ' "x = a +".toList, .blank 9, .bang7 2 " note\n".toList,
    .cont '&' " b".toList] ∧
    (Item.blank 9).ok Variant.asIs = false ∧ (Item.bang7 2 " note\n".toList).ok Variant.asIs = false := by
  -- a literal is `String.ofList` of its characters: rewriting `"…".toList` to the character list
  -- first spares the kernel the evaluation of `String.toList`
  simp -index only [String.toList_ofList]
  refine ⟨⟨by decide +kernel, by decide +kernel⟩, by decide +kernel, by decide +kernel⟩

/-- **Held-back lines never separate a statement from its continuation.**  A
    statement line, then any number of lines that are comment lines for the
    variant (column-1 comments of every style, `!` in columns 2-5, blank lines,
    preprocessor lines - and, for the repaired code, blank lines of any length
    and `!` comment lines starting in column 7 or later), then a continuation
    line: the ` &` goes on the statement line, the lines in between come out as
    they are in free form, whatever their number. -/
theorem held_back_lines_transparent (v : Variant) (lim : Bool) (lab5 : Str) (c6 : Char) (body : Str)
    (fill : List Item) (c6' : Char) (body' : Str)
    (ha : (Item.init lab5 c6 body).ok v = true)
    (hf : ∀ f ∈ fill, f.ok v = true ∧ f.isRegular = false)
    (hb : (Item.cont c6' body').ok v = true) :
    convertToFree v lim (renderFixed (.init lab5 c6 body :: (fill ++ [.cont c6' body']))) =
      freeLine v lim (.init lab5 c6 body) true ::
        (fill.map (fun f => freeLine v lim f false) ++ [freeLine v lim (.cont c6' body') false]) := by
  have hmid : ∀ f ∈ fill, f.midOk = true := fun f hm => by simp [Item.midOk, (hf f hm).2]
  have hfree : fill.map (midFree v lim) = fill.map fun f => freeLine v lim f false :=
    List.map_congr_left fun f hm => by rw [midFree, (hf f hm).2]
  have hwf : WF v (.init lab5 c6 body :: (fill ++ [.cont c6' body'])) := by
    refine ⟨fun it hm => ?_, by simp [nextIsCont, Item.isRegular, Item.isCont]⟩
    simp only [List.mem_cons, List.mem_append, List.not_mem_nil, or_false] at hm
    rcases hm with rfl | hm | rfl
    · exact ha
    · exact (hf it hm).1
    · exact hb
  rw [convertToFree_simulation v lim _ hwf]
  simp only [renderFree, Item.isRegular, Bool.true_and]
  rw [nextIsCont_mid fill c6' body' [] hmid, renderFree_mid v lim fill c6' body' [] hmid, hfree]
  rfl

/-- **Repaired code: blank-only lines and column-7 comment lines are comment
    lines** (finding
    `C14-col7-comment-or-blank-line-between-continuation` needs no exclusion
    there): with `blankShort` a line of `n` blanks - any `n` - and with
    `col7Comment` a line whose first non-blank character is a `!` in column 7
    or later are not statement-carrying, never continuation lines, and come out
    unchanged (the blank line without its first six columns); so by
    `held_back_lines_transparent` they cannot take the ` &` of the statement
    before them. -/
theorem blank_and_col7_comment_lines_held_back_repaired (v : Variant) (lim : Bool) (n k : Nat) (rest : Str) :
    (v.blankShort = true →
      (analyse v lim (List.replicate n ' ' ++ ['\n'])).regular = false ∧
      (analyse v lim (List.replicate n ' ' ++ ['\n'])).cont = false ∧
      (analyse v lim (List.replicate n ' ' ++ ['\n'])).conv = List.replicate (n - 6) ' ' ++ ['\n']) ∧
    (v.col7Comment = true →
      (analyse v lim (List.replicate (6 + k) ' ' ++ '!' :: rest)).regular = false ∧
      (analyse v lim (List.replicate (6 + k) ' ' ++ '!' :: rest)).cont = false ∧
      (analyse v lim (List.replicate (6 + k) ' ' ++ '!' :: rest)).conv
        = List.replicate (6 + k) ' ' ++ '!' :: rest) := by
  constructor
  · intro hv
    obtain ⟨hc, hr⟩ := analyse_blank v lim n (by simp [hv])
    exact ⟨hr, (analyse_held v lim _ hr).1, hc⟩
  · intro hv
    obtain ⟨hc, hr⟩ := analyse_bang7 v lim k rest hv
    exact ⟨hr, (analyse_held v lim _ hr).1, hc⟩

/-- **Continuation is column 6, any character.**  A line with blank columns 1-5
    is a continuation line iff column 6 is neither blank nor `0` - for every
    character, every body, both limit settings and every variant of the code;
    it is a statement-carrying line (always for `Variant.asIs`; for the
    repaired code unless column 6 is blank too - then the line may be a
    blank-only line or a column-7 comment line). -/
theorem continuation_any_char (v : Variant) (lim : Bool) (c6 : Char) (body : Str) :
    ((isSpace c6 = false ∨ (v.blankShort = false ∧ v.col7Comment = false)) →
      (analyse v lim (blanks5 ++ c6 :: (body ++ ['\n']))).regular = true) ∧
    (analyse v lim (blanks5 ++ c6 :: (body ++ ['\n']))).cont = !(isSpace c6 || c6 == '0') := by
  have hcont := analyse_cont v lim (blanks5 ++ c6 :: (body ++ ['\n'])) c6 _ rfl
  by_cases hc : isSpace c6 = false ∨ (v.blankShort = false ∧ v.col7Comment = false)
  · have hf : fieldOk v blanks5 c6 body = true := by
      rcases hc with h | h <;> simp [fieldOk, isBlank, h]
    have hr := (analyse_code v lim blanks5 c6 body _ rfl rfl (by decide) (by decide) (by decide) hf).2.1
    rw [hcont, hr]
    exact ⟨fun _ => rfl, rfl⟩
  · have h6 : isSpace c6 = true := by
      cases h : isSpace c6
      · exact absurd (Or.inl h) hc
      · rfl
    refine ⟨fun h => absurd h hc, ?_⟩
    rw [hcont, h6]
    simp

/-- **Labels.**  Whatever stands in columns 1-5 of a statement line (not a
    comment character in column 1, no `!`), the line is *never* taken for a
    continuation because of it - only column 6 decides - and the converted
    line is the label (lower-cased, blanks stripped, one blank after it)
    followed by the statement field.  `fieldOk` holds of every line for
    `Variant.asIs` (`fieldOk_asIs`); for the repaired code it excludes the
    blank-only line and the column-7 comment line, which are comment lines
    there. -/
theorem label_leads_statement (v : Variant) (lim : Bool) (a b c d e c6 : Char) (body : Str)
    (ha : commentHead (some a) = false) (ha' : a ≠ '#') (hb : [b, c, d, e].contains '!' = false)
    (h6 : isSpace c6 = true ∨ c6 = '0') (hlen : body.length ≤ 66)
    (hf : fieldOk v [a, b, c, d, e] c6 body = true) :
    (analyse v lim (a :: b :: c :: d :: e :: c6 :: (body ++ ['\n']))).cont = false ∧
    (analyse v lim (a :: b :: c :: d :: e :: c6 :: (body ++ ['\n']))).conv
      = labelOut [a, b, c, d, e] ++ body ++ ['\n'] := by
  obtain ⟨hconv, -, hcont, -⟩ := analyse_code v lim [a, b, c, d, e] c6 body
    (a :: b :: c :: d :: e :: c6 :: (body ++ ['\n'])) rfl rfl ha (fun h => ha' (Option.some.inj h)) hb hf
  have h66 : ¬ (66 < body.length) := by omega
  rw [hconv, hcont]
  refine ⟨?_, ?_⟩
  · rcases h6 with h | h <;> simp [h]
  · simp [freeCode, h66]

/-- `fieldOk` is no restriction for `Variant.asIs`; for the repaired code it holds e.g. of this labelled line -/
example (lab5 : Str) (c6 : Char) (body : Str) : fieldOk Variant.asIs lab5 c6 body = true := fieldOk_asIs lab5 c6 body
example : fieldOk Variant.repaired "  10 ".toList ' ' " ! x".toList = true := by
  simp -index only [String.toList_ofList]
  decide +kernel

/-- a numeric label placed anywhere in the label field comes out as the digits -/
example : labelOut "  10 ".toList = "10 ".toList := by
  simp -index only [String.toList_ofList]
  decide +kernel
example : labelOut " 0020".toList = "0020 ".toList := by
  simp -index only [String.toList_ofList]
  decide +kernel
example : labelOut "     ".toList = [] := by
  simp -index only [String.toList_ofList]
  decide +kernel

/-- **Comment-line styles.**  A line starting with `c`, `C`, `*` or `!` (and not
    an `$omp` sentinel) becomes the same `!` comment whatever the style, is not
    a statement-carrying line and never a continuation - so it is held back and
    cannot separate a statement from its continuation lines. -/
theorem comment_line_any_style (v : Variant) (lim : Bool) (c : Char) (rest : Str)
    (hc : commentHead (some c) = true) (ho : lower (rest.take 4) ≠ ['$', 'o', 'm', 'p']) :
    (analyse v lim (c :: rest)).conv = '!' :: rest ∧
    (analyse v lim (c :: rest)).regular = false ∧
    (analyse v lim (c :: rest)).cont = false := by
  obtain ⟨hconv, hr⟩ := analyse_comment v lim c rest hc ho
  exact ⟨hconv, hr, (analyse_held v lim _ hr).1⟩

/-- **The OpenMP sentinel is exactly `$omp`.**  A line whose column 1 is a comment
    character is statement-carrying (flushes the held-back lines, has its column 6
    read as a continuation mark) iff its columns 2-5 are, case-insensitively,
    exactly the sentinel regenerated from the source and the line is longer than 6
    characters - whatever else stands in the comment: `$`, `$$$`, RCS keywords,
    commented-out continuation lines, any column-6 character, any length. -/
theorem omp_sentinel_exact (v : Variant) (lim : Bool) (c : Char) (rest : Str)
    (hc : commentHead (some c) = true) :
    (analyse v lim (c :: rest)).regular =
      (decide ((c :: rest).length > 6) && lower (rest.take 4) == Gen.ompSentinel) ∧
    ((analyse v lim (c :: rest)).cont = true → lower (rest.take 4) = Gen.ompSentinel) := by
  have hs : Gen.ompSentinel = ['$', 'o', 'm', 'p'] := by decide
  rw [hs]
  by_cases ho : lower (rest.take 4) = ['$', 'o', 'm', 'p']
  · refine ⟨?_, fun _ => ho⟩
    have hb : isBlank (c :: rest) = false := by simp [isBlank, not_isSpace_of_commentHead c hc]
    have hne : (c == '#') = false := by
      cases h : c == '#'
      · rfl
      · rw [beq_iff_eq.mp h] at hc; cases hc
    simp [analyse, isShortLine, hc, ho, hne, hb]
    rw [← decide_not]
    exact decide_eq_decide.mpr (by omega)
  · obtain ⟨-, hr⟩ := analyse_comment v lim c rest hc ho
    rw [hr, (analyse_held v lim _ hr).1]
    simp [ho]
/-- **Column 72, limit on.**  In the converted line of a statement-carrying
    line longer than 72 columns, everything beyond column 72 stands behind a
    `!` at index ≥ 72; when the visible part (label + columns 7-72, plus the
    ` &` if continued) is comment-free and quote-closed (`Atoms`, the reader's
    own notion), the reader's comment scanner cuts the line exactly there, so
    what reaches the statement is the visible part only. -/
theorem col72_limit_on_partial (v : Variant) (lab body : Str) (amp : Bool) (hlong : body.length > 66)
    (hclean : Atoms (if amp then rstrip (lab ++ body.take 66) ++ [' ', '&'] else rstrip (lab ++ body.take 66))) :
    ∃ vis, freeCode v true lab body amp = vis ++ (excessMark v ++ (body.drop 66 ++ ['\n'])) ∧
      72 ≤ vis.length ∧
      comScan [] (freeCode v true lab body amp) = some vis.length ∧
      rstrip vis = (if amp then rstrip (lab ++ body.take 66) ++ [' ', '&'] else rstrip (lab ++ body.take 66)) := by
  rw [freeCode_cut v lab body amp hlong]
  refine ⟨_, rfl, ?_, ?_, ?_⟩
  · simp [ljust]; omega
  · rw [excessMark_cons, List.cons_append]
    exact comScan_after_atoms _ _ (atoms_ljust _ _ hclean)
  · rw [rstrip_ljust]
    cases amp
    · exact rstrip_idem _
    · exact rstrip_cont_mark _

/-- **Repaired code: the sequence field never forms a doc mark** (finding
    `C14-sequence-field-starting-with-bang` needs no exclusion there).  With
    `spacedExcess` the text beyond column 72 stands behind `! `: whatever that text
    is (also when it starts with `!`, `!!`, `>`...), for every documentation mark
    that does not begin with a blank the reader's doc-mark scanner finds nothing
    in the converted line when the visible part is comment-free and quote-closed;
    the sequence field is an ordinary comment (`col72_limit_on_partial`). -/
theorem sequence_field_never_doc_repaired (v : Variant) (hv : v.spacedExcess = true)
    (lab body : Str) (amp : Bool) (hlong : body.length > 66)
    (hclean : Atoms (if amp then rstrip (lab ++ body.take 66) ++ [' ', '&'] else rstrip (lab ++ body.take 66)))
    (m : Char) (mark : Str) (hm : m ≠ ' ') :
    comScan (m :: mark) (freeCode v true lab body amp) = none := by
  rw [freeCode_cut v lab body amp hlong, excessMark_cons, hv, List.cons_append, comScan,
    comScanAux_of_atoms _ _ _ 0 (atoms_ljust _ _ hclean)]
  simp [startsWith, beq_false_of_ne hm.symm]

/-- **Column 72, limit off.**  With the limit off nothing is cut: no line is
    ever classified long, no `!` is inserted, and the converted line of every
    statement-carrying line of a well-formed file is label + the *whole* body. -/
theorem col72_limit_off (v : Variant) (lab body : Str) (l : Str) :
    (analyse v false l).long = false ∧ (analyse v false l).excess = [] ∧
    freeCode v false lab body false = lab ++ body ++ ['\n'] := by
  simp [analyse, freeCode]

/-- **Continuation mark reaches the reader** (the part of "the output is
    a free-form layout of the same statement" that holds): when the text of a continued
    line is comment-free and quote-closed after removing trailing blanks, the
    free-form line ends in `&` for the reader (no comment is detected, the last
    non-blank character is `&`).  The excluded class - a `!` comment or doc on a
    continued line - is `inline_comment_on_continued_line_witness`. -/
theorem continuation_mark_visible_partial (v : Variant) (lim : Bool) (lab body : Str)
    (hshort : lim = false ∨ body.length ≤ 66)
    (h1 : comScan [] (rstrip (lab ++ body)) = none)
    (h2 : qscan .out (rstrip (lab ++ body)) = .out) :
    comScan [] (dropNL (freeCode v lim lab body true)) = none ∧
    (strip (dropNL (freeCode v lim lab body true))).getLast? = some '&' := by
  rw [dropNL_freeCode_amp v lim lab body hshort]
  refine ⟨?_, List.append_assoc _ [' '] ['&'] ▸ strip_getLast (_ ++ [' ']) '&' rfl⟩
  simp only [comScan] at h1 ⊢
  rw [comScanAux_nil_append, h1, h2]
  rfl

/-- non-vacuity: an ordinary continued line satisfies the hypotheses -/
example : comScan [] (rstrip "call f(a, 'it''s ! no comment',  ".toList) = none ∧
    qscan .out (rstrip "call f(a, 'it''s ! no comment',  ".toList) = .out := by
  simp -index only [String.toList_ofList]
  decide +kernel

/-- **Finding C14-comment-on-continued-line.**  An inline `!` comment on a line
    that is continued: the converter appends ` &` *behind the comment*; the
    reader's comment scanner cuts the line before it, so the continuation mark
    is lost. -/
theorem inline_comment_on_continued_line_witness :
    convertToFree Variant.asIs true ["      x = a + ! c\n".toList, "     & b\n".toList]
      = ["x = a + ! c &\n".toList, " b\n".toList] ∧
    comScan [] "x = a + ! c &".toList = some 8 := by
  simp -index only [String.toList_ofList]
  decide +kernel

/-- **Finding C14-col7-comment-or-blank-line-between-continuation.**  A comment
    line whose `!` stands in column 7 (or a blank line of more than 5 blanks)
    between a line and its continuation is taken for a statement-carrying
    line: the statement line is released without ` &`, the mark lands on the
    comment / blank line. -/
theorem col7_comment_between_witness :
    convertToFree Variant.asIs true ["      x = a +\n".toList, "      ! note\n".toList, "     & b\n".toList]
      = ["x = a +\n".toList, "! note &\n".toList, " b\n".toList] ∧
    convertToFree Variant.asIs true ["      x = a +\n".toList, "        \n".toList, "     & b\n".toList]
      = ["x = a +\n".toList, " &\n".toList, " b\n".toList] := by
  simp -index only [String.toList_ofList]
  decide +kernel

/-- **Finding C14-sequence-field-starting-with-bang.**  Limit on, the text
    beyond column 72 starts with `!`: behind the inserted `!` it reads `!!…`,
    which the reader takes for a doc comment (doc mark `!`). -/
theorem sequence_field_bang_witness :
    (analyse Variant.asIs true ("      x = 1".toList ++ List.replicate 61 ' ' ++ "!SEQ\n".toList)).conv
      = "x = 1".toList ++ List.replicate 67 ' ' ++ "!!SEQ\n".toList ∧
    comScan ['!'] ("x = 1".toList ++ List.replicate 67 ' ' ++ "!!SEQ".toList) = some 72 := by
  simp -index only [String.toList_ofList]
  decide +kernel

/-- **Finding C14-doc-comment-text-beyond-col72-kept.**  Limit on, an inline
    doc comment that runs past column 72: the doc mark is found before column
    72, so the text behind the inserted `!` stays part of the doc. -/
theorem doc_past_col72_witness :
    (analyse Variant.asIs true ("      x = 1 !! d".toList ++ List.replicate 56 'o' ++ "c tail\n".toList)).conv
      = "x = 1 !! d".toList ++ List.replicate 56 'o' ++ "      !c tail\n".toList ∧
    comScan ['!'] ("x = 1 !! d".toList ++ List.replicate 56 'o' ++ "      !c tail".toList) = some 6 := by
  simp -index only [String.toList_ofList]
  decide +kernel

/-- the inline-comment finding is not touched by the repair -/
theorem inline_comment_on_continued_line_witness_repaired :
    convertToFree Variant.repaired true ["      x = a + ! c\n".toList, "     & b\n".toList]
      = ["x = a + ! c &\n".toList, " b\n".toList] := by
  simp -index only [String.toList_ofList]
  decide +kernel

/-- **Repaired code, the witnesses of finding
    C14-col7-comment-or-blank-line-between-continuation come out right:** the
    ` &` is on the statement line, the comment / blank line is passed through. -/
theorem col7_comment_between_repaired :
    convertToFree Variant.repaired true ["      x = a +\n".toList, "      ! note\n".toList, "     & b\n".toList]
      = ["x = a + &\n".toList, "      ! note\n".toList, " b\n".toList] ∧
    convertToFree Variant.repaired true ["      x = a +\n".toList, "        \n".toList, "     & b\n".toList]
      = ["x = a + &\n".toList, "  \n".toList, " b\n".toList] := by
  simp -index only [String.toList_ofList]
  decide +kernel

/-- **Repaired code, the witness of finding C14-sequence-field-starting-with-bang
    comes out right:** `!SEQ` stands behind `! `, the doc-mark scanner finds nothing. -/
theorem sequence_field_bang_repaired :
    (analyse Variant.repaired true ("      x = 1".toList ++ List.replicate 61 ' ' ++ "!SEQ\n".toList)).conv
      = "x = 1".toList ++ List.replicate 67 ' ' ++ "! !SEQ\n".toList ∧
    comScan ['!'] ("x = 1".toList ++ List.replicate 67 ' ' ++ "! !SEQ".toList) = none ∧
    comScan [] ("x = 1".toList ++ List.replicate 67 ' ' ++ "! !SEQ".toList) = some 72 := by
  simp -index only [String.toList_ofList]
  decide +kernel

/-- the doc-beyond-column-72 finding is not repaired: the tail stays part of the doc -/
theorem doc_past_col72_witness_repaired :
    (analyse Variant.repaired true ("      x = 1 !! d".toList ++ List.replicate 56 'o' ++ "c tail\n".toList)).conv
      = "x = 1 !! d".toList ++ List.replicate 56 'o' ++ "      ! c tail\n".toList := by
  simp -index only [String.toList_ofList]
  decide +kernel

/-- **Documentation marks in comment lines of every style**.
    A line whose column 1 is `c`, `C`, `*` or `!` is a documentation line for a mark - any
    mark: `docmark`, `predocmark`, the alternative marks, a customised one, of any length -
    exactly when the mark stands in columns 2 and following, precisely as for the free-form
    line `!` + the same text: the reader's mark scanner finds the converted line at index 0
    iff the text behind column 1 starts with the mark, and never anywhere else.  So `C*`,
    `c|`, `*>`, `C<` lines document what `!*`, `!|`, `!>`, `!<` document. -/
theorem comment_line_doc_mark_any_style (v : Variant) (lim : Bool) (c : Char) (rest mark : Str)
    (hc : commentHead (some c) = true) (ho : lower (rest.take 4) ≠ ['$', 'o', 'm', 'p']) :
    comScan mark (analyse v lim (c :: rest)).conv = comScan mark ('!' :: rest) ∧
    comScan mark (analyse v lim (c :: rest)).conv = (if startsWith rest mark then some 0 else none) := by
  rw [(comment_line_any_style v lim c rest hc ho).1]
  simp [comScan, comScanAux]

/-- non-vacuity: `C* text` is found by the alternative mark `*`, `C text` by no mark -/
example : comScan ['*'] (analyse Variant.repaired true "C* sub-diagonal\n".toList).conv = some 0 ∧
    comScan ['*'] (analyse Variant.repaired true "C  first element\n".toList).conv = none ∧
    comScan ['<'] (analyse Variant.asIs false "*< custom\n".toList).conv = some 0 := by
  simp -index only [String.toList_ofList]
  decide +kernel

/-- **Included files are read in the same form and with the same column-72 setting**.
    `FortranReader.include` reads the named file with a nested reader that
    gets the including reader's `fixed` and `length_limit` (`readFixedTree`: the converter with the
    same limit in front of every reader of the tree).  Hence for every tree of well-formed
    fixed-form files - any include depth, any number of include lines wherever `include()`
    looks at them, either limit setting, every variant of the code, every set of marks - reading
    the fixed-form tree gives exactly what reading the tree of the equivalent free-form files
    gives: each include statement is replaced by the items of the equivalent free-form file,
    lines beyond column 72 of an included file kept when the limit is off and cut when it is on,
    exactly as in the including file. -/
theorem include_tree_same_form_and_limit (c : Include.Cfg) (v : Variant) (lim : Bool) (m : Marks)
    (ps : List (Str × List Item)) (hwf : ∀ f ∈ ps, WF v f.2) (main : List Item) (hmain : WF v main)
    (depth : Nat) :
    readFixedTree c v lim m (ps.map fun f => (f.1, renderFixed f.2)) depth (renderFixed main) =
      readFreeTree c m (ps.map fun f => (f.1, renderFree v lim f.2)) depth (renderFree v lim main) := by
  simp only [readFixedTree, readFreeTree, fixedView, freeView, List.map_map]
  rw [convertToFree_simulation v lim main hmain]
  congr 1
  apply List.map_congr_left
  intro f hf
  simp only [Function.comp]
  rw [convertToFree_simulation v lim f.2 (hwf f hf)]

/-- non-vacuity: limit off, the included file has a declaration that runs beyond column 72 -
    the fixed-form tree yields the whole line, as the free-form tree does.  The `Include.Cfg` here
    and below has all four flags on (`incPrologue`, `incEpilogue`, `guarded`, `kwLoose`); the
    theorems hold for every `Include.Cfg`. -/
example :
    (readFixedTree ⟨true, true, true, true⟩ Variant.repaired false Marks.default
      [("w.inc".toList, [("      integer n_alpha, n_beta" ++ String.ofList (List.replicate 40 ' ') ++ ", n_theta\n").toList])]
      3 ["      include 'w.inc'\n".toList, "      x = 1\n".toList]).toOption
    = some [("integer n_alpha, n_beta" ++ String.ofList (List.replicate 40 ' ') ++ ", n_theta").toList, "x = 1".toList] := by
  simp -index only [String.toList_ofList, String.toList_append]
  decide +kernel

/-- **The form is chosen by the extension: every fixed-form extension is read in fixed form**.
    Whatever the two extension lists are - also when an extension
    stands in both, which is what `ProjectSettings.__post_init__` produces for the preprocessed
    fixed-form extensions - a file whose extension is a fixed-form extension is parsed, and in
    fixed form; a file is parsed in free form only if its extension is not a fixed-form one. -/
theorem fixed_extension_selects_fixed_form (extensions fixedExtensions : List Str) (ext : Str) :
    (ext ∈ fixedExtensions → sourceForm extensions fixedExtensions ext = some true) ∧
    (sourceForm extensions fixedExtensions ext = some false → ext ∉ fixedExtensions ∧ ext ∈ extensions) := by
  constructor
  · intro h
    simp [sourceForm, h]
  · intro h
    simp only [sourceForm] at h
    split at h
    · rename_i hmem
      have hf : fixedExtensions.contains ext = false := by simpa using h
      have hnot : ext ∉ fixedExtensions := by simpa using hf
      refine ⟨hnot, ?_⟩
      have : ext ∈ extensions ++ fixedExtensions := by simpa using hmem
      rcases List.mem_append.mp this with h1 | h2
      · exact h1
      · exact absurd h2 hnot
    · cases h

/-- **... in particular with the extension lists of a default project**, regenerated from
    `ProjectSettings()` on every run: each of its fixed-form extensions selects the fixed form,
    although some of them (the preprocessed ones) are also in the effective free-form list. -/
theorem default_fixed_extensions_select_fixed_form :
    ∀ ext ∈ Gen.fixedExtensions, sourceForm Gen.extensions Gen.fixedExtensions ext = some true :=
  fun ext h => (fixed_extension_selects_fixed_form Gen.extensions Gen.fixedExtensions ext).1 h

/-- non-vacuity: an extension in both lists (the `.F` trap), one in neither -/
example : sourceForm ["F".toList, "f90".toList] ["f".toList, "F".toList] "F".toList = some true ∧
    sourceForm ["F".toList, "f90".toList] ["f".toList, "F".toList] "f90".toList = some false ∧
    sourceForm ["F".toList, "f90".toList] ["f".toList, "F".toList] "txt".toList = none := by
  simp -index only [String.toList_ofList]
  decide +kernel

/-! ### With which configuration a project's file and its INCLUDEd files are read -/

/-- **A fixed-form file is read with the `fixed_length_limit` *setting*, preprocessed or not**.
    Whatever the three extension lists and the setting are: a file
    whose extension is a fixed-form extension is parsed, its reader is constructed with
    `fixed = True` and `length_limit =` the setting - also when the extension is a preprocessed one
    (`.F`, `.FOR` of a default project), the only thing that membership in `fpp_extensions`
    decides is whether the preprocessor runs first.  So "text beyond column 72 ignored when the
    length limit is on and kept when it is off" is decided by the setting alone. -/
theorem fixed_file_reader_config (s : ProjSettings) (ext : Str) (h : ext ∈ s.fixedExtensions) :
    fileCfg s ext = some { fixed := true, lim := s.lengthLimit, pp := s.fppExtensions.contains ext } := by
  simp [fileCfg, (fixed_extension_selects_fixed_form s.extensions s.fixedExtensions ext).1 h]

/-- **... for every file that is parsed at all the limit handed to the reader is the setting**
    (free-form files carry it along unused; their INCLUDEd files inherit it). -/
theorem reader_limit_is_the_setting (s : ProjSettings) (ext : Str) (c : ReaderCfg)
    (h : fileCfg s ext = some c) : c.lim = s.lengthLimit ∧ c.pp = s.fppExtensions.contains ext := by
  simp only [fileCfg] at h
  split at h
  · cases h
  · cases h; exact ⟨rfl, rfl⟩

/-- **`preprocess: false` switches the preprocessor off for every file and changes nothing else**:
    same form, same limit. -/
theorem preprocess_off_only_drops_the_preprocessor (exts fixedExts fpp : List Str) (lim : Bool) (ext : Str) :
    fileCfg ⟨exts, fixedExts, effectiveFpp false fpp, lim⟩ ext =
      (fileCfg ⟨exts, fixedExts, fpp, lim⟩ ext).map includeCfg := by
  simp only [fileCfg, effectiveFpp]
  cases sourceForm exts fixedExts ext <;> simp [includeCfg]

/-- **INCLUDEd files inherit form and limit, never the preprocessor - at every depth.** -/
theorem included_file_inherits_form_and_limit (c : ReaderCfg) :
    (includeCfg c).fixed = c.fixed ∧ (includeCfg c).lim = c.lim ∧ (includeCfg c).pp = false ∧
    includeCfg (includeCfg c) = includeCfg c := by
  simp [includeCfg]

/-- **The default project**: the lists regenerated from `ProjectSettings()` on every run; each
    fixed-form extension, with preprocessing on or off, either limit setting, is read in fixed form
    with the setting as its limit; and the situation is not empty - there are default fixed-form
    extensions that are preprocessed. -/
theorem default_fixed_extensions_keep_the_limit_setting :
    (∀ ext ∈ Gen.fixedExtensions, ∀ preprocess lim : Bool,
      fileCfg ⟨Gen.extensions, Gen.fixedExtensions, effectiveFpp preprocess Gen.fppExtensions, lim⟩ ext =
        some { fixed := true, lim := lim, pp := (effectiveFpp preprocess Gen.fppExtensions).contains ext }) ∧
    (∃ ext ∈ Gen.fixedExtensions, Gen.fppExtensions.contains ext = true) := by
  constructor
  · intro ext h preprocess lim
    exact fixed_file_reader_config ⟨_, _, _, lim⟩ ext h
  · decide +kernel

/-- **The probed wiring is the modelled one.**  `Gen.readerCfgProbe` is regenerated on every run
    by constructing the real `FortranSourceFile` for each of the 8 combinations (fixed, limit
    setting, preprocessor given) on a file that INCLUDEs another one and recording the arguments
    the real `FortranReader`s are constructed with: the main reader gets exactly (fixed, setting,
    preprocessor), the nested reader `includeCfg` of that.  All 8 combinations are present. -/
theorem reader_config_probe_matches_model :
    (∀ row ∈ Gen.readerCfgProbe,
      let c : ReaderCfg := { fixed := row.1.1, lim := row.1.2.1, pp := row.1.2.2 }
      (⟨row.2.1.1, row.2.1.2.1, row.2.1.2.2⟩ : ReaderCfg) = c ∧
      (⟨row.2.2.1, row.2.2.2.1, row.2.2.2.2⟩ : ReaderCfg) = includeCfg c) ∧
    (∀ a b c : Bool, (Gen.readerCfgProbe.map (·.1)).contains (a, b, c) = true) := by
  decide +kernel

/-- **A fixed-form file of a project, preprocessed or not, reads as its free-form equivalent**.
    For every project (any extension lists, either limit setting, preprocessing on or
    off), every file with a fixed-form extension, every preprocessor `pp` (any function) and every
    tree of INCLUDEd files: when what reaches the converter - the file itself, or the
    preprocessor's output for a preprocessed extension - is a well-formed fixed-form file `main`,
    the items are those of the equivalent free-form tree rendered *with the limit setting*
    (text beyond column 72 cut iff the setting is on), in the main file and in every INCLUDEd
    file at every depth. -/
theorem project_fixed_file_same_as_free_equivalent (ic : Include.Cfg) (v : Variant) (s : ProjSettings)
    (ext : Str) (hext : ext ∈ s.fixedExtensions) (m : Marks) (pp : List Str → List Str)
    (ps : List (Str × List Item)) (hwf : ∀ f ∈ ps, WF v f.2) (main : List Item) (hmain : WF v main)
    (raw : List Str)
    (hraw : (if s.fppExtensions.contains ext then pp raw else raw) = renderFixed main) (depth : Nat) :
    ∃ c, fileCfg s ext = some c ∧
      readProjectFile ic v c m pp (ps.map fun f => (f.1, renderFixed f.2)) depth raw =
        readFreeTree ic m (ps.map fun f => (f.1, renderFree v s.lengthLimit f.2)) depth
          (renderFree v s.lengthLimit main) := by
  refine ⟨_, fixed_file_reader_config s ext hext, ?_⟩
  rw [← include_tree_same_form_and_limit ic v s.lengthLimit m ps hwf main hmain depth]
  simp only [readProjectFile, readFixedTree, readerView, includeCfg, hraw, List.map_map]
  simp [Function.comp_def]

/-- non-vacuity (the `.F` situation of a default project, limit on): the sequence field of a
    preprocessed fixed-form file is not part of the statement; with the limit off it is -/
example :
    (fileCfg ⟨Gen.extensions, Gen.fixedExtensions, Gen.fppExtensions, true⟩ "F".toList).map
      (fun c => (c, (readProjectFile ⟨true, true, true, true⟩ Variant.repaired c Marks.default id [] 2
        [("      integer n".toList ++ List.replicate 57 ' ' ++ "FILL0020\n".toList)]).toOption))
      = some (⟨true, true, true⟩, some ["integer n".toList]) ∧
    (fileCfg ⟨Gen.extensions, Gen.fixedExtensions, Gen.fppExtensions, false⟩ "F".toList).map
      (fun c => (c, (readProjectFile ⟨true, true, true, true⟩ Variant.repaired c Marks.default id [] 2
        [("      integer n".toList ++ List.replicate 57 ' ' ++ "FILL0020\n".toList)]).toOption))
      = some (⟨true, false, true⟩, some [("integer n".toList ++ List.replicate 57 ' ' ++ "FILL0020".toList)]) := by
  simp -index only [String.toList_ofList]
  decide +kernel

/-! ### Converter and reader composed on one continued statement -/

/-- **A fixed-form statement continued over any number of lines is read as one logical line**.
    The file: an initial line (any label, column 6 blank or `0`), then any mixture of held-back
    lines (comment lines of every style, blank lines, `!`-lines) and continuation lines (any
    column-6 character), a last continuation line, then the rest of the file (which starts a new
    statement).  `list(FortranReader(file, fixed=True, length_limit=lim))` - converter, then
    reader - yields the items of the single logical line obtained by joining the statement
    fields (`Mid.join`: one blank between the pieces), split at `;` outside literals, followed
    by what the rest of the file yields.  The hypotheses on the individual lines are those of
    C02's `layout_join`, stated on the *free-form equivalent* of each fixed-form line
    (`freeLine`): no doc comment on it and its code part is the intended piece;
    `comment_line_between_is_transparent` / `continuation_line_code_part` below give these
    per-line facts for comment lines and for continuation lines (while `unterminated J = false`);
    putting them together into `Rendered` is left to the user of the theorem.  Every variant of the code, both limit settings,
    every mark set; no bound on the number of lines. -/
theorem fixed_statement_reads_as_one_logical_line (v : Variant) (lim : Bool) (m : Marks)
    (lab5 : Str) (c6 : Char) (body0 : Str) (mid : List Item) (cn : Char) (bodyn : Str) (rest : List Item)
    (hwf : WF v (.init lab5 c6 body0 :: (mid ++ .cont cn bodyn :: rest)))
    (hmid : ∀ it ∈ mid, it.midOk = true) (hrest : nextIsCont rest = false)
    (x : Char) (r : Str) (mids : List Mid) (lead : Bool) (b : Str)
    (h0 : NoDoc m false (dropNL (freeLine v lim (.init lab5 c6 body0) true)))
    (hc0 : codeOf false (dropNL (freeLine v lim (.init lab5 c6 body0) true)) = x :: r ++ ['&']) (hx : x ≠ '&')
    (hr : Rendered m (' ' :: x :: r) mids (mid.map fun it => dropNL (midFree v lim it)))
    (hn : NoDoc m (unterminated (mids.foldl Mid.join (' ' :: x :: r)))
      (dropNL (freeLine v lim (.cont cn bodyn) false)))
    (hcn : codeOf (unterminated (mids.foldl Mid.join (' ' :: x :: r)))
      (dropNL (freeLine v lim (.cont cn bodyn) false)) = lastCode lead b)
    (hb : isBlank b = false) (hl : b.getLast? ≠ some '&')
    (hh : lead = false → ∃ y t, b = y :: t ∧ y ≠ '&')
    (hJ : itemsOf (Mid.join (mids.foldl Mid.join (' ' :: x :: r)) (.cont lead b)) ≠ []) :
    readAll m ((convertToFree v lim (renderFixed (.init lab5 c6 body0 :: (mid ++ .cont cn bodyn :: rest)))).map dropNL) =
      match readAll m ((convertToFree v lim (renderFixed rest)).map dropNL) with
      | .error e => .error e
      | .ok more => .ok (itemsOf (Mid.join (mids.foldl Mid.join (' ' :: x :: r)) (.cont lead b)) ++ more) := by
  have hwr : WF v rest := ⟨fun it hm => hwf.1 it (by simp [hm]), hrest⟩
  rw [convertToFree_simulation v lim _ hwf, convertToFree_simulation v lim rest hwr]
  simp only [renderFree, Item.isRegular, Bool.true_and]
  rw [nextIsCont_mid mid cn bodyn rest hmid, renderFree_mid v lim mid cn bodyn rest hmid]
  simp only [renderFree, Item.isRegular, Bool.true_and, hrest, List.map_cons, List.map_append, List.map_map]
  -- `readAll m` unfolds to `readFrom m (qs [] false)`, the form `continuation_join` speaks of
  exact continuation_join m _ x r mids _ _ lead b _ h0 hc0 hx hr hn hcn hb hl hh hJ

/-- **Comment lines of every style between the lines of a statement are transparent to the
    reader.**  The free-form equivalent of a `c`/`C`/`*`/`!` comment line whose text does not
    begin with a documentation mark carries no doc comment and no code: in
    `fixed_statement_reads_as_one_logical_line` it is a `Mid.blank`, the joined text is
    unchanged by it. -/
theorem comment_line_between_is_transparent (v : Variant) (lim : Bool) (m : Marks) (c : Char) (t : Str)
    (J : Str) (hJ : unterminated J = false)
    (h1 : startsWith t m.pre = false) (h2 : startsWith t m.preAlt = false)
    (h3 : startsWith t m.alt = false) (h4 : startsWith t m.doc = false) (ht : t.getLast? ≠ some '\n') :
    dropNL (midFree v lim (.comment c (t ++ ['\n']))) = '!' :: t ∧
    NoDoc m (unterminated J) ('!' :: t) ∧ codeOf (unterminated J) ('!' :: t) = Mid.blank.code ∧
    Mid.blank.join J = J := by
  have hd : dropNL (midFree v lim (.comment c (t ++ ['\n']))) = '!' :: t := by
    have : ('!' :: (t ++ ['\n'])) = ('!' :: t) ++ ['\n'] := rfl
    simp only [midFree, freeLine, dropNL, this, List.getLast?_append, List.dropLast_concat]
    simp
  rw [hJ]
  exact ⟨hd, (comment_line_no_code m t h1 h2 h3 h4).1, (comment_line_no_code m t h1 h2 h3 h4).2, rfl⟩

/-- the situation of `fixed_statement_reads_as_one_logical_line` on one input, evaluated: label, column-6 `0`, two
    continuation lines, a `C` comment line, a blank line and a `*` comment line in between,
    then a second statement - two items, the first one the joined statement -/
example :
    (readAll Marks.default ((convertToFree Variant.repaired true
      ["  10 0call f(a,\n".toList, "C note\n".toList, "     &  b,\n".toList, "\n".toList, "* more\n".toList,
       "     1  c)\n".toList, "      x = 1\n".toList]).map dropNL)).toOption
      = some ["10 call f(a, b, c)".toList, "x = 1".toList] := by
  simp -index only [String.toList_ofList]
  decide +kernel

/-- **The statement field of a continuation line is the piece that is joined** - whatever the
    continuation character in column 6.  For a continuation line that is not cut (limit off, or
    nothing beyond column 72) whose statement field is comment-free and quote-closed, does not
    start with `&` or `#` and is not blank: its free-form equivalent is the field with ` &`
    appended, carries no doc comment, and in `fixed_statement_reads_as_one_logical_line` it is the
    piece `Mid.cont false` of the field without the blanks around it - joined to what came before
    with exactly one blank. -/
theorem continuation_line_code_part (v : Variant) (lim : Bool) (m : Marks) (c : Char) (body J : Str)
    (hJ : unterminated J = false) (hshort : lim = false ∨ body.length ≤ 66)
    (hs : Atoms (rstrip body ++ [' ', '&'])) (hne : isBlank (rstrip body) = false)
    (hhead : ∀ y, (lstrip (rstrip body)).head? = some y → y ≠ '&' ∧ y ≠ '#') :
    dropNL (midFree v lim (.cont c body)) = rstrip body ++ [' ', '&'] ∧
    NoDoc m (unterminated J) (rstrip body ++ [' ', '&']) ∧
    codeOf (unterminated J) (rstrip body ++ [' ', '&']) = (Mid.cont false (lstrip (rstrip body) ++ [' '])).code ∧
    (Mid.cont false (lstrip (rstrip body) ++ [' '])).wf ∧
    (Mid.cont false (lstrip (rstrip body) ++ [' '])).join J = strip J ++ ' ' :: (lstrip (rstrip body) ++ [' ']) := by
  obtain ⟨y, r, hy⟩ := lstrip_ne_nil_of_not_blank _ hne
  have hyy := hhead y (by simp [hy])
  have hd : dropNL (midFree v lim (.cont c body)) = rstrip body ++ [' ', '&'] :=
    dropNL_freeCode_amp v lim [] body hshort
  rw [hJ]
  refine ⟨hd, ⟨?_, matchDocmark_plain _ _ hs, matchDocmark_plain _ _ hs, matchDocmark_plain _ _ hs,
    matchDocmark_plain _ _ hs⟩, ?_, ?_, rfl⟩
  · simp only [firstStripped, lstrip_append_of_not_blank _ _ hne, hy]
    simpa using hyy.2
  · rw [codeOf_continued _ hs hne]; rfl
  · exact ⟨y, r ++ [' '], by simp [hy], hyy.1⟩

/-- non-vacuity of `continuation_line_code_part`: column 6 is `$`, the field has blanks on both
    sides and a literal with `!` and `&` in it -/
example :
    dropNL (midFree Variant.repaired true (.cont '$' "   b // 'it!&'  ".toList)) = "   b // 'it!&' &".toList ∧
    codeOf false "   b // 'it!&' &".toList = (Mid.cont false "b // 'it!&' ".toList).code := by
  simp -index only [String.toList_ofList]
  decide +kernel

end Ford.C14
