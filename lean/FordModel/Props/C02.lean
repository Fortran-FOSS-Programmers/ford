/-
  C02 — statement and doc extraction depends only on Fortran lexical rules.
  The property theorems; the lemmas they rest on live in FordModel/Lemmas.
-/
import FordModel.Reader
import FordModel.Lemmas.Split
import FordModel.Lemmas.Reader
import FordModel.Lemmas.ReaderLayout
import FordModel.Lemmas.ReaderSplit
import FordModel.InitialValue
import FordModel.Lemmas.InitialValue
import FordModel.Lemmas.ReaderLiteral
import FordModel.Lemmas.MaskPass
import FordModel.TypeSpec
import FordModel.Include
import FordModel.IncludeCfg
import FordModel.Lemmas.Include
import FordModel.PassBack
import FordModel.PassBackCfg
import FordModel.Lemmas.PassBack
namespace Ford.C02
open Ford

/-- `quote_split` loses nothing: re-joining the pieces with the separator gives
    the input back, for every string and separator. -/
theorem quoteSplit_join (sep : Char) (s : Str) : joinSep sep (quoteSplit sep s) = s := by
  simp [quoteSplit, join_qsplitAux]

/-- `quote_split` (two flags, two-character look-ahead for doubled quotes) splits
    exactly where Fortran's lexical scanner is outside a character literal: it
    equals the one-state-machine specification `splitSpec` for every input, so a
    `;` (or `,`) inside a literal - whatever else the literal contains: the other
    quote, doubled quotes, `!`, `&` - never separates statements, and one outside
    always does. -/
theorem quoteSplit_lexical (sep : Char) (hs : isQuote sep = false) (s : Str) :
    quoteSplit sep s = splitSpec sep s .out [] :=
  qsplitAux_eq_spec sep hs s false false [] .out .out

/-- The comment / doc-mark pattern `^([^"'!]|'[^']*'|"[^"]*")*(!MARK.*)$` has the
    deterministic reading `comScan`: the scanner returns `i` iff the pattern can
    match with its last group starting at `i`. -/
theorem comScan_iff (mark l : Str) (i : Nat) : comScan mark l = some i ↔ ComMatch mark l i := by
  constructor
  · intro h
    obtain ⟨p, s, hl, hp, hi, hs⟩ := comScanAux_some mark l .out 0 i h
    exact ⟨p, s, hl, hp, by omega, hs⟩
  · rintro ⟨p, s, hl, hp, hi, hs⟩
    subst hl
    simp [comScan, comScanAux_of_atoms mark p s 0 hp, hs, hi]

/-- ... hence the match is unique: it does not depend on how the regex engine
    explores the alternatives, and only the first `!` outside the quote atoms
    can start a comment or doc comment. -/
theorem comMatch_unique (mark l : Str) (i j : Nat) (hi : ComMatch mark l i) (hj : ComMatch mark l j) :
    i = j := by
  have h1 := (comScan_iff mark l i).2 hi
  have h2 := (comScan_iff mark l j).2 hj
  rw [h1] at h2
  exact Option.some.inj h2

/-- A `!` inside a closed literal is never a comment start; the first one outside is. -/
example : comScan [] "x = 'a!b' ! c".toList = some 10 := by
  -- a string literal is `String.ofList` of its characters: rewriting gives the character list at once,
  -- where evaluating `toList` on the literal is quadratic in its length
  simp -index only [String.toList_ofList]
  decide +kernel
example : comScan ['!'] "x = 'a!!b' !! c".toList = some 11 := by
  simp -index only [String.toList_ofList]
  decide +kernel
/-- literal still open at the `!` : no match -/
example : comScan [] "x = 'a ! b".toList = none := by
  simp -index only [String.toList_ofList]
  decide +kernel


/-- **Layout invariance of a continued statement.**  A statement laid out over any
    number of physical lines - first line `b0 &`, then any mixture of blank lines,
    comment lines, `&`-only lines and continuation lines `[&] b &`, then a last line
    `[&] bn` - is read as the single logical line obtained by joining the pieces (a
    leading `&` joins the piece directly, its absence joins with exactly one blank),
    which is then split at the `;` outside literals (`quoteSplit_lexical`).  The
    hypotheses say only that each physical line carries no doc comment and that its
    *code part*, under the lexical state the reader is in at that point, is the piece the
    layout intends (`Rendered`); `code_part_*` below discharge that from the spelling of
    the line.  No bound on the number of lines, pieces, or their lengths. -/
theorem layout_join (m : Marks) (l0 : Str) (x : Char) (r : Str) (mids : List Mid)
    (lines : List Str) (ln : Str) (lead : Bool) (b : Str) (rest : List Str)
    (h0 : NoDoc m false l0) (hc0 : codeOf false l0 = x :: r ++ ['&']) (hx : x ≠ '&')
    (hr : Rendered m (' ' :: x :: r) mids lines)
    (hn : NoDoc m (unterminated (mids.foldl Mid.join (' ' :: x :: r))) ln)
    (hcn : codeOf (unterminated (mids.foldl Mid.join (' ' :: x :: r))) ln = lastCode lead b)
    (hb : isBlank b = false) (hl : b.getLast? ≠ some '&')
    (hh : lead = false → ∃ y t, b = y :: t ∧ y ≠ '&')
    (hJ : itemsOf (Mid.join (mids.foldl Mid.join (' ' :: x :: r)) (.cont lead b)) ≠ []) :
    readFrom m (qs [] false) (l0 :: lines ++ ln :: rest) =
      match readFrom m (qs [] false) rest with
      | .error e => .error e
      | .ok more =>
        .ok (itemsOf (Mid.join (mids.foldl Mid.join (' ' :: x :: r)) (.cont lead b)) ++ more) :=
  continuation_join m l0 x r mids lines ln lead b rest h0 hc0 hx hr hn hcn hb hl hh hJ

/-- Blank lines, comment lines and `&`-only lines inside a continued statement are
    transparent: inserting any number of them anywhere between the pieces does not
    change the joined text (exact equality, not modulo blanks). -/
theorem comment_lines_transparent (J : Str) (mids : List Mid)
    (h : ∀ mid ∈ mids, mid = .blank ∨ ∃ ws, mid = .ampOnly ws) : mids.foldl Mid.join J = J := by
  induction mids generalizing J with
  | nil => rfl
  | cons mid ms ih =>
    have hm := h mid (by simp)
    have : mid.join J = J := by
      rcases hm with hm | ⟨ws, hm⟩ <;> subst hm <;> rfl
    simp only [List.foldl_cons, this]
    exact ih J (fun m' hm' => h m' (by simp [hm']))

/-- A piece continued with a leading `&` is appended byte for byte - this is how a
    character literal continued across lines is re-joined exactly: nothing is
    inserted, stripped or interpreted between `J` and `b`, whatever `b` contains. -/
theorem leading_amp_joins_verbatim (J b : Str) : Mid.join J (.cont true b) = J ++ b := rfl

/-- The code part of a physical line that starts outside a literal: the first `!`
    outside the (closed) literals starts the comment, whatever the comment contains
    (quotes, `;`, `&`, further `!`); a `!` inside a literal does not. -/
theorem code_part_outside_comment (p cmt : Str) (hp : Atoms p) :
    codeOf false (p ++ '!' :: cmt) = strip p := codeOf_outside_comment p cmt hp

theorem code_part_outside_plain (p : Str) (hp : Atoms p) : codeOf false p = strip p :=
  codeOf_outside_plain p hp

/-- a line ending inside a literal that the next line continues: any `!` in the open
    literal is text, the whole line is code -/
theorem code_part_outside_open_literal (p : Str) (q : Char) (body : Str) (hp : Atoms p)
    (hq : isQuote q = true) (hb : q ∉ body) :
    codeOf false (p ++ q :: body) = strip (p ++ q :: body) := by
  simp [codeOf, matchCom, comScan, comScanAux_atoms_open_none [] p q body 0 hp hq hb]

/-- a line that starts inside a continued literal is taken whole and no doc-mark is
    looked for on it, so a `!` or `!!` in the literal's continuation stays literal text -/
theorem code_part_inside_literal (m : Marks) (l : Str) (h : firstStripped l ≠ some '#') :
    codeOf true l = strip l ∧ NoDoc m true l := ⟨codeOf_inside l, noDoc_inside m l h⟩

/-- an ordinary comment is never taken for a doc comment of any of the four kinds -/
theorem ordinary_comment_is_not_doc (m : Marks) (p cmt : Str) (hp : Atoms p)
    (hfirst : firstStripped (p ++ '!' :: cmt) ≠ some '#')
    (h1 : startsWith cmt m.pre = false) (h2 : startsWith cmt m.preAlt = false)
    (h3 : startsWith cmt m.alt = false) (h4 : startsWith cmt m.doc = false) :
    NoDoc m false (p ++ '!' :: cmt) :=
  ⟨hfirst, matchDocmark_comment _ p cmt hp h1, matchDocmark_comment _ p cmt hp h2,
    matchDocmark_comment _ p cmt hp h3, matchDocmark_comment _ p cmt hp h4⟩

/-- Known finding C02-comment-while-literal-continued, as the code stands: on a line that
    starts inside a continued literal the comment after the closing quote is *kept*
    (the full-strength statement would give `&def'`). -/
theorem comment_while_literal_continued_witness :
    codeOf (unterminated "x = 'abc".toList) "  &def' ! a comment".toList = "&def' ! a comment".toList := by
  simp -index only [String.toList_ofList]
  decide +kernel

/-- non-vacuity of `layout_join`: `x = 'a;b' &` / `! c` / `  & // 'it''s' ! tail` read with
    the default marks gives the one statement `x = 'a;b'  // 'it''s'` -/
example :
    (match readAll Marks.default ["x = 'a;b' &".toList, "! c".toList, "  & // 'it''s' ! tail".toList] with
      | .ok items => items == ["x = 'a;b'  // 'it''s'".toList]
      | .error _ => false) = true := by
  simp -index only [String.toList_ofList]
  decide +kernel

/-- **Cutting a line with `&` ... `&` never changes the statements - exactly.**  Take the
    statement(s) written on one physical line `l1`, and the same text cut at any positions - in
    the middle of a name, a number, an operator such as `**` or `=>`, or a character literal -
    into a first line `x r &`, any number of lines `& piece &` mixed with blank lines, comment
    lines and `&`-only lines, and a last line `& b`.  Both layouts give the same items (equal
    strings, not merely equal modulo blanks): nothing is inserted between the pieces, so a token
    continued across lines stays one token.  No bound on the number or length of the pieces. -/
theorem cut_with_amp_is_exact (m : Marks) (l0 l1 : Str) (x : Char) (r : Str) (mids : List Mid)
    (lines : List Str) (ln b : Str) (rest : List Str)
    (h0 : NoDoc m false l0) (hc0 : codeOf false l0 = x :: r ++ ['&']) (hx : x ≠ '&')
    (hd : ∀ mid ∈ mids, mid.direct)
    (hr : Rendered m (' ' :: x :: r) mids lines)
    (hn : NoDoc m (unterminated (' ' :: x :: r ++ (mids.map Mid.text).flatten)) ln)
    (hcn : codeOf (unterminated (' ' :: x :: r ++ (mids.map Mid.text).flatten)) ln = '&' :: b)
    (h1 : NoDoc m false l1) (hc1 : codeOf false l1 = x :: r ++ (mids.map Mid.text).flatten ++ b)
    (hb : isBlank b = false) (hl : b.getLast? ≠ some '&')
    (hJ : itemsOf (' ' :: x :: r ++ (mids.map Mid.text).flatten ++ b) ≠ []) :
    readFrom m (qs [] false) (l0 :: lines ++ ln :: rest) = readFrom m (qs [] false) (l1 :: rest) :=
  split_exact m l0 l1 x r mids lines ln b rest h0 hc0 hx hd hr hn hcn h1 hc1 hb hl hJ

/-- non-vacuity of `cut_with_amp_is_exact`: a name, a number and `**` cut in the middle -/
example :
    (readAll Marks.default ["big_num&".toList, "  ! c".toList, " &ber = 12&".toList, "&3 *&".toList,
        "   &* 2".toList]).toOption =
      (readAll Marks.default ["big_number = 123 ** 2".toList]).toOption := by
  simp -index only [String.toList_ofList]
  decide +kernel

/-- ... while a continuation line *without* leading `&` starts a new token: one blank -/
example :
    (readAll Marks.default ["x = a&".toList, "  b".toList]).toOption = some ["x = a b".toList] := by
  simp -index only [String.toList_ofList]
  decide +kernel

/-! ## the parser's second masking pass: initial values

  `regexSources` and `initialSteps` are regenerated from ford/reader.py and ford/sourceform.py
  on every run (translate/c02.py). -/

open Ford.Show Ford.InitialValue in
/-- **Literal text in an initial value is preserved verbatim, whatever it contains.**  For every
    masked initial-value expression - code pieces without blanks and placeholders of well-formed
    literals, no two literals adjacent - the `if initial:` block of `line_to_variables`, *with
    its statements in the order they have in the source*, returns the expression in which the
    comma tidy-up has touched the code pieces only and every literal stands whole, changed only
    by the NBSP substitution (`nbsp_reads_as_blank` below): commas, `;`, `!`, `&`, quotes,
    placeholders-look-alikes or keywords inside a literal are never treated as syntax. -/
theorem initial_value_literals_verbatim (strings : List Str) (ps : List Piece)
    (hw : WellMasked strings ps) (hn : NoBlank ps) :
    initialValue strings (maskedText ps) = .ok (restoredText strings (ps.map Piece.tidy)) := by
  simp only [initialValue, Generated.C02.initialSteps, Generated.C02.restoreNbsp,
    Generated.C02.restoreDoubleBs, runSteps, applyStep]
  rw [commaSpace_maskedText strings ps hw hn, reinsert_pieces strings _ (wellMasked_tidy strings ps hw)]

open Ford.Show Ford.InitialValue in
/-- ... in particular an initial value that *is* a literal comes back as that literal -/
theorem initial_value_single_literal (q : Char) (body : Str) (hq : isQuote q = true)
    (hb : litTail q body = true) :
    initialValue [q :: body] (maskOf 0) = .ok (nbsp (q :: body)) := by
  have hw : WellMasked [q :: body] [.ph ['0']] :=
    ⟨⟨0, q, body, by decide, rfl, hq, hb⟩, trivial, trivial⟩
  have h := initial_value_literals_verbatim [q :: body] [.ph ['0']] hw trivial
  have e : maskedText [.ph ['0']] = maskOf 0 := by decide
  rw [e] at h
  rw [h]
  simp [restoredText, Piece.tidy, litOf, parseNat?, isDigit]

open Ford.Show in
/-- the NBSP substitution only turns blanks into non-breaking blanks: read with NBSP as a blank
    the literal is the source text, character for character -/
theorem nbsp_reads_as_blank (s : Str) (h : ∀ c ∈ s, c ≠ nbspChar) : unNbsp (nbsp s) = s :=
  unNbsp_nbspGo s false h

open Ford.Show Ford.InitialValue in
/-- the order of the two steps matters: tidying commas *after* the literals are back rewrites
    the literal `','` to `', '` (what the property forbids) - hence the order is taken from the
    source and `initial_value_literals_verbatim` is stated over it -/
theorem comma_tidy_after_restore_witness :
    (runSteps true true ["','".toList] [.restore, .commaTidy] "\"0\"".toList).toOption = some "', '".toList ∧
    (runSteps true true ["','".toList] [.commaTidy, .restore] "\"0\"".toList).toOption = some "','".toList := by
  simp -index only [String.toList_ofList]
  decide +kernel

open Ford.Show Ford.InitialValue in
/-- non-vacuity: `[ 'a,b', "x;!&" // c ]` as `line_to_variables` records it -/
example :
    (initialValue ["'a,b'".toList, "\"x;!&\"".toList] "[\"0\",\"1\"//c]".toList).toOption
      = some "['a,b', \"x;!&\"//c]".toList := by
  simp -index only [String.toList_ofList]
  decide +kernel

/-- The regular expressions whose deterministic readings the model's recognisers are
    (`comScan` for `COM_RE` and the doc-mark pattern; `Show.litEnd`/`searchQuote` for `QUOTES_RE`;
    `Show.commaSpace` for `COMMA_RE`; `Show.nbsp` for `NBSP_RE`) are the ones in the source: an
    edit of any of these patterns changes this obligation.  The patterns are compared in a normal form of their
    parsed structure (translate/c02.py `normal_form`: layout, escapes, transparent groups and - for the two comment
    patterns, of which the reader only asks where the last group starts - which of the other groups capture do not
    show), so a re-spelling that means the same does not. -/
theorem regex_sources_pinned :
    Generated.C02.regexSources = [
      ("ford.reader", "FortranReader.COM_RE", "^(?:[^!\"']|'[^']*'|\"[^\"]*\")*(!.*)$", 32),
      ("ford.reader", "_compile_docmark(@)", "^(?:[^!\"']|'[^']*'|\"[^\"]*\")*(!@.*)$", 32),
      ("ford.sourceform", "QUOTES_RE", "\"([^\"]|\"\")*\"|'([^']|'')*'", 34),
      ("ford.sourceform", "COMMA_RE", ",(?!\\s)", 32),
      ("ford.sourceform", "NBSP_RE", "\\ (?=\\ )|(?<=\\ )\\ ", 32)] := rfl

/-- **No character inside a closed literal moves the comment.**  After any comment-free,
    quote-closed prefix `p` and one more closed literal `q body q` - `body` being *any* characters
    other than `q`: `!`, `;`, `&`, the other quote, and in particular a backslash in last position,
    which is an ordinary character in Fortran and does not escape the closing quote - the next `!`
    starts the comment (or the doc comment with mark `mark` when the text after it starts with the
    mark), and the code part of the line is everything in front of it. -/
theorem comment_after_literal_any_contents (mark p cmt : Str) (q : Char) (body : Str) (hp : Atoms p)
    (hq : isQuote q = true) (hb : q ∉ body) (hm : startsWith cmt mark = true) :
    comScan mark (p ++ q :: body ++ [q] ++ '!' :: cmt) = some (p ++ q :: body ++ [q]).length ∧
    codeOf false (p ++ q :: body ++ [q] ++ '!' :: cmt) = strip (p ++ q :: body ++ [q]) :=
  ⟨(comScan_iff mark _ _).2 ⟨_, cmt, rfl, atoms_snoc_literal p q body hp hq hb, rfl, hm⟩,
   codeOf_outside_comment _ cmt (atoms_snoc_literal p q body hp hq hb)⟩

/-- non-vacuity: literals ending in a backslash, followed by a comment / an inline doc comment -/
example : comScan [] (chars! "s = '\\' ! sep") = some 8 := by decide +kernel
example : comScan ['!'] (chars! "r = \"C:\\\" !! root") = some 10 := by decide +kernel
example :
    (readAll Marks.default [chars! "s = '\\' ! sep", chars! "r = \"C:\\\" !! root"]).toOption =
      some [chars! "s = '\\'", chars! "r = \"C:\\\"", chars! "!! root"] := by decide +kernel

/-! ## the parser's second masking pass: cutting the literals out

  `maskLoop` is regenerated from ford/sourceform.py on every run (translate/c02.py). -/

open Ford.Show Ford.MaskPass in
/-- **The masking pass cuts a statement exactly at its literals, whatever they contain.**  For
    every statement made of code pieces (no quote characters) and well-formed character literals
    (any contents; two literals never adjacent), the loop at the top of
    `FortranContainer._initialize` records the literals in order in `self.strings` and leaves the
    statement with the k-th placeholder `"k"` standing exactly where the k-th literal stood - also
    when a literal's text is itself the spelling of a placeholder (`"0"`, `"1"`, ...), contains
    quotes of the other kind, doubled quotes, `!`, `;`, `&` or keywords. -/
theorem masking_pass_exact (ps : List SrcPiece) (hw : WellFormed ps) :
    prepLine false (srcText ps) = ⟨srcMasked ps 0, srcLits ps⟩ := by
  simp [prepLine, cutLits, cutGo_pieces ps 0 hw, segMasked_srcSegs, segStrings_srcSegs]

open Ford.Show Ford.MaskPass Ford.InitialValue in
/-- **Masking then re-inserting brings every literal back to its own place.**  Feeding what the
    masking pass produced to the re-insertion loop of `line_to_variables` returns the statement
    with the code pieces untouched and every literal whole where it stood (NBSP substitution only,
    `nbsp_reads_as_blank`): no literal is exchanged with another, dropped or duplicated. -/
theorem masked_literals_return_in_place (ps : List SrcPiece) (hw : WellFormed ps) :
    reinsert true true (prepLine false (srcText ps)).strings (prepLine false (srcText ps)).masked =
      .ok (srcShown ps) := by
  rw [masking_pass_exact ps hw]
  have h := reinsert_pieces (srcLits ps) (toPieces ps 0) (wellMasked_toPieces ps [] hw)
  rw [maskedText_toPieces] at h
  have e := restoredText_toPieces ps []
  simp only [List.nil_append, List.length_nil] at e
  rw [e] at h
  exact h

open Ford.Show in
/-- non-vacuity / the look-alike case: in `v = ["x", "0"]` the second literal spells the first
    placeholder; it is literal number 1 and stays at its place -/
example :
    prepLine false (chars! "v = [\"x\", \"0\"]") =
      ⟨chars! "v = [\"0\", \"1\"]", [chars! "\"x\"", chars! "\"0\""]⟩ := by decide +kernel

open Ford.Show Ford.MaskPass in
/-- why the replacement has to be positional: once `"x"` has become the placeholder `"0"`,
    replacing *the first occurrence of the text* of the next literal `"0"` rewrites that
    placeholder instead of the literal (the two literals would come back exchanged) -/
theorem first_occurrence_replacement_witness :
    replaceFirst (chars! "\"0\"") (maskOf 1) (chars! "v = [\"0\", \"0\"]") = chars! "v = [\"1\", \"0\"]" ∧
    (prepLine false (chars! "v = [\"x\", \"0\"]")).masked = chars! "v = [\"0\", \"1\"]" := by
  decide +kernel

/-- The masking loop whose deterministic reading `Show.cutGo` is (`search_from` = the scan
    position, `QUOTES_RE.search` = `litEnd`, the re-search after substitution = `verbExtra`) is the
    one in the source: an edit of the loop changes this obligation. -/
theorem mask_loop_pinned :
    Generated.C02.maskLoop = [
      "self.strings = []",
      "search_from = 0",
      "while (quote := QUOTES_RE.search(line[search_from:])):",
      "    self.strings.append(quote.group())",
      "    line = line[0:search_from] + QUOTES_RE.sub(f'\"{len(self.strings) - 1}\"', line[search_from:], count=1)",
      "    search_from += QUOTES_RE.search(line[search_from:]).end(0)"] := rfl

/-! ## include statements in the queue of `;`-separated statements

  `incPrologue`, `incEpilogue`, `popsGuarded`, `includeKwLoose` (together `Include.readerCfg`), `popSites` and `includeMethod` are regenerated from ford/reader.py on every run
  (translate/c02.py): which of the two pops of the queue in `FortranReader.__next__` is preceded by
  `self.include()` is read off the source, and the theorems are stated over that. -/

open Ford.Include in
/-- **An include statement is expanded wherever it stands on its line.**  Whatever statements the
    logical line just read was split into at its `;` (the queue `pending`), the reader - with
    `self.include()` called where the source calls it (`Include.readerCfg`) - returns, in order,
    every ordinary statement as it is and, for every include statement, the items of the file it
    names: first, last or in the middle of the line makes no difference, and neither does the number
    of statements or of includes.  `Expandable` asks that looking the file up does not fail and - only
    as long as the tree is the unrepaired variant (`guarded = false`, finding
    C02-include-without-statements; for the repaired tree the hypothesis asks nothing more) - that the
    file gives at least one item. -/
theorem include_expanded_wherever_it_stands_partial (resolve : Str → Res) (pending : List Str)
    (h : ∀ p ∈ pending, Expandable Include.readerCfg.guarded Include.readerCfg.kwLoose resolve p) :
    drain Include.readerCfg resolve .epilogue pending =
      .ok (pending.flatMap (expand1 Include.readerCfg.kwLoose resolve)) :=
  drain_eq_flatMap _ resolve rfl rfl pending .epilogue (by decide) h

open Ford.Include in
/-- **`;` or new line: the same items.**  Statements `a` followed by statements `b` on one logical
    line (separated by `;`) give exactly what `a` on one line and `b` on the next give, include
    statements in either of them expanded. -/
theorem semicolon_or_newline_same_includes_partial (resolve : Str → Res) (a b : List Str)
    (ha : ∀ p ∈ a, Expandable Include.readerCfg.guarded Include.readerCfg.kwLoose resolve p)
    (hb : ∀ p ∈ b, Expandable Include.readerCfg.guarded Include.readerCfg.kwLoose resolve p) :
    drain Include.readerCfg resolve .epilogue (a ++ b) =
      (do let x ← drain Include.readerCfg resolve .epilogue a
          let y ← drain Include.readerCfg resolve .epilogue b
          pure (x ++ y)) :=
  drain_append _ resolve rfl rfl a b ha hb

open Ford.Include in
/-- Statements that are not include statements pass through the queue untouched (no statement is
    taken for an include because of what it *contains*: only the first eight characters count). -/
theorem queue_without_includes_unchanged (resolve : Str → Res) (pending : List Str)
    (h : ∀ p ∈ pending, isIncludeStmt Include.readerCfg.kwLoose p = false) :
    drain Include.readerCfg resolve .epilogue pending = .ok pending :=
  drain_no_include _ resolve pending .epilogue (by decide) h

open Ford.Include in
/-- **The file name of an include statement is literal text.**  `include`, in any capitalisation,
    one blank, any further blanks, then the name between two equal quote characters: the statement is
    an include statement and the name looked up is exactly the text between the delimiters - blanks,
    `;`, `!`, `&`, the other quote character included.  Holds for the recognition as the source has
    it (`Include.readerCfg.kwLoose`, regenerated) - in fact for both variants. -/
theorem include_file_name_verbatim (kw ws name : Str) (q : Char) (hk : lower kw = chars! "include")
    (hws : isBlank ws = true) (hq : isQuote q = true) :
    isIncludeStmt Include.readerCfg.kwLoose (kw ++ ' ' :: ws ++ q :: name ++ [q]) = true ∧
    includeName Include.readerCfg.kwLoose (kw ++ ' ' :: ws ++ q :: name ++ [q]) = name :=
  include_stmt_name _ kw ws name q hk hws hq

open Ford.Include in
/-- ... and once the recognition is the repaired one (`INCLUDE_RE`, fixes/C02-include-keyword-separator.diff)
    the blank after the keyword is optional, as it is in Fortran: `include'f.inc'`, a tab, any white
    space.  With the recognition of the variant `kwLoose = false` (finding C02-include-keyword-separator, repaired
    in FORD by aa1e5be) `include_keyword_separator_witness` holds instead. -/
theorem include_blank_optional_partial (h : Include.readerCfg.kwLoose = true) (kw ws name : Str) (q : Char)
    (hk : lower kw = chars! "include") (hws : isBlank ws = true) (hq : isQuote q = true) :
    isIncludeStmt Include.readerCfg.kwLoose (kw ++ ws ++ q :: name ++ [q]) = true ∧
    includeName Include.readerCfg.kwLoose (kw ++ ws ++ q :: name ++ [q]) = name := by
  rw [h]
  exact include_stmt_name_loose kw ws name q hk hws hq

open Ford.Include in
/-- Finding C02-include-keyword-separator (repaired in FORD by aa1e5be), the variant `kwLoose = false`: an include
    line whose keyword is followed by a tab or directly by the quote is not taken for one (and a
    statement that merely starts with the word, `include = 3`, is); the repaired recognition gets
    all three right. -/
theorem include_keyword_separator_witness :
    isIncludeStmt false (chars! "include\t'f.inc'") = false ∧ isIncludeStmt false (chars! "INCLUDE'f.inc'") = false ∧
    isIncludeStmt false (chars! "include = 3") = true ∧
    isIncludeStmt true (chars! "include\t'f.inc'") = true ∧ isIncludeStmt true (chars! "INCLUDE'f.inc'") = true ∧
    isIncludeStmt true (chars! "include = 3") = false ∧
    includeName true (chars! "include\t'f.inc'") = chars! "f.inc" := by
  decide +kernel

open Ford.Include in
/-- why both pops have to look: when only the pop at the bottom of `__next__` calls `include()`, an
    include statement that is not the first of its line is returned unexpanded -/
theorem include_after_semicolon_witness :
    (drain { incPrologue := false, incEpilogue := true, guarded := false, kwLoose := false }
        (fun n => if n == chars! "f.inc" then .items [chars! "y = 2"] else .failed .notFound) .epilogue
        [chars! "x = 1", chars! "include 'f.inc'"]).toOption = some [chars! "x = 1", chars! "include 'f.inc'"] ∧
    (drain { incPrologue := true, incEpilogue := true, guarded := false, kwLoose := false }
        (fun n => if n == chars! "f.inc" then .items [chars! "y = 2"] else .failed .notFound) .epilogue
        [chars! "x = 1", chars! "include 'f.inc'"]).toOption = some [chars! "x = 1", chars! "y = 2"] := by
  decide +kernel

open Ford.Include in
/-- Finding C02-include-without-statements (repaired in FORD by 8c43f56), the variant `guarded = false`: after an
    include of a file without statements the blind `pop(0)` raises when the statement was the last of
    its line, and otherwise returns the next statement unexamined - a second include stays
    unexpanded.  The re-testing variant (`guarded = true`) returns what the property asks for. -/
theorem include_without_statements_witness :
    (match drain { incPrologue := true, incEpilogue := true, guarded := false, kwLoose := false }
        (fun n => if n == chars! "e.inc" then .items [] else .items [chars! "y = 2"]) .epilogue
        [chars! "include 'e.inc'"] with
      | .error .popEmpty => true
      | _ => false) = true ∧
    (drain { incPrologue := true, incEpilogue := true, guarded := false, kwLoose := false }
        (fun n => if n == chars! "e.inc" then .items [] else .items [chars! "y = 2"]) .epilogue
        [chars! "include 'e.inc'", chars! "include 'f.inc'"]).toOption = some [chars! "include 'f.inc'"] ∧
    (drain { incPrologue := true, incEpilogue := true, guarded := true, kwLoose := false }
        (fun n => if n == chars! "e.inc" then .items [] else .items [chars! "y = 2"]) .epilogue
        [chars! "include 'e.inc'", chars! "include 'f.inc'"]).toOption = some [chars! "y = 2"] := by
  decide +kernel

/-- The two pops of the statement queue in `FortranReader.__next__` are the ones the model's `drain`
    is a reading of - in the shape the code has, or in the shape of the repaired variant
    (fixes/C02-include-without-statements.diff) - and **both are preceded by `self.include()`**: an
    edit of either place changes this obligation. -/
theorem queue_pops_pinned :
    (Generated.C02.popSites = [
      ("prologue", ["if len(self.pending) != 0:", "    self.include()", "    self.prevdoc = False",
                    "    return self.pending.pop(0)"]),
      ("epilogue", ["if len(self.pending) > 0:", "    self.include()", "    self.prevdoc = False",
                    "    return self.pending.pop(0)", "else: ..."])] ∧
     Include.readerCfg.incPrologue = true ∧ Include.readerCfg.incEpilogue = true ∧
     Include.readerCfg.guarded = false) ∨
    (Generated.C02.popSites = [
      ("prologue", ["if len(self.pending) != 0:", "    self.include()", "if len(self.pending) != 0:",
                    "    self.prevdoc = False", "    return self.pending.pop(0)"]),
      ("epilogue", ["if len(self.pending) > 0:", "    self.include()", "if len(self.pending) > 0:",
                    "    self.prevdoc = False", "    return self.pending.pop(0)",
                    "elif len(self.docbuffer) > 0: ...", "return next(self)"])] ∧
     Include.readerCfg.incPrologue = true ∧ Include.readerCfg.incEpilogue = true ∧
     Include.readerCfg.guarded = true) := by
  first | exact Or.inl ⟨rfl, rfl, rfl, rfl⟩ | exact Or.inr ⟨rfl, rfl, rfl, rfl⟩

/-- The method `FortranReader.include` whose reading `Include.isIncludeStmt` / `includeName` / `look`
    are (an include statement is a queued statement whose lower-cased text starts with `include `;
    the name is `[8:].strip()[1:-1]`; a missing `.h` file keeps the statement, any other missing file
    raises; the items of the nested reader are spliced in front of the queue) is the one in the
    source: as it stands, with fixes/C02-include-without-statements.diff, or with
    fixes/C02-include-keyword-separator.diff (which contains the former; the recognition then is
    `INCLUDE_RE = include\s*(?=['"])`, IGNORECASE - checked by the translator - and the name starts at `[7:]`);
    and the variant switches of the model are the ones that belong to that text. -/
theorem include_method_pinned :
    (Generated.C02.includeMethod = [
      "if len(self.pending) == 0 or not self.pending[0].lower().startswith('include '):",
      "    return",
      "curpending = self.pending.pop(0)",
      "name = curpending[8:].strip()[1:-1]",
      "for b in [os.path.dirname(self.name)] + self.inc_dirs:",
      "    pname = os.path.abspath(os.path.expanduser(os.path.join(b, name)))",
      "    if os.path.isfile(pname):",
      "        name = pname",
      "        break",
      "else:",
      "    msg = f'Can not find include file \"{name}\"'",
      "    if name.endswith('.h'):",
      "        warn(msg)",
      "        self.pending = [curpending] + self.pending",
      "        return",
      "    raise FileNotFoundError(msg)",
      "self.pending = list(FortranReader(name, self.docmark, self.predocmark, self.docmark_alt, self.predocmark_alt, self.fixed, self.length_limit, inc_dirs=self.inc_dirs, encoding=self.encoding)) + self.pending"] ∧
     Include.readerCfg.guarded = false ∧ Include.readerCfg.kwLoose = false) ∨
    (Generated.C02.includeMethod = [
      "while len(self.pending) > 0 and self.pending[0].lower().startswith('include '):",
      "    curpending = self.pending.pop(0)",
      "    name = curpending[8:].strip()[1:-1]",
      "    for b in [os.path.dirname(self.name)] + self.inc_dirs:",
      "        pname = os.path.abspath(os.path.expanduser(os.path.join(b, name)))",
      "        if os.path.isfile(pname):",
      "            name = pname",
      "            break",
      "    else:",
      "        msg = f'Can not find include file \"{name}\"'",
      "        if name.endswith('.h'):",
      "            warn(msg)",
      "            self.pending = [curpending] + self.pending",
      "            return",
      "        raise FileNotFoundError(msg)",
      "    included = list(FortranReader(name, self.docmark, self.predocmark, self.docmark_alt, self.predocmark_alt, self.fixed, self.length_limit, inc_dirs=self.inc_dirs, encoding=self.encoding))",
      "    self.pending = included + self.pending",
      "    if len(included) > 0:",
      "        return"] ∧
     Include.readerCfg.guarded = true ∧ Include.readerCfg.kwLoose = false) ∨
    (Generated.C02.includeMethod = [
      "while len(self.pending) > 0 and self.INCLUDE_RE.match(self.pending[0]):",
      "    curpending = self.pending.pop(0)",
      "    name = curpending[7:].strip()[1:-1]",
      "    for b in [os.path.dirname(self.name)] + self.inc_dirs:",
      "        pname = os.path.abspath(os.path.expanduser(os.path.join(b, name)))",
      "        if os.path.isfile(pname):",
      "            name = pname",
      "            break",
      "    else:",
      "        msg = f'Can not find include file \"{name}\"'",
      "        if name.endswith('.h'):",
      "            warn(msg)",
      "            self.pending = [curpending] + self.pending",
      "            return",
      "        raise FileNotFoundError(msg)",
      "    included = list(FortranReader(name, self.docmark, self.predocmark, self.docmark_alt, self.predocmark_alt, self.fixed, self.length_limit, inc_dirs=self.inc_dirs, encoding=self.encoding))",
      "    self.pending = included + self.pending",
      "    if len(included) > 0:",
      "        return"] ∧
     Include.readerCfg.guarded = true ∧ Include.readerCfg.kwLoose = true) := by
  first
  | exact Or.inl ⟨rfl, rfl, rfl⟩
  | exact Or.inr (Or.inl ⟨rfl, rfl, rfl⟩)
  | exact Or.inr (Or.inr ⟨rfl, rfl, rfl⟩)

open Ford.Include in
/-- non-vacuity, through the whole reader: `x = 1; include 'f.inc'; z = 3 !! dz` with `f.inc` =
    `y = 'a;b ! c' !! dy` / `include "g.inc"` and `g.inc` = `w = 4` reads as the statements of the three
    files in place, the doc lines where they belong; one statement per line gives the same items -/
example :
    (readFS Include.readerCfg Marks.default
      [(chars! "f.inc", [chars! "y = 'a;b ! c' !! dy", chars! "  include \"g.inc\" ! nested"]),
       (chars! "g.inc", [chars! "w = 4"])] 3
      [chars! "x = 1; include 'f.inc'; z = 3 !! dz"]).toOption =
      some [chars! "x = 1", chars! "y = 'a;b ! c'", chars! "!! dy", chars! "w = 4", chars! "z = 3", chars! "!! dz"] ∧
    (readFS Include.readerCfg Marks.default
      [(chars! "f.inc", [chars! "y = 'a;b ! c' !! dy", chars! "  include \"g.inc\" ! nested"]),
       (chars! "g.inc", [chars! "w = 4"])] 3
      [chars! "x = 1", chars! "INCLUDE   'f.inc'", chars! "z = 3 !! dz"]).toOption =
      some [chars! "x = 1", chars! "y = 'a;b ! c'", chars! "!! dy", chars! "w = 4", chars! "z = 3", chars! "!! dz"] := by
  decide +kernel

/-- Witness of the defect repaired by the `fix:` commit 389e6bb: the
    previous-character test (`untermOld`) calls the closed literal `''` unterminated; the
    two-state scanner does not. -/
theorem untermOld_witness :
    untermOld "''".toList false none none = true ∧ unterminated "''".toList = false := by
  simp -index only [String.toList_ofList]
  decide +kernel


/-! ## The iterator protocol (`__next__` call by call, `pass_back`, `read_docstring`) -/

/-- The stepwise model reads a physical line with the very text of the batch model: `Include.feedI`
    *is* `Include.feedG` with the batch tail (`feedTailI`) plugged in, so every theorem above about
    how a logical line is assembled (continuations, comments, literals, the `;` split) speaks about
    the loop the iterator protocol runs. -/
theorem line_step_shared_with_batch_model (c : Include.Cfg) (resolve : Str → Include.Res) (m : Marks)
    (s : RS) (l : Str) :
    Include.feedI c resolve m s l = Include.feedG [] (Include.feedTailI c resolve m) m s l := rfl

/-- Separating statements with `;` - what is queued is served in line order: with the chain at the top
    of `__next__` in the order the source has, a queued statement that is not an include line is the
    next item, whatever is in `docbuffer`, and the rest of the queue stays as it is. -/
theorem queued_statement_is_served_first (c : Include.Cfg) (resolve : Str → Include.Res) (m : Marks)
    (st : PassBack.St) (p : Str) (rest : List Str) (hq : st.pending = p :: rest)
    (hp : Include.look c.kwLoose resolve p = .keep) :
    PassBack.next c resolve m PassBack.readerOrder st
      = .ok (some (p, { st with rs := { st.rs with prevdoc := false }, pending := rest })) := by
  simp only [PassBack.next, PassBack.readerOrder_eq, PassBack.ord, PassBack.serve, hq,
    PassBack.popPending_keep c resolve _ p rest hp]

/-- Look-ahead is invisible: a statement handed back with `pass_back` - where the source puts it
    (`readerFront`, regenerated) - is the very next item and the reader is then in the state in which
    it was when it first returned that statement: queue, doc buffer and `prevdoc` included, so nothing
    that follows (the other statements of a `;` line, their docs, blank-line handling) can change.
    Hypotheses: the statement is not an include line that `include()` would expand when it sees it a
    second time, and it was returned as a statement (`prevdoc = false` afterwards). -/
theorem handed_back_statement_is_returned_next (c : Include.Cfg) (resolve : Str → Include.Res) (m : Marks)
    (st : PassBack.St) (x : Str) (hx : Include.look c.kwLoose resolve x = .keep)
    (hp : st.rs.prevdoc = false) :
    PassBack.next c resolve m PassBack.readerOrder (PassBack.passBack PassBack.readerFront st x)
      = .ok (some (x, st)) := by
  rw [PassBack.readerOrder_eq, PassBack.readerFront_eq]
  exact PassBack.next_passBack c resolve m st x hx hp

/-- `;` and look-ahead together: a consumer that takes the queued statements of a logical line one by
    one and - before any of them, in any pattern `peeks` - looks ahead (takes the item and hands it
    back, as `read_docstring` does after every statement that can carry documentation) receives
    exactly the statements of the line, each once, in line order.  Unbounded in the number of
    statements and of look-aheads; `a; b; c` is read like `a` / `b` / `c` by the parser too. -/
theorem semicolon_statements_reach_a_look_ahead_consumer_in_order (c : Include.Cfg)
    (resolve : Str → Include.Res) (m : Marks) (q : List Str)
    (hq : ∀ p ∈ q, Include.look c.kwLoose resolve p = .keep) :
    ∀ (peeks : List Bool) (st : PassBack.St), peeks.length = q.length → st.pending = q →
      PassBack.consume c resolve m PassBack.readerOrder PassBack.readerFront peeks st = .ok q := by
  induction q with
  | nil => intro peeks st hl _; cases peeks <;> simp_all [PassBack.consume]
  | cons p rest ih =>
    intro peeks st hl hst
    cases peeks with
    | nil => simp at hl
    | cons pk more =>
      have hp := hq p (by simp)
      have hr : ∀ p ∈ rest, Include.look c.kwLoose resolve p = .keep := fun p h => hq p (by simp [h])
      have hl' : more.length = rest.length := by simpa using hl
      have h1 := ih hr more { st with rs := { st.rs with prevdoc := false }, pending := rest } hl' rfl
      have h2 := handed_back_statement_is_returned_next c resolve m
        { st with rs := { st.rs with prevdoc := false }, pending := rest } p hp rfl
      rw [PassBack.consume, queued_statement_is_served_first c resolve m st p rest hst hp]
      cases pk
      · simp [h1, Except.map]
      · simp [h1, h2, Except.map]

/-- `read_docstring` as the source has it (`collectDocs` + `pass_back`): when its loop stopped at the
    statement `x` (the doc lines in front of it collected, marks cut off), the reader it leaves
    returns `x` next and is then where plain iteration would be after `x` - the parser's look-ahead
    consumes doc lines only. -/
theorem read_docstring_hands_the_statement_back (c : Include.Cfg) (resolve : Str → Include.Res) (m : Marks)
    (fuel : Nat) (st st' : PassBack.St) (ds : List Str) (x : Str)
    (h : PassBack.collectDocs c resolve m PassBack.readerOrder fuel st = .ok (some (ds, x, st')))
    (hx : Include.look c.kwLoose resolve x = .keep) (hp : st'.rs.prevdoc = false) :
    ∃ st'', PassBack.readDocstring c resolve m PassBack.readerOrder PassBack.readerFront fuel st
              = .ok (some (ds, st'')) ∧
            PassBack.next c resolve m PassBack.readerOrder st'' = .ok (some (x, st')) :=
  ⟨PassBack.passBack PassBack.readerFront st' x, by simp [PassBack.readDocstring, h],
   handed_back_statement_is_returned_next c resolve m st' x hx hp⟩

/-- Why the place matters (and why it is a regenerated switch): with the handed-back line put *behind*
    the queue, the consumer that looks ahead once on `a; b; c` receives `b`, `c`, `a`. -/
theorem pass_back_behind_the_queue_reorders_witness :
    (PassBack.consume ⟨true, true, true, true⟩ (fun _ => .missingH) Marks.default [.pending, .docbuffer] false
      [true, false, false] { rs := {}, pending := [['a'], ['b'], ['c']], lines := [] }).toOption
      = some [['b'], ['c'], ['a']] := by decide +kernel

/-- ... and with the chain at the top of `__next__` in the other order a doc line queued for `a`
    (`a !! da; b` read ahead) overtakes the statement that was handed back. -/
theorem docbuffer_before_queue_reorders_witness :
    (PassBack.consume ⟨true, true, true, true⟩ (fun _ => .missingH) Marks.default [.docbuffer, .pending] true
      [true, false] { rs := { docbuffer := [['!', '!', 'd']] }, pending := [['a'], ['b']], lines := [] }).toOption
      = some [['!', '!', 'd'], ['a']] := by decide +kernel

/-- The protocol the model above is a reading of is the one in the source: the chain at the top of
    `__next__` serves `pending` before `docbuffer` and nothing else (as it stands, or in the shape of
    fixes/C02-include-without-statements.diff),
    `pass_back` is `self.pending.insert(0, line)`, and `read_docstring` is the loop `collectDocs` reads
    followed by one `pass_back`. -/
theorem iterator_protocol_pinned :
    Generated.C02.queueOrder = ["pending", "docbuffer"] ∧
    (Generated.C02.nextHead = [
       "if len(self.pending) != 0:", "    self.include()", "if len(self.pending) != 0:",
       "    self.prevdoc = False", "    return self.pending.pop(0)",
       "elif len(self.docbuffer) != 0:", "    self.prevdoc = True", "    return self.docbuffer.pop(0)"] ∨
     Generated.C02.nextHead = [
       "if len(self.pending) != 0:", "    self.include()",
       "    self.prevdoc = False", "    return self.pending.pop(0)",
       "elif len(self.docbuffer) != 0:", "    self.prevdoc = True", "    return self.docbuffer.pop(0)"]) ∧
    Generated.C02.passBackMethod = ["self.pending.insert(0, line)"] ∧
    Generated.C02.passBackFront = true ∧
    Generated.C02.readDocstring = [
      "docstring = []", "docmark = f'!{docmark}'", "length = len(docmark)",
      "while (line := next(source)).startswith(docmark):", "    docstring.append(line[length:])",
      "source.pass_back(line)", "return docstring"] := by
  refine ⟨rfl, ?_, rfl, rfl, rfl⟩
  first | exact Or.inl rfl | exact Or.inr rfl

/-- Non-vacuity, through the whole stepwise reader: `x = 1; y = 'a;b'; z = 3 !! dz` followed by a doc
    line, read with a look-ahead before every item, gives the three statements in order and then
    the doc lines. -/
example :
    (PassBack.consume Include.readerCfg (fun _ => .missingH) Marks.default PassBack.readerOrder PassBack.readerFront
      [true, true, true, false, false]
      { rs := {}, pending := [], lines := [chars! "x = 1; y = 'a;b'; z = 3 !! dz", chars! "  !! more"] }).toOption
      = some [chars! "x = 1", chars! "y = 'a;b'", chars! "z = 3", chars! "!! dz", chars! "!! more"] := by decide +kernel


/-- The batch model and the iterator agree on the queue: whatever `Include.drain` (the model every
    include / `;` theorem above is about) returns for a queue, the reader returns item by item, one
    `__next__` after the other, re-examining the head of the queue with `include()` on every call -
    for any number of statements, includes and nested items.  For the tree as it is read by the
    translator with the re-testing pops (`guarded`), `include()` in front of the top pop, and under
    the hypothesis that an item which came out of an included file is left alone when `include()`
    sees it a second time (in a flat file system: an include statement survives a nested reader only
    for a missing `.h` file, which is missing for the outer reader too). -/
theorem queue_call_by_call_is_batch_drain_partial (c : Include.Cfg) (resolve : Str → Include.Res)
    (hg : c.guarded = true) (hi : c.incPrologue = true)
    (hs : ∀ p l, Include.look c.kwLoose resolve p = .splice l →
            ∀ y ∈ l, Include.look c.kwLoose resolve y = .keep)
    (q out : List Str) (h : Include.drain c resolve .prologue q = .ok out) :
    PassBack.Drains c resolve true q out :=
  PassBack.drains_of_drain c resolve hg hi hs q out h

/-- non-vacuity of the hypotheses and the conclusion: `x = 1; include 'f.inc'; z = 3` with `f.inc`
    yielding two items -/
example :
    PassBack.Drains ⟨true, true, true, true⟩
      (fun n => if n == chars! "f.inc" then .items [chars! "y = 2", chars! "!! dy"] else .missingH) true
      [chars! "x = 1", chars! "include 'f.inc'", chars! "z = 3"]
      [chars! "x = 1", chars! "y = 2", chars! "!! dy", chars! "z = 3"] :=
  .step (rest := [chars! "include 'f.inc'", chars! "z = 3"]) (by rfl)
    (.step (rest := [chars! "!! dy", chars! "z = 3"]) (by rfl)
      (.step (rest := [chars! "z = 3"]) (by rfl) (.step (rest := []) (by rfl) (.done (by rfl)))))


/-- What becomes of a completed logical line is what `tailRaw` / `feedTailI` read: the buffer as it
    is goes to the quote-aware split (`quoteSplit_lexical`: a `;` inside a literal never separates),
    the non-empty pieces are stripped and queued - nothing else looks at or rewrites the text between
    the continuation joining and the split. -/
theorem split_site_pinned :
    Generated.C02.splitSite = [
      "frags = ford.utils.quote_split(';', linebuffer)",
      "self.pending.extend([s.strip() for s in frags if len(s) > 0])"] := rfl


/-- The doc lines of a logical line come after all of its statements: while statements are queued
    nothing is taken from the doc buffer (`queued_statement_is_served_first`), and once the queue is
    empty the buffered doc lines are returned one per call, in order, before anything new is read -
    so `a; b !! d` gives `a`, `b`, `!! d` however many statements the line has. -/
theorem buffered_doc_is_served_after_the_queue (c : Include.Cfg) (resolve : Str → Include.Res) (m : Marks)
    (st : PassBack.St) (d : Str) (ds : List Str) (hq : st.pending = []) (hd : st.rs.docbuffer = d :: ds) :
    PassBack.next c resolve m PassBack.readerOrder st
      = .ok (some (d, { st with rs := { st.rs with docbuffer := ds, prevdoc := true }, pending := [] })) := by
  simp [PassBack.next, PassBack.serve, PassBack.popPending, PassBack.readerOrder_eq, PassBack.ord, hq, hd]

/-- `read_docstring` called where no documentation follows (the next item is a queued statement)
    returns no doc line and leaves the reader exactly as it was: the look-ahead the parser makes
    after *every* declaration, procedure or type statement costs nothing when `;` put the next
    statement on the same line. -/
theorem read_docstring_without_docs_changes_nothing (c : Include.Cfg) (resolve : Str → Include.Res)
    (m : Marks) (fuel : Nat) (st : PassBack.St) (p : Str) (rest : List Str) (hq : st.pending = p :: rest)
    (hp : Include.look c.kwLoose resolve p = .keep) (hn : startsWith p ('!' :: m.doc) = false)
    (hpd : st.rs.prevdoc = false) :
    PassBack.readDocstring c resolve m PassBack.readerOrder PassBack.readerFront (fuel + 1) st
      = .ok (some ([], st)) := by
  have hf := PassBack.readerFront_eq
  simp only [PassBack.readDocstring, PassBack.collectDocs,
    queued_statement_is_served_first c resolve m st p rest hq hp, hn]
  obtain ⟨rs, pending, lines⟩ := st
  obtain ⟨db, pd, ra, co, rp, rpa, lb⟩ := rs
  simp_all [PassBack.passBack]


/-- The reader as the parser uses it and the reader as the theorems above model it are the same
    reader: for every file (any number of physical lines, continuations, doc blocks, `;` lines,
    includes), when the batch model `readFromI` - the fold all layout, literal and include theorems
    are about - gives the list `items`, successive calls of `__next__` (the if/elif chain in the
    regenerated order, `include()` re-examining the head of the queue on every call, the doc buffer
    after the queue, the loop entered again only when both are empty) return exactly `items`, one
    per call, and then StopIteration.  For the tree with the re-testing pops and `include()` in front
    of both pops, under the hypothesis that an item which came out
    of an included file is left alone when `include()` sees it again (see
    `queue_call_by_call_is_batch_drain_partial`). -/
theorem iteration_call_by_call_is_batch_read_partial (c : Include.Cfg) (resolve : Str → Include.Res)
    (m : Marks) (hg : c.guarded = true) (hi : c.incPrologue = true) (he : c.incEpilogue = true)
    (hs : ∀ p l, Include.look c.kwLoose resolve p = .splice l →
            ∀ y ∈ l, Include.look c.kwLoose resolve y = .keep)
    (lines items : List Str) (h : Include.readFromI c resolve m {} lines = .ok items) :
    PassBack.Yields c resolve m PassBack.readerOrder { rs := {}, pending := [], lines := lines } items := by
  rw [PassBack.readerOrder_eq]
  apply PassBack.after_to_yields
  have hn : PassBack.next c resolve m PassBack.ord { rs := {}, pending := [], lines := lines }
      = PassBack.readOn c resolve m {} lines := by
    simp [PassBack.next, PassBack.serve, PassBack.ord, PassBack.popPending, PassBack.resetLocals]
  rw [hn]
  exact PassBack.readOn_yields_batch c resolve m hg hi he hs lines {} items h

/-- the hypotheses of the iteration theorem about the tree: both `include()` calls are in the tree the translator
    read; `guarded` is the regenerated `popsGuarded`, kept as a hypothesis so that the statement can also be proved
    for the variant `guarded = false` -/
theorem iteration_theorem_applies_to_this_tree_partial
    (h : Generated.C02.popsGuarded = true) :
    Include.readerCfg.guarded = true ∧ Include.readerCfg.incPrologue = true ∧
    Include.readerCfg.incEpilogue = true := by
  refine ⟨h, ?_, ?_⟩ <;> first | rfl | decide


/-- **Layout invariance for the consumer FORD really has.**  For every file: when the batch model
    gives `items`, a consumer that takes the items one by one and looks ahead - takes an item and
    hands it back with `pass_back` - before any items that are not doc lines, in any pattern
    (`read_docstring` after every statement is one such pattern), receives exactly `items`, in
    order, each once.  So everything proved above about the batch list - `&` continuations, `;`,
    comments, blank lines, literals, includes - holds for what the parser sees.  Same hypotheses as
    `iteration_call_by_call_is_batch_read_partial`, plus: a statement that is looked at is not an
    include line `include()` would expand on second sight.  The proof carries the invariant "every
    buffered doc line starts with `!` + docmark" through the loop body (`Lemmas/PassBack.lean:
    feedFront_docs` …), from which an item that is not a doc line was popped from the statement queue. -/
theorem look_ahead_consumer_receives_batch_list_partial (c : Include.Cfg) (resolve : Str → Include.Res)
    (m : Marks) (hg : c.guarded = true) (hi : c.incPrologue = true) (he : c.incEpilogue = true)
    (hs : ∀ p l, Include.look c.kwLoose resolve p = .splice l →
            ∀ y ∈ l, Include.look c.kwLoose resolve y = .keep)
    (lines items : List Str) (h : Include.readFromI c resolve m {} lines = .ok items)
    (hk : ∀ x ∈ items, startsWith x ('!' :: m.doc) = false → Include.look c.kwLoose resolve x = .keep)
    (peeks : List Bool) (hl : peeks.length = items.length)
    (hz : ∀ p ∈ peeks.zip items, p.1 = true → startsWith p.2 ('!' :: m.doc) = false) :
    PassBack.consume c resolve m PassBack.readerOrder PassBack.readerFront peeks
      { rs := {}, pending := [], lines := lines } = .ok items := by
  have hy := iteration_call_by_call_is_batch_read_partial c resolve m hg hi he hs lines items h
  rw [PassBack.readerOrder_eq] at hy ⊢
  rw [PassBack.readerFront_eq]
  exact PassBack.consume_of_yields c resolve m _ items hy (by intro d hd; simp at hd) hk peeks hl hz

end Ford.C02
