/-
  C09 — every internal link resolves, and the output is relocatable.
-/
import FordModel.Path
import FordModel.Nav
import FordModel.Url
import FordModel.StrLink
import FordModel.Lemmas.Path
import FordModel.Lemmas.Nav
import FordModel.Lemmas.Url
import FordModel.Lemmas.StrLink
import FordModel.Lemmas.ReadMore
import FordModel.Lemmas.Relurl
import FordModel.Lemmas.Assets
import FordModel.Lemmas.Footnotes
import FordModel.Lemmas.Memo
import FordModel.Lemmas.PageName
import FordModel.Lemmas.GraphUrl
import FordModel.Generated.C09
namespace Ford.C09
open Ford Ford.Path Ford.Nav Ford.Url Ford.StrLink Ford.ReadMore Ford.Relurl Ford.Assets Ford.Generated.C09

/-! ## relative URLs: `os.path.relpath` and its resolution -/

/-- Clause "is relative and resolves": for all normal absolute paths, resolving
    `relpath(target, start)` against `start` gives `target` back.  This is what
    `relative_url` (`relpath(link, page.parent)`), `BasePage.project_url`
    (`relpath(project_url, outfile.parent)`) and the `[[..]]` processor rely on,
    for every depth of `start` and `target`. -/
theorem relpath_roundtrip (t s : List Seg) (ht : Normal t) (hs : Normal s) :
    resolve s (relpath t s) = t :=
  resolve_relpath t s ht hs

/-- ... and with Python's conventions (arguments normalised first, `.` for the
    empty result). -/
theorem relpathPy_roundtrip (t s : List Seg) (ht : Normal t) (hs : Normal s) :
    resolve s (relpathPy t s) = t :=
  resolve_relpathPy t s ht hs

/-- Clause "is relative": the reference consists of `..` steps, or `.`, followed
    by segments of the target only — no root, no scheme, nothing of the location
    of the output directory that is not also part of the target's own path. -/
theorem relpath_relative (t s : List Seg) :
    ∀ x ∈ relpath t s, x = up ∨ x ∈ t := by
  fun_induction relpath t s with
  | case1 tl x ss ih => exact fun y hy => (ih y hy).imp_right (List.mem_cons_of_mem _)
  | case2 t ts s ss hne =>
    intro y hy
    rcases List.mem_append.1 hy with h | h
    · exact Or.inl (List.eq_of_mem_replicate h)
    · exact Or.inr h
  | case3 ts => exact fun y hy => Or.inr hy
  | case4 s ss => exact fun y hy => Or.inl (List.eq_of_mem_replicate hy)

/-- Clause "the output can be moved or published unchanged": the reference FORD
    computes between two files of the output tree does not depend on where the
    tree lives (`base`), hence the same bytes resolve correctly under any other
    root `base'`. -/
theorem relpath_relocatable (base base' t s : List Seg)
    (hb' : Normal base') (ht : Normal t) (hs : Normal s) :
    relpath (base ++ t) (base ++ s) = relpath t s ∧
      resolve (base' ++ s) (relpath (base ++ t) (base ++ s)) = base' ++ t := by
  refine ⟨relpath_prefix base t s, ?_⟩
  rw [relpath_prefix base t s, ← relpath_prefix base' t s]
  exact relpath_roundtrip _ _ (normal_append hb' ht) (normal_append hb' hs)

/-- Clause "from every page depth": `{{ project_url }}/<target>` written on any
    page (root, lists/, entity directories, static pages nested arbitrarily deep)
    resolves to `<output dir>/<target>`. -/
theorem navHref_resolves (base page target : List Seg)
    (hb : Normal base) (hp : Normal page) (ht : Normal target) :
    resolve (base ++ dirOf page) (navHref base page target) = base ++ target := by
  rw [navHref, projectUrl, resolve_append_normal _ _ _ ht,
    resolve_relpathPy base _ hb (normal_append hb (normal_dropLast hp))]

/-! ## which pages exist versus which pages the navigation links to -/

/-- The decision procedure behind the next theorems is sound for **all** project
    shapes: a condition it accepts holds whatever the entity counts (0, 1, 2, 3, …
    of every kind) and whatever the option values. -/
theorem valid_all_shapes (c : Cond) (h : valid c = true) : ∀ sh : Shape, eval sh c = true :=
  valid_sound c h

/-- A list page is written exactly when its condition in `Documentation.__init__` holds. -/
theorem list_page_written_iff (T : Nav.Tables) (sh : Shape) (t : Target) :
    targetExists T sh t = true ↔ eval sh (targetCond T t) = true := by
  rw [targetExists_eq]

/-- Generic form of the navigation clause, for any extracted tables: if an entry
    passes the check, then for every project shape for which `main` gets as far as
    writing pages, whenever the template emits the link its target page is written. -/
theorem nav_entry_sound (T : Nav.Tables) (e : NavEntry) (h : entryOk T e = true) (sh : Shape)
    (hpre : eval sh T.mainPre = true) (hc : eval sh e.cond = true) :
    targetExists T sh e.target = true := by
  rw [targetExists_eq]
  exact valid_imp h sh (Bool.and_eq_true_iff.2 ⟨hpre, hc⟩)

/-- The one navigation link whose condition, in the index.html of finding
    C09-index-files-link-single-file (repaired in FORD by d9dd744), does not imply the
    existence of its target. -/
def excluded (e : NavEntry) : Bool :=
  decide (e.tpl = ['i', 'n', 'd', 'e', 'x', '.', 'h', 't', 'm', 'l']) &&
    decide (e.target = .list ['f', 'i', 'l', 'e', 's', '.', 'h', 't', 'm', 'l'])

/-- Clause "resolves to a file that exists … for every project shape and option
    combination", navigation part, over the tables regenerated from
    `Documentation.__init__`, base.html and index.html: every link into `lists/`
    and every `project.X[0]` link of the navigation bar and of the front page —
    except the front page's "All source files" link — has its target page written,
    for all counts of files, modules, submodules, programs, block data,
    procedures, types, abstract interfaces, namelists and all option values. -/
theorem nav_targets_exist_partial (e : NavEntry) (he : e ∈ navTables.navConds) (hx : excluded e = false)
    (sh : Shape) (hpre : eval sh navTables.mainPre = true) (hc : eval sh e.cond = true) :
    targetExists navTables sh e.target = true := by
  have hall : (navTables.navConds.filter fun e => !excluded e).all (entryOk navTables) = true := by
    decide +kernel
  have : entryOk navTables e = true :=
    List.all_eq_true.1 hall e (List.mem_filter.2 ⟨he, by simp [hx]⟩)
  exact nav_entry_sound navTables e this sh hpre hc

/-- Full strength, for a tree in which the excluded entry passes the check too
    (the harness evaluates `entryOk` on the regenerated table at run time: it is
    `false` on the index.html before d9dd744 and `true` with the link under the
    condition of the list page). -/
theorem nav_targets_exist (hfix : navTables.navConds.all (entryOk navTables) = true)
    (e : NavEntry) (he : e ∈ navTables.navConds)
    (sh : Shape) (hpre : eval sh navTables.mainPre = true) (hc : eval sh e.cond = true) :
    targetExists navTables sh e.target = true :=
  nav_entry_sound navTables e (List.all_eq_true.1 hfix e he) sh hpre hc

/-- The condition of "All source files…" in the index.html of finding
    C09-index-files-link-single-file (FORD before d9dd744). -/
def asIsIndexFiles : NavEntry :=
  { tpl := ['i', 'n', 'd', 'e', 'x', '.', 'h', 't', 'm', 'l'], label := [],
    target := .list ['f', 'i', 'l', 'e', 's', '.', 'h', 't', 'm', 'l'],
    cond := .and (.and (.opt ['c', 'o', 'u', 'n', 't']) (.opt ['m', 'a', 'x', '_', 'l', 'e', 'n', 'g', 't', 'h']))
              (.opt ['i', 'n', 'c', 'l', '_', 's', 'r', 'c']) }

/-- A single-file project with `incl_src` on. -/
def singleFileShape : Shape :=
  { count := fun l => if l = ['f', 'i', 'l', 'e', 's'] then 1 else 0, opt := fun _ => true }

/-- Witness of finding C09-index-files-link-single-file: for a single-file project with sources included the
    front page emits the link to lists/files.html, and that page is not written. -/
theorem nav_index_files_witness :
    eval singleFileShape navTables.mainPre = true ∧
      eval singleFileShape asIsIndexFiles.cond = true ∧
      targetExists navTables singleFileShape asIsIndexFiles.target = false := by
  decide +kernel

/-- Non-vacuity: the same shape does satisfy a non-excluded entry (the navigation
    bar's "Source File" link), whose target then exists by the theorem above. -/
example : ∃ e ∈ navTables.navConds, excluded e = false ∧ eval singleFileShape e.cond = true ∧
    targetExists navTables singleFileShape e.target = true := by
  decide +kernel

/-! ## links printed by `FortranBase.__str__` versus the pages that are written -/

/-- `pageWritten` is exactly the (disjunction of the) `entity_list_page_map` guards that
    cover the project list, e.g. `settings.incl_src` for the source files. -/
theorem entity_pages_written_iff (N : Nav.Tables) (sh : Shape) (l : Str) :
    pageWritten N sh l = true ↔ eval sh (pageCond N l) = true := by
  rw [pageWritten_eq]

/-- Generic form, for any extracted tables: if a project list passes the check, then
    for every project shape (all counts, all option values) for which `main` gets as
    far as writing pages, whenever `__str__` of a member prints the `<a href=…>` form
    (the entity has a URL and its `visible` flag is on) the member's page is made. -/
theorem str_link_entry_sound (N : Nav.Tables) (U : Url.Tables) (T : StrLink.Tables) (e : Str × Str)
    (h : listOk N T e = true) (sh : Shape) (hpre : eval sh N.mainPre = true)
    (n : Node) (hn : n.cls = e.2) (rest : List Node) (flag : Option Bool)
    (hs : strEmitsLink U T sh (n :: rest) flag = true) :
    pageWritten N sh e.1 = true :=
  listOk_sound N T e h sh hpre (hn ▸ (strEmitsLink_visCond U T sh n rest flag hs).2)

/-- Clause "resolves to a file that exists … for every … option combination (… sources
    hidden …)", for the links that the templates print through `FortranBase.__str__` for
    the *parent* of an entity (the "Location"/"Parent" cells of the list pages, the
    breadcrumbs, `{{ x.parent | relurl }}`): over the regenerated tables — `__str__`'s
    gate, the constructors' rule for `self.visible` with the keywords the project hands
    them, the member class of every project list, `entity_list_page_map` with its guards —
    for every project list whose members can be somebody's parent (`isinstance(self.parent,
    …)` tuple of `get_dir`: source files, modules, submodules, programs, block data) and
    every project shape: if `__str__` of a member prints a link, the page it points at is
    written.  (`_partial`: lists whose members are never a parent — the extra, non-Fortran
    files, which no template prints through `__str__` when sources are hidden — are
    outside; that is the explicit hypothesis `hp`.) -/
theorem parent_str_link_page_written_partial (l c : Str) (hl : (l, c) ∈ visTables.listClass)
    (hp : isParentClass urlTables c = true) (sh : Shape) (hpre : eval sh navTables.mainPre = true)
    (n : Node) (hn : n.cls = c) (rest : List Node) (flag : Option Bool)
    (hs : strEmitsLink urlTables visTables sh (n :: rest) flag = true) :
    pageWritten navTables sh l = true := by
  -- `listOk` is asked first: only for a list that fails it does the class hierarchy have to be searched
  have hall : visTables.listClass.all
      (fun e => listOk navTables visTables e || !isParentClass urlTables e.2) = true := by
    decide +kernel
  have hok : listOk navTables visTables (l, c) = true := by
    have := List.all_eq_true.1 hall (l, c) hl
    rwa [hp, Bool.not_true, Bool.or_false] at this
  exact str_link_entry_sound navTables urlTables visTables (l, c) hok sh hpre n hn rest flag hs

/-- The same, read the other way round (what "sources hidden" relies on): when the pages
    of such a list are not written, no member prints a link to its page. -/
theorem no_page_no_parent_str_link (l c : Str) (hl : (l, c) ∈ visTables.listClass)
    (hp : isParentClass urlTables c = true) (sh : Shape) (hpre : eval sh navTables.mainPre = true)
    (hw : pageWritten navTables sh l = false)
    (n : Node) (hn : n.cls = c) (rest : List Node) (flag : Option Bool) :
    strEmitsLink urlTables visTables sh (n :: rest) flag = false := by
  cases hs : strEmitsLink urlTables visTables sh (n :: rest) flag with
  | false => rfl
  | true =>
    have := parent_str_link_page_written_partial l c hl hp sh hpre n hn rest flag hs
    simp [hw] at this

/-- Non-vacuity: the source files are such a list, a source file of a project with
    sources included does print its link, and a project with sources hidden has no
    pages for them. -/
example :
    let file : Node := ⟨"FortranSourceFile".toList, "sourcefile".toList, "a.f90".toList, true, false⟩
    let on : Shape := { count := fun _ => 1, opt := fun _ => true }
    let off : Shape := { count := fun _ => 1, opt := fun _ => false }
    ("files".toList, "FortranSourceFile".toList) ∈ visTables.listClass ∧
      isParentClass urlTables "FortranSourceFile".toList = true ∧
      strEmitsLink urlTables visTables on [file] none = true ∧
      eval off navTables.mainPre = true ∧ pageWritten navTables off "files".toList = false := by
  -- a literal is `String.ofList` of its characters: rewriting gives the character lists without
  -- the kernel having to decode the UTF-8 bytes of every literal
  simp -index only [String.toList_ofList]
  decide +kernel

/-! ## entity URLs: `get_dir`, `get_url`, page files -/

/-- Clause "resolves to a file that exists", directory part, over the regenerated
    class hierarchy / isinstance tuples / overrides / `self.obj` table: whatever
    `get_dir()` returns for an entity of any class is one of the directories
    `Documentation.writeout` creates (so `DocPage.outfile` can be written and the
    URL `dir/ident.html` points below an existing directory). -/
theorem getDir_in_outDirs (n : Node) (rest : List Node) (hwf : WfNode urlTables n) (d : Str)
    (hd : getDir urlTables (n :: rest) = some d) : d ∈ urlTables.outDirs :=
  getDir_in urlTables (by decide +kernel) n rest hwf d hd

/-- Clause "its file": the file part of `get_url()` of any entity, at any nesting
    depth, is `get_dir()/ident.html` of the nearest enclosing entity that owns a
    page — exactly the `outfile` of that entity's `DocPage` — and entities in
    between (variables, bound procedures, enums, internal procedures …) only
    contribute the `#obj-ident` fragment of the innermost one. -/
theorem getUrl_points_at_owner_page (T : Url.Tables) (chain : List Node) (u : Loc)
    (h : getUrl T chain = some u) :
    ∃ pre c rest, chain = pre ++ c :: rest ∧ getDir T (c :: rest) = some u.dir ∧ u.stem = c.ident ∧
      (∀ n ∈ pre, isinst T n T.anchorClasses = true) ∧ (u.frag = none ↔ pre = []) ∧
      (∀ n, pre.head? = some n → u.frag = some (anchor n)) := by
  induction chain generalizing u with
  | nil => cases h
  | cons n rest ih =>
    simp only [getUrl] at h
    split at h
    · rename_i d hd
      cases h
      exact ⟨[], n, rest, rfl, hd, rfl, by simp, by simp, by simp⟩
    · split at h
      · rename_i hc
        split at h
        · rename_i u' hu'
          cases h
          obtain ⟨pre, c, rest', hch, hdir, hstem, hpre, _, _⟩ := ih u' hu'
          simp only [Bool.and_eq_true] at hc
          exact ⟨n :: pre, c, rest', by simp [hch], hdir, hstem, List.forall_mem_cons.2 ⟨hc.1, hpre⟩,
            by simp, by simp⟩
        · cases h
      · cases h

/-- Clause "from every page depth (… list pages, entity pages …)": every entity
    URL lives exactly one directory below the output root, in a directory that
    `writeout` creates and that is a plain segment different from the virtual
    sibling directory the `[[..]]` processor uses. -/
theorem entity_url_depth_one (chain : List Node) (hwf : ∀ n ∈ chain, WfNode urlTables n) (u : Loc)
    (h : getUrl urlTables chain = some u) :
    depth u.file = 1 ∧ u.dir ∈ urlTables.outDirs ∧ NormalSeg u.dir ∧ u.dir ≠ virtualDir := by
  obtain ⟨pre, c, rest, hch, hdir, _⟩ := getUrl_points_at_owner_page urlTables chain u h
  have hc : WfNode urlTables c := hwf c (by simp [hch])
  have hin := getDir_in_outDirs c rest hc _ hdir
  have hall : ∀ d ∈ urlTables.outDirs, NormalSeg d ∧ d ≠ virtualDir := by decide +kernel
  exact ⟨rfl, hin, hall _ hin⟩

/-- Clause "resolves … from every page depth", `[[..]]` links: the `href` the link
    processor writes into the documentation of an entity (relative to the virtual
    sibling directory of `MetaMarkdown.convert`) resolves to the target's page from
    **every** directory one level below the output root — i.e. both from the
    entity's own page and from every list page that repeats its summary —
    wherever the output directory is. -/
theorem doclink_resolves_from_depth_one (base : List Seg) (hb : Normal base) (ctx t : Loc)
    (ht : Normal t.file) (hv : t.dir ≠ virtualDir) (d : Seg) (hd : NormalSeg d) :
    resolve (base ++ [d]) (docLinkPath base ctx t) = base ++ t.file := by
  -- the `href` is `../<dir>/<file>`: the virtual directory is a sibling of every entity directory
  have hcur : docCurrentPath base ctx = base ++ [virtualDir] := by
    simp [docCurrentPath, Loc.file, dirOf]
  have hrel : relpath (base ++ t.file) (base ++ [virtualDir]) = up :: t.file := by
    rw [relpath_prefix]
    simp [Loc.file, relpath, hv, ups]
  rw [docLinkPath, hcur, relpathPy, norm_normal _ (normal_append hb ht),
    norm_normal _ (normal_append hb (normal_singleton virtualDir_normalSeg)), hrel, if_neg (List.cons_ne_nil _ _)]
  exact resolve_up base d t.file hb hd ht

/-- ... and only from there: the same `href` is wrong on a page in the output root
    (depth 0) and on a static page two levels down, which is why those pages must
    be converted with their own path (`convert(…, path=…)`) and must not reuse an
    entity's converted documentation. -/
theorem doclink_other_depth_witness :
    let base : List Seg := [['o', 'u', 't']]
    let t : Loc := ⟨['p', 'r', 'o', 'c'], ['f'], none⟩
    resolve base (docLinkPath base t t) ≠ base ++ t.file ∧
      resolve (base ++ [['p', 'a', 'g', 'e'], ['s', 'u', 'b']]) (docLinkPath base t t) ≠ base ++ t.file := by
  decide +kernel

/-! ## the "Read more" link of a summary -/

/-- Clause "resolves to a file that exists": `FortranBase.markdown` appends
    `<a href="../{get_url()}">Read more…</a>` to a summary that differs from the documentation.
    Over the regenerated rule (`summaryTables`): for every documentation text, the link is appended
    **only to entities that have a URL** — an entity without page and anchor (type / interface block
    local to a procedure, components of such a type) never gets `href="../None"`.
    Partial: excluded by the explicit hypothesis are doc comments with `summary:` metadata and
    documentation without any `<p>` paragraph (unless the link itself is guarded by `get_url()`,
    as in the repaired code); see `read_more_without_url_witness`. -/
theorem read_more_link_has_url_partial (hasUrl : Bool) (explicit para : Option Str) (doc : Str)
    (hx : summaryTables.linkNeedsUrl = true ∨ (explicit = none ∧ (para.isSome = true ∨ strip doc = [])))
    (h : readMore summaryTables hasUrl explicit para doc = true) : hasUrl = true :=
  readMore_url summaryTables (by decide) hasUrl explicit para doc hx h

/-- The excluded class genuinely violates the property in the variant `ReadMore.asIs` (finding
    C09-read-more-link-without-url, repaired in FORD by 30d79d0): an entity without URL whose doc comment has `summary:`
    metadata, or whose documentation has no paragraph (e.g. only a list), gets the link, and
    its target is the file `None` next to the output root's directories. -/
theorem read_more_without_url_witness :
    readMore ReadMore.asIs false (some ['s']) (some ['<', 'p', '>', 'd', '<', '/', 'p', '>']) ['<', 'p', '>', 'd', '<', '/', 'p', '>'] = true ∧
      readMore ReadMore.asIs false none none ['<', 'u', 'l', '>', '<', '/', 'u', 'l', '>'] = true ∧
      readMoreHref none = [up, ['N', 'o', 'n', 'e']] := by
  decide +kernel

/-- Clause "from every page depth (… list pages, entity pages …)": when the entity has a URL, the
    link `../<url>` read on any page one directory below the output root (list pages, the pages of
    the entity's host — the places where summaries are printed) is `<output dir>/<url>`, wherever
    the output directory is. -/
theorem read_more_href_resolves (base : List Seg) (hb : Normal base) (d : Seg) (hd : NormalSeg d)
    (u : List Seg) (hu : Normal u) :
    resolve (base ++ [d]) (readMoreHref (some u)) = base ++ u :=
  resolve_up base d u hb hd hu

/-! ## absolute links below the output directory are made relative on every file system -/

/-- Clause "is relative … so the output can be moved or published unchanged", for every way the
    project / output directory may be reached (symbolic links in its path included): over the
    regenerated facts (`relurlTables`: how `normalise_path` tidies `output_dir`, what
    `relative_url` searches for), for **every** file system whose `realpath` is idempotent, a
    link `<project_url>/<t>` is found and rewritten by the `relurl` filter — provided the files
    FORD itself writes below a canonical output directory are not reached through a symbolic link. -/
theorem relurl_rewrites_output_links (fs : FS) (hidem : ∀ p, fs.real (fs.real p) = fs.real p)
    (p t : List Seg)
    (hplain : fs.real (normalisePath relurlTables fs p) = normalisePath relurlTables fs p →
      fs.real (normalisePath relurlTables fs p ++ t) = normalisePath relurlTables fs p ++ t) :
    rewrites relurlTables fs (normalisePath relurlTables fs p ++ t) = true :=
  rewrites_of_ok relurlTables (by decide) fs hidem p t hplain

/-- ... and what it writes is a relative reference that resolves, from the page that carries it
    (any depth), to the target below the output directory. -/
theorem relurl_output_link_resolves (fs : FS) (hidem : ∀ p, fs.real (fs.real p) = fs.real p)
    (p pageDir t : List Seg)
    (hplain : fs.real (normalisePath relurlTables fs p) = normalisePath relurlTables fs p →
      fs.real (normalisePath relurlTables fs p ++ t) = normalisePath relurlTables fs p ++ t)
    (hd : Normal (normalisePath relurlTables fs p)) (hp : Normal pageDir) (ht : Normal t) :
    ∃ r, relurl relurlTables fs (normalisePath relurlTables fs p ++ pageDir) (normalisePath relurlTables fs p ++ t) = some r ∧
      resolve (normalisePath relurlTables fs p ++ pageDir) r = normalisePath relurlTables fs p ++ t :=
  relurl_resolves relurlTables fs _ pageDir t
    (relurl_rewrites_output_links fs hidem p t hplain) hd hp ht

/-- Why `normalise_path` must dereference symbolic links as long as `relative_url` compares with
    the resolved href: with a textual `abspath` and one symbolic link `/work -> /real` on the way
    to the project, the (idempotent) file system below leaves the absolute path in the page. -/
theorem normalise_without_resolve_witness :
    (∀ p, linkFS.real (linkFS.real p) = linkFS.real p) ∧
      relurl { normalise := .abspath, relurlResolves := true } linkFS
        (normalisePath { normalise := .abspath, relurlResolves := true } linkFS [['w', 'o', 'r', 'k'], ['d', 'o', 'c']] ++ [['l', 'i', 's', 't', 's']])
        (normalisePath { normalise := .abspath, relurlResolves := true } linkFS [['w', 'o', 'r', 'k'], ['d', 'o', 'c']] ++ [['p', 'r', 'o', 'c'], ['x']])
        = none :=
  ⟨linkFS_idem, by decide +kernel⟩

/-! ## files that are not pages — assets of every page, copies next to static pages -/

/-- Generic form of the asset clause, for any extracted tables: a link that passes `linkOk` names,
    for **every** option combination and for all values of the computed parts of the path, a file
    that `Documentation.writeout` creates. -/
theorem asset_link_sound (T : Assets.Tables) (l : Assets.Link) (h : linkOk T l = true) (sh : Shape)
    (ρ : Str → Str) (hc : eval sh l.cond = true) : inst ρ l.path ∈ written T sh ρ := by
  obtain ⟨w, hw, hcov⟩ := List.any_eq_true.1 h
  rw [Bool.and_eq_true] at hcov
  refine List.mem_flatMap.2 ⟨w, hw, ?_⟩
  rw [valid_imp hcov.2 sh hc]
  exact covers_mem ρ w l hcov.1

/-- Clause "resolves to a file that exists in the output directory … for every option combination",
    for the URLs that every page carries in its head and navigation bar and that are neither list
    nor entity pages: over the tables regenerated from **all** templates (every
    `<tag attr="{{ project_url }}/<path>">`: icon, shipped and user style sheets, scripts, MathJax
    configuration, search index and loader, `index.html`, `search.html`) and from
    `Documentation.writeout` (every `shutil.copy` / `copytree` with its destination expression, the
    listing of the package directories it copies, the search index, the pages with a constant output
    file), whenever a template emits such a URL the file it names has been written — whatever the
    values of `css`, `mathjax_config`, `search`, … and whatever the name of the user's files. -/
theorem asset_links_written (l : Assets.Link) (hl : l ∈ assetTables.links) (sh : Shape) (ρ : Str → Str)
    (hc : eval sh l.cond = true) : inst ρ l.path ∈ written assetTables sh ρ := by
  have hall : assetTables.links.all (linkOk assetTables) = true := by decide +kernel
  exact asset_link_sound assetTables l (List.all_eq_true.1 hall l hl) sh ρ hc

/-- Why the destination of a copy must be the very path the template writes: a `writeout` that keeps
    the extension of the user's icon (`favicon<suffix>`) while the template still says `favicon.png`
    does not pass the check, and for an `.ico` icon the emitted link names a file that is not written. -/
theorem asset_renamed_copy_witness :
    let l : Assets.Link := ⟨['b'], ['l', 'i', 'n', 'k'], ['h', 'r', 'e', 'f'],
      [.lit ['f', 'a', 'v', 'i', 'c', 'o', 'n', '.', 'p', 'n', 'g']], .tt⟩
    let T : Assets.Tables := ⟨[l], [⟨[.lit ['f', 'a', 'v', 'i', 'c', 'o', 'n'], .dyn ['s']], .file, .tt⟩], []⟩
    linkOk T l = false ∧
      inst (fun _ => ['.', 'i', 'c', 'o']) l.path ∉ written T ⟨fun _ => 0, fun _ => false⟩ (fun _ => ['.', 'i', 'c', 'o']) := by
  decide +kernel

/-- The built-in Markdown aliases through which users link their own files: over the regenerated tables
    (`aliases.update({...})` of `main`; the `copytree` of `media_dir`, `BasePage.page_dir`), `|url|` is the
    output root and every other one (`|media|`, `|page|`) expands to exactly the directory below which
    `writeout` reproduces the user's directory — so `|media|/<file>` names the copy of `<media_dir>/<file>`. -/
theorem alias_roots_are_copied_trees (a : Str × List Piece) (ha : a ∈ assetTables.aliases) :
    flat a.2 = [] ∨ ∃ w ∈ assetTables.writes, w.src = .user ∧ flat w.dest = flat a.2 := by
  have hall : assetTables.aliases.all (aliasOk assetTables) = true := by decide +kernel
  have h := List.all_eq_true.1 hall a ha
  simp only [aliasOk, Bool.or_eq_true, decide_eq_true_eq, List.any_eq_true, Bool.and_eq_true] at h
  exact h

/-- Clause "from every page depth (… nested static pages)" for a page's own `copy_subdir`: over the
    regenerated guard of the copy loop of `PagetreePage.writeout`, for **every** static page (index
    page or not, any nesting depth of its directory, any output root), every directory `d` the page
    names in `copy_subdir` and every file `f` below it, the relative URL `d/f` written on that page
    resolves to a file that the page's own `writeout` creates. -/
theorem page_copy_subdir_link_resolves (p : Assets.PageNode) (base : List Seg) (d : Seg)
    (fs : List (List Seg)) (f : List Seg) (hmem : (d, fs) ∈ p.copySubdir) (hf : f ∈ fs)
    (hb : Normal base) (hl : Normal p.loc) (hd : NormalSeg d) (hfn : Normal f) :
    resolve (base ++ pageDirOf p) (d :: f) ∈ (pageWrites pageTables p).map (base ++ ·) := by
  have hg : ∀ i, pageTables.copyGuard.runs i = true := by decide
  exact copy_link_written pageTables p (hg _) base d fs f hmem hf hb hl hd hfn

/-- … and for the other (non-Markdown) files of a page directory, which the node of the directory's
    `index.md` carries: a relative URL `f` written on a page of that directory resolves to the copy
    made when the index page is written. -/
theorem page_file_link_resolves (p : Assets.PageNode) (hi : p.isIndex = true) (base : List Seg) (f : Seg)
    (hf : f ∈ p.files) (hb : Normal base) (hl : Normal p.loc) (hfn : NormalSeg f) :
    resolve (base ++ pageDirOf p) [f] ∈ (pageWrites pageTables p).map (base ++ ·) := by
  have hg : pageTables.filesGuard.runs true = true := by decide
  exact file_link_written pageTables p (by rw [hi]; exact hg) base f hf hb hl hfn

/-- Why the copy loop must run for every page: if only the index page of a directory copied
    `copy_subdir` directories, the page `guide/tutorial.md` with its own `copy_subdir: figs` would
    link `figs/plot.png`, which nothing writes. -/
theorem page_copy_index_only_witness :
    let p : Assets.PageNode := ⟨[['g', 'u', 'i', 'd', 'e']], ['t', 'u', 't'], [(['f', 'i', 'g', 's'], [[['p', '.', 'p', 'n', 'g']]])], []⟩
    resolve ([['o', 'u', 't']] ++ pageDirOf p) [['f', 'i', 'g', 's'], ['p', '.', 'p', 'n', 'g']] ∉
      (pageWrites ⟨.indexOnly, .always, ⟨.withSuffix, .withSuffix, .withSuffix⟩⟩ p).map ([['o', 'u', 't']] ++ ·) := by
  decide +kernel

/-! ## state that outlives one page / one text — the Markdown converter, a cache in front of `relurl` -/

/-- Generic form, for any table of resetting sites: in a run of any length, with any labels and any table left in the
    converter at the start, a text that is converted at a site that starts from a reset converter, and that refers to
    each footnote it defines, gets only its own footnotes listed — every back-link `#fnref:l` and every reference
    `#fn:l` in it names an element of the same converted text. -/
theorem footnote_links_sound (T : Footnotes.Tables) (seen : List Footnotes.Site) (st : List Str)
    (convs : List Footnotes.Conv)
    (p : Footnotes.Conv × Footnotes.Out) (hp : p ∈ convs.zip (Footnotes.convertAll T seen st convs))
    (hs : p.1.site ∈ T.resets) (hw : ∀ l ∈ p.1.defs, l ∈ p.1.refs) : Footnotes.linksOk p.2 = true := by
  induction convs generalizing seen st with
  | nil => cases hp
  | cons c cs ih =>
    simp only [Footnotes.convertAll, List.zip_cons_cons, List.mem_cons] at hp
    rcases hp with rfl | hp
    · simp only [Footnotes.start, hs, if_true]
      exact Footnotes.convert_reset_ok c hw
    · exact ih _ _ hp

/-- Clause "any `#fragment` names an element present in that file", for the footnote links of the texts users write
    footnotes in: over the sites regenerated by probing the real pipeline (`mdTables`), the front page text, every
    doc comment — whichever entity, however many were converted before it by the same converter — and every static
    page get only their own footnotes.  (`_partial`: the three conversions that the variant `Footnotes.asIs` starts *without* a
    reset — `summary:` metadata, project summary, author description — are outside; that is the explicit hypothesis
    `hx`; see `footnote_leak_witness` and finding C09-footnotes-leak-into-conversions-without-reset, repaired in FORD
    by 0409932.) -/
theorem footnote_links_resolve_partial (seen : List Footnotes.Site) (st : List Str) (convs : List Footnotes.Conv)
    (p : Footnotes.Conv × Footnotes.Out) (hp : p ∈ convs.zip (Footnotes.convertAll mdTables seen st convs))
    (hx : p.1.site ∈ Footnotes.mainSites) (hw : ∀ l ∈ p.1.defs, l ∈ p.1.refs) :
    Footnotes.linksOk p.2 = true := by
  have hall : Footnotes.tablesOk mdTables = true := by decide
  exact footnote_links_sound mdTables seen st convs p hp (of_decide_eq_true (List.all_eq_true.1 hall _ hx)) hw

/-- Full strength, for a tree in which every conversion site resets (with fixes/C09-md-reset-summaries.diff the probe
    reports all six). -/
theorem footnote_links_resolve (hfix : Footnotes.allSites.all (fun s => decide (s ∈ mdTables.resets)) = true)
    (seen : List Footnotes.Site) (st : List Str) (convs : List Footnotes.Conv) (p : Footnotes.Conv × Footnotes.Out)
    (hp : p ∈ convs.zip (Footnotes.convertAll mdTables seen st convs)) (hw : ∀ l ∈ p.1.defs, l ∈ p.1.refs) :
    Footnotes.linksOk p.2 = true := by
  have hmem : p.1.site ∈ Footnotes.allSites := by cases p.1.site <;> decide
  exact footnote_links_sound mdTables seen st convs p hp (of_decide_eq_true (List.all_eq_true.1 hfix _ hmem)) hw

/-- The excluded class genuinely violates the property in the variant `Footnotes.asIs` (FORD before 0409932): the `summary:` metadata of an entity is
    converted right after its doc comment without a reset and gets that comment's footnote listed, with a back-link
    to a reference that is not in the summary.  And why the reset must come before **every** doc comment: with one
    reset per project (in front of the loop: only the first doc comment starts clean), the second entity's documentation
    lists the first one's footnote. -/
theorem footnote_leak_witness :
    (Footnotes.convertAll Footnotes.asIs [] [] [⟨.entityDoc, false, [['n']], [['n']]⟩, ⟨.entitySummary, false, [], []⟩]).map Footnotes.linksOk
        = [true, false] ∧
      (Footnotes.convertAll { resets := [], resetsFirst := [.entityDoc] } [] [] [⟨.entityDoc, false, [['n']], [['n']]⟩, ⟨.entityDoc, false, [], []⟩]).map Footnotes.linksOk
        = [true, false] := by
  decide +kernel

/-- Clause "from every page depth (… nested static pages)", for everything the templates put through the `relurl`
    filter: over the reuse key regenerated by probing the registered filter (`memoKey`), for **every** sequence of
    filter calls — any texts, any pages, any order — each call returns what `relative_url` computes for the directory
    of the page it is rendered on; an earlier page's result is never handed to a page in another directory, however
    alike their names. -/
theorem relurl_filter_is_function_of_page {β : Type} (f : Str → List Seg → β) (calls : List (Str × List Seg)) :
    Memo.runCached memoKey f [] calls = calls.map (fun c => f c.1 (dirOf c.2)) :=
  Memo.cached_eq_direct memoKey (by decide) f calls

/-- Why the key of such a cache must be the whole directory: keyed by the *name* of the page's directory,
    `page/examples/first.html` is given the reference computed for `page/dev/examples/index.html`, which from there
    leads to `examples/index.html` in the output root — a file that does not exist. -/
theorem relurl_cache_by_dir_name_witness :
    let out : List Seg := [['o']]
    let tgt : List Seg := out ++ [['p', 'a', 'g', 'e'], ['e', 'x'], ['i']]
    let deep : List Seg := out ++ [['p', 'a', 'g', 'e'], ['d', 'e', 'v'], ['e', 'x'], ['i']]
    let flat : List Seg := out ++ [['p', 'a', 'g', 'e'], ['e', 'x'], ['f']]
    let f : Str → List Seg → List Seg := fun _ d => resolve d (relpath tgt d)
    Memo.runCached .pageDir f [] [([], deep), ([], flat)] = [tgt, tgt] ∧
      Memo.runCached .dirName (fun _ d => relpath tgt d) [] [([], deep), ([], flat)]
        = [relpath tgt (dirOf deep), relpath tgt (dirOf deep)] ∧
      resolve (dirOf flat) (relpath tgt (dirOf deep)) = out ++ [['e', 'x'], ['i']] := by
  decide +kernel

/-- Non-vacuity of the hypotheses of `getUrl_points_at_owner_page` and `entity_url_depth_one` on a concrete entity: a variable of a type
    declared in a module gets `type/<type>.html#variable-<name>`. -/
example :
    getUrl urlTables
      [⟨"FortranVariable".toList, "variable".toList, "x".toList, true, false⟩,
       ⟨"FortranType".toList, "type".toList, "t".toList, true, false⟩,
       ⟨"FortranModule".toList, "module".toList, "m".toList, true, false⟩,
       ⟨"FortranSourceFile".toList, "sourcefile".toList, "a.f90".toList, true, false⟩]
      = some ⟨"type".toList, "t".toList, some "variable-x".toList⟩ := by
  simp -index only [String.toList_ofList]
  decide +kernel

/-! ## what a static page is called - by the links to it, by the writer, by the search index -/

/-- Generic form, for any naming tables whose three places agree (`PageName.tablesOk`): the link that the `relurl`
    filter leaves for `PageNode.url` of the page `<loc>/<stem>.md` on a page lying in **any** directory `dir` of the
    output tree (front page, entity pages, list pages, static pages nested arbitrarily deep), in a tree at any root
    `base`, resolves to a file that the `writeout` of that page creates - whatever the stem looks like. -/
theorem page_link_sound (T : Assets.PageTables) (hT : PageName.tablesOk T.names = true)
    (p : Assets.PageNode) (base dir : List Seg) (hb : Normal base) (hd : Normal dir) (hl : Normal p.loc) :
    resolve (base ++ dir) (PageName.linkTo T.names base dir p.loc p.stem) ∈ (pageWrites T p).map (base ++ ·) := by
  rw [PageName.linkTo_resolves T.names hT base dir p.loc p.stem hb hd hl]
  exact List.mem_map_of_mem (outPath_mem_pageWrites T p)

/-- Clause "resolves to a file that exists in the output directory ... from every page depth (... nested static
    pages)" for the links FORD itself writes to static pages (side-bar tree and bread crumbs of `info_page.html`,
    the navigation bar entry of `base.html`): over the namings regenerated by probing the real `PageNode` and
    `PagetreePage` objects, for **every** page of the tree - any location, any stem, dots included (`release-1.2.md`) -
    seen from every directory and under every root. -/
theorem page_link_names_written_file (p : Assets.PageNode) (base dir : List Seg)
    (hb : Normal base) (hd : Normal dir) (hl : Normal p.loc) :
    resolve (base ++ dir) (PageName.linkTo pageTables.names base dir p.loc p.stem) ∈
      (pageWrites pageTables p).map (base ++ ·) :=
  page_link_sound pageTables (by decide) p base dir hb hd hl

/-- Clause "is relative ... so the output can be moved": that link does not depend on where the tree lives. -/
theorem page_link_relocatable (p : Assets.PageNode) (base base' dir : List Seg) :
    PageName.linkTo pageTables.names base dir p.loc p.stem = PageName.linkTo pageTables.names base' dir p.loc p.stem := by
  unfold PageName.linkTo
  rw [relpath_prefix, relpath_prefix]

/-- Clause "the search index": the `url` of the page's entry in `search_database.json` (`PagetreePage.loc`), which
    `search.html` resolves against the output root, names the file written for the page. -/
theorem page_search_url_names_written_file (p : Assets.PageNode) (base : List Seg)
    (hb : Normal base) (hl : Normal p.loc) :
    resolve base (PageName.searchPath pageTables.names p.loc p.stem) ∈ (pageWrites pageTables p).map (base ++ ·) := by
  rw [PageName.searchPath_resolves pageTables.names (by decide) base p.loc p.stem hb hl]
  exact List.mem_map_of_mem (outPath_mem_pageWrites pageTables p)

/-- Why no project without a dot in a page's file name can tell the namings apart: on every stem without a dot
    `with_suffix(".html")` and `<stem>.html` are the same name. -/
theorem page_namings_agree_on_plain_stems (n m : PageName.Naming) (stem : Seg) (h : '.' ∉ stem) :
    n.name stem = m.name stem :=
  PageName.name_plain n m stem h

/-- Why the three places must agree: with the writer changed to `<stem>.html` and the links left at
    `with_suffix(".html")`, the page `release-1.2.md` is written to `page/release-1.2.html` while the side bar of
    `page/index.html` links `release-1.html`, which nothing writes. -/
theorem page_name_mixed_witness :
    let T : Assets.PageTables := ⟨.always, .always, ⟨.withSuffix, .appendHtml, .appendHtml⟩⟩
    let p : Assets.PageNode := ⟨[], "release-1.2".toList, [], []⟩
    PageName.tablesOk T.names = false ∧
    PageName.linkTo T.names [['o']] [['p', 'a', 'g', 'e']] p.loc p.stem = ["release-1.html".toList] ∧
    resolve ([['o']] ++ [['p', 'a', 'g', 'e']]) (PageName.linkTo T.names [['o']] [['p', 'a', 'g', 'e']] p.loc p.stem) ∉
      (pageWrites T p).map ([['o']] ++ ·) := by
  simp -index only [String.toList_ofList]
  decide +kernel

example : PageName.withSuffixHtml "release-1.2".toList = "release-1.html".toList := by
  simp -index only [String.toList_ofList]
  decide +kernel
example : PageName.withSuffixHtml "x..y".toList = "x..html".toList := by
  simp -index only [String.toList_ofList]
  decide +kernel
example : PageName.withSuffixHtml "a.".toList = "a..html".toList := by
  simp -index only [String.toList_ofList]
  decide +kernel
example : PageName.withSuffixHtml ".a".toList = ".a.html".toList := by
  simp -index only [String.toList_ofList]
  decide +kernel
example : PageName.linkTo pageTables.names [['o']] [['p', 'a', 'g', 'e'], ['s', 'u', 'b']] [['v', '1', '.', '0']] "a.b.c".toList
    = [up, "v1.0".toList, "a.b.html".toList] := by
  simp -index only [String.toList_ofList]
  decide +kernel

/-! ## graph node URLs -/

/-- Generic form, for any tables that pass `GraphUrl.tablesOk` (one step up, gates in place, every template that
    prints a graph renders pages exactly one directory below the root): on a page of **any** such template, in any
    directory `pd` directly below any root `base`, the URL of a node of an entity of this project whose `get_url()`
    is the normal path `u` resolves to `base ++ u` - the file `get_url()` names (see `getUrl_points_at_owner_page`
    and `entity_url_depth_one`). -/
theorem graph_node_url_sound (T : GraphUrl.Tables) (hT : GraphUrl.tablesOk T = true)
    (n : GraphUrl.Node) (hint : n.fromStr = false ∧ n.external = false)
    (base : List Seg) (pd : Seg) (r : List Seg)
    (hb : Normal base) (hpd : NormalSeg pd) (hu : ∀ u, n.url = some u → Normal u)
    (h : GraphUrl.nodeUrl T n = some r) :
    ∃ u, n.url = some u ∧ resolve (base ++ [pd]) r = base ++ u := by
  obtain ⟨_, u, hurl, _, hr⟩ := GraphUrl.nodeUrl_some T n r h
  simp only [GraphUrl.tablesOk, Bool.and_eq_true, decide_eq_true_eq] at hT
  have hp : T.parentDir = [up] := hT.1.1.1.1
  refine ⟨u, hurl, ?_⟩
  rcases hr with ⟨_, hk⟩ | ⟨hr, _⟩
  · simp [hint.1, hint.2] at hk
  · rw [hr, hp]
    exact resolve_up base pd u hb hpd (hu u hurl)

/-- Clause "every URL ... embedded SVG graphs ... resolves", over the regenerated tables (`graphTables`: prefix read
    from `Documentation.__init__`, gates probed on the real `BaseNode`, host templates from the Jinja AST with the
    depth of real page objects): every clickable node of an entity of the project, on every page that prints a graph. -/
theorem graph_node_url_resolves (n : GraphUrl.Node) (hint : n.fromStr = false ∧ n.external = false)
    (base : List Seg) (pd : Seg) (r : List Seg)
    (hb : Normal base) (hpd : NormalSeg pd) (hu : ∀ u, n.url = some u → Normal u)
    (h : GraphUrl.nodeUrl graphTables n = some r) :
    ∃ u, n.url = some u ∧ resolve (base ++ [pd]) r = base ++ u :=
  graph_node_url_sound graphTables (by decide) n hint base pd r hb hpd hu h

/-- ... and only entities that are displayed get a clickable node: an entity whose page the `display` /
    `hide_undoc` settings removed (`visible = False`), and a binding of such a type, have no URL in any graph. -/
theorem graph_node_url_only_if_visible (n : GraphUrl.Node) (r : List Seg)
    (h : GraphUrl.nodeUrl graphTables n = some r) :
    n.visible = true ∧ (n.bound = true → n.parentVisible = true) := by
  obtain ⟨hs, _⟩ := GraphUrl.nodeUrl_some graphTables n r h
  have hv : graphTables.visibleGate = true := by decide
  have hbg : graphTables.boundGate = true := by decide
  simp [GraphUrl.shown, hv, hbg] at hs
  refine ⟨hs.1, fun hb => ?_⟩
  rcases hs.2 with h | h
  · simp [hb] at h
  · exact h

/-- every template that prints a graph renders its pages exactly one directory below the root (so that the one
    prefix `../` of the run is right for all of them); in particular `index.html`, `search.html` and the static
    pages print none. -/
theorem graph_hosts_depth_one (h : Str × GraphUrl.Depth) (hh : h ∈ graphTables.hosts) : h.2 = .one := by
  have hall : graphTables.hosts.all (fun h => decide (h.2 = .one)) = true := by decide
  simpa using List.all_eq_true.1 hall h hh

/-- Why the depth matters: the same node URL on a page at the root (a graph printed on `index.html`) leaves the
    output directory's tree of pages - it resolves to `/module/m.html` next to, not inside, `/out`. -/
theorem graph_node_url_depth_zero_witness :
    let n : GraphUrl.Node := ⟨false, false, some ["module".toList, "m.html".toList], true, false, true⟩
    GraphUrl.nodeUrl graphTables n = some [up, "module".toList, "m.html".toList] ∧
    resolve ["out".toList] [up, "module".toList, "m.html".toList] = ["module".toList, "m.html".toList] := by
  simp -index only [String.toList_ofList]
  decide +kernel

example : GraphUrl.nodeUrl graphTables ⟨false, false, some ["proc".toList, "p.html".toList], false, false, true⟩ = none := by
  simp -index only [String.toList_ofList]
  decide +kernel
example : GraphUrl.nodeUrl graphTables ⟨false, false, some ["type".toList, "t.html#boundprocedure-b".toList], true, true, false⟩ = none := by
  simp -index only [String.toList_ofList]
  decide +kernel
example : GraphUrl.nodeUrl graphTables ⟨true, false, some ["https:".toList, [], "x.org".toList], true, false, true⟩
    = some ["https:".toList, [], "x.org".toList] := by
  simp -index only [String.toList_ofList]
  decide +kernel
example : resolve ["out".toList, "lists".toList] [up, "module".toList, "m.html".toList] = ["out".toList, "module".toList, "m.html".toList] := by
  simp -index only [String.toList_ofList]
  decide +kernel

end Ford.C09
