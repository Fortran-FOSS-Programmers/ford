/-
  C07 - cross-references resolve to the entity Fortran scoping designates.
  Property theorems only; the model is FordModel/Scope.lean (FORD's name tables as
  the code builds them), the specification FordModel/ScopeSpec.lean (innermost
  enclosing frame wins, sibling and nested frames are never consulted, no frame =>
  text), helper lemmas FordModel/Lemmas/Scope*.lean.

  Variants of the model: `asIs` = ⟨alias := true, hostOverLocal := true⟩ shares the host's
  dict objects and merges host over local (findings C07-shared-type-tables-leak and
  C07-host-procedure-beats-local, repaired in FORD by 9594e8c); `repaired` = ⟨false, false⟩.  The
  harness decides on every run which variant the working tree implements.
-/
import FordModel.Scope
import FordModel.ScopeSpec
import FordModel.Lemmas.Scope
import FordModel.Lemmas.ScopeUse
import FordModel.ScopeBlock
import FordModel.Lemmas.ScopeBlock
import FordModel.ScopeBind
import FordModel.Lemmas.ScopeBind
import FordModel.ScopeSub
import FordModel.Lemmas.ScopeSub
import FordModel.ScopeAccess
import FordModel.Lemmas.ScopeAccess
import FordModel.Generated.C07
namespace Ford.C07
open Ford Ford.Scope

/-- With copied host tables and local-over-host merging,
    every reference slot of a top-level unit and of all its nested scopes - for
    arbitrary nesting depth, arbitrary reuse of names, arbitrary USE statements -
    holds exactly what the specification designates: the entity of the innermost
    enclosing scope that declares or use-associates the name, and text when no
    enclosing scope does.  `treeOK` excludes only the prototype class of
    `proto_before_absint_witness` (procedure(...) whose name is an abstract interface
    inside and a procedure outside); type, parent-type, component, binding,
    finaliser, constructor and specific-procedure slots are unrestricted. -/
theorem resolution_correct (env : ModEnv) (s : Scope) (ok : treeOK env [] s = true) :
    corrUnit repaired env s = specScope env [] s := by
  simp [corrUnit, corr_repaired env s [] [] [] [] Rep.nil ok]

/-- the same for nested scopes in any context: the content of the slots of a scope
    depends only on the chain of its enclosing frames - not on sibling scopes, not
    on anything nested in them, not on the order of correlation - and the shared
    tables come back unchanged. -/
theorem no_sibling_leak (env : ModEnv) (s : Scope) (hostP a t : Table) (ch : List Frame)
    (h : Rep hostP a t ch) (ok : treeOK env ch s = true) :
    corr repaired env hostP a t s = (a, t, specScope env ch s) :=
  corr_repaired env s hostP a t ch h ok

/-- a module exports exactly its top-level frame (what USE sees is what the
    specification says is visible at module level) -/
theorem exports_are_frame (env : ModEnv) (s : Scope) :
    exportsOf env s = ⟨(frameOf env s).p, (frameOf env s).a, (frameOf env s).t⟩ := by
  cases s; rfl

/-- **inner declarations shadow host ones** in the specification: a frame that has
    the name decides, whatever the enclosing frames contain. -/
theorem inner_shadows_host (f : Frame) (ch : List Frame) (i : Nat) (ph : Phase) (n : Str) (e : Ent)
    (h : tget f.t (lower n) = some e) :
    specLookup (f :: ch) ⟨i, .ty, ph, n⟩ = some e := by
  simp [specLookup, chainGet, h]

/-- **unresolved stays text**: a name that no enclosing frame has, in any of its
    tables, denotes nothing - whatever is declared under that name elsewhere. -/
theorem unresolved_stays_text (ch : List Frame) (s : Slot)
    (h : ∀ f ∈ ch, tget f.p (lower s.name) = none ∧ tget f.a (lower s.name) = none ∧ tget f.t (lower s.name) = none) :
    specLookup ch s = none := by
  unfold specLookup
  cases s.kind with
  | ty => exact chainGet_none _ ch _ fun f hf => (h f hf).2.2
  | pr => exact chainGet_none _ ch _ fun f hf => (h f hf).1
  | pa => exact chainGetPA_none ch _ fun f hf => ⟨(h f hf).1, (h f hf).2.1⟩
  | bn => rfl
/-- letter case: a slot is looked up under its lower-cased name, so two spellings
    of one Fortran name always denote the same entity. -/
theorem case_insensitive (tb : Tabs) (i j : Nat) (k : SK) (ph ph' : Phase) (n m : Str)
    (h : lower n = lower m) : lookupSlot tb ⟨i, k, ph, n⟩ = lookupSlot tb ⟨j, k, ph', m⟩ := by
  simp [lookupSlot, h]

/-! ### use association: what one USE statement makes visible, and under which name

  The frames of the specification are built from `importTable` (the model of
  `FortranModule.get_used_entities`); the theorems below tie `importTable` to Fortran's rule
  `useDenotes`, which is written without reference to the mechanism (no dict, no iteration
  order): a renamed entity is accessible by its local name and by nothing else. -/

/-- For every USE statement - without list, with renames, with an
    ONLY list with or without renames, any spelling - and every name `n`: what the statement
    enters into the using scope's table under `n` is exactly the entity Fortran's rule designates
    (the module's entity `r` for a local name `n => r`; nothing for a name not on an ONLY list;
    nothing for the module's name of an entity that was renamed away; the module's entity `n`
    otherwise).  `useOK` excludes only statements that are ambiguous (one entity given two local
    names, one local name given to two entities, a rename onto the name of another accessible
    entity of the same module). -/
theorem use_association_correct (pub : Table) (m : Str) (only : Bool) (items : List (Str × Str)) (n : Str)
    (ok : useOK pub ⟨m, only, items⟩ = true) :
    tget (importTable pub ⟨m, only, items⟩) n = useDenotes pub ⟨m, only, items⟩ n := by
  simp only [useOK, Bool.and_eq_true, decide_eq_true_eq, Bool.or_eq_true, List.all_eq_true,
    List.any_eq_true, Option.isNone_iff_eq_none] at ok
  obtain ⟨⟨ndR, ndL⟩, clash⟩ := ok
  unfold useDenotes
  cases hfind : (useItems ⟨m, only, items⟩).find? (fun lr => decide (lr.1 = n)) with
  | some lr =>
    obtain ⟨l, r⟩ := lr
    have hmem : (l, r) ∈ useItems ⟨m, only, items⟩ := List.mem_of_find?_eq_some hfind
    obtain rfl : l = n := by simpa using List.find?_some hfind
    refine importTable_unique pub _ l r (localName_of_mem m only items r l ndR hmem) fun k e' hk hn => ?_
    rcases localName_cases m only items k l hn with h1 | ⟨ho, rfl, hno⟩
    · exact (Prod.mk.inj (eq_of_nodup_map (·.1) ndL h1 hmem rfl)).2
    · -- `k` is filed under its own name although `k => r` is on the list: the clash `useOK` excludes
      rcases clash with hc | hc
      · simp [ho] at hc
      · rcases hc (k, r) hmem with h2 | ⟨⟨l', r'⟩, h2, rfl⟩
        · rw [h2] at hk
          cases hk
        · exact absurd h2 (hno l')
  | none =>
    have hnl : ∀ r, (n, r) ∉ useItems ⟨m, only, items⟩ := fun r hr => by
      simpa using List.find?_eq_none.1 hfind (n, r) hr
    -- `n` is no local name, so only the module's `n` itself can be filed under it: unrenamed, without ONLY
    have self : ∀ k, localName only (usedNames items) k = some n →
        only = false ∧ k = n ∧ ∀ l, (l, k) ∉ useItems ⟨m, only, items⟩ :=
      fun k hn => (localName_cases m only items k n hn).resolve_left (hnl k)
    simp only
    split
    · rename_i ho
      exact importTable_none pub _ n fun k hn => by simp [(self k hn).1] at ho
    · split
      · rename_i hany
        simp only [List.any_eq_true, decide_eq_true_eq] at hany
        obtain ⟨⟨l', r'⟩, hm', rfl⟩ := hany
        refine importTable_none pub _ r' fun k hn => ?_
        obtain ⟨_, rfl, hno⟩ := self k hn
        exact hno l' hm'
      · rename_i ho hany
        simp only [List.any_eq_true, decide_eq_true_eq, not_exists, not_and, Bool.not_eq_true] at hany ho
        subst ho
        exact importTable_unique pub _ n n (localName_self m items n fun l hl => hany (l, n) hl rfl)
          fun k _ _ hn => (self k hn).2.1

/-- Without hypothesis: whatever a USE statement makes visible under a name `n`
    is a public entity `k` of the used module, and `n` is the local name given to `k` on the
    statement or - only without ONLY and only if `k` is not renamed - `k` itself. -/
theorem use_import_sound (pub : Table) (m : Str) (only : Bool) (items : List (Str × Str)) (n : Str) (e : Ent)
    (h : tget (importTable pub ⟨m, only, items⟩) n = some e) :
    ∃ k, tget pub k = some e ∧
      ((n, k) ∈ useItems ⟨m, only, items⟩ ∨
        (only = false ∧ k = n ∧ ∀ l, (l, k) ∉ useItems ⟨m, only, items⟩)) := by
  obtain ⟨k, hk, hn⟩ := importTable_sound pub ⟨m, only, items⟩ n e h
  exact ⟨k, hk, localName_cases m only items k n hn⟩

/-- Without hypothesis on the module: the module-side name of a renamed
    entity, when it is not itself a local name on the statement, is NOT made visible by that
    statement - so in the using scope it keeps denoting the scope's own or its host's entity of
    that name, or nothing (text). -/
theorem renamed_original_hidden (pub : Table) (m : Str) (only : Bool) (items : List (Str × Str)) (n l : Str)
    (hren : (l, n) ∈ useItems ⟨m, only, items⟩) (hloc : ∀ r, (n, r) ∉ useItems ⟨m, only, items⟩) :
    tget (importTable pub ⟨m, only, items⟩) n = none := by
  cases hi : tget (importTable pub ⟨m, only, items⟩) n with
  | none => rfl
  | some e =>
    obtain ⟨k, _, h1 | ⟨_, hkn, hno⟩⟩ := use_import_sound pub m only items n e hi
    · exact absurd h1 (hloc k)
    · subst hkn; exact absurd hren (hno l)

/-- module m0 declares types ta (1), tb (2) and procedure pa (5).  Module m1 declares its own
    ta (3), does `use m0, te => ta, pe => pa` and refers to ta, te, tb, pa, pe (slots 0-4); its
    subroutine pb does `use m0, TE => TA` again and refers to ta, te (slots 5, 6). -/
def wRename : List (Bool × Scope) :=
  [(true, .mk ['m','0'] 0 false [] [⟨.ty, ['t','a'], 1⟩, ⟨.ty, ['t','b'], 2⟩] []
      (.cons (.mk ['p','a'] 5 false [] [] [] .nil) .nil)),
   (true, .mk ['m','1'] 6 false [⟨['m','0'], false, [(['t','e'], ['t','a']), (['p','e'], ['p','a'])]⟩]
      [⟨.ty, ['t','a'], 3⟩]
      [⟨0, .ty, .late, ['t','a']⟩, ⟨1, .ty, .late, ['t','e']⟩, ⟨2, .ty, .late, ['t','b']⟩,
       ⟨3, .pa, .late, ['p','a']⟩, ⟨4, .pa, .late, ['p','e']⟩]
      (.cons (.mk ['p','b'] 7 false [⟨['M','0'], false, [(['T','E'], ['T','A'])]⟩] []
        [⟨5, .ty, .late, ['t','a']⟩, ⟨6, .ty, .late, ['t','e']⟩] .nil) .nil))]

/-- with the rename, `ta` is the using module's own type (3)
    - also from the nested procedure that renames again -, `te` is m0's (1), the untouched `tb`
    comes through (2), the renamed-away `pa` stays text and `pe` is m0's procedure; model (both
    variants) = specification. -/
theorem rename_keeps_own_entity_witness :
    (corrProject repaired [] wRename).map (·.2) = [some 3, some 1, some 3, some 1, some 2, none, some 5] ∧
      (corrProject asIs [] wRename).map (·.2) = (corrProject repaired [] wRename).map (·.2) ∧
      (specProject [] wRename).map (·.2) = (corrProject repaired [] wRename).map (·.2) := by decide +kernel

/-- non-vacuity of `useOK` and of the hypotheses of `renamed_original_hidden` -/
example : useOK [(['t','b'], 2), (['t','a'], 1)] ⟨['m','0'], false, [(['T','e'], ['t','A'])]⟩ = true ∧
    tget (importTable [(['t','b'], 2), (['t','a'], 1)] ⟨['m','0'], false, [(['T','e'], ['t','A'])]⟩) ['t','e'] = some 1 ∧
    tget (importTable [(['t','b'], 2), (['t','a'], 1)] ⟨['m','0'], false, [(['T','e'], ['t','A'])]⟩) ['t','a'] = none ∧
    tget (importTable [(['t','b'], 2), (['t','a'], 1)] ⟨['m','0'], false, [(['T','e'], ['t','A'])]⟩) ['t','b'] = some 2 := by
  decide +kernel
/-- the class `useOK` excludes: `use m0, tb => ta` where m0 also exports a tb -/
example : useOK [(['t','b'], 2), (['t','a'], 1)] ⟨['m','0'], false, [(['t','b'], ['t','a'])]⟩ = false := by decide +kernel

/-- Sharing the host's dict objects is unobservable as
    long as no nested scope of the unit (at any depth) declares a derived type or an
    abstract interface or has a USE statement: the shared-table code and the
    copied-table code put the same entity in every slot (either procedure merge order). -/
theorem no_sibling_leak_partial (h : Bool) (env : ModEnv) (hostP a t : Table)
    (n : Str) (e : Ent) (f : Bool) (us : List Use) (ds : List Decl) (ss : List Slot) (ks : Kids)
    (hk : quietKids ks = true) :
    (corr ⟨true, h⟩ env hostP a t (.mk n e f us ds ss ks)).2.2 =
      (corr ⟨false, h⟩ env hostP a t (.mk n e f us ds ss ks)).2.2 := by
  simp only [corr, unitTabs_alias true h, corrKids_quiet h env ks _ _ _ _ hk]

/-- `all_procs.update(parent.all_procs)` (host over
    local) and the repaired merge (local over host) answer every lookup alike when
    no local procedure name is also a key of the host's table. -/
theorem inner_shadows_host_partial (lp hostP a t : Table) (s : Slot)
    (h : ∀ k ∈ lp, tget hostP k.1 = none) :
    lookupSlot ⟨hostP ++ lp, a, t⟩ s = lookupSlot ⟨lp ++ hostP, a, t⟩ s := by
  simp [lookupSlot, tget_append_comm lp hostP h]

/-- module m0 / subroutine pa declares type ta / sibling subroutine pb has `type(ta) :: v1` -/
def wSibling : Scope :=
  .mk "m0".toList 0 false [] [] []
    (.cons (.mk "pa".toList 1 false [] [⟨.ty, "ta".toList, 3⟩] [] .nil)
      (.cons (.mk "pb".toList 2 false [] [] [⟨0, .ty, .late, "ta".toList⟩] .nil) .nil))

/-- the type local to `pa` is stored in the slot of its
    sibling `pb`, where Fortran sees no `ta` at all. -/
theorem no_sibling_leak_witness :
    (corrUnit asIs [] wSibling).map (·.2) = [some 3] ∧
      (specScope [] [] wSibling).map (·.2) = [none] ∧
      (corrUnit repaired [] wSibling).map (·.2) = [none] := by decide +kernel

/-- module m0 has `type(ta) :: v1` (slot 0) and contains subroutine pa which declares ta -/
def wChild : Scope :=
  .mk "m0".toList 0 false [] [] [⟨0, .ty, .late, "ta".toList⟩]
    (.cons (.mk "pa".toList 1 false [] [⟨.ty, "ta".toList, 2⟩] [] .nil) .nil)

/-- a declaration local to a nested (child) scope is visible
    to the variables of its host. -/
theorem child_leak_witness :
    (corrUnit asIs [] wChild).map (·.2) = [some 2] ∧ (specScope [] [] wChild).map (·.2) = [none] := by
  decide +kernel

/-- module m0 contains pa and pb; pb has an internal procedure pa and `procedure(pa), pointer :: v1` -/
def wShadow : Scope :=
  .mk "m0".toList 0 false [] [] []
    (.cons (.mk "pa".toList 1 false [] [] [] .nil)
      (.cons (.mk "pb".toList 2 false [] [] [⟨0, .pa, .late, "pa".toList⟩]
        (.cons (.mk "pa".toList 3 false [] [] [] .nil) .nil)) .nil))

/-- the host's procedure `pa` (1) is stored where
    Fortran designates the internal procedure `pa` (3). -/
theorem inner_shadows_host_witness :
    (corrUnit asIs [] wShadow).map (·.2) = [some 1] ∧
      (specScope [] [] wShadow).map (·.2) = [some 3] ∧
      (corrUnit repaired [] wShadow).map (·.2) = [some 3] := by decide +kernel

/-- module m0 contains pa and pb; pb declares an abstract interface pa and `procedure(pa), pointer :: v1` -/
def wProto : Scope :=
  .mk "m0".toList 0 false [] [] []
    (.cons (.mk "pa".toList 1 false [] [] [] .nil)
      (.cons (.mk "pb".toList 2 false [] [⟨.ab, "pa".toList, 3⟩] [⟨0, .pa, .late, "pa".toList⟩] .nil) .nil))

/-- `all_procs` is consulted before
    `all_absinterfaces`, so the host's procedure wins over the abstract interface
    declared in the referencing scope - in both variants (the repair 9594e8c does
    not cover this class; it is the class `treeOK` excludes). -/
theorem proto_before_absint_witness :
    (corrUnit asIs [] wProto).map (·.2) = [some 1] ∧
      (corrUnit repaired [] wProto).map (·.2) = [some 1] ∧
      (specScope [] [] wProto).map (·.2) = [some 3] ∧ treeOK [] [] wProto = false := by decide +kernel

/-- non-vacuity of `treeOK` / `quietKids`: the other witnesses satisfy the exclusions
    they are not about -/
example : treeOK [] [] wSibling = true ∧ treeOK [] [] wShadow = true := by decide +kernel
example : (match wShadow with | .mk _ _ _ _ _ _ ks => quietKids ks) = true := by decide +kernel

/-! ### BLOCK constructs: declarations local to a child scope are invisible

  FORD has no object for a BLOCK; its parser files a statement met inside a BLOCK in the lists of
  the enclosing unit unless the dispatcher branch is guarded by `blocklevel == 0`
  (`flatten reg`, FordModel/ScopeBlock.lean).  Specification: a reference outside a BLOCK denotes
  what it denotes in the program without its BLOCK constructs (`specBScope`). -/

/-- When the dispatcher files neither USE statements nor derived types
    nor interface blocks of a BLOCK in the enclosing unit, then - for every variant, any nesting of
    procedures and of BLOCKs, any reuse of names, any host tables - every reference slot holds
    exactly what it holds in the program without its BLOCK constructs, and no block-local
    declaration becomes an entity of the enclosing unit. -/
theorem block_local_invisible (v : Variant) (env : ModEnv) (hostP a t : Table) (reg : BlockReg) (s : BScope)
    (hu : reg.use = false) (ht : reg.ty = false) (hi : reg.ifc = false) :
    corr v env hostP a t (flatten reg s) = corr v env hostP a t (eraseBlocks s) ∧ registered reg s = [] := by
  rw [flatten_none reg hu ht hi s]
  exact ⟨rfl, registered_none reg ht hi s⟩

/-- Variant `repaired` with every dispatcher branch guarded: all
    slots of a unit with BLOCK constructs (any depth) = the specification, in which a BLOCK is a
    child scope whose frame is on no reference's chain. -/
theorem resolution_correct_blocks (env : ModEnv) (s : BScope) (ok : treeOK env [] (eraseBlocks s) = true) :
    corrUnit repaired env (flatten BlockReg.none s) = specBScope env [] s := by
  rw [flatten_none BlockReg.none rfl rfl rfl s]
  exact resolution_correct env (eraseBlocks s) ok

/-- The variant whose USE branch has no guard (finding C07-block-use-leaks-into-enclosing-unit,
    repaired in FORD by 4c901b0), and either value of `use`: as long as no BLOCK of the tree contains a USE statement, BLOCK constructs are
    unobservable - block-local derived types, interfaces and abstract interfaces shadow nothing and
    resolve nothing outside the BLOCK. -/
theorem block_local_invisible_partial (v : Variant) (env : ModEnv) (hostP a t : Table) (use : Bool) (s : BScope)
    (h : noBlockUse s = true) :
    corr v env hostP a t (flatten ⟨use, false, false⟩ s) = corr v env hostP a t (eraseBlocks s) ∧
      registered ⟨use, false, false⟩ s = [] := by
  rw [flatten_noBlockUse ⟨use, false, false⟩ rfl rfl s h]
  exact ⟨rfl, registered_none ⟨use, false, false⟩ rfl rfl s⟩

/-- module m0 declares type ta (1).  Module m1 contains subroutine pa with `type(ta) :: v` (slot 0),
    a BLOCK with `use m0`, and an internal subroutine pb with `type(ta) :: w` (slot 1). -/
def wBlockUse : List (Bool × BScope) :=
  [(true, .mk ['m','0'] 0 false [] [⟨.ty, ['t','a'], 1⟩] [] .nil .nil),
   (true, .mk ['m','1'] 2 false [] [] [] .nil
      (.cons (.mk ['p','a'] 3 false [] [] [⟨0, .ty, .late, ['t','a']⟩]
        (.cons (.mk [⟨['m','0'], false, []⟩] [] .nil) .nil)
        (.cons (.mk ['p','b'] 4 false [] [] [⟨1, .ty, .late, ['T','a']⟩] .nil .nil) .nil)) .nil))]

/-- the variant `BlockReg.asFound` (USE branch unguarded; finding
    C07-block-use-leaks-into-enclosing-unit, repaired in FORD by 4c901b0) links both references to m0's type although `ta`
    is use-associated inside the BLOCK only (Fortran: no visible declaration => text); with the USE
    branch guarded the model equals the specification. -/
theorem block_use_leak_witness :
    (corrBProject repaired BlockReg.asFound wBlockUse).map (·.2) = [some 1, some 1] ∧
      (specBProject wBlockUse).map (·.2) = [none, none] ∧
      (corrBProject repaired BlockReg.none wBlockUse).map (·.2) = [none, none] := by decide +kernel

/-- module m1 declares type ta (1) and contains subroutine pa with `type(ta) :: x` (slot 0),
    `type(tb) :: y` (slot 2), a BLOCK declaring its own types ta (5) and - in a nested BLOCK - tb (6),
    and an internal subroutine pb with `type(ta) :: w` (slot 1). -/
def wBlockType : List (Bool × BScope) :=
  [(true, .mk ['m','1'] 2 false [] [⟨.ty, ['t','a'], 1⟩] [] .nil
      (.cons (.mk ['p','a'] 3 false [] [] [⟨0, .ty, .late, ['t','a']⟩, ⟨2, .ty, .late, ['t','b']⟩]
        (.cons (.mk [] [⟨.ty, ['T','A'], 5⟩] (.cons (.mk [] [⟨.ty, ['t','b'], 6⟩] .nil) .nil)) .nil)
        (.cons (.mk ['p','b'] 4 false [] [] [⟨1, .ty, .late, ['t','a']⟩] .nil .nil) .nil)) .nil))]

/-- the guard of the derived-type branch is load-bearing - a dispatcher
    that files block-local type definitions in the enclosing procedure (`ty := true`) lets the BLOCK's
    `ta` shadow the module's in the procedure and in its internal procedure, and links `tb`, which
    has no visible declaration; the guarded dispatcher gives the specification. -/
theorem block_type_leak_witness :
    (corrBProject repaired ⟨false, true, false⟩ wBlockType).map (·.2) = [some 5, some 5, some 6] ∧
      (wBlockType.flatMap fun x => registered ⟨false, true, false⟩ x.2) = [5, 6] ∧
      (specBProject wBlockType).map (·.2) = [some 1, some 1, none] ∧
      (corrBProject repaired BlockReg.asFound wBlockType).map (·.2) = [some 1, some 1, none] := by decide +kernel

/-- non-vacuity of `noBlockUse`: the second witness has BLOCKs (nested) but no USE in them; the first has -/
example : (wBlockType.all fun x => noBlockUse x.2) = true ∧ (wBlockUse.all fun x => noBlockUse x.2) = false := by
  decide +kernel

/-! ### local procedure-like entities: dummy procedures, interface bodies

  A dummy procedure declared by an interface body, and an interface body inside a generic
  interface, are entities of the scope that contains the interface block: `FortranCodeUnit._cleanup`
  enters them into `all_procs` (model: a `.pr` declaration), and `FortranProcedure._cleanup`, which
  turns the interface body of a dummy procedure into the argument object, leaves that entry alone. -/

/-- Whatever the frame of a unit - its own declarations (nested
    procedures, interface bodies, dummy procedures declared by an interface body, generic
    interfaces) and its USE statements - has under a name decides every procedure reference of
    that name in the unit, whatever the host's table contains under it (repaired merge order). -/
theorem local_entity_shadows_host (env : ModEnv) (hostP a t : Table) (n : Str) (e : Ent) (f : Bool)
    (uses : List Use) (decls : List Decl) (slots : List Slot) (kids : Kids) (i : Nat) (ph : Phase) (r : Str) (x : Ent)
    (h : tget (frameOf env (.mk n e f uses decls slots kids)).p (lower r) = some x) :
    lookupSlot (unitTabs repaired env hostP a t uses decls kids) ⟨i, .pr, ph, r⟩ = some x ∧
      lookupSlot (unitTabs repaired env hostP a t uses decls kids) ⟨i, .pa, ph, r⟩ = some x := by
  have key : tget (unitTabs repaired env hostP a t uses decls kids).p (lower r) = some x := by
    rw [unitTabs_repaired env hostP a t n e f uses decls slots kids, tget_append, h]
  simp [lookupSlot, key]

/-- module m0 contains subroutine pa (1) and subroutine pb(pa) (2) whose dummy procedure pa (3) is
    declared by an interface body; `procedure(pa)` is referenced in pb (slot 0), in pb's internal
    procedure pc (slot 1) and in pb's sibling pd (slot 2). -/
def wDummy : Scope :=
  .mk ['m','0'] 0 false [] [] []
    (.cons (.mk ['p','a'] 1 false [] [] [] .nil)
      (.cons (.mk ['p','b'] 2 false [] [⟨.pr, ['P','A'], 3⟩] [⟨0, .pa, .late, ['p','a']⟩]
        (.cons (.mk ['p','c'] 4 false [] [] [⟨1, .pa, .late, ['P','a']⟩] .nil) .nil))
        (.cons (.mk ['p','d'] 5 false [] [] [⟨2, .pa, .late, ['p','a']⟩] .nil) .nil)))

/-- inside pb and its internal procedure the name denotes
    the dummy procedure (3), in the sibling the module procedure (1); model with the local-over-host merge = specification, with the host-over-local
    merge all three are the module procedure (cf. `inner_shadows_host_witness`).  Without the table entry of the
    dummy procedure both references would fall through to the host's procedure. -/
theorem dummy_procedure_shadows_host_witness :
    (corrUnit repaired [] wDummy).map (·.2) = [some 3, some 3, some 1] ∧
      (specScope [] [] wDummy).map (·.2) = [some 3, some 3, some 1] ∧
      (corrUnit asIs [] wDummy).map (·.2) = [some 1, some 1, some 1] := by decide +kernel

/-! ### type-bound procedures

  `FortranBoundProcedure.correlate` looks the names of a binding statement up in a table that
  depends on the kind of the statement (`bindTableOf`): generic -> the bindings of the type,
  specific -> the procedures of the scope, deferred -> nowhere. -/

/-- The name of a deferred binding is looked up in no table: its
    slot keeps the name whatever procedures of that name the scope, its hosts or the used modules
    have - in the model and in the specification (a deferred binding has no implementation in
    its type; a binding name is local to the type). -/
theorem deferred_binding_stays_text (tb : Tabs) (ch : List Frame) (i : Nat) (ph : Phase) (n : Str) :
    bindTableOf false true = .nowhere ∧
      lookupSlot tb ⟨i, bindSlotKind true, ph, n⟩ = none ∧
      specLookup ch ⟨i, bindSlotKind true, ph, n⟩ = none := by
  simp [bindTableOf, bindSlotKind, lookupSlot, specLookup]

/-- the other two kinds: the target of a specific binding is a procedure of the scope (slot kind
    `pr`, resolved by `corr`), the specifics of a generic binding are bindings of the type -/
theorem binding_tables (d : Bool) :
    bindTableOf false false = .scopeProcs ∧ bindSlotKind false = .pr ∧ bindTableOf true d = .typeBindings := by
  cases d <;> simp [bindTableOf, bindSlotKind]

/-- When an inherited generic binding has a list of specifics of
    its own (`shared = false`), then for every sequence of derived types correlated parents first
    - any depth of extension, any overriding, any reuse of binding names, whatever is correlated
    before or after - every specific of every generic binding holds exactly what Fortran
    designates: the type's own binding of that name, else the binding inherited from the nearest
    ancestor that declares one, else the name stays text.  The only hypothesis is that the list
    cells are distinct (`Nodup` of the slot ids). -/
theorem generic_specifics_correct (pre : List TypeRec) (r : TypeRec) (post : List TypeRec) (c : Nat × Str)
    (hc : c ∈ r.gens) (nd : (recIds (pre ++ r :: post)).Nodup) :
    cellGet (runTypes false [] [] (pre ++ r :: post)) c.1 = specGeneric pre.reverse r c.2 := by
  have := runTypes_spec pre r post c hc [] [] [] StoreOK.nil (fun _ _ => rfl) nd
  simpa using this

/-- The variant `shared = true` (the inherited copy shares the parent's list; finding
    C07-inherited-generic-binding-shares-specifics-list, repaired in FORD by b5eb22e):
    without type extension - no type of the sequence has a resolved parent type - sharing is
    unobservable: every cell holds what it holds with lists of their own. -/
theorem generic_specifics_partial (rs : List TypeRec) (h : ∀ r ∈ rs, r.parent = none) :
    runTypes true [] [] rs = runTypes false [] [] rs :=
  runTypes_noParent true rs [] [] h

/-- type ta (1) has the binding pa (10) and `generic :: g => pa` (cell 0); its extension tb (2)
    overrides pa (11); tc (3) extends tb and has `generic :: h => pa` (cell 1). -/
def wGeneric : List TypeRec :=
  [⟨1, none, [(['p','a'], 10)], [(0, ['P','a'])], []⟩, ⟨2, some 1, [(['p','a'], 11)], [], []⟩,
   ⟨3, some 2, [], [(1, ['p','a'])], []⟩]

/-- the variant `shared = true` (repaired in FORD by b5eb22e) leaves tb's overriding binding (11) in the
    list of ta's generic binding, where Fortran designates ta's own binding (10); tc's generic
    binding names the inherited binding of tb (11) in both variants; with lists of their own the
    model equals the specification. -/
theorem generic_specifics_witness :
    genericRes true wGeneric = [(0, some 11), (1, some 11)] ∧
      genericRes false wGeneric = [(0, some 10), (1, some 11)] ∧
      specGenericRes [] wGeneric = [(0, some 10), (1, some 11)] := by decide +kernel

/-! ### submodules

  A submodule is a scope nested in its parent (the submodule `parent` of the ancestor module in
  `submodule (anc:parent) name`, else the ancestor module); a separate module procedure implements
  the module procedure interface it accesses from an ancestor (FordModel/ScopeSub.lean). -/

/-- When a submodule's local declarations are merged OVER the
    tables of its parent (`ancOverLocal = false`) and these represent the chain `ch` of the parent's
    frames, then every reference slot of the submodule and of all scopes nested in it holds what the
    specification designates with `ch` as host chain, every separate module procedure is paired
    with the interface the innermost host frame has under its name (else its own), and the tables the submodule
    leaves to ITS submodules represent the chain extended by its own frame - so the statement
    carries over to submodules of any depth. -/
theorem submodule_resolution_correct (env : ModEnv) (host : Tabs) (ch : List Frame)
    (h : Rep host.p host.a host.t ch) (s : Scope) (ok : treeOK env ch s = true)
    (pairable : List Ent) (pairs : List (Nat × Str)) :
    (corrSub repaired false env host s).2 = specScope env ch s ∧
      pairSlots pairable host (scopeDecls s) (scopeKids s) pairs =
        specPairs pairable ch (localProcs (scopeDecls s) (scopeKids s)) pairs ∧
      Rep (corrSub repaired false env host s).1.p (corrSub repaired false env host s).1.a
        (corrSub repaired false env host s).1.t (frameOf env s :: ch) :=
  ⟨(corrSub_repaired env host ch h s ok).1, pairSlots_spec pairable host ch h _ _ pairs,
   (corrSub_repaired env host ch h s ok).2⟩

/-- The variant `ancOverLocal = true` (`all_X.update(parent.all_X)`; finding
    C07-submodule-ancestor-overrides-local, repaired in FORD by 28078b8): overwriting
    the local declarations with the parent's and merging them over the parent's answer every
    lookup alike as long as no name the submodule declares is a key of the parent's table of the
    same kind (table level, like `inner_shadows_host_partial`). -/
theorem submodule_local_shadows_partial (env : ModEnv) (host : Tabs) (uses : List Use) (decls : List Decl) (kids : Kids)
    (hp : ∀ k ∈ localProcs decls kids, tget host.p k.1 = none)
    (ha : ∀ k ∈ declsOf .ab decls, tget host.a k.1 = none)
    (ht : ∀ k ∈ declsOf .ty decls, tget host.t k.1 = none) (s : Slot) :
    lookupSlot (subTabs true env host uses decls kids) s = lookupSlot (subTabs false env host uses decls kids) s := by
  have h := applyUses_same env uses (tget_append_comm _ _ hp) (tget_append_comm _ _ ha) (tget_append_comm _ _ ht)
  simp only [subTabs, lookupSlot, ↓reduceIte, Bool.false_eq_true, h.1 _, h.2.1 _, h.2.2 _]
/-- module m0 declares type ta (1) and subroutine pc (2); its submodule s1 (10) declares its own
    ta (3) and pc (4) and refers to `type(ta)` (slot 0) and `procedure(pc)` (slot 1); slots 20, 21
    are its references to the ancestor module and the parent submodule. -/
def wSubLocal : List (UKind × Scope) :=
  [(.mod, .mk ['m','0'] 0 false [] [⟨.ty, ['t','a'], 1⟩] [] (.cons (.mk ['p','c'] 2 false [] [] [] .nil) .nil)),
   (.sub ⟨['M','0'], none, 20, 21, []⟩,
     .mk ['s','1'] 10 false [] [⟨.ty, ['T','a'], 3⟩]
       [⟨0, .ty, .late, ['t','a']⟩, ⟨1, .pa, .late, ['p','c']⟩] (.cons (.mk ['p','c'] 4 false [] [] [] .nil) .nil))]

/-- the variant `SVariant.asFound` (repaired in FORD by 28078b8 and 7b17ce2) links both references to the ancestor
    module's entities (1, 2) where Fortran designates the submodule's own (3, 4); merged the other
    way round the model equals the specification. -/
theorem submodule_local_shadowed_witness :
    (corrProjectS repaired SVariant.asFound [] [10] PState.empty wSubLocal).map (·.2) = [some 0, none, some 1, some 2] ∧
      (corrProjectS repaired SVariant.repaired [] [10] PState.empty wSubLocal).map (·.2) = [some 0, none, some 3, some 4] ∧
      (specProjectS [] SpecState.empty wSubLocal).map (·.2) = [some 0, none, some 3, some 4] := by decide +kernel

/-- modules m0 (type ta = 1) and m1 each have a submodule s1 (10 resp. 11); `submodule (m1:s1) s3`
    (12) refers to `type(ta)` (slot 0); slots 20-25 are the ancestor / parent references. -/
def wSubParent : List (UKind × Scope) :=
  [(.mod, .mk ['m','0'] 0 false [] [⟨.ty, ['t','a'], 1⟩] [] .nil),
   (.mod, .mk ['m','1'] 2 false [] [] [] .nil),
   (.sub ⟨['m','0'], none, 20, 21, []⟩, .mk ['s','1'] 10 false [] [] [] .nil),
   (.sub ⟨['m','1'], none, 22, 23, []⟩, .mk ['s','1'] 11 false [] [] [] .nil),
   (.sub ⟨['m','1'], some ['S','1'], 24, 25, []⟩, .mk ['s','3'] 12 false [] [] [⟨0, .ty, .late, ['t','a']⟩] .nil)]

/-- looking the parent up by its name alone in the project's
    list (here m0's s1 comes first) makes m0's submodule the parent of `m1:s1`'s child and links
    `type(ta)` to m0's type, although neither m1 nor its s1 has a `ta`; looked up by ancestor
    module and name, the parent is m1's s1 (11) and the reference stays text = specification. -/
theorem submodule_parent_by_name_witness :
    ((corrProjectS repaired ⟨false, true⟩ [] [10, 11, 12] PState.empty wSubParent).map (·.2)).drop 4 =
        [some 2, some 10, some 1] ∧
      ((corrProjectS repaired ⟨false, false⟩ [] [10, 11, 12] PState.empty wSubParent).map (·.2)).drop 4 =
        [some 2, some 11, none] ∧
      ((specProjectS [] SpecState.empty wSubParent).map (·.2)).drop 4 = [some 2, some 11, none] := by decide +kernel

/-- on a project that has no submodule the project-level model with
    submodules is the model `corrProject` the theorems above speak about (every variant of the two
    submodule switches). -/
theorem projects_without_submodules (v : Variant) (sv : SVariant) (pairable order : List Ent)
    (us : List (UKind × Scope)) (h : ∀ u ∈ us, kindIsSub u.1 = false) :
    corrProjectS v sv pairable order PState.empty us = corrProject v [] (us.map fun u => (kindIsMod u.1, u.2)) :=
  corrProjectS_plain v sv pairable order us h PState.empty

/-! ### tie to the code: decision tables probed on the working tree (generated)

`nameTableOps` and `nameTableSites` are read from FORD's source, `accessWitness` is the project the
access probe is run on; every other table of `Generated/C07.lean` is OBSERVED: `translate/c07.py` runs
the implementation under test on small witness projects and records what it did.  The theorems below say
that these decisions are the ones the model makes. -/

/-- the recursion visits functions, then subroutines, then (after the nested units) the interfaces
    and the variables; derived types are correlated before the recursion - the order the
    model's `corr` uses (`Phase.early` / funcs / subs / `Phase.late`). -/
theorem recursion_order_generated :
    Ford.C07Gen.correlateRecursion.take 2 = ["functions", "subroutines"] ∧
      Ford.C07Gen.correlateRecursion.idxOf "subroutines" < Ford.C07Gen.correlateRecursion.idxOf "variables" ∧
      Ford.C07Gen.correlateRecursion.idxOf "subroutines" < Ford.C07Gen.correlateRecursion.idxOf "interfaces" ∧
      "variables" ∈ Ford.C07Gen.correlateRecursion ∧ "interfaces" ∈ Ford.C07Gen.correlateRecursion ∧
      Ford.C07Gen.typesBeforeRecursion = true := by decide +kernel

/-- the three host tables reach a nested unit in one of the shapes the model has a
    variant for -/
theorem host_tables_generated :
    (Ford.C07Gen.hostTables.map (·.1) = ["all_procs", "all_absinterfaces", "all_types"]) ∧
      (Ford.C07Gen.hostTables.lookup "all_procs" = some "update" ∨
        Ford.C07Gen.hostTables.lookup "all_procs" = some "merge-local-over-host") ∧
      (Ford.C07Gen.hostTables.lookup "all_types" = some "alias" ∨ Ford.C07Gen.hostTables.lookup "all_types" = some "copy") ∧
      Ford.C07Gen.hostTables.lookup "all_absinterfaces" = Ford.C07Gen.hostTables.lookup "all_types" := by
  decide +kernel

/-- The model's `importTable` (+ the lookup rule of the slot kind) reproduces
    `FortranModule.get_used_entities` as the working tree runs it: for each of the probed USE statements -
    no list, renames without ONLY, ONLY lists with and without renames, any letter case and layout - and
    every candidate name (the module's six names and the three local names of the renames: 9 per
    statement), the entity FORD links a
    `type(name)` / `procedure(name)` reference of the using unit to is the one the model computes from
    the statement; in particular a renamed entity is found under its local name and NOT under its
    original one, and a name that is not on an ONLY list is not found.  All these forms are probed. -/
theorem used_objects_generated :
    (∀ p ∈ Ford.C07Gen.useProbes, ∀ q ∈ p.2.2,
      lookupSlot
        ⟨importTable Ford.C07Gen.usePubProcs ⟨[], p.1, p.2.1⟩, importTable Ford.C07Gen.usePubAbs ⟨[], p.1, p.2.1⟩,
         importTable Ford.C07Gen.usePubTypes ⟨[], p.1, p.2.1⟩⟩
        ⟨0, if q.1 then .ty else .pa, .late, q.2.1⟩ = q.2.2) ∧
      (Ford.C07Gen.useProbes.any fun p => !p.1 && p.2.1.isEmpty) = true ∧
      (Ford.C07Gen.useProbes.any fun p => !p.1 && !p.2.1.isEmpty) = true ∧
      (Ford.C07Gen.useProbes.any fun p => p.1 && p.2.1.any fun lr => lr.1 != lr.2) = true ∧
      (Ford.C07Gen.useProbes.all fun p => p.2.2.length == 9) = true := by decide +kernel

/-- BLOCK constructs as the working tree parses them (probed): derived-type definitions, interface
    blocks, abstract interfaces, enumerations, variable declarations and attribute statements inside a
    BLOCK are NOT filed in the enclosing unit; nested and labelled BLOCKs are counted (a unit closes at
    its own END statement, a declaration after the END of a nested BLOCK is still inside the outer
    one) - so the registration behaviour of the working tree files no block-local declaration. -/
theorem block_guards_generated :
    Ford.C07Gen.blockFiled.lookup "type" = some false ∧
      Ford.C07Gen.blockFiled.lookup "interface" = some false ∧
      Ford.C07Gen.blockFiled.lookup "absinterface" = some false ∧
      Ford.C07Gen.blockFiled.lookup "enum" = some false ∧
      Ford.C07Gen.blockFiled.lookup "variable" = some false ∧
      Ford.C07Gen.blockFiled.lookup "attribute" = some false ∧
      (Ford.C07Gen.blockFiled.lookup "use").isSome = true ∧
      Ford.C07Gen.blockNesting.length = 3 ∧ (Ford.C07Gen.blockNesting.all (·.2)) = true ∧
      (regOfTable Ford.C07Gen.blockFiled).ty = false ∧
      (regOfTable Ford.C07Gen.blockFiled).ifc = false := by decide +kernel

/-- For the parser of the working tree: a program whose BLOCK
    constructs contain no USE statement is parsed into the object tree of the program without its
    BLOCKs (hence resolves every reference alike, in every variant); if a USE inside a BLOCK is not
    filed in the enclosing unit either, this holds for every program. -/
theorem blocks_invisible_generated (s : BScope) :
    (noBlockUse s = true →
      flatten (regOfTable Ford.C07Gen.blockFiled) s = eraseBlocks s) ∧
    ((regOfTable Ford.C07Gen.blockFiled).use = false →
      flatten (regOfTable Ford.C07Gen.blockFiled) s = eraseBlocks s) := by
  have ht : (regOfTable Ford.C07Gen.blockFiled).ty = false := by decide +kernel
  have hi : (regOfTable Ford.C07Gen.blockFiled).ifc = false := by decide +kernel
  exact ⟨fun h => flatten_noBlockUse _ ht hi s h, fun hu => flatten_none _ hu ht hi s⟩

/-- `FortranBoundProcedure.correlate` as the working tree runs it (probed on a witness that declares
    the name as a derived type, a procedure, an abstract interface and a binding of the type, in all 16
    combinations): the name on a SPECIFIC binding statement is looked up among the procedures of the
    scope only, the name of a DEFERRED binding nowhere, the specifics of a GENERIC binding among the
    bindings of the type only - the three answers of the model's `bindTableOf` -; the interface of a
    deferred binding among the procedures, then the abstract interfaces (slot kind `pa`). -/
theorem bound_procedure_lookup_generated :
    (bindTableOf false false = .scopeProcs ∧
        Ford.C07Gen.slotLookups.lookup "binding target" = some ["all_procs"]) ∧
      (bindTableOf false true = .nowhere ∧
        Ford.C07Gen.slotLookups.lookup "deferred binding name" = some []) ∧
      (bindTableOf true false = .typeBindings ∧ bindTableOf true true = .typeBindings ∧
        Ford.C07Gen.slotLookups.lookup "generic binding specific" = some ["bindings"]) ∧
      Ford.C07Gen.slotLookups.lookup "deferred binding interface" = some ["all_procs", "all_absinterfaces"] := by
  decide +kernel

/-- the name tables are bound or edited only where the model builds them (read from both source
    files, normalised to a set of (table, bind / write / remove) per function - whatever the
    statements are called, however many there are): the units build them - `_cleanup` of the code
    unit `all_procs` (model: `localProcs`; a module adds its procedure pointers), `correlate` of the
    code unit all three - and NO other `_cleanup` touches a table - in particular
    `FortranProcedure._cleanup`, which makes the interface body of a dummy procedure the argument
    object, keeps its entry -; the reference owners only bind their parent's tables (they never
    write into one); nothing is ever removed from a table. -/
theorem name_tables_generated :
    Ford.C07Gen.nameTableSites =
        ["FortranCodeUnit._common_initialize", "FortranCodeUnit._cleanup", "FortranCodeUnit.correlate",
         "FortranModule._cleanup", "FortranType.correlate", "FortranInterface.correlate",
         "FortranFinalProc.correlate", "FortranBoundProcedure.correlate", "FortranBlockData.correlate"] ∧
      (Ford.C07Gen.nameTableOps.all fun o => o.2.2 == "bind" || o.2.2 == "write") = true ∧
      ((Ford.C07Gen.nameTableOps.filter fun o =>
          ["FortranType.correlate", "FortranInterface.correlate", "FortranFinalProc.correlate",
           "FortranBoundProcedure.correlate"].contains o.1).all fun o => o.2.2 == "bind") = true ∧
      ((Ford.C07Gen.nameTableOps.filter fun o =>
          ["FortranCodeUnit._common_initialize", "FortranCodeUnit._cleanup", "FortranModule._cleanup"].contains o.1).all
          fun o => o.2.1 == "all_procs") = true ∧
      ((Ford.C07Gen.nameTableOps.filter fun o => o.1 == "FortranCodeUnit.correlate").map (·.2.1)).eraseDups =
        ["all_absinterfaces", "all_procs", "all_types"] := by
  decide +kernel

/-- `FortranType.correlate` as the working tree runs it (probed: `ta` with bindings pa, pz and the
    generic g1 => pa, `tb` extends `ta` and overrides pa): `boundprocs` of the extension is the
    inherited bindings followed by the own ones, and the inherited copy of the generic binding either
    keeps the parent's list of specifics - then the PARENT's generic is linked to the extension's
    binding (model `shared = true`) - or has a list of its own and the parent's generic
    stays with the parent's binding (`shared = false`); the extension's copy names the extension's
    binding in both.  The two shapes the model has. -/
theorem inherited_generic_generated :
    Ford.C07Gen.boundprocsOrder = ["pz", "g1", "pa"] ∧
      ((Ford.C07Gen.inheritedGenericShared = true ∧ Ford.C07Gen.inheritedGenericWitness = ("tb", "tb")) ∨
        (Ford.C07Gen.inheritedGenericShared = false ∧ Ford.C07Gen.inheritedGenericWitness = ("ta", "tb"))) := by
  decide +kernel

/-- submodules as the working tree correlates them (probed on a witness with two modules that each
    have a submodule `s1`): the parent of `submodule (m1:s1) s3` is found either by its name alone
    (model `parentByName`: m0's `s1`, and a name only that one can see gets linked) or by
    ancestor module and name (the name stays text); a submodule's own type / procedure either loses
    against the same-named one of its ancestor module (model `ancOverLocal`) or shadows
    it - both kinds alike -, and a separate module procedure whose name both its parent submodule and
    the ancestor module declare an interface for is paired accordingly (with the ancestor module's
    resp. with the innermost one, the parent submodule's; model `pairLookup`); the entities of the
    parent submodule, and through it of the ancestor module, are visible (model `hostTabs`). -/
theorem submodule_lookup_generated :
    Ford.C07Gen.submoduleProbes.length = 7 ∧
      (((Ford.C07Gen.submoduleProbes.map (·.2)).take 2 = ["ancestor", "ancestor"] ∧
          (Ford.C07Gen.submoduleProbes.map (·.2)).drop 6 = ["ancestor module's"]) ∨
        ((Ford.C07Gen.submoduleProbes.map (·.2)).take 2 = ["local", "local"] ∧
          (Ford.C07Gen.submoduleProbes.map (·.2)).drop 6 = ["parent submodule's"])) ∧
      ((((Ford.C07Gen.submoduleProbes.map (·.2)).drop 2).take 2 = ["by name", "linked"]) ∨
        (((Ford.C07Gen.submoduleProbes.map (·.2)).drop 2).take 2 = ["same ancestor", "text"])) ∧
      ((Ford.C07Gen.submoduleProbes.map (·.2)).drop 4).take 2 = ["linked", "linked"] := by
  decide +kernel

/-- the name spaces each kind of reference is looked up in, in priority order, as the working tree
    does it (probed, see `bound_procedure_lookup_generated`), are those of the model's slot kinds:
    `ty` (parent type, components, variables, arguments of type(...) / class(...)) = the types only;
    `pa` (procedure(...) of components, variables, results) = the procedures, then the abstract
    interfaces; `pr` (finaliser, constructor, specific procedure of a generic interface) = the
    procedures only; and a reference is found whatever its letter case. -/
theorem slot_lookups_generated :
    (["parent type", "component type", "variable type", "variable class", "argument type"].all fun k =>
        Ford.C07Gen.slotLookups.lookup k == some ["all_types"]) = true ∧
      (["component procedure", "variable procedure", "result procedure"].all fun k =>
        Ford.C07Gen.slotLookups.lookup k == some ["all_procs", "all_absinterfaces"]) = true ∧
      (["finaliser", "constructor", "generic interface specific"].all fun k =>
        Ford.C07Gen.slotLookups.lookup k == some ["all_procs"]) = true ∧
      Ford.C07Gen.lookupsIgnoreCase = true := by
  decide +kernel

/-! ### PRIVATE type-bound procedures are inherited -/

/-- Code as found (an extension skips the PRIVATE bindings of
    its parent).  When no type of the sequence has a PRIVATE binding (decidable), skipping them is
    unobservable: the model of the code as found is the model that inherits every binding - the one
    `generic_specifics_correct` is about -, for shared and for own lists of specifics, any number of
    types, any inheritance. -/
theorem generic_specifics_private_partial (sh : Bool) (rs : List TypeRec) (h : ∀ r ∈ rs, r.privs = []) :
    runTypesD true sh [] [] rs = runTypes sh [] [] rs :=
  runTypesD_noPrivs sh rs [] [] h (fun _ => rfl)

/-- the switch off is the model without it (ties `runTypesD false` to the theorems about `runTypes`) -/
theorem generic_specifics_inherit_all (sh : Bool) (rs : List TypeRec) (st : TStore) (cells : Cells) :
    runTypesD false sh st cells rs = runTypes sh st cells rs := by
  induction rs generalizing st cells with
  | nil => rfl
  | cons r rs ih => simp only [runTypesD, runTypes, stepTypeD_false, ih]

/-- `type ta` (1) with `procedure, private :: pa` (10) and a public `pb` (12); `type, extends(ta) :: tb`
    (2) in the same module with `generic :: g => pa, pb` (slots 0, 1); `type, extends(tb) :: tc` (3)
    overrides nothing and has `generic :: h => pa` (slot 2). -/
def wPrivate : List TypeRec :=
  [⟨1, none, [(['p','b'], 12), (['p','a'], 10)], [], [10]⟩,
   ⟨2, some 1, [], [(0, ['p','a']), (1, ['P','b'])], []⟩,
   ⟨3, some 2, [], [(2, ['p','a'])], []⟩]

/-- the code as found does not hand ta's PRIVATE binding `pa`
    down to its extensions, so the specific `pa` of tb's and tc's generic bindings stays text although
    the binding is inherited (F2018 7.5.7.2) and, in the module that defines ta, accessible; the public
    `pb` is found.  Inheriting every binding, the model equals the specification. -/
theorem generic_specifics_private_witness :
    genericResD true false wPrivate = [(0, none), (1, some 12), (2, none)] ∧
      genericResD false false wPrivate = [(0, some 10), (1, some 12), (2, some 10)] ∧
      specGenericRes [] wPrivate = [(0, some 10), (1, some 12), (2, some 10)] := by decide +kernel

/-- on the translator's witness (the Fortran text of
    `wPrivate`) the working tree leaves in the three specifics what the model computes - as found
    (PRIVATE bindings skipped) or with the repair (every binding inherited = the specification). -/
theorem private_binding_generated :
    Ford.C07Gen.privateProbe = genericResD true false wPrivate ∨
      Ford.C07Gen.privateProbe = genericResD false false wPrivate := by decide +kernel

/-! ### accessibility - a USE statement sees exactly the PUBLIC identifiers of a module -/

section Access
open Ford.ScopeAccess

/-- ("use-associated" means: accessible).  The accessibility FORD has
    settled for a declared entity at the moment the module's public tables are derived is the one
    Fortran gives its identifier: the access statement that names it, else the access attribute of
    the derived type of that name (so the generic interface named like a type - its user-defined
    constructor - follows the type), else the module's default.  For every module, any number of
    declarations and statements; hypotheses = the module is Fortran: an identifier is named by at most
    one access statement, only type declarations carry an access attribute, type names are distinct,
    a procedure or abstract interface is not named like a type. -/
theorem accessibility_is_fortran (m : AModule) (d : ADecl) (hS : stmtsOnce m.stmts = true)
    (hA : d.kind ≠ .ty → d.attr = none)
    (hT : d.kind = .ty → typeNamed m.decls (lower d.name) = some d)
    (hP : (d.kind = .pr ∨ d.kind = .ab) → typeNamed m.decls (lower d.name) = none) :
    finalPerm asBuilt m d = accOf m (lower d.name) := by
  rw [finalPerm_asBuilt]
  cases hk : d.kind with
  | ty => exact declPerm_accOf m hS d (by rw [hT hk]; rfl)
  | pr => exact declPerm_accOf m hS d (by rw [hP (.inl hk), hA (by simp [hk])]; rfl)
  | ab => exact declPerm_accOf m hS d (by rw [hP (.inr hk), hA (by simp [hk])]; rfl)
  | gi =>
    cases ht : typeNamed m.decls (lower d.name) with
    | none => exact declPerm_accOf m hS d (by rw [ht, hA (by simp [hk])]; rfl)
    | some t =>
      have h3 := typeNamed_some _ _ _ ht
      rw [← h3.2.2]
      exact declPerm_accOf m hS t (by rw [h3.2.2, ht]; rfl)

/-- ("a structure constructor ... denotes the entity that
    Fortran's scoping rules designate"): when the public tables are derived, the generic interface
    named like a derived type of the module has that type's accessibility - whatever was written on
    the type statement, in access statements, or inherited from the module's default. -/
theorem constructor_shares_type_accessibility (m : AModule) (g t : ADecl) (hg : g.kind = .gi)
    (ht : typeNamed m.decls (lower g.name) = some t) :
    finalPerm asBuilt m g = finalPerm asBuilt m t := by
  have h3 := typeNamed_some _ _ _ ht
  simp [finalPerm, asBuilt, hg, ht, h3.2.1]

/-- ("declarations ... invisible", "a name with no visible
    declaration stays unresolved"): every entry of a public table FORD derives from a module's own
    declarations is a declared entity of that kind whose accessibility is PUBLIC at that moment -
    nothing PRIVATE is handed to a USE statement (any variant, any module). -/
theorem private_entities_not_exported (v : AVariant) (m : AModule) (k : DK) (x : Str × Ent)
    (h : x ∈ localPubK v m k m.decls) :
    ∃ d ∈ m.decls, d.kind = k ∧ finalPerm v m d = .pub ∧ x = (lower d.name, d.ent) :=
  let ⟨d, hm, ⟨hk, hp⟩, hx⟩ := (mem_localPubK v m k m.decls x).1 h
  ⟨d, hm, hk, hp, hx⟩

/-- and every declared entity that is PUBLIC is in the public table of
    its kind under its lower-cased name. -/
theorem public_entities_exported (v : AVariant) (m : AModule) (d : ADecl) (hm : d ∈ m.decls)
    (hp : finalPerm v m d = .pub) :
    (lower d.name, d.ent) ∈ localPubK v m d.kind m.decls :=
  (mem_localPubK v m d.kind m.decls _).2 ⟨d, hm, ⟨rfl, hp⟩, rfl⟩

/-- what a module passes on of the entities it use-associates itself:
    under the name `n` exactly what it imported, if the module's default is PUBLIC or `n` is on its
    public list; nothing otherwise (a default-PRIVATE module hides what it uses unless a PUBLIC
    statement names it). -/
theorem reexport_follows_default (m : AModule) (tb : Table) (n : Str) :
    tget (filterTable (shouldBePublic m) tb) n =
      if m.dflt = .pub ∨ n ∈ publicList m then tget tb n else none := by
  rw [filterTable_get]
  simp [shouldBePublic]

/-- ("a declaration ... wins over use-associated ... ones" presupposes
    what is use-associated): for every module that is Fortran - any number of declarations, access
    statements and USE statements (with ONLY lists and renames), any modules before it - the public
    tables FORD builds (`_cleanup`: accessibility from default / attribute / statements, constructor
    follows its type, `filter_public`; `correlate`: `pub_*.update(filter_public(imported))`) answer
    every lookup exactly like the specification: the identifiers visible at the module's top level
    (declared or use-associated) that Fortran makes PUBLIC there.  Hypotheses = validity of the
    module: at most one access statement per identifier, access attributes on type declarations only,
    distinct type names, no procedure named like a type, a PRIVATE statement names declared
    identifiers only (`privatesDeclared`; the excluded class is C06-private-imported-reexported), no
    declared identifier is also use-associated. -/
theorem exports_are_accessible_frame (env : ModEnv) (m : AModule)
    (hS : stmtsOnce m.stmts = true) (hV : privatesDeclared m = true)
    (hA : ∀ d ∈ m.decls, d.kind ≠ .ty → d.attr = none)
    (hT : ∀ d ∈ m.decls, d.kind = .ty → typeNamed m.decls (lower d.name) = some d)
    (hP : ∀ d ∈ m.decls, (d.kind = .pr ∨ d.kind = .ab) → typeNamed m.decls (lower d.name) = none)
    (hC : ∀ u ∈ m.uses, ∀ x, findMod env (lower u.mod) = some x → ∀ n, declared m.decls n = true →
      tget (importTable x.p u) n = none ∧ tget (importTable x.a u) n = none ∧ tget (importTable x.t u) n = none)
    (n : Str) :
    tget (exportsA asBuilt env m).p n = tget (specExportsA env m).p n ∧
      tget (exportsA asBuilt env m).a n = tget (specExportsA env m).a n ∧
      tget (exportsA asBuilt env m).t n = tget (specExportsA env m).t n := by
  have hfin : ∀ d ∈ m.decls, finalPerm asBuilt m d = accOf m (lower d.name) :=
    fun d hd => accessibility_is_fortran m d hS (hA d hd) (hT d hd) (hP d hd)
  refine reexports_same m hV env m.uses _ _ (fun k => ?_) hC n
  -- before the USE statements: the module's own declarations
  simp [localPubK_filter asBuilt m _ m.decls hfin, filterTable_append]

/-- default-PRIVATE module: `type, public :: tb` (1) with constructor `interface tb` (2), `public :: pa`,
    procedures pa (3), pb (4), type ta (5) -/
def wAcc : AModule :=
  ⟨['m','0'], .priv, [(.pub, ['P','a'])], [],
   [⟨.ty, ['t','b'], 1, some .pub⟩, ⟨.gi, ['T','b'], 2, none⟩, ⟨.pr, ['p','a'], 3, none⟩, ⟨.pr, ['p','b'], 4, none⟩,
    ⟨.ty, ['t','a'], 5, none⟩], []⟩

/-- non-vacuity of `exports_are_accessible_frame`: its hypotheses hold for `wAcc`, whose public tables
    hold the constructor of the PUBLIC type and the procedure named PUBLIC, and nothing else -/
example : (∀ n, tget (exportsA asBuilt [] wAcc).p n = tget (specExportsA [] wAcc).p n) ∧
    (exportsA asBuilt [] wAcc).p = [(['t','b'], 2), (['p','a'], 3)] ∧
    (exportsA asBuilt [] wAcc).t = [(['t','b'], 1)] :=
  ⟨fun n => (exports_are_accessible_frame [] wAcc (by decide +kernel) (by decide +kernel) (by decide +kernel) (by decide +kernel) (by decide +kernel)
      (fun u hu => nomatch hu) n).1, by decide +kernel, by decide +kernel⟩

/-- m0: `type, private :: ta` (1) with the constructor idiom `interface ta` (2), default PUBLIC;
    m1 uses m0 and declares its own `type ta` (3): slot 0 = constructor of m1's ta, slot 1 =
    `procedure(ta)`; m2 uses m0 and declares `type ta` (4) with its own `interface ta` (5): slot 2 =
    constructor of m2's ta. -/
def wCtor : List AModule :=
  [⟨['m','0'], .pub, [], [], [⟨.ty, ['t','a'], 1, some .priv⟩, ⟨.gi, ['T','a'], 2, none⟩], []⟩,
   ⟨['m','1'], .pub, [], [⟨['m','0'], false, []⟩], [⟨.ty, ['t','a'], 3, none⟩],
    [⟨0, .pr, .early, ['t','a']⟩, ⟨1, .pa, .early, ['T','A']⟩]⟩,
   ⟨['m','2'], .pub, [], [⟨['M','0'], false, []⟩], [⟨.ty, ['t','a'], 4, none⟩, ⟨.gi, ['t','a'], 5, none⟩],
    [⟨2, .pr, .early, ['t','a']⟩]⟩]

/-- non-vacuity with use association: m1 of `wCtor` (own `type ta`, `use m0` where m0 hides its `ta`)
    satisfies the hypotheses against m0's public tables; its own `ta` is exported, m0's is not -/
example : (∀ n, tget (exportsA asBuilt [(['m','0'], exportsA asBuilt [] wCtor[0])] wCtor[1]).t n =
      tget (specExportsA [(['m','0'], exportsA asBuilt [] wCtor[0])] wCtor[1]).t n) ∧
    (exportsA asBuilt [(['m','0'], exportsA asBuilt [] wCtor[0])] wCtor[1]).t = [(['t','a'], 3)] ∧
    (exportsA asBuilt [(['m','0'], exportsA asBuilt [] wCtor[0])] wCtor[1]).p = [] :=
  ⟨fun n => (exports_are_accessible_frame _ wCtor[1] (by decide +kernel) (by decide +kernel) (by decide +kernel) (by decide +kernel) (by decide +kernel)
      (by
        intro u hu x hx k _
        obtain rfl : u = ⟨['m','0'], false, []⟩ := List.mem_singleton.1 hu
        obtain rfl := Option.some.inj hx
        exact ⟨rfl, rfl, rfl⟩) n).2.2, by decide +kernel, by decide +kernel⟩

/-- the order of the two steps is load-bearing.  If the
    constructor gets its type's accessibility only after the public tables were derived, the
    interface of the PRIVATE type is exported, becomes the "constructor" of the using modules' own
    types `ta` (slots 0, 2) and the target of `procedure(ta)` (slot 1); settled before, nothing of
    m0 is visible: no constructor / text / m2's own interface = the specification. -/
theorem constructor_sync_late_witness :
    (corrProjectA syncLate [] wCtor).map (·.2) = [some 2, some 2, some 2] ∧
      (corrProjectA asBuilt [] wCtor).map (·.2) = [none, none, some 5] ∧
      (specProjectA [] wCtor).map (·.2) = [none, none, some 5] := by decide +kernel

/-- on the translator's witness project (a default-PUBLIC
    and a default-PRIVATE module with the constructor idiom with and without access attribute on the
    type, access statements, users of both, a default-PRIVATE re-exporter with a PUBLIC statement, a
    module declaring a type of a hidden name) the implementation under test stores in every
    reference slot, and holds in every public table under every candidate name, exactly what the
    model computes - and that is what the specification designates. -/
theorem access_generated :
    (corrProjectA asBuilt [] (Ford.C07Gen.accessWitness.map ofProbe)).map (fun r => (r.1.id, r.2)) =
        Ford.C07Gen.accessSlots ∧
      exportsAnswer (exportsProjectA asBuilt [] (Ford.C07Gen.accessWitness.map ofProbe))
        Ford.C07Gen.accessExported = true ∧
      (specProjectA [] (Ford.C07Gen.accessWitness.map ofProbe)).map (fun r => (r.1.id, r.2)) =
        Ford.C07Gen.accessSlots := by decide +kernel

/-- towards non-vacuity of `accessibility_is_fortran` on module m0 of `wCtor`: it has no access
    statement, and its PRIVATE type `ta` is the type filed under the name of both declarations -/
example : stmtsOnce ([] : List (Perm × Str)) = true ∧
    typeNamed [⟨.ty, ['t','a'], 1, some .priv⟩, ⟨.gi, ['T','a'], 2, none⟩] ['t','a'] =
      some ⟨.ty, ['t','a'], 1, some .priv⟩ := by decide +kernel

end Access

end Ford.C07
