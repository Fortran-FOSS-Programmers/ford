/-
  C13 — every graph shows exactly the relation it is documented to show.
  Property theorems only; the model is FordModel/Graph.lean and FordModel/GraphLabel.lean, the
  lemmas live in FordModel/Lemmas: Graph (`add_nodes`, the table fall-back, `__str__`), GraphData
  (node creation, the per-class `add_node`, the work list of `get_call_nodes`), GraphCalls (its
  fuel; roots of the call graph), GraphCtor (relation slots) - each importing the one before - and
  GraphLabel (labels).

  Vocabulary: `graphOf fx tab nd c roots` is the `FortranGraph` of class `c` (one of the
  twelve graph classes of ford/graphs.py) drawn over the node objects `nd` for the
  root entities `roots`; `succOf tab nd c` is what the class's `add_node` visits;
  `ReachLe s roots d n` says `n` is at most `d` steps of `s` away from a root.
-/
import FordModel.Graph
import FordModel.Lemmas.Graph
import FordModel.Lemmas.GraphData
import FordModel.Lemmas.GraphCalls
import FordModel.Lemmas.GraphCtor
import FordModel.Lemmas.GraphLabel
namespace Ford.C13
open Ford Ford.Graph

/-- **No dangling edge.**  Every edge of every graph — all twelve classes, every relation
    (chains, diamonds, cycles, disconnected parts), every depth and node limit, truncated or
    not — joins two nodes that are drawn in that graph. -/
theorem edges_closed (fx : Bool) (tab : Table) (nd : NodeData) (c : GClass) (roots : List Node) :
    ∀ e ∈ (graphOf fx tab nd c roots).edges,
      e.tail ∈ (graphOf fx tab nd c roots).added ∧ e.head ∈ (graphOf fx tab nd c roots).added := by
  apply addNodes_closed _ (succOf_wf tab nd c)
  · intro e he; simp at he
  · intro n hn; exact mem_dedup.2 hn

/-- **Node limit.**  A graph never shows more than `graph_maxnodes` nodes (the maximum over
    its roots), except that the roots themselves are always shown; and no node is drawn twice. -/
theorem size_limit (fx : Bool) (tab : Table) (nd : NodeData) (c : GClass) (roots : List Node) :
    (graphOf fx tab nd c roots).added.length ≤ max (cfgOf fx tab nd c roots).maxNodes (dedup roots).length
      ∧ (graphOf fx tab nd c roots).added.Nodup := by
  constructor
  · exact addNodes_limit _ _ _ _ _ (Nat.le_max_left ..) (Nat.le_max_right ..)
  · exact addNodes_nodup _ _ _ _ (nodup_dedup roots)

/-- **Soundness (depth limit).**  Whatever is drawn is reachable from the roots through the
    relation of the graph class within `graph_maxdepth` hops (one hop for the project-wide
    graphs; a configured depth of 0 still gives one hop). -/
theorem sound (fx : Bool) (tab : Table) (nd : NodeData) (c : GClass) (roots : List Node) :
    ∀ n ∈ (graphOf fx tab nd c roots).added,
      ReachLe (succN (succOf tab nd c)) roots
        (if c.nested then max 1 (cfgOf fx tab nd c roots).maxNesting else 1) n :=
  -- the bound of the statement is `depthBound (cfgOf fx tab nd c roots) 1` unfolded
  -- (also in `complete`, `edges_complete`)
  addNodes_sound (cfgOf fx tab nd c roots) roots roots 1 _ (Nat.le_refl 1)
    (fun _ hn => .root (mem_dedup.1 hn)) (fun _ hn => .root hn)

/-- **Completeness.**  Unless `add_to_graph` refused a hop because of `graph_maxnodes`, the
    graph contains *every* entity within the depth bound: together with `sound`, a graph that
    was not cut by the node limit shows exactly the nodes reachable within `graph_maxdepth`. -/
theorem complete (fx : Bool) (tab : Table) (nd : NodeData) (c : GClass) (roots : List Node)
    (hcut : (graphOf fx tab nd c roots).cutBySize = false) :
    ∀ n, ReachLe (succN (succOf tab nd c)) roots
        (if c.nested then max 1 (cfgOf fx tab nd c roots).maxNesting else 1) n →
      n ∈ (graphOf fx tab nd c roots).added :=
  fun _ hn =>
    (addNodes_exhausts (cfgOf fx tab nd c roots) roots roots 1 _ (Front.initial ..) hcut hn).1
      (Nat.le_refl _)

/-- **Exactness of the drawn node set** (`sound` + `complete`). -/
theorem exact_nodes (fx : Bool) (tab : Table) (nd : NodeData) (c : GClass) (roots : List Node)
    (hcut : (graphOf fx tab nd c roots).cutBySize = false) (n : Node) :
    n ∈ (graphOf fx tab nd c roots).added ↔
      ReachLe (succN (succOf tab nd c)) roots
        (if c.nested then max 1 (cfgOf fx tab nd c roots).maxNesting else 1) n :=
  ⟨sound fx tab nd c roots n, complete fx tab nd c roots hcut n⟩

/-- **Inverse bookkeeping.**  After any sequence of node creations (`register` / `get_node`,
    recursively, in any order, with cycles), `b` is in a forward set of `a` (`uses`, `ancestor`,
    `comp_types`, `calls`, `interfaces`, `efferent`) iff `a` is in the corresponding inverse set
    of `b` (`used_by`, `children`, `comp_of`, `called_by`, `interfaced_by`, `afferent`). -/
theorem inverse_sets (tab : Table) (fuel : Nat) (work : List Node) (nd : NodeData)
    (h : create tab fuel work {} = some nd) (a b : Node) (r : Rel) :
    a ∈ invOf nd b r ↔ b ∈ fwdOf nd a r :=
  inv_iff_fwd (create_consistent tab fuel work {} nd consistent_empty h) a b r

/-- ... and creating more nodes later (the roots of the project-wide call graph) keeps it so. -/
theorem inverse_sets_later (tab : Table) (f1 f2 : Nat) (w1 w2 : List Node) (nd1 nd2 : NodeData)
    (h1 : create tab f1 w1 {} = some nd1) (h2 : create tab f2 w2 nd1 = some nd2) (a b : Node) (r : Rel) :
    a ∈ invOf nd2 b r ↔ b ∈ fwdOf nd2 a r :=
  inv_iff_fwd (create_consistent tab f2 w2 nd1 nd2
    (create_consistent tab f1 w1 {} nd1 consistent_empty h1) h2) a b r

/-- **"Used by" is the exact inverse of "uses"**: the used-by graph visits `a` from `c` with
    edge `e` iff the uses graph visits `c` from `a` with the same edge (same direction, same
    style: dashed USE, solid submodule ancestry). -/
theorem usedBy_inverse (tab : Table) (nd : NodeData) (h : Consistent nd) (a c : Node) (e : Edge) :
    (a, e) ∈ succOf tab nd .usedBy c ↔ (c, e) ∈ succOf tab nd .uses a := by
  simp only [succOf, List.mem_append, mem_map_pair, inv_iff_fwd h]

/-- **"Inherited by" is the exact inverse of "inherits"** (composition dashed, extension solid). -/
theorem inheritedBy_inverse (tab : Table) (nd : NodeData) (h : Consistent nd) (a c : Node) (e : Edge) :
    (a, e) ∈ succOf tab nd .inheritedBy c ↔ (c, e) ∈ succOf tab nd .inherits a := by
  simp only [succOf, List.mem_append, mem_map_pair, inv_iff_fwd h]

/-- **The afferent file graph is the exact inverse of the efferent one.** -/
theorem afferent_inverse (tab : Table) (nd : NodeData) (h : Consistent nd) (a c : Node) (e : Edge) :
    (a, e) ∈ succOf tab nd .afferent c ↔ (c, e) ∈ succOf tab nd .efferent a := by
  simp only [succOf, mem_map_pair, inv_iff_fwd h]

/-- **"Called by" is the inverse of "calls"** as a relation between nodes, for every callee
    that is not a program.  (Partial: the *style* differs for calls leaving a generic
    type-bound procedure — dashed in "calls", solid in "called by" — see the witness.) -/
theorem calledBy_inverse_partial (tab : Table) (nd : NodeData) (h : Consistent nd) (a c : Node)
    (hp : (ent tab c).kind ≠ .prog) :
    (∃ e, (a, e) ∈ succOf tab nd .calledBy c) ↔ (∃ e, (c, e) ∈ succOf tab nd .calls a) := by
  have hp' : ((ent tab c).kind == Kind.prog) = false := by simpa using hp
  simp only [succOf, hp', Bool.false_eq_true, if_false, List.mem_append, mem_map_pair, inv_iff_fwd h,
    exists_or, exists_and_left, exists_eq, and_true]

/-- ... and with the same style whenever the caller is not a generic type-bound procedure. -/
theorem calledBy_inverse_style (tab : Table) (nd : NodeData) (h : Consistent nd) (a c : Node) (e : Edge)
    (hp : (ent tab c).kind ≠ .prog) (hb : (ent tab a).isBoundType = false) :
    (a, e) ∈ succOf tab nd .calledBy c ↔ (c, e) ∈ succOf tab nd .calls a := by
  have hp' : ((ent tab c).kind == Kind.prog) = false := by simpa using hp
  simp only [succOf, hp', hb, Bool.false_eq_true, if_false, List.mem_append, mem_map_pair, inv_iff_fwd h]

/-- Witness for the excluded class: a generic binding `0` with specific `1`: the edge is dashed
    in the "calls" direction and solid in the "called by" direction. -/
theorem calledBy_style_witness :
    let tab : Table := [{ kind := .proc, isBoundType := true }, { kind := .proc }]
    let nd : NodeData := { created := [0, 1], fwd := [⟨0, .call, 1⟩], inv := [⟨1, .call, 0⟩] }
    (1, ⟨0, 1, .dashed⟩) ∈ succOf tab nd .calls 0 ∧ (0, ⟨0, 1, .solid⟩) ∈ succOf tab nd .calledBy 1 := by
  decide +kernel

/-- **`get_call_nodes` shows only the nearest visible, non-simple-binding descendants**:
    everything it returns is `Nearest` to one of the given calls ... -/
theorem call_skip_sound (tab : Table) (fuel : Nat) (calls r : List Node)
    (h : callNodesAux tab fuel calls [] [] = some r) :
    ∀ x ∈ r, ∃ c ∈ calls, Nearest tab c x :=
  fun x => (callNodesAux_nearest h x).1

/-- ... **and all of them** (cycles of invisible procedures included: `visited` only prunes
    what was already expanded). -/
theorem call_skip_complete (tab : Table) (fuel : Nat) (calls r : List Node)
    (h : callNodesAux tab fuel calls [] [] = some r) :
    ∀ c ∈ calls, ∀ x, Nearest tab c x → x ∈ r :=
  fun c hc x hx => (callNodesAux_nearest h x).2 ⟨c, hc, hx⟩

/-- every node `get_call_nodes` returns is visible and not a simple binding -/
theorem call_skip_kept (tab : Table) (fuel : Nat) (calls r : List Node)
    (h : callNodesAux tab fuel calls [] [] = some r) : ∀ x ∈ r, keep tab x = true := by
  intro x hx
  obtain ⟨c, hc, hn⟩ := call_skip_sound tab fuel calls r h x hx
  clear hx h hc
  induction hn with
  | here hk => exact hk
  | skip _ _ _ ih => exact ih

/-- **`get_call_nodes` always runs to its end**: with the fuel the model supplies the work list is
    never cut short, on any table (cycles of hidden procedures, simple bindings, names the table
    does not know), so `callNodes` is the value the three theorems above speak about. -/
theorem call_skip_total (tab : Table) (calls : List Node) :
    callNodesAux tab (callFuel tab + calls.length) calls [] [] = some (callNodes tab calls) :=
  callNodes_spec tab calls

/-- **The nodes shown for a call list are exactly the nearest visible, non-simple-binding
    descendants of its calls** — unconditionally, for every table and every call list.  The right
    hand side mentions nothing but the entity table and the list: what is shown for a caller does
    not depend on which other callers were walked before it, nor on their order. -/
theorem call_skip_exact (tab : Table) (calls : List Node) (x : Node) :
    x ∈ callNodes tab calls ↔ ∃ c ∈ calls, Nearest tab c x :=
  mem_callNodes tab calls x

/-- **Every caller of a procedure shows everything that stands in for it**: whatever is shown for
    the single call `c` is shown for every call list that contains `c` (a hidden helper shared by
    many callers is expanded in full for each of them) ... -/
theorem call_skip_every_caller (tab : Table) (calls : List Node) (c : Node) (hc : c ∈ calls) :
    ∀ x ∈ callNodes tab [c], x ∈ callNodes tab calls := by
  intro x hx
  obtain ⟨c', hc', hn⟩ := (mem_callNodes tab [c] x).1 hx
  simp only [List.mem_singleton] at hc'
  subst hc'
  exact (mem_callNodes tab calls x).2 ⟨_, hc, hn⟩

/-- ... and a call list shows nothing but the union of what its calls show one by one (sharing
    `visited` between the calls of one list loses nothing and adds nothing). -/
theorem call_skip_union (tab : Table) (a b : List Node) (x : Node) :
    x ∈ callNodes tab (a ++ b) ↔ x ∈ callNodes tab a ∨ x ∈ callNodes tab b := by
  simp only [mem_callNodes, List.mem_append, or_and_right, exists_or]

/-- **What stands in for a hidden procedure is what stands in for its own calls and bindings** —
    the fixed-point equation of the skipping rule, for every hidden procedure or simple binding,
    on a cycle of hidden procedures or not (mutually recursive helpers stand for the same nodes
    whichever of them a caller enters first). -/
theorem call_skip_hidden_unfold (tab : Table) (c x : Node) (hk : keep tab c = false) :
    x ∈ callNodes tab [c] ↔ x ∈ callNodes tab (callChildren tab c) := by
  simp only [mem_callNodes, List.mem_singleton, exists_eq_left]
  exact nearest_skip_iff tab c x hk

/-- **`graph: false` removes the entity's own graphs**: every per-entity graph `graph_all`
    draws belongs to an entity whose metadata say `graph: true`. -/
theorem graph_false_no_own_graph (fx : Bool) (tab : Table) (nd : NodeData) (order : List Node) (e : Node)
    (c : GClass) (g : GState) (h : (e, c, g) ∈ perEntityOf fx tab nd (registered tab order)) :
    (ent tab e).graph = true :=
  (List.mem_filter.1 (mem_of_mem_perEntityOf h)).2

/-- **`graph: false` and the project-wide graphs (partial).**  An entity with `graph: false`
    is never a *root* of the project-wide module graph ... -/
theorem graph_false_not_root_partial (tab : Table) (order : List Node) (per : List (Node × GClass × GState)) :
    ∀ e ∈ useRootsOf tab (registered tab order) per, (ent tab e).graph = true :=
  fun _ he => (List.mem_filter.1 (mem_of_mem_useRootsOf he)).2

/-- ... **but it is still drawn there when a registered entity depends on it** (witness:
    module 0 uses module 1, module 1 says `graph: false`; only module 0 is registered, yet the
    node of module 1 is created and the project-wide module graph shows it): the property's
    last clause does not hold for the code as it is. -/
theorem graph_false_witness :
    let tab : Table := [{ kind := .mod, uses := [1], maxNodes := 10 }, { kind := .mod, graph := false }]
    let nd : NodeData := { created := [0, 1], fwd := [⟨0, .uses, 1⟩], inv := [⟨1, .uses, 0⟩] }
    (ent tab 1).graph = false ∧ registered tab [0, 1] = [0] ∧ create tab 10 [0] {} = some nd
      ∧ useRootsOf tab [0] (perEntityOf false tab nd [0]) = [0]
      ∧ 1 ∈ (graphOf false tab nd .module [0]).added := by
  decide +kernel

/-- **Each graph is drawn over exactly the relation derived from the source.**  After any run of
    `register` / `get_node` the forward set `r` of node `a` contains `t` iff `a` has a node and the
    entity table declares `t` for `a` under `r` (module USE and submodule ancestry, type extension
    and composition, the shown calls, interface-to-implementation, file dependencies): no link is
    lost, none is invented, for every creation order and every cyclic relation. -/
theorem relation_exact (tab : Table) (fuel : Nat) (work : List Node) (nd : NodeData)
    (h : create tab fuel work {} = some nd) (a t : Node) (r : Rel) :
    t ∈ fwdOf nd a r ↔ a ∈ nd.created ∧ (r, t) ∈ targets tab a := by
  rw [mem_fwdOf]
  exact create_exact tab fuel work {} nd (linksExact_empty tab) h a r t

/-- ... also after the second creation phase (roots of the project-wide call graph). -/
theorem relation_exact_later (tab : Table) (f1 f2 : Nat) (w1 w2 : List Node) (nd1 nd2 : NodeData)
    (h1 : create tab f1 w1 {} = some nd1) (h2 : create tab f2 w2 nd1 = some nd2) (a t : Node) (r : Rel) :
    t ∈ fwdOf nd2 a r ↔ a ∈ nd2.created ∧ (r, t) ∈ targets tab a := by
  rw [mem_fwdOf]
  exact create_exact tab f2 w2 nd1 nd2 (create_exact tab f1 w1 {} nd1 (linksExact_empty tab) h1) h2 a r t

/-- every registered entity has a node object (so `relation_exact` speaks about all of them) -/
theorem registered_have_nodes (tab : Table) (fuel : Nat) (work : List Node) (nd : NodeData)
    (h : create tab fuel work {} = some nd) : ∀ x ∈ work, x ∈ nd.created :=
  (create_created tab fuel work {} nd h).2

/-- **Caller-to-callee edges, node level.**  After any run of `register` / `get_node` (any
    creation order, both phases) the `calls` set of the node of a procedure or program `a` holds
    `t` iff `a` has a node and `t` is a nearest visible, non-simple-binding descendant of one of
    the calls (for procedures: and bindings) of `a`. -/
theorem calls_shown_exact (tab : Table) (f1 f2 : Nat) (w1 w2 : List Node) (nd1 nd2 : NodeData)
    (h1 : create tab f1 w1 {} = some nd1) (h2 : create tab f2 w2 nd1 = some nd2) (a t : Node) :
    t ∈ fwdOf nd2 a .call ↔ a ∈ nd2.created ∧ ∃ c ∈ rawCalls tab a, Nearest tab c t := by
  rw [relation_exact_later tab f1 f2 w1 w2 nd1 nd2 h1 h2, mem_targets_call, mem_callNodes]

/-- **Two callers of the same hidden procedure show the same stand-ins.**  If the nodes of `a` and
    `b` both exist and both entities call `h`, then every node that stands in for `h` is in the
    `calls` set of `a` **and** of `b`, and (inverse sets) both are in its `called_by` set —
    whichever of the two nodes was created first. -/
theorem hidden_shared_by_callers (tab : Table) (f1 f2 : Nat) (w1 w2 : List Node) (nd1 nd2 : NodeData)
    (h1 : create tab f1 w1 {} = some nd1) (h2 : create tab f2 w2 nd1 = some nd2) (a b h t : Node)
    (ha : a ∈ nd2.created) (hb : b ∈ nd2.created)
    (hha : h ∈ rawCalls tab a) (hhb : h ∈ rawCalls tab b) (ht : Nearest tab h t) :
    (t ∈ fwdOf nd2 a .call ∧ t ∈ fwdOf nd2 b .call) ∧ (a ∈ invOf nd2 t .call ∧ b ∈ invOf nd2 t .call) := by
  have shown := calls_shown_exact tab f1 f2 w1 w2 nd1 nd2 h1 h2
  have inv := inverse_sets_later tab f1 f2 w1 w2 nd1 nd2 h1 h2
  have fa := (shown a t).2 ⟨ha, h, hha, ht⟩
  have fb := (shown b t).2 ⟨hb, h, hhb, ht⟩
  exact ⟨⟨fa, fb⟩, (inv a t .call).2 fa, (inv b t .call).2 fb⟩

/-- **Bound procedures in the project-wide call graph (partial).**  A type-bound procedure of a
    registered type that `get_call_nodes` keeps as a node of its own (`keep`) is a root of the
    project-wide call graph, so the caller-to-callee edges that leave it are drawn there as they
    are in the "calls" graph of its callers.  Excluded for the variant `fb = false` (FORD before d4f27b1), by
    the decidable hypothesis `hx`: exactly one binding, to a procedure that is not shown (and not
    itself bound), not deferred — finding `C13-binding-to-hidden-not-root`, see
    `bound_root_witness`. -/
theorem bound_root_partial (tab : Table) (regs : List Node) (per : List (Node × GClass × GState))
    (t bp : Node) (ht : t ∈ regs) (hk : (ent tab t).kind = .type) (hb : bp ∈ (ent tab t).boundprocs)
    (hbound : (ent tab bp).isBound = true) (hkeep : keep tab bp = true)
    (hx : ¬ ∃ b, (ent tab bp).bindings = [b] ∧ (ent tab b).isBound = false
            ∧ (ent tab b).visibleF = false ∧ (ent tab bp).deferred = false) :
    bp ∈ callRootsOf false tab regs per := by
  have hkeep' : isSimple tab bp = false := by
    simp only [keep, Bool.and_eq_true, Bool.not_eq_true'] at hkeep
    exact hkeep.2
  refine mem_callRootsOf_bound ht hk hb ?_
  cases hr : boundRoot false tab bp with
  | true => rfl
  | false =>
    -- the repaired test would make it a root: the binding is neither deferred nor to a shown procedure
    obtain ⟨b, hbs, hbb, _⟩ := boundRoot_eq_false.1 hr
    have hfix : ¬ boundRoot true tab bp = false := by simp [boundRoot_fixed hbound, hkeep']
    refine absurd ⟨b, hbs, hbb, ?_, ?_⟩ hx
    · exact Bool.eq_false_iff.2 fun hv => hfix (boundRoot_eq_false.2 ⟨b, hbs, hbb, fun _ => Or.inr hv⟩)
    · exact Bool.eq_false_iff.2 fun hd => hfix (boundRoot_eq_false.2 ⟨b, hbs, hbb, fun _ => Or.inl hd⟩)

/-- ... with fixes/C13-binding-to-hidden-root.diff (`fb = true`: the same test as
    `is_simple_binding`) there is no excluded class: every kept bound procedure of a registered
    type is a root. -/
theorem bound_root_fixed (tab : Table) (regs : List Node) (per : List (Node × GClass × GState))
    (t bp : Node) (ht : t ∈ regs) (hk : (ent tab t).kind = .type) (hb : bp ∈ (ent tab t).boundprocs)
    (hbound : (ent tab bp).isBound = true) (hkeep : keep tab bp = true) :
    bp ∈ callRootsOf true tab regs per := by
  refine mem_callRootsOf_bound ht hk hb ?_
  simp only [keep, Bool.and_eq_true] at hkeep
  rw [boundRoot_fixed hbound, hkeep.2]

/-- Witness for the excluded class: type `0` with the binding `2 => 3`, `3` hidden and calling
    the visible `4`, procedure `1` calling the binding.  The binding is kept as a node and the
    "calls" graph of `1` draws `2 -> 4`; the project-wide call graph of the variant `fb = false` draws
    node `2` but not that edge; with the repaired test it does. -/
theorem bound_root_witness :
    let tab : Table := [{ kind := .type, boundprocs := [2], maxNodes := 10 },
      { kind := .proc, calls := [2], maxDepth := 3, maxNodes := 10 },
      { kind := .proc, isBoundType := true, isBound := true, bindings := [3] },
      { kind := .proc, visible := false, calls := [4] },
      { kind := .proc, maxDepth := 3, maxNodes := 10 }]
    let asIs := graphAll false false tab [0, 1, 4]
    let fixed := graphAll false true tab [0, 1, 4]
    keep tab 2 = true ∧ asIs.ok = true ∧ fixed.ok = true
      ∧ (asIs.perEntity.any fun (e, c, g) => e == 1 && c == .calls && g.edges.contains ⟨2, 4, .dashed⟩) = true
      ∧ 2 ∈ asIs.callGraph.added ∧ (⟨2, 4, .dashed⟩ : Edge) ∉ asIs.callGraph.edges
      ∧ (⟨2, 4, .dashed⟩ : Edge) ∈ fixed.callGraph.edges := by
  decide +kernel

/-- **Interface-to-implementation, generic interfaces (decision table read from the source).**
    Whatever Python class represents a specific procedure — subroutine, function, interface body
    of a separate module procedure or of an external procedure, `module procedure`
    implementation, type-bound procedure: every class `ford.graphs.is_proc` accepts — the
    guard of `ProcNode.__init__` links it when it is visible and never when it is hidden;
    names of external procedures (strings) are always linked. -/
theorem iface_rule_specific :
    ∀ r ∈ C13Gen.ifaceRules,
      (r.isProc = true → r.modproc = true ∧ r.modprocHidden = false) ∧ (r.isStr = true → r.modproc = true) := by
  decide +kernel

/-- a specific procedure that `correlate` did not match (`None`) is never linked, and neither is
    the placeholder `False` / `True` of a separate module procedure without implementation -/
theorem iface_rule_unmatched :
    (ruleOfIn C13Gen.ifaceRules 0).modproc = false ∧ (ruleOfIn C13Gen.ifaceRules 0).modprocHidden = false
      ∧ (ruleOfIn C13Gen.ifaceRules 1).impl = false ∧ (ruleOfIn C13Gen.ifaceRules 2).impl = false := by
  decide +kernel

/-- **Interface-to-implementation, separate module procedures (partial).**  Among the classes
    that carry the `module` marker (those whose instances `correlate` can record as the
    implementation of a module procedure interface), every subclass of `FortranProcedure` is
    linked when visible and never when hidden.  Excluded, by the decidable hypothesis
    `isProcedure`: `FortranModuleProcedureImplementation` (`module procedure name … end procedure`),
    which carries the marker but is no `FortranProcedure` — finding `C13-modproc-impl-no-edge`,
    see `iface_impl_witness`. -/
theorem iface_rule_impl_partial :
    ∀ r ∈ C13Gen.ifaceRules, r.declaresModule = true → r.isProcedure = true →
      r.impl = true ∧ r.implHidden = false := by
  decide +kernel

/-- no class has a hidden implementation linked, the excluded one included -/
theorem iface_rule_impl_hidden :
    ∀ r ∈ C13Gen.ifaceRules, r.isProc = true → r.implHidden = false := by
  decide +kernel

/-- **A generic interface shows every specific procedure.**  For every table, an interface
    entity links each visible specific procedure `correlate` matched (any class `is_proc` accepts,
    or an external name) ... -/
theorem iface_specific_linked (tab : Table) (i m : Node)
    (hk : (ent tab i).kind = .proc) (hi : (ent tab i).isIface = true)
    (hm : m ∈ (ent tab i).modprocs)
    (hp : (ruleOfIn C13Gen.ifaceRules (ent tab m).cls).isProc = true
          ∨ (ruleOfIn C13Gen.ifaceRules (ent tab m).cls).isStr = true)
    (hv : (ent tab m).visible = true) :
    (Rel.iface, m) ∈ targets tab i := by
  rw [mem_targets_iface hk hi]
  have key := ruleOfIn_all iface_rule_specific (by decide) (ent tab m).cls
  have hl : specificLinked C13Gen.ifaceRules tab m = true := by
    simp only [specificLinked, hv, if_true]
    rcases hp with hp | hp
    · exact (key.1 hp).1
    · exact key.2 hp
  simp only [ifaceTargets, List.mem_append, List.mem_filter]
  exact Or.inl ⟨hm, hl⟩

/-- ... never a hidden one, ... -/
theorem iface_specific_hidden (tab : Table) (i m : Node)
    (hk : (ent tab i).kind = .proc) (hi : (ent tab i).isIface = true)
    (hp : (ruleOfIn C13Gen.ifaceRules (ent tab m).cls).isProc = true)
    (hv : (ent tab m).visible = false) :
    (Rel.iface, m) ∉ targets tab i := by
  rw [mem_targets_iface hk hi]
  have k1 := ruleOfIn_all iface_rule_specific (by decide) (ent tab m).cls
  have k2 := ruleOfIn_all iface_rule_impl_hidden (by decide) (ent tab m).cls
  simp only [ifaceTargets, List.mem_append, List.mem_filter, specificLinked, implLinked, hv,
    Bool.false_eq_true, if_false, (k1.1 hp).2, k2 hp, and_false, or_self, not_false_eq_true]

/-- ... and nothing but its specific procedures and its implementation: no interface edge is invented. -/
theorem iface_links_sound (tab : Table) (i m : Node)
    (hk : (ent tab i).kind = .proc) (hi : (ent tab i).isIface = true)
    (h : (Rel.iface, m) ∈ targets tab i) :
    m ∈ (ent tab i).modprocs ∨ (ent tab i).impl = some m := by
  rw [mem_targets_iface hk hi] at h
  simp only [ifaceTargets, List.mem_append, List.mem_filter] at h
  exact h.imp And.left fun h => mem_optList.1 h.1

/-- **The edge is drawn in both graphs.**  Once the interface `i` has a node, the dashed edge
    `i -> m` to each such specific procedure is what the "calls" graph of `i` draws, and the very
    same edge is what the "called by" graph of `m` draws. -/
theorem iface_edge_drawn (tab : Table) (fuel : Nat) (work : List Node) (nd : NodeData)
    (h : create tab fuel work {} = some nd) (i m : Node) (hw : i ∈ work)
    (hk : (ent tab i).kind = .proc) (hi : (ent tab i).isIface = true)
    (hm : m ∈ (ent tab i).modprocs)
    (hp : (ruleOfIn C13Gen.ifaceRules (ent tab m).cls).isProc = true
          ∨ (ruleOfIn C13Gen.ifaceRules (ent tab m).cls).isStr = true)
    (hv : (ent tab m).visible = true) (hg : (ent tab m).kind ≠ .prog) :
    (m, ⟨i, m, .dashed⟩) ∈ succOf tab nd .calls i ∧ (i, ⟨i, m, .dashed⟩) ∈ succOf tab nd .calledBy m := by
  have hf : m ∈ fwdOf nd i .iface :=
    (relation_exact tab fuel work nd h i m .iface).2
      ⟨registered_have_nodes tab fuel work nd h i hw, iface_specific_linked tab i m hk hi hm hp hv⟩
  have hc := create_consistent tab fuel work {} nd consistent_empty h
  have hg' : ((ent tab m).kind == Kind.prog) = false := by simpa using hg
  constructor
  · simp only [succOf, List.mem_append, mem_map_pair]
    exact Or.inr ⟨hf, trivial⟩
  · simp only [succOf, hg', Bool.false_eq_true, if_false, List.mem_append, mem_map_pair, inv_iff_fwd hc]
    exact Or.inr ⟨hf, trivial⟩

/-- Witness for the class excluded in `iface_rule_impl_partial`: with the row FORD before 6692707
    yields for `FortranModuleProcedureImplementation` (a procedure class carrying the `module`
    marker, not linked as an implementation), the visible implementation `1` of the module
    procedure interface `0` gets no interface-to-implementation link. -/
theorem iface_impl_witness :
    let rules : List C13Gen.IfaceRule :=
      [{ name := "FortranModuleProcedureInterface", isProc := true, modproc := true },
       { name := "FortranModuleProcedureImplementation", isProc := true, declaresModule := true,
         modproc := true, impl := false }]
    let tab : Table := [{ kind := .proc, isIface := true, cls := 0, impl := some 1 }, { kind := .proc, cls := 1 }]
    (ent tab 1).visible = true ∧ ifaceTargets rules tab 0 = [] := by
  decide +kernel

/-- **Every node constructor registers both directions of every relation (table read from the
    source).**  For every class of ford.sourceform the graph code accepts (modules, submodules, types,
    every kind of procedure, programs, BLOCK DATA units, source files) and every attribute its node
    constructor reads, the real constructor — run by the translator on a stub object — stores the
    target's node on the new node **and** the new node in the inverse set of the target.  A constructor
    that fills `uses` without `used_by` (or skips one of the lists of program units of a file) changes
    a row of the regenerated table and breaks this proof. -/
theorem ctor_links_both_directions :
    ∀ r ∈ C13Gen.ctorLinks, r.fwd = true ∧ r.inv = true := by
  decide +kernel

/-- **The constructors read exactly the slots the model gives their node class.**  For every class
    with a node constructor, a slot is read by the real constructor (a row of the regenerated table)
    iff `slotsOf` lists it for the node class — USE for modules, submodules, procedures, programs and
    BLOCK DATA units; ancestry for submodules; extension and composition for types; calls (and
    bindings, for procedures); file dependencies for source files.  No relation of a program unit is
    left out of the model, none is in the model only. -/
theorem ctor_slots_match_model (c : Nat × Nat) (hc : c ∈ C13Gen.ctorClasses) (k : Kind) (hk : k.code = c.2)
    (s : Slot) :
    s ∈ slotsOf k ↔ ∃ r ∈ C13Gen.ctorLinks, r.cls = c.1 ∧ r.slot = s.code := by
  have key : ∀ c ∈ C13Gen.ctorClasses, ∀ k ∈ allKinds, k.code = c.2 → ∀ s ∈ allSlots,
      (s ∈ slotsOf k ↔ ∃ r ∈ C13Gen.ctorLinks, r.cls = c.1 ∧ r.slot = s.code) := by
    decide +kernel
  exact key c hc k (mem_allKinds k) hk s (mem_allSlots s)

/-- every node class of the model is the node class of some class of ford.sourceform (no part of
    `slotsOf` is beyond the reach of the table), and the rows of the table belong to listed classes -/
theorem ctor_classes_cover :
    (∀ k ∈ allKinds, k ≠ .ext → ∃ c ∈ C13Gen.ctorClasses, c.2 = k.code)
      ∧ (∀ r ∈ C13Gen.ctorLinks, (r.cls, r.kind) ∈ C13Gen.ctorClasses) := by
  decide +kernel

/-- **Every kind of documented entity is handed to the graph manager (partial).**  Every list of
    entities of a `Project` whose declared element class has a node constructor is among the lists
    `Documentation.__init__` registers with `GraphManager` (both read from the source: ford/output.py,
    ford/fortran_project.py).  Excluded by the decidable hypothesis: the list of abstract interfaces,
    which have pages but — calling nothing, called by nothing — no graphs (`registration_witness`). -/
theorem registration_partial :
    ∀ l ∈ C13Gen.projectLists, (∃ c ∈ C13Gen.ctorClasses, c.1 = l.cls) → l.name ≠ "absinterfaces" →
      l.registered = true := by
  decide +kernel

/-- ... so every node class of the model — modules, submodules, types, procedures, programs, files,
    BLOCK DATA units — has a registered list whose entities get it; and nothing is registered that
    the graph code has no node class for. -/
theorem registration_covers_kinds :
    (∀ k ∈ allKinds, k ≠ .ext →
        ∃ l ∈ C13Gen.projectLists, l.registered = true ∧ (l.cls, k.code) ∈ C13Gen.ctorClasses)
      ∧ (∀ l ∈ C13Gen.projectLists, l.registered = true → ∃ c ∈ C13Gen.ctorClasses, c.1 = l.cls) := by
  decide +kernel

/-- the excluded list: its element class (`FortranInterface`) has a node constructor, it is not registered -/
theorem registration_witness :
    ∃ l ∈ C13Gen.projectLists, l.name = "absinterfaces" ∧ (∃ c ∈ C13Gen.ctorClasses, c.1 = l.cls)
      ∧ l.registered = false := by
  decide +kernel

/-- **Whatever a relation slot holds ends in both sets.**  After any run of `register` / `get_node`
    (any order, both creation phases), for every entity `a` that has a node — module, submodule, type,
    procedure, program, BLOCK DATA unit or file — and every entity `t` one of its (non-call) slots
    holds: `t` is in the forward set of `a` **and** `a` is in the inverse set of `t` (`used_by`,
    `children`, `comp_of`, `afferent`).  (Types of an external project link nothing: `hx`.) -/
theorem ctor_slot_linked (tab : Table) (f1 f2 : Nat) (w1 w2 : List Node) (nd1 nd2 : NodeData)
    (h1 : create tab f1 w1 {} = some nd1) (h2 : create tab f2 w2 nd1 = some nd2) (a t : Node) (s : Slot)
    (ha : a ∈ nd2.created) (hs : s ∈ slotsOf (ent tab a).kind) (hc : s.isCall = false)
    (hx : (ent tab a).kind = .type → (ent tab a).extUrl = false)
    (ht : t ∈ slotVals (ent tab a) s) :
    t ∈ fwdOf nd2 a s.rel ∧ a ∈ invOf nd2 t s.rel := by
  have hf : t ∈ fwdOf nd2 a s.rel :=
    (relation_exact_later tab f1 f2 w1 w2 nd1 nd2 h1 h2 a t s.rel).2
      ⟨ha, targets_slot_complete tab a t s hs hc hx ht⟩
  exact ⟨hf, (inverse_sets_later tab f1 f2 w1 w2 nd1 nd2 h1 h2 a t s.rel).2 hf⟩

/-- ... **and nothing else does**: every member of a forward set (interface-to-implementation links
    aside, which have their own table) comes from a slot of the entity's node class — for the
    non-call slots it is literally a value of the slot, for the call slots it is a nearest shown
    descendant (`calls_shown_exact`). -/
theorem ctor_links_only_slots (tab : Table) (f1 f2 : Nat) (w1 w2 : List Node) (nd1 nd2 : NodeData)
    (h1 : create tab f1 w1 {} = some nd1) (h2 : create tab f2 w2 nd1 = some nd2) (a t : Node) (r : Rel)
    (hr : r ≠ .iface) (h : t ∈ fwdOf nd2 a r) :
    ∃ s ∈ slotsOf (ent tab a).kind, s.rel = r ∧ (s.isCall = false → t ∈ slotVals (ent tab a) s) :=
  targets_slot_sound tab a t r ((relation_exact_later tab f1 f2 w1 w2 nd1 nd2 h1 h2 a t r).1 h).2 hr

/-- **"Used by" knows every kind of program unit.**  Whatever has a node and a USE statement for `m`
    — a module, a submodule, a procedure, a program or a BLOCK DATA unit — is visited by the
    "used by" graph of `m`, with the dashed edge `a -> m` the "uses" graph of `a` draws. -/
theorem usedBy_every_unit (tab : Table) (f1 f2 : Nat) (w1 w2 : List Node) (nd1 nd2 : NodeData)
    (h1 : create tab f1 w1 {} = some nd1) (h2 : create tab f2 w2 nd1 = some nd2) (a m : Node)
    (ha : a ∈ nd2.created) (hk : Slot.uses ∈ slotsOf (ent tab a).kind) (hm : m ∈ (ent tab a).uses) :
    (a, ⟨a, m, .dashed⟩) ∈ succOf tab nd2 .usedBy m ∧ (m, ⟨a, m, .dashed⟩) ∈ succOf tab nd2 .uses a := by
  have hx : (ent tab a).kind = .type → (ent tab a).extUrl = false := by
    intro ht; rw [ht] at hk; simp [slotsOf] at hk
  have hl := ctor_slot_linked tab f1 f2 w1 w2 nd1 nd2 h1 h2 a m .uses ha hk rfl hx hm
  simp only [succOf, List.mem_append, mem_map_pair]
  exact ⟨Or.inl ⟨hl.2, trivial⟩, Or.inl ⟨hl.1, trivial⟩⟩

/-- the calls a procedure / program node shows are computed from exactly its call slots -/
theorem call_slots_exact (tab : Table) (a : Node) :
    rawCalls tab a = ((slotsOf (ent tab a).kind).filter Slot.isCall).flatMap (slotVals (ent tab a)) :=
  rawCalls_eq_slots tab a

/-- Witness for what `ctor_links_both_directions` excludes: were the USE links of a BLOCK DATA unit
    stored on its own node only (`inv` left out), the "uses" graph of the unit `1` would draw the
    edge to module `0` while the "used by" graph of the module stays empty. -/
theorem ctor_one_direction_witness :
    let tab : Table := [{ kind := .mod, maxNodes := 10 }, { kind := .block, uses := [0], maxNodes := 10 }]
    let nd : NodeData := { created := [0, 1], fwd := [⟨1, .uses, 0⟩], inv := [] }
    (0, ⟨1, 0, .dashed⟩) ∈ succOf tab nd .uses 1 ∧ succOf tab nd .usedBy 0 = []
      ∧ (graphOf false tab nd .usedBy [0]).added = [0] := by
  decide +kernel

/-- **The table fall-back shows exactly the first hop of the relation.**  When a graph is put on
    its page as a table (`__str__`), it has a single root, its first hop did not fit beside the root
    within `graph_maxnodes`, nothing but the root is drawn — and the rows of the table (`hop_nodes`
    / `hop_edges`) are exactly what the class's `add_node` yields for the root: every entity one step
    away, every edge of that step, nothing from a later hop. -/
theorem table_shows_first_hop (fx : Bool) (tab : Table) (nd : NodeData) (c : GClass) (roots : List Node)
    (h : shownOf fx tab nd c roots = .table) :
    roots.length = 1
      ∧ (graphOf fx tab nd c roots).added = dedup roots ∧ (graphOf fx tab nd c roots).edges = []
      ∧ (graphOf fx tab nd c roots).hopNodes = hopOf (cfgOf fx tab nd c roots) (dedup roots) roots
      ∧ (graphOf fx tab nd c roots).hopEdges = hopEdgesOf (cfgOf fx tab nd c roots) roots
      ∧ (cfgOf fx tab nd c roots).maxNodes
          < (hopOf (cfgOf fx tab nd c roots) (dedup roots) roots).length + (dedup roots).length := by
  obtain ⟨⟨hn, hr⟩, _⟩ := shownAs_eq_table.1 h
  obtain ⟨h1, h2, _, h4, h5, h6⟩ := runGraph_table (cfgOf fx tab nd c roots) roots hn
  exact ⟨hr, h1, h2, h4, h5, h6⟩

/-- **A graph drawn as a picture respects the node limit and shows more than one node** ... -/
theorem svg_within_limits (fx : Bool) (tab : Table) (nd : NodeData) (c : GClass) (roots : List Node)
    (h : shownOf fx tab nd c roots = .svg) :
    1 < (graphOf fx tab nd c roots).added.length
      ∧ (graphOf fx tab nd c roots).added.length ≤ (cfgOf fx tab nd c roots).maxNodes := by
  obtain ⟨_, h1, h2, _⟩ := shownAs_eq_svg.1 h
  exact ⟨h1, h2⟩

/-- ... **and every graph that has something to show and fits is shown**: more than one node, within
    `graph_maxnodes`, no root missing ⇒ the page carries the picture or the table, never nothing. -/
theorem shown_if_fits (fx : Bool) (tab : Table) (nd : NodeData) (c : GClass) (roots : List Node)
    (h1 : 1 < (graphOf fx tab nd c roots).added.length)
    (h2 : (graphOf fx tab nd c roots).added.length ≤ (cfgOf fx tab nd c roots).maxNodes)
    (h3 : roots.length ≤ (graphOf fx tab nd c roots).added.length) :
    shownOf fx tab nd c roots ≠ .nothing := by
  intro h
  rcases shownAs_eq_nothing.1 h with ⟨h, _⟩ | h | h
  · exact absurd h (Nat.not_le_of_gt h1)
  · exact absurd h2 (Nat.not_le_of_gt h)
  · exact absurd h3 (Nat.not_le_of_gt h)

/-- **The rows of the table name the entities beside the root (partial).**  The refused first hop of
    every graph class consists of edges that all leave the root or all enter it (`hop_edges_oriented`);
    for such a hop each row of the table shows the *other* end of its edge, with the style of the edge.
    Excluded for the variant `ft = false` (FORD before 92048e8), by the decidable hypothesis `hx`: the
    first kept edge leads from the root to itself (a recursive procedure, a type with a component of
    its own type) while some edge enters the root — finding `C13-table-self-loop`, see
    `table_rows_witness`. -/
theorem table_rows_partial (root : Node) (es : List Edge)
    (ho : (∀ e ∈ es, e.tail = root) ∨ (∀ e ∈ es, e.head = root))
    (hx : ¬ ∃ e0 rest, es = e0 :: rest ∧ e0.tail = root ∧ e0.head = root ∧ ∃ e ∈ es, e.tail ≠ root) :
    tableRows false root es = es.map (fun e => (otherEnd root e, e.style)) := by
  cases es with
  | nil => rfl
  | cons e0 rest =>
    refine rows_of_first (List.mem_cons_self ..) ho fun ht => ?_
    rcases ho with ho | ho
    · exact ho
    · intro e he
      exact Decidable.byContradiction fun h =>
        hx ⟨e0, rest, rfl, ht, ho e0 (List.mem_cons_self ..), e, he, h⟩

/-- ... with fixes/C13-table-self-loop.diff (the side is decided by the first edge that is not a
    self-loop) there is no excluded class. -/
theorem table_rows_fixed (root : Node) (es : List Edge)
    (ho : (∀ e ∈ es, e.tail = root) ∨ (∀ e ∈ es, e.head = root)) :
    tableRows true root es = es.map (fun e => (otherEnd root e, e.style)) := by
  simp only [tableRows, if_true]
  cases hf : ((es.find? fun e => e.tail != e.head).or es.head?) with
  | none =>
    cases es with
    | nil => rfl
    | cons a r => cases h2 : List.find? (fun e => e.tail != e.head) (a :: r) <;> simp [h2] at hf
  | some e0 =>
    obtain ⟨hmem, hloop⟩ := find_first_spec es e0 hf
    refine rows_of_first hmem ho fun ht => ?_
    rcases ho with ho | ho
    · exact ho
    · -- `e0` is a self-loop of the root, so every edge is one
      have hself : e0.tail = e0.head := by rw [ht, ho e0 hmem]
      exact fun e he => by rw [hloop hself e he, ho e he]

/-- the hypothesis `ho` holds for the first hop of every graph class and every root -/
theorem hop_edges_oriented (fx : Bool) (tab : Table) (nd : NodeData) (c : GClass) (r : Node) :
    (∀ e ∈ hopEdgesOf (cfgOf fx tab nd c [r]) [r], e.tail = r)
      ∨ (∀ e ∈ hopEdgesOf (cfgOf fx tab nd c [r]) [r], e.head = r) := by
  have h := succOf_oriented tab nd c r
  simp only [hopEdgesOf, cands, cfgOf, List.flatMap_cons, List.flatMap_nil, List.append_nil, List.mem_map]
  rcases h with h | h
  · left; rintro e ⟨p, hp, rfl⟩; exact h p hp
  · right; rintro e ⟨p, hp, rfl⟩; exact h p hp

/-- Witness for the excluded class: procedure `0` calls itself and is called by `1` and `2`; its
    "called by" hop starts with the self-loop, and the table of the variant `ft = false` names `0` three
    times (never `1` or `2`); with the fix it names `0`, `1`, `2`. -/
theorem table_rows_witness :
    let es : List Edge := [⟨0, 0, .solid⟩, ⟨1, 0, .solid⟩, ⟨2, 0, .solid⟩]
    tableRows false 0 es = [(0, .solid), (0, .solid), (0, .solid)]
      ∧ tableRows true 0 es = [(0, .solid), (1, .solid), (2, .solid)] := by
  decide +kernel

/-- non-vacuity: module `0`, BLOCK DATA unit `1` and program `2` both using it: after
    registering all three the module's `used_by` holds both, and its "used by" graph draws both edges. -/
example :
    let tab : Table := [{ kind := .mod, maxDepth := 5, maxNodes := 10 }, { kind := .block, uses := [0] },
      { kind := .prog, uses := [0] }]
    (graphAll false false tab [0, 1, 2]).perEntity.any (fun (e, c, g) =>
      e == 0 && c == .usedBy && g.edges.contains ⟨1, 0, .dashed⟩ && g.edges.contains ⟨2, 0, .dashed⟩) = true := by
  decide +kernel

/-- non-vacuity: a generic interface `0` over a subroutine `1`, an interface body `2` and a hidden
    procedure `3` links `1` and `2` under the generated table. -/
example :
    let sub := (C13Gen.ifaceRules.map (·.name)).idxOf "FortranSubroutine"
    let ifc := (C13Gen.ifaceRules.map (·.name)).idxOf "FortranModuleProcedureInterface"
    let tab : Table := [{ kind := .proc, isIface := true, cls := ifc, modprocs := [1, 2, 3] },
      { kind := .proc, cls := sub }, { kind := .proc, isIface := true, cls := ifc },
      { kind := .proc, cls := sub, visible := false }]
    ifaceTargets C13Gen.ifaceRules tab 0 = [1, 2] := by decide +kernel

/-- non-vacuity: an invisible procedure `1` between `0`'s call and the visible `2`, with a
    cycle `1 -> 1`: the call is shown as a call to `2`. -/
example :
    callNodesAux [{ kind := .proc, calls := [1] }, { kind := .proc, visible := false, calls := [1, 2] },
      { kind := .proc }] 10 [1] [] [] = some [2] := by decide +kernel

/-- non-vacuity: a simple binding (`1` bound to the visible `2`) is replaced by its target, a
    generic binding (`3` with two bindings) is kept. -/
example :
    callNodesAux [{ kind := .proc }, { kind := .proc, isBound := true, bindings := [2] },
      { kind := .proc, visibleF := true }, { kind := .proc, isBound := true, bindings := [1, 1] }]
      10 [1, 3] [] [] = some [2, 3] := by decide +kernel

/-- non-vacuity: two hidden helpers `2 ⇄ 3` that call each other and reach the visible
    `4` resp. `5`; the caller that enters at `2` and the caller that enters at `3` are shown the
    same two nodes. -/
example :
    let tab : Table := [{ kind := .proc, calls := [2] }, { kind := .proc, calls := [3] },
      { kind := .proc, visible := false, calls := [3, 4] }, { kind := .proc, visible := false, calls := [2, 5] },
      { kind := .proc }, { kind := .proc }]
    callNodes tab [2] = [5, 4] ∧ callNodes tab [3] = [4, 5] ∧ keep tab 2 = false ∧ keep tab 3 = false := by
  decide +kernel

/-- **No edge is invented.**  Every edge of every graph - all twelve classes, any limits, truncated or
    not - is an edge the class's `add_node` produces for a node drawn in that graph, towards a node drawn
    in that graph: tail, head *and* style are those of the relation (clause "each graph contains exactly
    the relation derived from the source", direction "nothing else"). -/
theorem edges_sound (fx : Bool) (tab : Table) (nd : NodeData) (c : GClass) (roots : List Node) :
    ∀ e ∈ (graphOf fx tab nd c roots).edges,
      ∃ n ∈ (graphOf fx tab nd c roots).added, ∃ x ∈ (graphOf fx tab nd c roots).added,
        (x, e) ∈ succOf tab nd c n :=
  addNodes_drawn _ _ _ _ (fun _ he => nomatch he) fun _ hn => mem_dedup.2 hn

/-- **No edge is lost.**  Unless `add_to_graph` refused a hop because of `graph_maxnodes`, the graph holds
    *every* edge `add_node` produces for every node that is closer to the roots than the depth bound
    (`graph_maxdepth` hops, at least one; the roots only for the project-wide graphs) - every edge, not
    one per pair of nodes: edges are told apart by tail, head and style, so two relations that join the
    same two entities are two arrows (clause "... exactly the relation ...", direction "all of it"). -/
theorem edges_complete (fx : Bool) (tab : Table) (nd : NodeData) (c : GClass) (roots : List Node)
    (hcut : (graphOf fx tab nd c roots).cutBySize = false) :
    ∀ d n, d + 1 ≤ (if c.nested then max 1 (cfgOf fx tab nd c roots).maxNesting else 1) →
      ReachLe (succN (succOf tab nd c)) roots d n →
      ∀ x e, (x, e) ∈ succOf tab nd c n → e ∈ (graphOf fx tab nd c roots).edges :=
  fun _ _ hd hn =>
    (addNodes_exhausts (cfgOf fx tab nd c roots) roots roots 1 _ (Front.initial ..) hcut hn).2 hd

/-- ... in particular every edge of the first hop: whatever `add_node` yields for a root is drawn as soon
    as the hop was accepted (any depth limit, also 0). -/
theorem root_edges_drawn (fx : Bool) (tab : Table) (nd : NodeData) (c : GClass) (roots : List Node)
    (hcut : (graphOf fx tab nd c roots).cutBySize = false) (r : Node) (hr : r ∈ roots) :
    ∀ x e, (x, e) ∈ succOf tab nd c r → e ∈ (graphOf fx tab nd c roots).edges :=
  edges_complete fx tab nd c roots hcut 0 r (by split <;> omega) ⟨0, by omega, .root hr⟩

/-- **A type that extends `t` and has a component of type `t` shows both relations**: the dashed
    composition edge and the solid extension edge `a -> t` are both in the type graph / "inherits" graph
    of `a` (they differ in style, and - `comp_edge_labelled` - the dashed one carries the component names). -/
theorem extends_and_contains_both_drawn (fx : Bool) (tab : Table) (nd : NodeData) (c : GClass)
    (hc : c = .type ∨ c = .inherits) (roots : List Node)
    (hcut : (graphOf fx tab nd c roots).cutBySize = false) (a t : Node) (ha : a ∈ roots)
    (h1 : t ∈ fwdOf nd a .comp) (h2 : t ∈ fwdOf nd a .ext) :
    (⟨a, t, .dashed⟩ : Edge) ∈ (graphOf fx tab nd c roots).edges
      ∧ (⟨a, t, .solid⟩ : Edge) ∈ (graphOf fx tab nd c roots).edges := by
  constructor
  · apply root_edges_drawn fx tab nd c roots hcut a ha t
    rcases hc with rfl | rfl <;>
      exact List.mem_append.2 (Or.inl (List.mem_map.2 ⟨t, h1, rfl⟩))
  · apply root_edges_drawn fx tab nd c roots hcut a ha t
    rcases hc with rfl | rfl <;>
      exact List.mem_append.2 (Or.inr (List.mem_map.2 ⟨t, h2, rfl⟩))

/-- **A submodule that also USEs its ancestor shows both relations**: the dashed USE edge and the solid
    ancestry edge `s -> m` are both in the module graph / "uses" graph, and both reversed edges in the
    "used by" graph of `m` when the inverse sets are consistent. -/
theorem uses_and_ancestor_both_drawn (fx : Bool) (tab : Table) (nd : NodeData) (c : GClass)
    (hc : c = .module ∨ c = .uses) (roots : List Node)
    (hcut : (graphOf fx tab nd c roots).cutBySize = false) (s m : Node) (hs : s ∈ roots)
    (h1 : m ∈ fwdOf nd s .uses) (h2 : m ∈ fwdOf nd s .anc) :
    (⟨s, m, .dashed⟩ : Edge) ∈ (graphOf fx tab nd c roots).edges
      ∧ (⟨s, m, .solid⟩ : Edge) ∈ (graphOf fx tab nd c roots).edges := by
  constructor
  · apply root_edges_drawn fx tab nd c roots hcut s hs m
    rcases hc with rfl | rfl <;>
      exact List.mem_append.2 (Or.inl (List.mem_map.2 ⟨m, h1, rfl⟩))
  · apply root_edges_drawn fx tab nd c roots hcut s hs m
    rcases hc with rfl | rfl <;>
      exact List.mem_append.2 (Or.inr (List.mem_map.2 ⟨m, h2, rfl⟩))

/-- **The label of a composition edge names exactly the components of that type.**  After the loop of
    `TypeNode.__init__` (`comp_types[node] += ", " + var.name`) the label stored for the component type
    `t` names position `i` iff the `i`-th derived-type component is of type `t`: no component is lost
    when several have the same type, none of another type slips in ... -/
theorem comp_label_exact (comps : List Node) (t : Node) (i : Nat) :
    i ∈ labelOf (compLoop comps 0 []) t ↔ comps[i]? = some t := by
  simp [labelOf_compLoop, labelOf, mem_posFrom]

/-- ... **in declaration order, each component once**. -/
theorem comp_label_ordered (comps : List Node) (t : Node) :
    (labelOf (compLoop comps 0 []) t).Pairwise (· < ·) := by
  rw [labelOf_compLoop]; simpa [labelOf] using posFrom_sorted comps 0 t

/-- **One composition edge per component type**: the keys of `comp_types` (one dashed edge each in
    `add_node`) are exactly the types that occur among the components, each once, however many
    components have that type. -/
theorem comp_one_edge_per_type (comps : List Node) :
    (∀ t, t ∈ (compLoop comps 0 []).map Prod.fst ↔ t ∈ comps) ∧ ((compLoop comps 0 []).map Prod.fst).Nodup := by
  obtain ⟨h1, h2⟩ := keys_compLoop comps 0 []
  exact ⟨fun t => by simpa using h1 t, h2 (by simp)⟩

/-- **"Inherited by" shows the same label as "inherits"**: the entry `t.comp_of[a]` written by the same
    loop equals `a.comp_types[t]`, so the dashed edge `a -> t` carries the same component names in the
    "inherited by" graph of `t` as in the type graph and the "inherits" graph of `a`. -/
theorem comp_label_inverse (tab : Table) (a t : Node) :
    edgeLabelBy tab ⟨a, t, .dashed⟩ = edgeLabel tab ⟨a, t, .dashed⟩ := by
  simp only [edgeLabelBy, edgeLabel, compOf, compTypes]
  split
  · rw [compOfLoop_eq, labelOf_compLoop]; simp [labelOf]
  · simp [labelOf]

/-- **Every composition edge is labelled, no other edge is**: the type `a` is linked to `t` by
    composition (`relation_exact`: that is the dashed edge of its graphs) iff the label stored for `t` is
    not empty; extension edges (solid) have no label. -/
theorem comp_edge_labelled (tab : Table) (a t : Node) (hk : (ent tab a).kind = .type) :
    ((Rel.comp, t) ∈ targets tab a ↔ edgeLabel tab ⟨a, t, .dashed⟩ ≠ [])
      ∧ edgeLabel tab ⟨a, t, .solid⟩ = [] := by
  refine ⟨?_, rfl⟩
  simp only [edgeLabel, compTypes, targets, hk]
  cases (ent tab a).extUrl
  · simp [labelOf_compLoop, labelOf, posFrom_ne_nil]
  · simp [labelOf]

/-- non-vacuity: type `0` extends type `1` and has the components `c0 : 1`, `c1 : 2`, `c2 : 1`:
    its "inherits" graph holds the dashed and the solid edge to `1`, the dashed one is labelled with the
    positions 0 and 2, the edge to `2` with position 1, and "inherited by" reads the same label. -/
example :
    let tab : Table := [{ kind := .type, anc := some 1, comps := [1, 2, 1], maxDepth := 2, maxNodes := 10 },
      { kind := .type }, { kind := .type }]
    (graphAll false false tab [0, 1, 2]).perEntity.any (fun (e, c, g) =>
      e == 0 && c == .inherits && g.edges.contains ⟨0, 1, .dashed⟩ && g.edges.contains ⟨0, 1, .solid⟩
        && g.edges.length == 3) = true
    ∧ edgeLabel tab ⟨0, 1, .dashed⟩ = [0, 2] ∧ edgeLabel tab ⟨0, 2, .dashed⟩ = [1]
    ∧ edgeLabelBy tab ⟨0, 1, .dashed⟩ = [0, 2] ∧ compTypes tab 0 = [(1, [0, 2]), (2, [1])] := by
  decide +kernel

/-- **With `show_proc_parent` two different procedures never look the same.**  The label of a procedure
    node (`ProcNode.__init__`) is built from the name of its scope, the name of the type it is bound to
    and its own name; for Fortran names (no `:`, no `%`) the label determines all three, so two nodes
    of a picture, two rows of the table fall-back, that show the same text are the same procedure
    (quantifier "x show_proc_parent": what the option adds is exactly what tells `run` of module `a`
    from `run` of module `b`). -/
theorem proc_label_injective (i j : LabelIn) (hi : i.clean = true) (hj : j.clean = true)
    (h : procLabel true i = procLabel true j) : i = j := by
  rw [← decodeLabel_procLabel i hi, ← decodeLabel_procLabel j hj, h]

/-- what the option adds: the scope's name and `::` in front of the label without it ... -/
theorem proc_label_shows_parent (i : LabelIn) (p : Str) (hp : i.parent = some p) :
    procLabel true i = p ++ [':', ':'] ++ procLabel false i := by
  simp [procLabel, parentLabel, hp]

/-- ... nothing for a procedure that has no scope (known by name only), and the label always ends with
    the procedure's own name. -/
theorem proc_label_shows_name (sp : Bool) (i : LabelIn) :
    (i.parent = none → procLabel sp i = procLabel false i)
      ∧ ∃ pre, procLabel sp i = pre ++ i.name := by
  constructor
  · intro hp; simp [procLabel, parentLabel, hp]
  · exact ⟨parentLabel sp i ++ bindingLabel i, by simp [procLabel]⟩

/-- **Without the option (partial)**: the label still determines the type a procedure is bound to and its
    name - but not its scope: excluded is exactly the case of two procedures of the same name (and type) in
    different scopes, see `proc_label_ambiguous_witness`. -/
theorem proc_label_plain_partial (i j : LabelIn) (hi : i.clean = true) (hj : j.clean = true)
    (h : procLabel false i = procLabel false j) : i.binder = j.binder ∧ i.name = j.name := by
  have e : ∀ k : LabelIn, procLabel false k = procLabel true { k with parent := none } := by
    intro k; cases hk : k.parent <;> simp [procLabel, parentLabel, bindingLabel, hk]
  have c : ∀ k : LabelIn, k.clean = true → ({ k with parent := none } : LabelIn).clean = true := by
    intro k hk
    simp only [LabelIn.clean, Bool.and_eq_true] at hk ⊢
    exact ⟨⟨hk.1.1, by simp⟩, hk.2⟩
  rw [e i, e j] at h
  have := proc_label_injective _ _ (c i hi) (c j hj) h
  simp only [LabelIn.mk.injEq] at this
  exact ⟨this.2.2, this.1⟩

/-- Witness: `run` of module `a` and `run` of module `b` carry the same label unless `show_proc_parent`
    is on - so nothing that handles the nodes of a graph may identify them by their label. -/
theorem proc_label_ambiguous_witness :
    let i : LabelIn := { name := "run".toList, parent := some "a".toList }
    let j : LabelIn := { name := "run".toList, parent := some "b".toList }
    i ≠ j ∧ procLabel false i = procLabel false j ∧ procLabel true i ≠ procLabel true j
      ∧ procLabel true { name := "go".toList, parent := some "m".toList, binder := some "t".toList } = "m::t%go".toList := by
  -- a string literal is `String.ofList` of its characters: turn each `"..".toList` into its char list first
  simp -index only [String.toList_ofList]
  decide +kernel

/-- **The root's cell spans all the rows of the table (partial).**  A graph shown as a table has one row
    (two `<tr>`) per kept edge of the refused first hop, and the cell of the root is given a `rowspan`.
    For the variant `fr = false` (FORD before bca106b) the span covers the rows exactly when every entity one step away is joined to
    the root by *one* edge and the root has no edge to itself.  Excluded by the decidable hypotheses `hd`,
    `hr`: two relations to the same entity (a type that extends `t` and has a component of type `t`, a
    procedure reached by a call and by an interface edge) and self-loops (recursion) - finding
    `C13-table-rootspan`, see `table_root_span_witness`. -/
theorem table_root_span_partial (fx : Bool) (tab : Table) (nd : NodeData) (c : GClass) (r : Node)
    (h : shownOf fx tab nd c [r] = .table)
    (hd : ((succOf tab nd c r).map Prod.fst).Nodup) (hr : r ∉ (succOf tab nd c r).map Prod.fst) :
    rootSpan false (graphOf fx tab nd c [r]) = tableTrs (graphOf fx tab nd c [r]) + 1 := by
  obtain ⟨_, _, _, h4, h5, _⟩ := table_shows_first_hop fx tab nd c [r] h
  have hc : cands (cfgOf fx tab nd c [r]).succ [r] = succOf tab nd c r := by simp [cands, cfgOf]
  have hl := hop_lengths_eq (cfg := cfgOf fx tab nd c [r]) (added := dedup [r]) (nodes := [r])
    (by rw [hc]; exact hd)
    (by rw [hc]; intro x hx hxr; simp [dedup] at hxr; subst hxr; exact hr hx)
  simp only [rootSpan, tableTrs, h4, h5, hl]
  simp

/-- whatever the hop looks like, the variant `fr = false` never spans too many rows - when the span is wrong it
    is short, and the rows below it slide into the root's column ... -/
theorem table_root_span_short (fx : Bool) (tab : Table) (nd : NodeData) (c : GClass) (roots : List Node)
    (h : shownOf fx tab nd c roots = .table) :
    rootSpan false (graphOf fx tab nd c roots) ≤ tableTrs (graphOf fx tab nd c roots) + 1 := by
  obtain ⟨_, _, _, h4, h5, _⟩ := table_shows_first_hop fx tab nd c roots h
  have := hop_length_le (cfg := cfgOf fx tab nd c roots) (added := dedup roots) (nodes := roots)
  simp only [rootSpan, tableTrs, h4, h5]
  simp; omega

/-- ... with fixes/C13-table-rootspan.diff (span computed from the edges the rows are written for) there is
    no excluded class. -/
theorem table_root_span_fixed (g : GState) : rootSpan true g = tableTrs g + 1 := by
  simp [rootSpan, tableTrs]

/-- Witness for the excluded class: type `0` extends type `1` and has a component of type `1`,
    `graph_maxnodes: 1`: its "inherits" graph is shown as a table of two rows (four `<tr>`), the root's
    cell spans three. -/
theorem table_root_span_witness :
    let tab : Table := [{ kind := .type, anc := some 1, comps := [1], maxDepth := 2, maxNodes := 1 }, { kind := .type }]
    let nd : NodeData := { created := [0, 1], fwd := [⟨0, .ext, 1⟩, ⟨0, .comp, 1⟩], inv := [⟨1, .ext, 0⟩, ⟨1, .comp, 0⟩] }
    shownOf false tab nd .inherits [0] = .table
      ∧ tableTrs (graphOf false tab nd .inherits [0]) = 4
      ∧ rootSpan false (graphOf false tab nd .inherits [0]) = 3
      ∧ rootSpan true (graphOf false tab nd .inherits [0]) = 5 := by
  decide +kernel

end Ford.C13
