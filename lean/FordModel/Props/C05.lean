/-
  C05 - the site documents exactly the entities selected by the display options.
  Property theorems only; the model is FordModel/Display.lean (prune driven by the tables
  regenerated from the source), the specification FordModel/DisplaySpec.lean, helper lemmas
  FordModel/Lemmas/Display.lean; the model of `[[name]]` links in doc comments is FordModel/DisplayLinks.lean,
  its lemmas FordModel/Lemmas/DisplayLinks.lean.
-/
import FordModel.Display
import FordModel.DisplaySpec
import FordModel.Lemmas.Display
import FordModel.DisplayLinks
import FordModel.Lemmas.DisplayLinks
namespace Ford.C05
open Ford Ford.Display Ford.Display.Spec Ford.Generated

/-- Tie to the source (re-probed on every run): the real `prune()` of every concrete class - run on an object of
    the probe project whose child lists hold a member to keep, a private and an undocumented one, with
    `proc_internals` off and on - does to *every* child list exactly what the model's `pruneKids` does with the
    tables: the early return of a procedure (`subroutine`, `function`, `module procedure` implementation - and of
    nothing else) with `proc_internals` off, the lists emptied there, the lists filtered, the three lists filtered
    for submodules only, what is only marked `visible` and what is marked and pruned in turn.  The tables themselves
    are read off these rows, so this also says that all classes sharing a `prune()` behave alike. -/
theorem prune_probe_matches_model : C05.pruneProbe.all pruneRowOk = true := by decide +kernel

/-- The probe covered every class that has a `prune()` (both settings of `proc_internals`), the three known
    definitions are the only ones, and nothing the probes saw was left unexplained.  `_set_display`,
    `_should_display`, `filter_display` and `__str__` are defined in `FortranBase` alone, the prune loop of
    `correlate` prunes every unit list once, and it runs after the inheritance step: what `pruneProject` after
    `inheritProject` rests on. -/
theorem source_shape_pinned :
    C05.pruneProbe.map (fun r => (r.1, r.2.1)) =
      [("FortranBlockData", false), ("FortranBlockData", true), ("FortranFunction", false), ("FortranFunction", true),
       ("FortranModule", false), ("FortranModule", true),
       ("FortranModuleProcedureImplementation", false), ("FortranModuleProcedureImplementation", true),
       ("FortranProgram", false), ("FortranProgram", true), ("FortranSubmodule", false), ("FortranSubmodule", true),
       ("FortranSubroutine", false), ("FortranSubroutine", true), ("FortranType", false), ("FortranType", true)]
    ∧ C05.pruneClasses.map (·.1) =
      ["FortranBlockData", "FortranCodeUnit", "FortranFunction", "FortranModule", "FortranModuleProcedureImplementation",
       "FortranProcedure", "FortranProgram", "FortranSubmodule", "FortranSubroutine", "FortranType"]
    ∧ C05.probeAnomalies = []
    ∧ C05.codeUnitCondFiltered.map (·.1) = ["FortranSubmodule", "FortranSubmodule", "FortranSubmodule"]
    ∧ C05.hasPrune = ["FortranBlockData", "FortranCodeUnit", "FortranType"]
    ∧ C05.setDisplayDefinedIn = ["FortranBase"] ∧ C05.shouldDisplayDefinedIn = ["FortranBase"]
    ∧ C05.filterDisplayDefinedIn = ["FortranBase"] ∧ C05.strDefinedIn = ["FortranBase"]
    ∧ C05.pruneLoopProbe = [("modules", "1"), ("submodules", "1"), ("functions", "1"), ("subroutines", "1"),
        ("programs", "1"), ("blockdata", "1")]
    ∧ C05.pruneAfterCorrelate = true := by decide +kernel

/-- Tie to the source (re-probed on every run): the real `_set_display`, run on an entity and on a source file of
    the probe project for every metadata list of up to two words (three for `protected` / `none` / unknown) in
    either letter case and three inherited lists, leaves exactly the list `setDisplay` computes - and it is the
    inherited list *object* exactly when the model says the entity inherits (`setDisplayInherits`).
    The table is the *set* of outcomes over one real object of every class of the probe project
    (`setDisplaySubjects`: procedures, types, bindings, units, the file, ...) with `meta.proc_internals` off and on; that
    it has the 348 rows of one class says that `display` depends on neither - `display` and `proc_internals` are
    independent options of the property statement (a procedure whose `proc_internals` is off does *not* get an empty
    display list that its own `display:` metadata could then replace). -/
theorem set_display_probe_matches_model :
    C05.setDisplayProbe.all setDisplayRowOk = true ∧ C05.setDisplayProbe.length = 348
    ∧ (["FortranSubroutine", "FortranFunction", "FortranModuleProcedureImplementation", "FortranVariable",
        "FortranType", "FortranBoundProcedure", "FortranInterface", "FortranModule", "FortranSubmodule",
        "FortranProgram", "FortranBlockData", "FortranSourceFile"].all fun c =>
          C05.setDisplaySubjects.contains (c, false) && C05.setDisplaySubjects.contains (c, true)) = true := by
  decide +kernel

/-- Tie to the source (re-probed on every run): all classes share one `_should_display` / `filter_display`, and its
    truth table over `hide_undoc` x documented x permission x every subset of {public, protected, private} is
    `shouldDisplay`. -/
theorem should_display_probe_matches_model :
    C05.shouldDisplayProbe.length = 1
    ∧ C05.shouldDisplayProbe.all (fun g => g.2.length == 128 && g.2.all shouldDisplayRowOk) = true := by decide +kernel

/-- Tie to the source (re-probed on every run): `str(entity)` is a link exactly when the entity has a URL and its
    `visible` flag is not false - the only gate between an unselected entity and a link to its page. -/
theorem str_probe_links_only_visible :
    C05.strProbe.all strRowOk = true ∧ C05.strProbe.length = 12 := by decide +kernel

/-- Tie to the source for namelists, common blocks and type extension (re-probed on every run): where namelists get
    their pages (`Project(...)` on the probe project: directly from top-level procedures and programs, through
    `routines` from modules, submodules and programs; never from block data), what `routines` iterates,
    which page templates render an entity's namelists, which classes are `visible` from their construction
    on, which members an extending type carries after `correlate` (= the model's `inheritable`; its own members
    last), that common-block members leave the parent's `variables` and namelist variables are the objects of the
    scope, and what `correlate` alone makes `visible` (nothing; block data: its types, in the variant of finding
    `C05-blockdata-type-visible-before-prune`, repaired in FORD by 122f76e). -/
theorem source_shape_pinned_round3 :
    C05.namelistCollect = [("modules", false, true), ("submodules", false, true), ("functions", true, false),
      ("subroutines", true, false), ("programs", true, true), ("blockdata", false, false)]
    ∧ C05.routinesLists = ["functions", "subroutines", "modprocedures"]
    ∧ C05.namelistSections = ["proc_page.html", "prog_page.html"]
    ∧ C05.visibleAtInit = ["FortranBlockData", "FortranCommon", "FortranModule", "FortranNamelist", "FortranProgram",
        "FortranSourceFile", "FortranSubmodule"]
    ∧ C05.inheritProbe.all inheritRowOk = true ∧ C05.inheritProbe.length = 4 ∧ C05.inheritOwnLast = true
    ∧ C05.commonMovesMembers = true ∧ C05.namelistResolves = true
    ∧ (C05.visibleInCorrelate = [("FortranBlockData", "FortranType")] ∨ C05.visibleInCorrelate = []) :=
  -- the tables that are literally these lists by `rfl` (string literals are compared as literals, not character
  -- by character); what has to be computed by evaluation
  ⟨rfl, rfl, rfl, rfl, by decide +kernel⟩

/-- Every child list that holds entities with an accessibility is passed through
    `filter_display` by the `prune()` of every class that can contain it (and the lists of what
    belongs to the parent's own description - dummy arguments, function results, final procedures,
    the interface bodies of a generic interface - are not): for all well-formed (parent kind, child
    kind) pairs - block data units, their types and variables included - except enumerations,
    namelists and common blocks (known findings).  Removing one list from a `prune` in the source
    changes the regenerated table and this obligation fails. -/
theorem prune_lists_cover (pk ck : Kind) (h : kidOk pk ck = true) (he : gapKind ck = false) (hc : classOf pk ≠ .none) :
    filteredIn (classOf pk) (listOf ck) = !ownDescr pk ck :=
  tbl_filtered pk ck h he hc

/-- With `proc_internals` off, exactly the lists of filterable kinds are emptied (dummy arguments
    and the result stay), for every kind a procedure can contain. -/
theorem internals_lists_cover (pk ck : Kind) (h : kidOk pk ck = true) (he : gapKind ck = false) (hp : isProc pk = true) :
    emptiedIn (classOf pk) (listOf ck) = !ownDescr pk ck :=
  tbl_emptied pk ck h he hp

/-- `prune` recurses into exactly the child kinds that have a `prune` of their own (procedures
    and derived types - also the types of a block data unit), so options set deeper in the tree
    are honoured at every depth. -/
theorem prune_recursion_cover (pk ck : Kind) (h : kidOk pk ck = true) (he : gapKind ck = false) (hc : classOf pk ≠ .none) :
    recurseIn (classOf pk) (listOf ck) = (classOf ck != .none) :=
  tbl_recurse pk ck h he hc

/-- `FortranBlockData.prune`: of what a block data unit can contain, variables and derived types are
    filtered, derived types are made linkable and pruned in turn, variables are not marked. -/
theorem blockdata_prune_cover (ck : Kind) (h : kidOk .blockdata ck = true) (he : gapKind ck = false) :
    filteredIn .blockData (listOf ck) = true ∧ recurseIn .blockData (listOf ck) = (ck == .type)
    ∧ visibleOnlyIn .blockData (listOf ck) = false := by
  revert ck
  decide +kernel

/-- The genuine gap in the tables: no `prune` filters or empties the `enums` list. -/
theorem enums_list_unfiltered_witness :
    filteredIn .codeUnit (listOf .enum) = false ∧ filteredIn .submodule (listOf .enum) = false
    ∧ emptiedIn .codeUnit (listOf .enum) = false := by decide +kernel

/-- The same gap for namelists and common blocks (and once more for enumerations, which `gapKind` includes):
    whatever can contain one (module, submodule,
    program, procedure, block data), its `prune()` neither filters nor empties the list, nor marks
    or descends into its members. -/
theorem namelists_commons_unfiltered_witness (pk ck : Kind) (h : kidOk pk ck = true) (hg : gapKind ck = true) :
    filteredIn (classOf pk) (listOf ck) = false ∧ emptiedIn (classOf pk) (listOf ck) = false
    ∧ recurseIn (classOf pk) (listOf ck) = false ∧ visibleOnlyIn (classOf pk) (listOf ck) = false :=
  tbl_gap_untouched pk ck h hg

/-- `_set_display` (inherit the parent's list at construction, override from own metadata,
    `none`, unknown words, `none` ignored for files) computes the display set the user guide
    describes, for every parent list and every metadata list: the list an entity ends up with
    denotes `inForce` of what was in force around it. -/
theorem setDisplay_denotes_inForce (isFile : Bool) (d md : List Word) (D : Word → Bool)
    (h : ∀ p, isPerm p = true → d.contains p = D p) (p : Word) (hp : isPerm p = true) :
    (setDisplay isFile d md).contains p = inForce isFile D md p :=
  agree_setDisplay isFile d D md h p hp

/-- **Selection, full strength except for the never-filtered positions** (the variant `fileInherits = true`:
    the contents of a file inherit the file's `display`): for every project-wide display list (not
    mixing `none` with permission words), both values of `proc_internals` and `hide_undoc`, and every
    well-formed project - any nesting depth; any metadata at file / module / type / procedure / block
    data level; block data units, common blocks, namelists, enumerations, interface bodies in generic
    interfaces, function results, extended types included - that meets none of the positions no
    `prune()` reaches with an unselected entity (`outsideFindings`: the excluded class is exactly the
    union of the known findings `C05-enum-never-filtered`, `C05-namelist-never-filtered`,
    `C05-module-namelist-not-described`, `C05-common-never-filtered`), what the pages render after
    `prune` is exactly the selected set, in the same order.  No-leak and completeness in one equation. -/
theorem site_eq_selected_partial_gaps (cfg : Cfg) (p : List Ent) (hv : cfg.fileInherits = true)
    (hc : cfgOk cfg = true) (hw : wfProject p = true) (ho : outsideFindings cfg p = true) :
    renderedOf (pruneProject cfg p) = selProject cfg p :=
  rendered_pruneProject cfg hc p hw ho (Or.inl hv)

/-- The hypothesis `outsideFindings` costs nothing for a project without enumerations, namelists and
    common blocks (block data, interface bodies, function results and extended types included): it holds for every configuration. -/
theorem outside_findings_trivial (cfg : Cfg) (p : List Ent) (hw : wfProject p = true)
    (hn : noGapKinds p = true) : outsideFindings cfg p = true :=
  outsideFindings_of_noGapKinds cfg p hn

/-- **Selection, full strength** on the projects without enumerations, namelists and common blocks:
    no hypothesis beyond well-formedness. -/
theorem site_eq_selected (cfg : Cfg) (p : List Ent) (hv : cfg.fileInherits = true)
    (hc : cfgOk cfg = true) (hw : wfProject p = true) (hn : noGapKinds p = true) :
    renderedOf (pruneProject cfg p) = selProject cfg p :=
  rendered_pruneProject cfg hc p hw (outsideFindings_of_noGapKinds cfg p hn) (Or.inl hv)

/-- **Selection, the variant `fileInherits = false`** (finding `C05-file-display-not-inherited`, repaired in FORD by
    a001e63): the same equation when no source file
    carries `display` metadata that says something (the excluded class is exactly known finding
    `C05-file-display-not-inherited`). -/
theorem site_eq_selected_partial (cfg : Cfg) (p : List Ent) (hv : cfg.fileInherits = false)
    (hc : cfgOk cfg = true) (hw : wfProject p = true) (ho : outsideFindings cfg p = true)
    (hf : noFileDisplay p = true) :
    renderedOf (pruneProject cfg p) = selProject cfg p :=
  rendered_pruneProject cfg hc p hw ho (Or.inr hf)

/-- No leak: nothing that is rendered anywhere is unselected. -/
theorem no_leak_partial (cfg : Cfg) (p : List Ent) (hc : cfgOk cfg = true) (hw : wfProject p = true)
    (ho : outsideFindings cfg p = true)
    (hf : cfg.fileInherits = true ∨ noFileDisplay p = true) (x : Nat)
    (hx : x ∈ renderedOf (pruneProject cfg p)) : x ∈ selProject cfg p := by
  rw [← rendered_pruneProject cfg hc p hw ho hf]; exact hx

/-- Complete: every selected entity is rendered. -/
theorem complete_partial (cfg : Cfg) (p : List Ent) (hc : cfgOk cfg = true) (hw : wfProject p = true)
    (ho : outsideFindings cfg p = true)
    (hf : cfg.fileInherits = true ∨ noFileDisplay p = true) (x : Nat)
    (hx : x ∈ selProject cfg p) : x ∈ renderedOf (pruneProject cfg p) := by
  rw [rendered_pruneProject cfg hc p hw ho hf]; exact hx

/-- **Type extension**: the tree `correlate` hands to `prune` - every extending type carries, in front
    of its own members, the public components and the non-private bindings of the type it extends (with
    what that type inherited itself; `inherit_type_members`) - is again a well-formed project, for every
    project and every length of extension chain; so all theorems of this file apply to it. -/
theorem inherited_members_well_formed (p : List Ent) (hw : wfProject p = true) (fuel : Nat) :
    wfProject (inheritProject p fuel) = true ∧ noFileDisplay (inheritProject p fuel) = noFileDisplay p :=
  ⟨wfProject_inheritProject p hw fuel, noFileDisplay_inheritList p fuel p⟩

/-- What `FortranType.correlate` leaves in an extending type: the public components and non-private bindings of the
    type it extends (with what that type inherited itself), then its own members. -/
theorem inherit_type_members (p : List Ent) (fuel : Nat) (i : Info) (cs : Ents) (m : Nat)
    (hk : i.kind = .type) (he : i.ext = some m) :
    (Ent.inherit p fuel (.mk i cs)).kids = ((membersOf p fuel m).inheritable).append (cs.inherit p fuel) := by
  simp [Ent.inherit, Ent.kids, hk, he]

/-- **Inherited members are shown iff the extending type's options select them**: `FortranType.prune`
    keeps an inherited component / binding - and makes it linkable - exactly when its permission is in
    the display list in force in the *extending* type and, under `hide_undoc`, it is documented. -/
theorem inherited_member_shown_iff (cfg : Cfg) (d : List Word) (c : Ent) (rest : Ents)
    (hk : (c.info.kind == .variable || c.info.kind == .boundproc) = true) :
    pruneKids cfg .dtype false d (.cons c rest) =
      if shouldDisplay cfg d c.info then .cons c.setVisible (pruneKids cfg .dtype false d rest)
      else pruneKids cfg .dtype false d rest := by
  obtain ⟨hf, hr, hv⟩ := tbl_dtype_members c.info.kind hk
  simp only [pruneKids, Bool.false_eq_true, if_false, hf, hr, hv, Bool.true_and]
  cases shouldDisplay cfg d c.info <;> simp

/-- **Names of type-bound procedures in type summaries** (partial: projects without type extension).
    Without `extends`, the inheritance step of `correlate` changes nothing: every binding a type carries is
    declared in that type, so the link `type_summary` puts on its name points at the page the type itself is
    described on - which `pages_exact_partial` / `pages_are_linkable` show written.  The excluded class
    contains known finding `C05-inherited-binding-links-to-unselected-type`
    (`inherited_binding_links_to_unselected_type_witness`); `binding_name_links` below is the statement for all
    projects. -/
theorem binding_name_links_partial (p : List Ent) (fuel : Nat) (hn : noExtension p = true) :
    inheritProject p fuel = p :=
  inheritList_noExtension p fuel p hn

/-- **`proc_internals` and `display` are independent options** (clause "given `display` (... overridden in an
    entity's metadata ...), `proc_internals` and `hide_undoc`"): what `prune()` leaves of a procedure whose internals
    are switched off does not depend on the display list in force in it - so not on the project's `display`, not on
    what it inherits, and not on the `display:` metadata of the procedure itself (any two lists `d`, `d'`).  A
    `display:` override can never switch unselected internals back on.  Tied to the code by
    `prune_probe_matches_model` (the guard and the lists it empties), `set_display_probe_matches_model`
    (`_set_display` does not look at `proc_internals`) and the prune stream. -/
theorem internals_off_ignores_display (cfg : Cfg) (i : Info) (cs : Ents) (d d' : List Word)
    (h : internalsOff cfg i = true) : prune cfg d (.mk i cs) = prune cfg d' (.mk i cs) := by
  simp only [prune, h]
  rw [pruneKids_off_display cfg (classOf i.kind) d d' cs]

/-- non-vacuity: a procedure (kind, `proc_internals: false` in its own metadata) for which the hypothesis holds -/
example : internalsOff { display := [.pub, .priv], procInternals := true, hideUndoc := false, fileInherits := true }
    { (default : Info) with kind := .subroutine, pint := some false, disp := [.pub, .priv] } = true := by decide +kernel

/-- Own pages: the entities that get a page through the project page lists (filled through
    `CONTAINERS` from the pruned code units, plus files and program units - block data units and
    their types included) are exactly the files, the program units and the *selected* procedures /
    interfaces / types of modules, programs and block data units - a selected entity of a page kind
    has its page, an unselected one has none.  Holds for every well-formed project, enumerations,
    namelists and common blocks included (they are not page kinds of these lists). -/
theorem pages_exact_partial (cfg : Cfg) (p : List Ent) (hc : cfgOk cfg = true) (hw : wfProject p = true)
    (hf : cfg.fileInherits = true ∨ noFileDisplay p = true) :
    pageIds (pruneProject cfg p) = selPages cfg p := by
  induction p with
  | nil => simp [pruneProject, pageIds, selPages]
  | cons f fs ih =>
    cases f with
    | mk i cs =>
      obtain ⟨_, hfw, hfs⟩ := wfProject_cons hw
      obtain ⟨h1, h2⟩ := noFileDisplay_cons hf
      have hu := unitPages_pruneUnits cfg _ _ (agree_fileChild cfg i hc h1) cs hfw
      simp [pruneProject, pruneFile, pageIds, selPages, selFilePages, Ent.info, Ent.kids, hu, ih hfs h2]

/-- Tie to the source (re-probed on every run): the macros `type_summary` and `bound_info` of
    `macros.html`, rendered by FORD's own Jinja2 environment on the real (correlated) types of the probe project -
    a binding the type declares and one it inherits x `tb.visible` x `visible` of the declaring type x
    `external_url` set / absent, 32 renderings - print the name of a binding exactly as `bindNameLink true` says:
    in the summary card a link iff the binding is `visible` **and** (the type that declares it is `visible` or the
    URL is external), and then to the page of the declaring type (never the carrier's, never anywhere else); on the
    type's own page never a link.  Dropping the test of the declaring type from the macro changes two rows.
    6 of the 32 renderings are links. -/
theorem bound_declaration_probe_matches_model :
    C05.boundDeclProbe.all (boundDeclRowOk true) = true ∧ C05.boundDeclProbe.length = 32
    ∧ (C05.boundDeclProbe.filter fun r => r.2.2.2.2.2 != "name").length = 6 := by decide +kernel

/-- **Binding names in type summaries never link to the page of an unselected type** (clause "links never
    point at pages of unselected entities"; full strength: any project, type extension and block data included,
    any tree `q` that is rendered): when the name of a binding - declared or inherited - is a link in the summary
    of a type, the type that declares it (whose page the link points into) has a page among `pageIds q` and is
    `visible`. -/
theorem binding_name_links (orig q : List Ent) (t b d : Nat) (h : (t, b, d) ∈ bindLinksOf true orig q q) :
    d ∈ pageIds q ∧ d ∈ visibleIdsOf q :=
  mem_bindLinksOf orig q t b d q h

/-- ... and after `correlate` + `prune`, for every configuration and every well-formed project (inherited
    members included: `inheritProject`), that page is the page of a **selected** entity (`pages_exact_partial`). -/
theorem binding_name_links_point_at_selected_pages (cfg : Cfg) (p : List Ent) (fuel : Nat)
    (hc : cfgOk cfg = true) (hw : wfProject p = true)
    (hf : cfg.fileInherits = true ∨ noFileDisplay (inheritProject p fuel) = true) (t b d : Nat)
    (h : (t, b, d) ∈ bindLinksOf true p (pruneProject cfg (inheritProject p fuel))
           (pruneProject cfg (inheritProject p fuel))) :
    d ∈ selPages cfg (inheritProject p fuel) := by
  rw [← pages_exact_partial cfg _ hc (wfProject_inheritProject p hw fuel) hf]
  exact (mem_bindLinksOf p _ t b d _ h).1

/-- Why the macro needs its test (the variant `guarded := false` is finding
    `C05-inherited-binding-links-to-unselected-type`, repaired in FORD by 242ad51, and any edit that removes the
    test): without it
    (`guarded := false`) the inherited binding 4 in the summary of the public type 5 links into the page of the
    private type 3, which is not written; with it there is no link - and with `display: public, private` the same
    link is made and legitimate (non-vacuity of `binding_name_links`). -/
theorem binding_name_link_unguarded_witness :
    bindLinksOf false wInheritedBinding (pruneProject wCfgInt (inheritProject wInheritedBinding 8))
      (pruneProject wCfgInt (inheritProject wInheritedBinding 8)) = [(5, 4, 3)]
    ∧ bindLinksOf true wInheritedBinding (pruneProject wCfgInt (inheritProject wInheritedBinding 8))
      (pruneProject wCfgInt (inheritProject wInheritedBinding 8)) = []
    ∧ 3 ∉ pageIds (pruneProject wCfgInt (inheritProject wInheritedBinding 8))
    ∧ bindLinksOf true wInheritedBinding
        (pruneProject { wCfgInt with display := [.pub, .priv] } (inheritProject wInheritedBinding 8))
        (pruneProject { wCfgInt with display := [.pub, .priv] } (inheritProject wInheritedBinding 8))
      = [(3, 4, 3), (5, 4, 3)] := by decide +kernel

/-- Tie to the source (re-probed on every run): `BaseNode.__init__` of `ford/graphs.py` - the constructor every
    graph node class runs first - on copies of real objects of the probe project (one with a URL and one without
    for every class that has them) x `visible` true / false / absent x the parent's `visible` true / false / absent:
    the node carries a `URL` attribute exactly when `nodeLinked` says so - the entity has a URL, its `visible` is not
    false and, for a type-bound procedure (whose URL is an anchor on the page of the declaring type), the parent's
    `visible` is not false either - and the attribute is then `parent_dir` + the entity's own URL.  9 of the 174
    rows are type-bound procedures; in 96 the node carries `URL`. -/
theorem graph_node_probe_links_only_shown :
    C05.graphNodeProbe.all graphNodeRowOk = true ∧ C05.graphNodeProbe.length = 174
    ∧ (C05.graphNodeProbe.filter fun r => r.2.1).length = 9
    ∧ (C05.graphNodeProbe.filter fun r => r.2.2.2.2.2.1).length = 96 := by decide +kernel

/-- **Graph nodes never point at pages of unselected entities** (clause "links and graph nodes never point at
    pages of unselected entities"; full strength, any project, any rendered tree `q`, nodes of removed entities
    included): the page a node links to is among `pageIds q`. -/
theorem graph_node_urls (orig q es : List Ent) (x pg : Nat) (h : (x, pg) ∈ nodeUrlsOf orig q es) :
    pg ∈ pageIds q := by
  induction es with
  | nil => simp [nodeUrlsOf] at h
  | cons e es ih =>
    simp only [nodeUrlsOf, List.mem_append] at h
    exact h.elim (mem_nodeUrls orig q x pg e) ih

/-- ... and after `correlate` + `prune`, for every configuration and every well-formed project (nodes are made of
    every entity of the project as `correlate` left it, pruned or not): it is the page of a **selected** entity. -/
theorem graph_node_urls_point_at_selected_pages (cfg : Cfg) (p : List Ent) (fuel : Nat)
    (hc : cfgOk cfg = true) (hw : wfProject p = true)
    (hf : cfg.fileInherits = true ∨ noFileDisplay (inheritProject p fuel) = true) (x pg : Nat)
    (h : (x, pg) ∈ nodeUrlsOf p (pruneProject cfg (inheritProject p fuel)) (inheritProject p fuel)) :
    pg ∈ selPages cfg (inheritProject p fuel) := by
  rw [← pages_exact_partial cfg _ hc (wfProject_inheritProject p hw fuel) hf]
  exact graph_node_urls p _ _ x pg h

/-- non-vacuity / what the gate does (without the test of the parent: finding
    `C05-graph-node-links-to-binding-of-unselected-type`, repaired in FORD by 39bbdd7): module with the private type 3 (binding 4), the public type 5 extending it
    and the private subroutine 7, `display: public`: the nodes of the file, the module and type 5 link to their
    pages; the nodes of the removed type 3, of the removed subroutine 7 and of the binding 4 (kept by type 5, but
    declared by the unshown type 3) carry no URL.  With `display: public, private` all of them do. -/
theorem graph_node_gate_witness :
    nodeUrlsOf wInheritedBinding (pruneProject wCfgInt (inheritProject wInheritedBinding 8))
      (inheritProject wInheritedBinding 8) = [(1, 1), (2, 2), (5, 5)]
    ∧ nodeUrlsOf wInheritedBinding
        (pruneProject { wCfgInt with display := [.pub, .priv] } (inheritProject wInheritedBinding 8))
        (inheritProject wInheritedBinding 8) = [(1, 1), (2, 2), (3, 3), (4, 3), (5, 5), (4, 3), (7, 7)] := by decide +kernel

/-- **`extends(...)` links** (partial: projects without block data units): the type named in the
    `extends(...)` of a type is printed as a link only if it is `visible`, and outside block data `visible` is
    set by a `prune()` on what it keeps: the linked type survived `prune()` (so, by the selection theorems, it is
    selected and described on a written page).  The excluded class is known finding
    `C05-blockdata-type-visible-before-prune` (`blockdata_extends_link_witness`). -/
theorem extends_links_partial (orig q : List Ent) (hn : noBlockDataIn orig = true) (t m : Nat)
    (h : (t, m) ∈ extLinksOf orig q q) : m ∈ visibleIdsOf q ∧ m ∈ idsOf q := by
  have hv := mem_extLinksOf orig q hn t m q h
  exact ⟨hv, mem_visibleIdsOf_idsOf m q hv⟩

/-- **Selection with type extension**: on the tree with the inherited members, what the pages render
    is exactly the selected set, where a member inherited by a selected type counts as a member of that
    type (selected iff public / non-private in the parent type - that is why it was inherited - and
    selected by the display options in force in the extending type). -/
theorem site_eq_selected_inherited (cfg : Cfg) (p : List Ent) (fuel : Nat) (hv : cfg.fileInherits = true)
    (hc : cfgOk cfg = true) (hw : wfProject p = true)
    (ho : outsideFindings cfg (inheritProject p fuel) = true) :
    renderedOf (pruneProject cfg (inheritProject p fuel)) = selProject cfg (inheritProject p fuel) :=
  rendered_pruneProject cfg hc _ (wfProject_inheritProject p hw fuel) ho (Or.inl hv)

/-- **Per page** (full strength): whatever the model says one page shows - the page of a file, module,
    submodule, program, block data unit, procedure, type, interface or namelist; the correspondence
    compares exactly these sets with the tracer words of every generated page file - is shown by the
    site-level abstraction `shownIds`: rendered somewhere in the pruned tree, named by something
    rendered there (`refs`), or grouped by a namelist that has a page. -/
theorem page_shows_within_site (cfg : Cfg) (p : List Ent) (hw : wfProject p = true) (pg : Nat) (ids : List Nat)
    (h : (pg, ids) ∈ pagesShown cfg p) (x : Nat) (hx : x ∈ ids) : x ∈ shownIds cfg p := by
  simp only [pagesShown, List.mem_append] at h
  simp only [shownIds, List.mem_append]
  rcases h with h | h
  · exact Or.inl (mem_filePagesShown cfg p pg ids x hx p hw h)
  · exact Or.inr (mem_nmlPagesShown pg ids x hx _ h)

/-- **No leak, per page**: on every page, every documentation text is that of a selected entity, of an
    entity that a rendered (hence selected) entity displays as its own description (the procedure a
    binding / generic interface / final procedure names with its dummy arguments and result, a variable
    a namelist groups), or of a namelist that has a page / a variable it groups (exact only outside
    `C05-namelist-never-filtered`, see `namelist_never_filtered_witness`). -/
theorem per_page_no_leak_partial (cfg : Cfg) (p : List Ent) (hc : cfgOk cfg = true) (hw : wfProject p = true)
    (ho : outsideFindings cfg p = true) (hf : cfg.fileInherits = true ∨ noFileDisplay p = true)
    (pg : Nat) (ids : List Nat) (h : (pg, ids) ∈ pagesShown cfg p) (x : Nat) (hx : x ∈ ids) :
    x ∈ selProject cfg p ∨ x ∈ refsShown p (renderedRefsOf (pruneProject cfg p)) ∨ x ∈ nmlShown (nmlEnts p) := by
  have hs := page_shows_within_site cfg p hw pg ids h x hx
  simp only [shownIds, List.mem_append] at hs
  rcases hs with (hs | hs) | hs
  · left; rw [← rendered_pruneProject cfg hc p hw ho hf]; exact hs
  · exact Or.inr (Or.inl hs)
  · exact Or.inr (Or.inr hs)

/-- **Namelist pages, completeness** (full strength): every selected namelist that stands in a
    program or in a procedure with a page of its own has its page - for every configuration and every
    well-formed project.  (The converse fails: `namelist_never_filtered_witness`.) -/
theorem namelist_pages_complete (cfg : Cfg) (p : List Ent) (hw : wfProject p = true) (x : Nat)
    (hx : x ∈ selNmlPages cfg p) : x ∈ nmlPageIds p := by
  induction p with
  | nil => simp [selNmlPages] at hx
  | cons f fs ih =>
    cases f with
    | mk i cs =>
      obtain ⟨_, hfw, hfs⟩ := wfProject_cons hw
      simp only [selNmlPages, selFileNmls, List.mem_append] at hx
      simp only [nmlPageIds, nmlEnts, Ent.kids, List.map_append, List.mem_append]
      exact hx.imp (mem_selUnitNmls cfg _ x cs hfw) (ih hfs)

/-- Links: every entity that has a page carries `visible = True` after `prune` (so
    `FortranBase.__str__` emits links to it), for every project and configuration.  Together
    with `pages_exact_partial`: the targets of emitted page links are selected entities. -/
theorem pages_are_linkable (cfg : Cfg) (p : List Ent) (hw : wfProject p = true) (x : Nat)
    (hx : x ∈ pageIds (pruneProject cfg p)) : x ∈ visibleIdsOf (pruneProject cfg p) := by
  induction p with
  | nil => simp [pruneProject, pageIds] at hx
  | cons f fs ih =>
    cases f with
    | mk i cs =>
      obtain ⟨_, hfw, hfs⟩ := wfProject_cons hw
      simp only [pruneProject, pruneFile, pageIds, Ent.info, Ent.kids, List.mem_append, List.mem_cons] at hx
      simp only [pruneProject, pruneFile, visibleIdsOf, Ent.visibleIds, List.mem_append]
      rcases hx with (hx | hx) | hx
      · left; left; simp [hx]
      · left; right; exact unitPages_visible cfg (fileChildDisplay cfg i) x cs hfw hx
      · right; exact ih hfs hx

/-! ### `[[name]]` links in doc comments -/

/-- Tie to the source (re-probed on every run): a `[[name]]` is resolved by exactly the mechanism the
    model was written against.  **No class overrides** `find_child`, `children`, `iterator`, `get_url`, `find` or
    `convert_link` (an override would be a lookup the model does not have); `get_dir` is defined in the four known
    classes.  `_find_in_list` returns the first member whose name matches case-insensitively and skips strings.
    `FortranBase.find_child`, run on stubs: a bare name is looked up in every list of `childrenLists` and every
    attribute of `nonListChildren` (the order `children` yields them in, first list first), an entity word in the
    list `SUBLINK_TYPES` gives it; `Project.find` on a stub project: a bare name in every list of `LINK_TYPES` in
    that order, an entity word in its list, a child through the hit's `find_child`. -/
theorem link_lookup_pinned :
    C05.findChildDefinedIn = ["sourceform:FortranBase"]
    ∧ C05.childrenDefinedIn = ["sourceform:FortranBase"]
    ∧ C05.iteratorDefinedIn = ["sourceform:FortranBase"]
    ∧ C05.getUrlDefinedIn = ["sourceform:FortranBase"]
    ∧ C05.getDirDefinedIn = ["sourceform:FortranBase", "sourceform:FortranInterface", "sourceform:FortranProcedure", "sourceform:FortranSubmodule"]
    ∧ C05.findDefinedIn = ["fortran_project:Project"]
    ∧ C05.convertLinkDefinedIn = ["_markdown:FordLinkProcessor"]
    ∧ C05.nonListChildren = ["constructor", "procedure", "retvar"]
    ∧ C05.findInListProbe = [("first-of-two-equal", 2), ("case-insensitive-item", 2), ("case-insensitive-query", 2),
        ("strings-are-skipped", 0), ("not-found", 0), ("no-prefix-match", 2), ("empty", 0), ("generator", 2)]
    ∧ C05.findChildProbe.all findChildRowOk = true
    ∧ (probeRowsOf "bare-list" C05.findChildProbe).map (·.1) = C05.childrenLists
    ∧ (probeRowsOf "bare-single" C05.findChildProbe).map (·.1) = C05.nonListChildren
    ∧ probeRowsOf "entity" C05.findChildProbe = C05.sublinkTypes
    ∧ (probeRowsOf "bare-first-list-wins" C05.findChildProbe).length = 1
    ∧ C05.projectFindProbe.all projectFindRowOk = true
    ∧ (probeRowsOf "bare-list" C05.projectFindProbe).map (·.1) = (C05.linkTypes.map (·.2)).eraseDups
    ∧ probeRowsOf "entity" C05.projectFindProbe = C05.linkTypes
    ∧ (probeRowsOf "bare-first-list-wins" C05.projectFindProbe).length = 1
    ∧ (probeRowsOf "child-asks-the-hit" C05.projectFindProbe).length = 1 :=
  ⟨rfl, rfl, rfl, rfl, rfl, rfl, rfl, rfl, rfl, by decide +kernel⟩

/-- Tie to the source (re-probed on every run): `FordLinkProcessor.convert_link`, run through a real Markdown
    instance on scripted contexts and a scripted project, makes exactly the lookups of the model's `resolve`, in its
    order - the context's `find_child`, then the context's parent's, then `Project.find` (a `ValueError` of the
    first two counts as a miss; without a context only the project is asked); for `[[a:b]]` the hit's own
    `find_child`, whose `ValueError` is passed on, and when the child is found nowhere the page of `a` - and renders
    a link to the hit's URL (relative; an external URL as it is), the plain name when nothing is found, an error
    when the hit has no URL.  The last two cases are the model's switch `LinkEnv.checksPage`: the code as it is
    links to a hit whose page owner is not `visible`, the candidate repair
    (`fixes/C05-doc-link-hidden-page.diff`) prints the plain name. -/
theorem convert_link_probe_pinned :
    C05.convertLinkProbe.take 15 =
      [("context-hit", "ctx.find_child(hit,None) => href=../proc/hit.html text=hit"),
       ("parent-hit", "ctx.find_child(hit,None); par.find_child(hit,None) => href=../proc/hit.html text=hit"),
       ("project-hit", "ctx.find_child(hit,None); par.find_child(hit,None); project.find(hit,None,None,None) => href=../proc/hit.html text=hit"),
       ("nowhere", "ctx.find_child(hit,None); par.find_child(hit,None); project.find(hit,None,None,None) => plain text=hit"),
       ("context-raises-valueerror", "ctx.find_child(hit,type); par.find_child(hit,type) => href=../proc/hit.html text=hit"),
       ("no-parent-context-hit", "ctx.find_child(hit,None) => href=../proc/hit.html text=hit"),
       ("no-parent-project-hit", "ctx.find_child(hit,None); project.find(hit,None,None,None) => href=../proc/hit.html text=hit"),
       ("no-context", "project.find(hit,None,None,None) => href=proc/hit.html text=hit"),
       ("child-of-context-hit", "ctx.find_child(hit,None); hit.find_child(kid,None) => href=../proc/hit.html#variable-kid text=kid"),
       ("child-missing-under-context-hit", "ctx.find_child(hit,None); hit.find_child(nokid,None); project.find(hit,None,nokid,None); project.find(hit,None,None,None) => href=../proc/hit.html text=hit"),
       ("child-lookup-raises", "ctx.find_child(hit,None); hit.find_child(kid,variable) => ValueError"),
       ("child-through-project", "ctx.find_child(hit,None); par.find_child(hit,None); project.find(hit,None,kid,None) => href=../proc/hit.html#variable-kid text=kid"),
       ("child-missing-in-project", "ctx.find_child(hit,None); par.find_child(hit,None); project.find(hit,None,nokid,None); project.find(hit,None,None,None) => href=../proc/hit.html text=hit"),
       ("hit-without-url", "ctx.find_child(hit,None) => RuntimeError"),
       ("external-url-kept", "ctx.find_child(hit,None) => href=https://example.org/x.html text=hit")]
    ∧ (C05.convertLinkProbe.drop 15 =
        [("hit-page-not-visible", "ctx.find_child(hit,None) => href=../proc/hit.html text=hit"),
         ("hit-on-page-of-invisible-owner", "ctx.find_child(hit,None) => href=../proc/hp.html#variable-hit text=hit")]
       ∨ C05.convertLinkProbe.drop 15 =
        [("hit-page-not-visible", "ctx.find_child(hit,None) => plain text=hit"),
         ("hit-on-page-of-invisible-owner", "ctx.find_child(hit,None) => plain text=hit")]) :=
  ⟨rfl, by decide +kernel⟩

/-- Tie to the source (re-probed on every run): `get_dir` / `get_url` of the real objects of the probe project, per
    (class, class of the parent): files, modules, submodules, programs, block data units and namelists always have a
    page of their own; derived types, interfaces and procedures exactly when they stand directly in a file, module,
    submodule, program or block data unit (an interface body: in its interface's directory); everything else is an
    anchor on the page of the nearest ancestor that has one, or has no URL at all (a type inside a procedure and
    its components, the names listed in a generic interface).  This is the "page of a hit" of the link model. -/
theorem url_probe_pinned :
    C05.urlProbe =
      [
      ("FortranBlockData", "FortranSourceFile", "blockdata", "page"),
      ("FortranBoundProcedure", "FortranType", "-", "anchor:FortranType"),
      ("FortranCommon", "FortranBlockData", "-", "anchor:FortranBlockData"),
      ("FortranCommon", "FortranModule", "-", "anchor:FortranModule"),
      ("FortranEnum", "FortranModule", "-", "anchor:FortranModule"),
      ("FortranFinalProc", "FortranType", "-", "anchor:FortranType"),
      ("FortranFunction", "FortranFunction", "-", "anchor:FortranFunction"),
      ("FortranFunction", "FortranModule", "proc", "page"),
      ("FortranFunction", "FortranModuleProcedureInterface", "interface", "page"),
      ("FortranFunction", "FortranProgram", "proc", "page"),
      ("FortranFunction", "FortranSourceFile", "proc", "page"),
      ("FortranFunction", "FortranSubmodule", "proc", "page"),
      ("FortranInterface", "FortranModule", "interface", "page"),
      ("FortranInterface", "FortranProgram", "interface", "page"),
      ("FortranInterface", "FortranSubmodule", "interface", "page"),
      ("FortranModule", "FortranSourceFile", "module", "page"),
      ("FortranModuleProcedureImplementation", "FortranSubmodule", "proc", "page"),
      ("FortranModuleProcedureInterface", "FortranModule", "interface", "page"),
      ("FortranModuleProcedureInterface", "FortranProgram", "interface", "page"),
      ("FortranModuleProcedureInterface", "FortranSubmodule", "interface", "page"),
      ("FortranModuleProcedureReference", "FortranInterface", "-", "none"),
      ("FortranNamelist", "FortranFunction", "namelist", "page"),
      ("FortranNamelist", "FortranModule", "namelist", "page"),
      ("FortranNamelist", "FortranModuleProcedureImplementation", "namelist", "page"),
      ("FortranNamelist", "FortranProgram", "namelist", "page"),
      ("FortranNamelist", "FortranSubmodule", "namelist", "page"),
      ("FortranNamelist", "FortranSubroutine", "namelist", "page"),
      ("FortranProgram", "FortranSourceFile", "program", "page"),
      ("FortranSourceFile", "-", "sourcefile", "page"),
      ("FortranSubmodule", "FortranSourceFile", "module", "page"),
      ("FortranSubroutine", "FortranModule", "proc", "page"),
      ("FortranSubroutine", "FortranModuleProcedureInterface", "interface", "page"),
      ("FortranSubroutine", "FortranProgram", "proc", "page"),
      ("FortranSubroutine", "FortranSourceFile", "proc", "page"),
      ("FortranSubroutine", "FortranSubmodule", "proc", "page"),
      ("FortranSubroutine", "FortranSubroutine", "-", "anchor:FortranSubroutine"),
      ("FortranType", "FortranBlockData", "type", "page"),
      ("FortranType", "FortranModule", "type", "page"),
      ("FortranType", "FortranProgram", "type", "page"),
      ("FortranType", "FortranSubmodule", "type", "page"),
      ("FortranType", "FortranSubroutine", "-", "none"),
      ("FortranVariable", "FortranBlockData", "-", "anchor:FortranBlockData"),
      ("FortranVariable", "FortranEnum", "-", "anchor:FortranModule"),
      ("FortranVariable", "FortranFunction", "-", "anchor:FortranFunction"),
      ("FortranVariable", "FortranModule", "-", "anchor:FortranModule"),
      ("FortranVariable", "FortranModuleProcedureImplementation", "-", "anchor:FortranModuleProcedureImplementation"),
      ("FortranVariable", "FortranProgram", "-", "anchor:FortranProgram"),
      ("FortranVariable", "FortranSubmodule", "-", "anchor:FortranSubmodule"),
      ("FortranVariable", "FortranSubroutine", "-", "anchor:FortranSubroutine"),
      ("FortranVariable", "FortranType", "-", "none")] :=
  rfl

/-- Every list attribute `find_child` searches is one of the child lists of the entity tree
    (those `prune()` filters: `prune_lists_cover`; `common`, `namelists` and `enums`, which no `prune()`
    touches: `namelists_commons_unfiltered_witness`) - the only exception is `bindings` (the model's
    `viaRef`).  Adding a list to `FortranBase.children` that the entity tree does not have changes this
    obligation. -/
theorem link_lookup_lists_are_tree_lists :
    ∀ l ∈ C05.childrenLists, l = "bindings" ∨
      (listOf .file :: listOf .module :: listOf .submodule :: listOf .program :: listOf .blockdata
        :: listOf .subroutine :: listOf .function :: listOf .modproc :: listOf .type :: listOf .variable
        :: listOf .boundproc :: listOf .finalproc :: listOf .generic :: listOf .absint :: listOf .enum
        :: listOf .common :: listOf .namelist :: listOf .arg :: []).contains l = true := by decide +kernel

/-- Every project list `Project.find` searches (`LINK_TYPES`) is a list of entities that get a
    page (`Documentation`'s page map, filled from pruned lists: `pages_exact_partial`), the list of
    all files, or a list of external entities. -/
theorem link_lookup_project_lists_are_page_lists :
    ∀ l ∈ C05.linkTypes.map (·.2),
      (C05.pageMap.map (·.1)).contains l = true ∨ l = "allfiles"
      ∨ (["extModules", "extTypes", "extProcedures", "extInterfaces"].contains l = true) := by decide +kernel

/-- **Links point at pages that exist** (any project, pruned or not; any names; any links): the
    page a resolved `[[name]]` points at is the page of an entity in the project's page lists -
    unless the name was found through a procedure object that a type-bound / final procedure
    keeps (`viaRef`; excluded class = known finding `C05-link-to-unselected-bound-procedure`).
    Covers the comments of all surviving entities, all three lookups of `convert_link`. -/
theorem doc_links_point_at_written_pages_partial (E : LinkEnv) (q : List Ent) (l : Link)
    (hl : l ∈ linksOf E q) (h : Hit) (hh : l.hit = some h) (hv : h.viaRef = false) :
    h.page ∈ pageIds q :=
  linksOf_all (G := fun l => l.pointsInto (· ∈ pageIds q))
    (fun par own pg ctx ns l hctx hpar => linksAt_ok E q par own pg ctx hctx hpar ns l) l hl h hh hv

/-- **Links never point at pages of unselected entities** (the code as it is): after `prune`, for
    every configuration and every well-formed project, a `[[name]]` in the comment of a surviving
    entity that resolves directly points at the page of a *selected* entity. -/
theorem doc_links_point_at_selected_pages_partial (cfg : Cfg) (p : List Ent) (hc : cfgOk cfg = true)
    (hw : wfProject p = true) (hf : cfg.fileInherits = true ∨ noFileDisplay p = true)
    (E : LinkEnv) (l : Link) (hl : l ∈ linksOf E (pruneProject cfg p))
    (h : Hit) (hh : l.hit = some h) (hv : h.viaRef = false) :
    h.page ∈ selPages cfg p := by
  rw [← pages_exact_partial cfg p hc hw hf]
  exact doc_links_point_at_written_pages_partial E _ l hl h hh hv

/-- The same at full strength once the link extension tests that the page is written (candidate
    repair `fixes/C05-doc-link-hidden-page.diff`, model switch `checksPage`): every resolved link,
    references included. -/
theorem doc_links_point_at_selected_pages (cfg : Cfg) (p : List Ent) (hc : cfgOk cfg = true)
    (hw : wfProject p = true) (hf : cfg.fileInherits = true ∨ noFileDisplay p = true)
    (E : LinkEnv) (hk : E.checksPage = true) (l : Link) (hl : l ∈ linksOf E (pruneProject cfg p))
    (h : Hit) (hh : l.hit = some h) : h.page ∈ selPages cfg p := by
  rw [← pages_exact_partial cfg p hc hw hf]
  exact linksOf_pages_checked E _ hk l hl h hh

/-! ### witnesses of the genuine violations -/

/-- Known finding `C05-enum-never-filtered`: a private enumeration and its enumerator are
    rendered under `display: public`. -/
theorem enum_never_filtered_witness :
    renderedOf (pruneProject (wCfg true) wEnum) = [1, 2, 3, 4]
    ∧ selProject (wCfg true) wEnum = [1, 2]
    ∧ outsideFindings (wCfg true) wEnum = false := by decide +kernel

/-- Known finding `C05-namelist-never-filtered`: the private namelist 5 of the public subroutine 3 is
    rendered on the procedure's page and gets a page of its own (which shows the private local variable
    4 it groups) under `display: public`, with `proc_internals` off as well as on. -/
theorem namelist_never_filtered_witness :
    renderedOf (pruneProject (wCfg true) wNamelist) = [1, 2, 3, 5]
    ∧ selProject (wCfg true) wNamelist = [1, 2, 3]
    ∧ nmlPageIds wNamelist = [5] ∧ selNmlPages (wCfg true) wNamelist = []
    ∧ 4 ∈ shownIds (wCfg true) wNamelist
    ∧ renderedOf (pruneProject wCfgInt wNamelist) = [1, 2, 3, 5]
    ∧ selProject wCfgInt wNamelist = [1, 2, 3]
    ∧ outsideFindings (wCfg true) wNamelist = false ∧ outsideFindings wCfgInt wNamelist = false := by decide +kernel

/-- Known finding `C05-module-namelist-not-described`: the public namelist 4 of a module is selected,
    but no template of the module page renders it and it gets no page. -/
theorem module_namelist_not_described_witness :
    renderedOf (pruneProject wCfgInt wModuleNamelist) = [1, 2, 3]
    ∧ selProject wCfgInt wModuleNamelist = [1, 2, 3, 4]
    ∧ sitePageIds wCfgInt wModuleNamelist = [1, 2]
    ∧ nmlSection .module = false ∧ nmlSection .submodule = false
    ∧ outsideFindings wCfgInt wModuleNamelist = false := by decide +kernel

/-- Known finding `C05-inherited-binding-links-to-unselected-type`: the public type 5 extends the private
    type 3 and inherits its public binding 4; under `display: public` the binding survives in 5 and is
    `visible`, and the type that declares it, 3, is neither selected nor written: a link on the binding's name in
    the summary of 5 (its own URL is an anchor on the page of 3) would point at no page.  Repaired in FORD by
    242ad51; what the link does with and without the macro's test is `binding_name_link_unguarded_witness`. -/
theorem inherited_binding_links_to_unselected_type_witness :
    foreignBindingsOf wInheritedBinding (pruneProject wCfgInt (inheritProject wInheritedBinding 8)) = [(4, 3)]
    ∧ 4 ∈ visibleIdsOf (pruneProject wCfgInt (inheritProject wInheritedBinding 8))
    ∧ sitePageIds wCfgInt (inheritProject wInheritedBinding 8) = [1, 2, 5]
    ∧ selPages wCfgInt (inheritProject wInheritedBinding 8) = [1, 2, 5]
    ∧ noExtension wInheritedBinding = false := by decide +kernel

/-- Known finding `C05-blockdata-type-visible-before-prune` (repaired in FORD by 122f76e; the first conjunct is
    conditional on the variant of the table with the marking): the public type 5 of a block data unit extends
    the private type 3 of the same unit; `FortranBlockData.correlate` has marked 3 `visible`, `prune()` removes it
    under `display: public`, and `extends(t3)` in the summary / on the page of 5 is a link to the page of 3, which
    is neither selected nor written.  (Without the marking in `correlate` there is no link: the model reads the
    regenerated table.) -/
theorem blockdata_extends_link_witness :
    (C05.visibleInCorrelate = [("FortranBlockData", "FortranType")] →
      extLinksOf wBlockDataExtends (pruneProject wCfgInt (inheritProject wBlockDataExtends 5))
        (pruneProject wCfgInt (inheritProject wBlockDataExtends 5)) = [(5, 3)])
    ∧ idsOf (pruneProject wCfgInt (inheritProject wBlockDataExtends 5)) = [1, 2, 5, 4]
    ∧ sitePageIds wCfgInt (inheritProject wBlockDataExtends 5) = [1, 2, 5]
    ∧ selPages wCfgInt (inheritProject wBlockDataExtends 5) = [1, 2, 5]
    ∧ noBlockDataIn wBlockDataExtends = false := by decide +kernel

/-- Known finding `C05-common-never-filtered`: the private member 4 of a common block of a module is
    rendered under `display: public`. -/
theorem common_never_filtered_witness :
    renderedOf (pruneProject wCfgInt wCommon) = [1, 2, 3, 4]
    ∧ selProject wCfgInt wCommon = [1, 2, 3]
    ∧ outsideFindings wCfgInt wCommon = false := by decide +kernel

/-- Known finding `C05-link-to-unselected-bound-procedure`: the comment of the public binding 4
    names the private procedure 5 it binds; the link is resolved through `bindings` and points at
    the page of 5, which is not among the pages; with the page test the link is not made. -/
theorem link_via_binding_witness :
    linksOf (LinkWitness.eBinding false) (pruneProject LinkWitness.cfg LinkWitness.pBinding)
      = [⟨4, 5, some ⟨5, 5, true⟩⟩]
    ∧ pageIds (pruneProject LinkWitness.cfg LinkWitness.pBinding) = [1, 2, 3]
    ∧ selPages LinkWitness.cfg LinkWitness.pBinding = [1, 2, 3]
    ∧ linksOf (LinkWitness.eBinding true) (pruneProject LinkWitness.cfg LinkWitness.pBinding)
      = [⟨4, 5, none⟩] := by decide +kernel

/-- Known finding `C05-link-inside-unselected-referenced-procedure`: the private procedure 4 is
    displayed under the public generic 3; when its comment is converted the context is the
    unpruned object, `[[a5]]` is found among its own children and points at the page of 4,
    which is not among the pages; with the page test the link is not made. -/
theorem link_in_referenced_procedure_witness :
    LinkWitness.referencedHit false = some ⟨5, 4, false⟩
    ∧ pageIds (pruneProject LinkWitness.cfg LinkWitness.pReferenced) = [1, 2, 3]
    ∧ selPages LinkWitness.cfg LinkWitness.pReferenced = [1, 2, 3]
    ∧ LinkWitness.referencedHit true = none := by decide +kernel

/-! ### non-vacuity -/

/-- links that satisfy the hypotheses of the link theorems: from a component to itself (the type's page) and to
    its type; from a subroutine to the type (own page), to the type's component (not found from there), to a
    private function (not linked), to the module -/
example :
    linksOf LinkWitness.ePlain (pruneProject LinkWitness.cfg LinkWitness.pPlain)
      = [⟨4, 4, some ⟨4, 3, false⟩⟩, ⟨4, 3, some ⟨3, 3, false⟩⟩,
         ⟨5, 3, some ⟨3, 3, false⟩⟩, ⟨5, 4, none⟩, ⟨5, 6, none⟩, ⟨5, 2, some ⟨2, 2, false⟩⟩]
    ∧ wfProject LinkWitness.pPlain = true ∧ cfgOk LinkWitness.cfg = true := by decide +kernel

/-- a project with block data, generic interfaces, type extension and a namelist - block data unit with a private variable and a type, generic
    interface with an interface body (dummy argument, result) and a module procedure, declared function
    result, a type that extends another (the public component 4 and the binding 6 are inherited, the
    private component 5 is not), a namelist in a program - satisfies every hypothesis of the selection
    theorems; the private variable 22 of the block data unit and the private component are filtered, the
    namelist has its page -/
example :
    wfProject wRound3 = true ∧ cfgOk wCfgInt = true
    ∧ outsideFindings wCfgInt (inheritProject wRound3 24) = true
    ∧ renderedOf (pruneProject wCfgInt (inheritProject wRound3 24))
        = [1, 2, 3, 4, 6, 7, 4, 6, 8, 9, 10, 11, 12, 17, 18, 19, 20, 21, 23, 24]
    ∧ sitePageIds wCfgInt (inheritProject wRound3 24) = [1, 2, 3, 7, 9, 17, 20, 23, 19]
    ∧ selNmlPages wCfgInt (inheritProject wRound3 24) = [19] := by decide +kernel

end Ford.C05
