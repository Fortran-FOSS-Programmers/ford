/-
  C15 - options mean the same in every configuration format, with CLI precedence.
  Property theorems only; helper lemmas live in FordModel/Lemmas/Settings.lean,
  SettingsSpec.lean and SettingsSource.lean.
  `Generated.*` are the tables regenerated from ford/settings.py and ford/__init__.py
  on every run (translate/c15.py).
-/
import FordModel.Settings
import FordModel.Lemmas.Settings
import FordModel.SettingsSpec
import FordModel.Lemmas.SettingsSpec
import FordModel.SettingsSource
import FordModel.Lemmas.SettingsSource
namespace Ford.C15
open Ford Ford.Settings

/-- Every field of the regenerated `ProjectSettings` schema has a declared type the
    model (and hence every theorem below, which is generic in the tag) covers:
    a new option of an unsupported type breaks this obligation. -/
theorem schema_supported : ∀ e ∈ Generated.settingsSchema, e.2.1 ≠ Tag.other := by decide +kernel

/-- Every `Dict[str, str]` option has a one-character entry in `OPTION_SEPARATORS`
    (otherwise `convert_setting` raises `KeyError` for the metadata format only). -/
theorem schema_separators :
    ∀ e ∈ Generated.settingsSchema, e.2.1 = Tag.dictStr →
      (match aget e.1 Generated.optionSeparators with | some [_] => true | _ => false) = true := by
  decide +kernel

/-- Every settings-carrying command-line option names a field of the schema, with an
    argparse action that fits the field's type and the default `None` ("absent"), so the
    precedence theorem applies to every one of them. -/
theorem cli_table_sound :
    ∀ e ∈ Generated.cliTable,
      (match tagOf Generated.settingsSchema e.1, e.2.1 with
       | some .listStr, .append | some .listPath, .append | some .dictStr, .append | some .plainList, .append => true
       | some .str, .store | some .optStr, .store | some .path, .store | some .optPath, .store => true
       | some .bool, .storeTrue | some .bool, .storeFalse => true
       | _, _ => false) = true ∧ e.2.2 = none := by
  -- a literal is `String.ofList` of its characters: rewriting `"…".toList` to the character list first
  -- spares the kernel the decoding of every literal of the tables
  simp -index only [Generated.settingsSchema, Generated.cliTable, String.toList_ofList]
  decide +kernel

/-- No two command-line options write the same settings field (otherwise which of them
    "the command-line value" is would depend on argparse's processing order). -/
theorem cli_table_dests_distinct : (Generated.cliTable.map (·.1)).Nodup := by
  simp -index only [Generated.cliTable, String.toList_ofList]
  decide +kernel

/-- `meta_preprocessor` reads back exactly what the user guide's layout writes, for any number of
    options and value lines: a block `---` / `key: v0` / `    v1` ... / blank line, with distinct
    well-formed keywords, values without surrounding blanks and non-blank continuation lines,
    yields the key -> value-lines table in order, and the rest of the file untouched. -/
theorem metadata_block_read_back (opts : List (Str × List Str)) (body : List Str)
    (hg : ∀ o ∈ opts, goodOpt o = true) (hnd : (opts.map (·.1)).Nodup) :
    metaPre ("---".toList :: (encBlock opts ++ [] :: body)) = (opts, body) := by
  have := metaLoop_encBlock opts body [] none hg hnd (by simp)
  simpa [metaPre, isBegin, startsWith] using this

/-- non-vacuity: `src_dir` with two value lines is a well-formed option -/
example : goodOpt ("src_dir".toList, ["./src".toList, "lib dir".toList]) = true := by decide +kernel


/-- Per option, generic in the option type and unbounded in the value (any number of lines,
    list items, table entries, file types; any strings): the metadata spelling of a
    well-formed abstract value `a` is converted by `convert_setting` to exactly the settings
    value `denote a` - which for flags, numbers, strings, paths, lists and key/value tables
    is literally what `tomllib` delivers for the fpm.toml spelling (`encToml a`, second
    conjunct), so `ProjectSettings(**kw)` receives the same keyword argument in both formats. -/
theorem formats_agree_md_toml (seps : List (Str × Str)) (t : Tag) (key : Str) (sep : Char) (spell : Str) (a : AVal)
    (hsep : t = .dictStr → aget key seps = some [sep]) (hwf : wellFormed t sep spell a) :
    convertSetting seps t key (mdVal (encMd sep spell a)) = .ok (denote a)
    ∧ ((∀ fts, a ≠ .filetypes fts) → encToml a = denote a) := by
  refine ⟨convert_md_eq_denote seps t key sep spell a hsep hwf, ?_⟩
  intro h
  cases a <;> first | rfl | exact absurd rfl (h _)

/-- `extra_filetypes`: fpm.toml supplies an array of tables, which `__post_init__` turns into
    the same extension-indexed dict of `ExtraFileType` that the metadata lines were converted
    to (the `try` over objects fails, the `ExtraFileType(**table)` branch succeeds). -/
theorem formats_agree_filetypes (fts : List Eft) (hne : fts ≠ []) (hnd : (fts.map (·.ext)).Nodup) :
    (∃ l, encToml (.filetypes fts) = .list l ∧ efts l [] = none ∧
      (eftsOfList l []).map PyVal.dict = some (denote (.filetypes fts))) := by
  refine ⟨fts.map (fun ft => Atom.tbl (eftTable ft)), rfl, ?_, ?_⟩
  · cases fts with
    | nil => exact absurd rfl hne
    | cons ft r => exact efts_tbl_none ft r []
  · have := eftsOfList_enc fts [] hnd (by simp)
    simp only [List.nil_append] at this
    simp [this, denote]

/-- Whole metadata block: for any number of well-formed options of the schema, the converted
    metadata is the list of denotations, in order, with no warning - i.e. the keyword
    arguments `load_markdown_settings` passes to `ProjectSettings` are those fpm.toml gives. -/
theorem formats_agree_block (schema : List (Str × Tag × PyVal)) (seps : List (Str × Str))
    (opts : List (Str × Tag × Char × Str × AVal))
    (h : ∀ o ∈ opts, tagOf schema o.1 = some o.2.1 ∧ (o.2.1 = .dictStr → aget o.1 seps = some [o.2.2.1]) ∧
      wellFormed o.2.1 o.2.2.1 o.2.2.2.1 o.2.2.2.2) :
    convertMeta schema seps (opts.map (fun o => (o.1, mdVal (encMd o.2.2.1 o.2.2.2.1 o.2.2.2.2))))
      = .ok (opts.map (fun o => (o.1, denote o.2.2.2.2)), []) := by
  induction opts with
  | nil => rfl
  | cons o r ih =>
    obtain ⟨h1, h2, h3⟩ := h o (by simp)
    simp only [List.map_cons, convertMeta, h1, convert_md_eq_denote seps _ _ _ _ _ h2 h3,
      ih (fun o' ho' => h o' (by simp [ho']))]

/-- non-vacuity: an extension written with leading dots is a well-formed file type; both
    formats keep it verbatim -/
example : wellFormed .dictEft ' ' [] (.filetypes [⟨".inc".toList, "!".toList, some "fortran".toList⟩, ⟨"..x".toList, ";".toList, none⟩]) := by
  refine ⟨rfl, by simp, by decide, ?_⟩
  intro ft hft
  simp at hft
  rcases hft with h | h <;> subst h <;> exact ⟨by decide, by decide, by simp [noSpace, isSpace]⟩

/-- non-vacuity: `alias: a = b` with the separator `=` -/
example : wellFormed .dictStr '=' [] (.table [("a ".toList.dropLast, "b".toList)]) := by
  refine ⟨rfl, by simp, by simp, ?_⟩
  intro kv hkv
  simp at hkv
  subst hkv
  exact ⟨by decide, by rfl, by rfl⟩

/-- Override order of `parse_arguments`, field-wise and for any number of options: after
    `--config` and the command-line arguments were applied to the settings `s` loaded from
    the file, a field given on the command line holds the (converted) command-line value;
    otherwise, if given in `--config`, that value; otherwise what the file gave. -/
theorem precedence (schema : List (Str × Tag × PyVal)) (seps : List (Str × Str))
    (cfg cli s s' : Settings) (k : Str) (t : Tag)
    (hcli : (cli.map (·.1)).Nodup) (hcfg : (cfg.map (·.1)).Nodup) (ht : tagOf schema k = some t)
    (h : applyCli schema seps cli (applyConfig cfg s) = .ok s') :
    aget k s' =
      match aget k cli with
      | some v => (match convertSetting seps t k v with | .ok w => some w | .error _ => none)
      | none =>
        match aget k cfg with
        | some v => some v
        | none => aget k s := by
  cases hc : aget k cli with
  | some v =>
    obtain ⟨w, hw, hg⟩ := aget_applyCli_some schema seps cli _ s' k v t hcli hc ht h
    simp [hw, hg]
  | none =>
    rw [aget_applyCli_none schema seps cli _ s' k hc h, aget_applyConfig cfg s k hcfg]
    rfl

/-- The argparse namespace FORD sees, for any (dest, action, default) table whose defaults are
    all `None`: it holds exactly the options given on the command line - an option of the
    table that was given carries the given value, every other name is absent. -/
theorem cli_namespace_is_given (table : List (Str × CliKind × Option PyVal)) (given : Settings) (k : Str)
    (hdef : ∀ e ∈ table, e.2.2 = none) :
    aget k (cliNamespace table given) = if k ∈ table.map (·.1) then aget k given else none := by
  induction table with
  | nil => rfl
  | cons e r ih =>
    obtain ⟨d, kd, dl⟩ := e
    obtain rfl : dl = none := hdef (d, kd, dl) (by simp)
    have ih := ih (fun e he => hdef e (by simp [he]))
    simp only [cliNamespace, List.map_cons, List.mem_cons]
    by_cases hk : k = d
    · subst hk
      cases hg : aget k given with
      | some v => simp [aget]
      | none => simp [ih, hg]
    · simp only [hk, false_or, ← ih]
      cases aget d given with
      | some v => simp [aget, Ne.symm hk]
      | none => rfl

/-- Precedence stated on what the user typed (`given`) rather than on the namespace, over the
    regenerated argparse table: for every option `k` of the table, after `parse_arguments`'
    override steps the field holds the converted command-line value when `k` was given, else
    the `--config` value, else what the file gave.  Breaks when any action of
    `get_command_line_arguments` gets a default other than `None`. -/
theorem precedence_generated_cli (given cfg s s' : Settings) (k : Str) (t : Tag)
    (hcfg : (cfg.map (·.1)).Nodup)
    (hk : k ∈ Generated.cliTable.map (·.1)) (ht : tagOf Generated.settingsSchema k = some t)
    (h : applyCli Generated.settingsSchema Generated.optionSeparators
          (cliNamespace Generated.cliTable given) (applyConfig cfg s) = .ok s') :
    aget k s' =
      match aget k given with
      | some v => (match convertSetting Generated.optionSeparators t k v with | .ok w => some w | .error _ => none)
      | none =>
        match aget k cfg with
        | some v => some v
        | none => aget k s := by
  have hdef : ∀ e ∈ Generated.cliTable, e.2.2 = none := fun e he => (cli_table_sound e he).2
  have hns := cliNamespace_keys_nodup Generated.cliTable given cli_table_dests_distinct
  have := precedence Generated.settingsSchema Generated.optionSeparators cfg
    (cliNamespace Generated.cliTable given) s s' k t hns hcfg ht h
  rw [this, cli_namespace_is_given _ _ _ hdef, if_pos hk]

/-- An option that is *not* given on the command line - whether it has a switch or not - keeps
    the value of `--config` / the file, for every field and every command line: an absent
    switch never overrides the file.  (Over the regenerated table; this is the obligation that
    no longer checks when an argparse default stops being `None`.) -/
theorem absent_cli_keeps_file (given cfg s s' : Settings) (k : Str)
    (hcfg : (cfg.map (·.1)).Nodup) (hk : aget k given = none)
    (h : applyCli Generated.settingsSchema Generated.optionSeparators
          (cliNamespace Generated.cliTable given) (applyConfig cfg s) = .ok s') :
    aget k s' = match aget k cfg with
      | some v => some v
      | none => aget k s := by
  have hdef : ∀ e ∈ Generated.cliTable, e.2.2 = none := fun e he => (cli_table_sound e he).2
  have hns : aget k (cliNamespace Generated.cliTable given) = none := by
    rw [cli_namespace_is_given _ _ _ hdef, hk, ite_self]
  rw [aget_applyCli_none _ _ _ _ _ k hns h, aget_applyConfig cfg s k hcfg]
  rfl

/-- Why the hypothesis "all defaults are `None`" is needed, for any table: an action declared
    with another default (e.g. argparse's implicit `False` of a bare `store_true`) puts that
    default into the namespace although the switch was not given, and `parse_arguments` then
    writes it over the value from the file. -/
theorem cli_default_overrides_file_witness (schema : List (Str × Tag × PyVal)) (seps : List (Str × Str))
    (r : List (Str × CliKind × Option PyVal)) (given s s' : Settings) (k : Str) (kd : CliKind) (d : PyVal) (t : Tag)
    (hnd : (((k, kd, some d) :: r).map (·.1)).Nodup) (hk : aget k given = none)
    (ht : tagOf schema k = some t)
    (h : applyCli schema seps (cliNamespace ((k, kd, some d) :: r) given) s = .ok s') :
    ∃ w, convertSetting seps t k d = .ok w ∧ aget k s' = some w :=
  aget_applyCli_some schema seps _ s s' k d t (cliNamespace_keys_nodup _ given hnd)
    (aget_cliNamespace_default given k kd d r hk) ht h

/-- non-vacuity of the witness: `force: true` in the file, `--force` declared `store_true` with
    the implicit default `False`, nothing given: the file's value is lost -/
example : applyCli [("force".toList, Tag.bool, .atom (.bool false))] []
    (cliNamespace [("force".toList, CliKind.storeTrue, some (.atom (.bool false)))] [])
    [("force".toList, .atom (.bool true))] = .ok [("force".toList, .atom (.bool false))] := by rfl

/-- File over defaults: the keyword arguments of `ProjectSettings(**kw)` (what fpm.toml or the
    converted metadata supply) replace the defaults, every other field keeps its default -
    before `__post_init__`, for any number of options. -/
theorem file_over_defaults (schema : List (Str × Tag × PyVal)) (kw s : Settings) (k : Str)
    (hnd : (kw.map (·.1)).Nodup) (h : overlay schema kw (defaults schema) = .ok s) :
    aget k s = match aget k kw with
      | some v => some v
      | none => aget k (defaults schema) := by
  rw [overlay_eq] at h
  cases hk : aget k kw with
  | some v =>
    obtain ⟨w, hw, hg⟩ := aget_assignAll_some _ kw _ s k v hnd hk h
    rw [hg, kwArg_ok schema k v w hw]
  | none => exact aget_assignAll_none _ kw _ s k hk h

/-- File over defaults for the entries of `extra_mods`, variant `repaired`
    (`{**INTRINSIC_MODS, **extra_mods}`): whatever the built-in table is, every entry the
    settings file gives is effective after `__post_init__`' merge. -/
theorem extra_mods_entry_effective (intrinsic : List (Str × Str)) (mods : List (Str × Atom)) (k : Str) (v : Atom)
    (hnd : (mods.map (·.1)).Nodup) (h : aget k mods = some v) :
    aget k (mergeMods true intrinsic mods) = some v := by
  obtain ⟨w, hw, hg⟩ := aget_assignAll_some _ mods _ _ k v hnd h (overlayMods_eq mods _)
  cases hw
  simpa only [mergeMods, if_true] using hg

/-- The same for the code as it is (`extra_mods.update(INTRINSIC_MODS)`), which only holds
    outside the explicit class "the module is a key of the built-in table". -/
theorem extra_mods_entry_effective_partial (intrinsic : List (Str × Str)) (mods : List (Str × Atom)) (k : Str)
    (hk : k ∉ intrinsic.map (·.1)) :
    aget k (mergeMods false intrinsic mods) = aget k mods := by
  simp only [mergeMods, Bool.false_eq_true, if_false]
  exact aget_updateAll_not_mem intrinsic mods k hk

/-- The excluded class is real (finding C15-extra-mods-intrinsic-wins): for a module of the
    built-in table the effective URL is a built-in one whatever the settings file says -
    a default overrides the file. -/
theorem extra_mods_intrinsic_wins_witness (intrinsic : List (Str × Str)) (mods : List (Str × Atom)) (k : Str)
    (hk : k ∈ intrinsic.map (·.1)) :
    ∃ u, (k, u) ∈ intrinsic ∧ aget k (mergeMods false intrinsic mods) = some (.str u) := by
  simp only [mergeMods, Bool.false_eq_true, if_false]
  exact aget_updateAll_mem intrinsic mods k hk

/-- non-vacuity over the regenerated table: `iso_c_binding` is in the class, `example_mod` is not -/
example : "iso_c_binding".toList ∈ Generated.intrinsicMods.map (·.1)
    ∧ "example_mod".toList ∉ Generated.intrinsicMods.map (·.1) := by
  simp -index only [Generated.intrinsicMods, String.toList_ofList]
  decide +kernel

/-- `load_markdown_settings` converts the metadata and `from_markdown_metadata` converts the
    result a second time: the second pass changes nothing and reports nothing, for every
    schema, every option type and every value. -/
theorem double_conversion_harmless (schema : List (Str × Tag × PyVal)) (seps : List (Str × Str))
    (m s : Settings) (w : List Str) (h : convertMeta schema seps m = .ok (s, w)) :
    convertMeta schema seps s = .ok (s, []) := by
  fun_induction convertMeta schema seps m generalizing s w with
  | case1 => cases h; rfl
  | case2 k v rest ht s' w' hr ih => cases h; exact ih _ _ hr
  | case3 => cases h
  | case4 => cases h
  | case5 k v rest t ht v' hv s' w' hr ih =>
    cases h
    simp only [convertMeta, ht, convertSetting_idem _ _ _ _ _ hv, ih _ _ hr]
  | case6 => cases h

/-- Ill-typed metadata values are rejected with a message naming the option - except for
    the two excluded error classes: whatever the option type, the key and the (non-empty)
    list of value lines, an error of `convert_setting` other than `int()`'s and
    `ExtraFileType.from_string`'s carries the option name; and the conversion never leaves
    the modelled fragment on metadata-shaped input. -/
theorem illtyped_names_option_partial (seps : List (Str × Str)) (t : Tag) (key : Str) (xs : List Str) (e : Err)
    (hne : xs ≠ []) (h : convertSetting seps t key (mdVal xs) = .error e)
    (hint : e ≠ .intBad) (heft : e ≠ .eftBad) : e.names = some key := by
  rcases convertSetting_md_error seps t key xs e hne h with h1 | h1 | h1
  · exact absurd h1 hint
  · exact absurd h1 heft
  · exact h1

/-- non-vacuity: a bool option with two value lines is such an error -/
example : convertSetting [] .bool "graph".toList (mdVal ["true".toList, "x".toList])
    = .error (.boolMulti "graph".toList) := by rfl

/-- The excluded class is real (finding C15-md-int-unnamed): `graph_maxdepth: x` is rejected by
    `int()` with a message that names no option. -/
theorem illtyped_int_unnamed_witness :
    convertSetting Generated.optionSeparators .int "graph_maxdepth".toList (mdVal ["x".toList]) = .error .intBad
    ∧ Err.intBad.names = none := ⟨by rfl, by rfl⟩

/-- Metadata: a key that is not a settings field, anywhere in the block, is reported (it is in
    the warning list) and does not abort: the converted settings are exactly those of the
    block without it, and no other warning is lost. -/
theorem unknown_key_reported_md (schema : List (Str × Tag × PyVal)) (seps : List (Str × Str))
    (m1 m2 s : Settings) (w : List Str) (k : Str) (v : PyVal) (hk : tagOf schema k = none)
    (h : convertMeta schema seps (m1 ++ m2) = .ok (s, w)) :
    ∃ w', convertMeta schema seps (m1 ++ (k, v) :: m2) = .ok (s, w') ∧ k ∈ w' ∧ ∀ x ∈ w, x ∈ w' := by
  induction m1 generalizing s w with
  | nil => exact ⟨k :: w, by simp [convertMeta, hk, show convertMeta schema seps m2 = _ from h], by simp,
      fun x hx => List.mem_cons_of_mem _ hx⟩
  | cons e r ih =>
    obtain ⟨k1, v1⟩ := e
    simp only [List.cons_append, convertMeta] at h ⊢
    split at h
    · split at h
      · rename_i s' w0 hr
        cases h
        obtain ⟨w', hw', hin, hsub⟩ := ih _ _ hr
        exact ⟨k1 :: w', by simp [hw'], by simp [hin], fun x hx => List.cons_subset_cons _ (fun a ha => hsub a ha) hx⟩
      · cases h
    · split at h
      · cases h
      · split at h
        · rename_i s' w0 hr
          cases h
          obtain ⟨w', hw', hin, hsub⟩ := ih _ _ hr
          exact ⟨w', by simp [hw'], hin, hsub⟩
        · cases h

/-- fpm.toml (finding C15-toml-unknown-key-aborts): any table containing a key that is not a
    settings field makes `ProjectSettings(**table)` raise instead of reporting and going on. -/
theorem unknown_key_toml_aborts_witness (schema : List (Str × Tag × PyVal)) (intrinsic : List (Str × Str))
    (kw : Settings) (k : Str) (hk : k ∈ kw.map (·.1)) (hs : tagOf schema k = none) :
    ∃ k', construct schema intrinsic kw = .error (.unknownKw k') := by
  obtain ⟨k', h⟩ := overlay_unknown schema kw (defaults schema) k hk hs
  exact ⟨k', by simp [construct, h]⟩

/-- `--config` (finding C15-config-raw): every key/value is stored raw on the settings object -
    an unknown key silently becomes an attribute, a value is neither converted nor validated. -/
theorem config_stored_raw_witness (cfg s : Settings) (k : Str) (v : PyVal)
    (hcfg : (cfg.map (·.1)).Nodup) (h : aget k cfg = some v) : aget k (applyConfig cfg s) = some v :=
  by rw [aget_applyConfig cfg s k hcfg, h]

/-- The same finding on the whole pipeline over the regenerated tables, evaluated by the kernel:
    `display: PUBLIC` in the metadata is lower-cased by `__post_init__`, `--config "display=['PUBLIC']"`
    is not - the two formats give different effective settings. -/
theorem config_not_normalised_witness :
    effField "display" (effective generatedTables "/p".toList "/pkg".toList none ["display: PUBLIC".toList] none [])
      = some (.list [.str "public".toList])
    ∧ effField "display" (effective generatedTables "/p".toList "/pkg".toList none []
        (some [("display".toList, .list [.str "PUBLIC".toList])]) [])
      = some (.list [.str "PUBLIC".toList]) := generated_pipeline_runs.1

/-- fpm.toml values are not type-checked (finding C15-toml-not-type-checked): the string `"x"` for
    the integer option `graph_maxdepth` goes through the whole pipeline unchanged. -/
theorem toml_illtyped_accepted_witness :
    effField "graph_maxdepth" (effective generatedTables "/p".toList "/pkg".toList
        (some [("graph_maxdepth".toList, .atom (.str "x".toList))]) [] none [])
      = some (.atom (.str "x".toList)) := generated_pipeline_runs.2.1

/-- An absolute path does not depend on the project directory ... -/
theorem path_absolute_ignores_dir (d1 d2 p : Str) (h : startsWith p ['/'] = true) :
    normPath d1 p = normPath d2 p := by
  simp [normPath, h]

/-- ... and a relative one is interpreted relative to the project file's directory: its
    normalisation is the normalisation of its own segments continued from the normalised
    directory.  (How the project directory itself follows from the working directory and the
    path typed on the command line is modelled in `SettingsSource.lean`, theorems further below.) -/
theorem path_relative_to_project_dir (dir p : Str) (h : startsWith p ['/'] = false) :
    normPath dir p =
      '/' :: joinSep '/' (normSegs (splitChar '/' p) (normSegs (splitChar '/' dir) []).reverse) := by
  simp [normPath, h, splitChar, splitCharAux_append, normSegs_append]

/-- The result of `normalise_path` is in normal form (no empty, `.` or `..` segment) ... -/
theorem path_normal_form (segs : List Str) : ∀ a ∈ normSegs segs [], normalSeg a = true :=
  normSegs_forall _ segs [] (by simp) (fun _ _ h => h)

/-- ... and normalising it again, relative to any directory, changes nothing
    (`normalise_paths` may run again on already-normalised settings). -/
theorem path_idempotent (d d' p : Str) : normPath d' (normPath d p) = normPath d p := by
  have key : ∀ full : Str, normPath d' ('/' :: joinSep '/' (normSegs (splitChar '/' full) []))
      = '/' :: joinSep '/' (normSegs (splitChar '/' full) []) := by
    intro full
    have hn := path_normal_form (splitChar '/' full)
    have hs := normSegs_forall ('/' ∉ ·) (splitChar '/' full) [] (by simp)
      (fun a ha _ => splitCharAux_pieces '/' full [] (by simp) a ha)
    generalize normSegs (splitChar '/' full) [] = N at hn hs
    simp only [normPath, startsWith, beq_self_eq_true, Bool.and_true, if_true]
    cases N with
    | nil => simp [joinSep, splitChar, splitCharAux, normSegs]
    | cons x r =>
      have hsp := splitChar_joinSep '/' (x :: r) (by simp) hs
      simp only [splitChar] at hsp
      simp only [splitChar, splitCharAux, beq_self_eq_true, if_true, List.reverse_nil]
      rw [hsp]
      rw [show normSegs ([] :: x :: r) [] = normSegs (x :: r) [] from by simp [normSegs],
        normSegs_of_normal _ _ hn]
      simp
  unfold normPath
  split
  · exact key p
  · exact key (d ++ '/' :: p)

/-- Every "is this option still at its default?" test of the regenerated `normalise_paths` is on a
    path option of the schema, compares against that option's *own default*, and compares the
    stored value itself (not `Path(value)`): only the untouched default - a `Path` - can pass it,
    never a value written in a settings file, `--config` or on the command line (all strings). -/
theorem sentinel_tests_sound :
    ∀ e ∈ Generated.sentinelTests,
      e.2.1 = false ∧ aget e.1 Generated.settingsSchema = some (Tag.path, .atom (.path e.2.2.1)) := by
  simp -index only [Generated.settingsSchema, Generated.sentinelTests, String.toList_ofList]
  decide +kernel

/-- Relative paths are interpreted relative to the project file, for *every* written value: whatever
    the schema and whatever raw sentinel tests `normalise_paths` makes, a path option that holds a
    string `p` (what a settings file, `--config` or the command line delivers) holds
    `normalise_path(project directory, p)` afterwards - also when `p` spells the option's default
    (`favicon: favicon.png`, `md_base_dir: .`) or anything pathlib takes for it (`./favicon.png`). -/
theorem written_path_relative_to_project_dir (schema : List (Str × Tag × PyVal))
    (tests : List (Str × Bool × Str × SentinelRepl)) (dir pkg : Str) (s s' : Settings) (k p : Str)
    (hraw : ∀ e ∈ tests, e.2.1 = false)
    (ht : tagOf schema k = some .path ∨ tagOf schema k = some .optPath)
    (hd : k ≠ "directory".toList) (hu : k ≠ "project_url".toList)
    (hk : aget k s = some (.atom (.str p)))
    (h : normalisePaths schema tests dir pkg s = .ok s') :
    aget k s' = some (.atom (.path (normPath dir p))) := by
  obtain ⟨v', hv1, hv2⟩ := aget_normalisePaths schema tests dir pkg s s' k _ hraw hd hu
    hk (by intro q hq; cases hq) h
  rcases ht with ht | ht <;> simp [ht, normField, normAtom] at hv1 <;> rw [hv2, ← hv1]

/-- The same for the list-of-paths options (`src_dir`, `exclude_dir`, `include`, ...): every item. -/
theorem written_path_list_relative_to_project_dir (schema : List (Str × Tag × PyVal))
    (tests : List (Str × Bool × Str × SentinelRepl)) (dir pkg : Str) (s s' : Settings) (k : Str) (ps : List Str)
    (hraw : ∀ e ∈ tests, e.2.1 = false)
    (ht : tagOf schema k = some .listPath)
    (hd : k ≠ "directory".toList) (hu : k ≠ "project_url".toList)
    (hk : aget k s = some (.list (ps.map .str)))
    (h : normalisePaths schema tests dir pkg s = .ok s') :
    aget k s' = some (.list (ps.map (fun p => .path (normPath dir p)))) := by
  obtain ⟨v', hv1, hv2⟩ := aget_normalisePaths schema tests dir pkg s s' k _ hraw hd hu
    hk (by intro q hq; cases hq) h
  simp [ht, normField, normAtoms_strs] at hv1
  rw [hv2, ← hv1]

/-- Over the regenerated tables (schema, sentinel tests): every path option of FORD written as a
    string is resolved from the project directory by `normalise_paths`.  This is the obligation
    that no longer checks when a sentinel test starts to compare `Path(value)`. -/
theorem written_path_relative_generated (dir pkg : Str) (s s' : Settings) (k p : Str)
    (ht : tagOf Generated.settingsSchema k = some .path ∨ tagOf Generated.settingsSchema k = some .optPath)
    (hd : k ≠ "directory".toList)
    (hk : aget k s = some (.atom (.str p)))
    (h : normalisePaths Generated.settingsSchema Generated.sentinelTests dir pkg s = .ok s') :
    aget k s' = some (.atom (.path (normPath dir p))) := by
  refine written_path_relative_to_project_dir _ _ dir pkg s s' k p
    (fun e he => (sentinel_tests_sound e he).1) ht hd ?_ hk h
  intro hu
  subst hu
  simp -index only [Generated.settingsSchema, String.toList_ofList] at ht
  exact absurd ht (by decide +kernel)

/-- Why "compares the stored value itself" is demanded, for any sentinel and any replacement: a test
    that compares `Path(value)` takes a written string that pathlib reads as the sentinel for the
    untouched default and replaces it - the project's own `favicon.png` next to the project file
    would silently become the icon shipped with FORD (a default overriding the file). -/
theorem coerced_sentinel_swallows_written_witness (dir pkg f sent p : Str) (repl : SentinelRepl) (s : Settings)
    (hp : pathParts p = pathParts sent) (hk : aget f s = some (.atom (.str p))) :
    applySentinels dir pkg [(f, true, sent, repl)] s = .ok (aset f (sentinelValue dir pkg sent repl) s)
    ∧ applySentinels dir pkg [(f, false, sent, repl)] s = .ok s := by
  simp [applySentinels, sentinelHit, hk, hp]

/-- non-vacuity: `./favicon.png` is read by pathlib as `favicon.png`; `img/favicon.png` is not -/
example : pathParts "./favicon.png".toList = pathParts "favicon.png".toList
    ∧ pathParts "img/favicon.png".toList ≠ pathParts "favicon.png".toList := by
  simp -index only [String.toList_ofList]
  decide +kernel

/-- non-vacuity over the regenerated tables: `favicon` and `md_base_dir` are path options -/
example : tagOf Generated.settingsSchema "favicon".toList = some .path
    ∧ tagOf Generated.settingsSchema "md_base_dir".toList = some .path := by
  simp -index only [Generated.settingsSchema, String.toList_ofList]
  decide +kernel

/-! ### where the options are taken from (`initialize` / `load_settings` / `load_toml_settings`) -/

/-- Every attempt of the regenerated `load_settings` to find the manifest looks in the directory of
    the *project file* (and there is at least one): nothing is looked up in the working directory.
    A second lookup somewhere else (`load_toml_settings(Path.cwd())`) changes the regenerated table
    and this obligation no longer checks. -/
theorem toml_lookup_sound :
    Generated.tomlLookups ≠ [] ∧ ∀ l ∈ Generated.tomlLookups, l = LookupDir.projectDir := by decide +kernel

/-- "the `[extra.ford]` table of fpm.toml": the file the regenerated `load_toml_settings` opens and the
    table it passes to `ProjectSettings(**...)`. -/
theorem manifest_is_extra_ford_of_fpm_toml :
    Generated.manifestName = "fpm.toml".toList
    ∧ Generated.manifestTablePath = ["extra".toList, "ford".toList] := by decide +kernel

/-- The source of a project's options is decided by the manifest *next to the project file* alone:
    for every file system, working directory and spelling of the project file on the command line,
    the regenerated lookup sequence selects what `load_toml_settings` makes of
    `<directory of the project file>/fpm.toml`. -/
theorem source_is_manifest_next_to_project_file (fs : FileSys) (cwd addr : Str) :
    selectToml fs cwd (dirname addr) Generated.tomlLookups
      = loadToml (manifestAt fs (projectDirOf cwd addr)) :=
  selectToml_projectDir_only fs cwd (dirname addr) _ toml_lookup_sound.1 toml_lookup_sound.2

/-- "... whatever the working directory": two starts of FORD that name the same project file - from
    any two working directories, with any relative or absolute spelling of the path - have the same
    effective configuration (or the same error), whatever manifests lie in the working directories and
    whatever text files are readable, for every metadata block, `--config` table and command line.
    Whole pipeline, regenerated tables.  `_partial`: outside the class "the options come from a metadata
    block in which a string option opens with an include statement `{!`" (decidable: `mdIncludes`) - inside
    it the code as it is does depend on the working directory, see the witness below. -/
theorem effective_same_from_every_working_directory_partial (fs : FileSys) (files : List (Str × List Str))
    (incRep : Bool) (cwd₁ addr₁ cwd₂ addr₂ pkg : Str) (md : List Str) (config : Option Settings) (cli : Settings)
    (h : projectDirOf cwd₁ addr₁ = projectDirOf cwd₂ addr₂)
    (hinc : mdIncludes generatedTables md = false
      ∨ ∃ kw, manifestAt fs (projectDirOf cwd₁ addr₁) = .ford kw) :
    effectiveAt generatedTables Generated.tomlLookups fs cwd₁ addr₁ pkg md config cli files incRep
      = effectiveAt generatedTables Generated.tomlLookups fs cwd₂ addr₂ pkg md config cli files incRep := by
  simp only [effectiveAt, source_is_manifest_next_to_project_file, ← h]
  cases hm : loadToml (manifestAt fs (projectDirOf cwd₁ addr₁)) with
  | error e => rfl
  | ok toml =>
    have henv : toml.isSome = true ∨ mdIncludes generatedTables md = false := by
      rcases hinc with hinc | ⟨kw, hk⟩
      · exact Or.inr hinc
      · rw [hk] at hm
        simp [loadToml] at hm
        exact Or.inl (by simp [← hm])
    simp only [effective_env_irrelevant generatedTables (projectDirOf cwd₁ addr₁) pkg toml md config cli _
      { cwd := cwd₂, directory := dirname addr₂, files := files, baseFromProject := incRep } henv]

/-- The violating class, on the code as it is (`incRep = false`), whole pipeline over the regenerated tables:
    `md_base_dir: sub` + `summary: {!inc.md!}` with `<project>/sub/inc.md` on disk gives the file's text when FORD
    is started in the project directory and the empty string when the same project file is named from the parent
    directory - the relative `md_base_dir` is read from the working directory, not from the project file.
    With the repair (`Path(directory) / md_base_dir`, variant `incRep = true`) both starts give the file's text. -/
theorem include_base_dir_depends_on_cwd_witness :
    effFieldAt "summary" (effectiveAt generatedTables Generated.tomlLookups [] "/w/proj".toList "p.md".toList
        "/pkg".toList ["---".toList, "md_base_dir: sub".toList, "summary: {!inc.md!}".toList, "---".toList] none []
        [("/w/proj/sub/inc.md".toList, ["Included".toList])] false)
      = some (.atom (.str "Included".toList))
    ∧ effFieldAt "summary" (effectiveAt generatedTables Generated.tomlLookups [] "/w".toList "proj/p.md".toList
        "/pkg".toList ["---".toList, "md_base_dir: sub".toList, "summary: {!inc.md!}".toList, "---".toList] none []
        [("/w/proj/sub/inc.md".toList, ["Included".toList])] false)
      = some (.atom (.str []))
    ∧ effFieldAt "summary" (effectiveAt generatedTables Generated.tomlLookups [] "/w".toList "proj/p.md".toList
        "/pkg".toList ["---".toList, "md_base_dir: sub".toList, "summary: {!inc.md!}".toList, "---".toList] none []
        [("/w/proj/sub/inc.md".toList, ["Included".toList])] true)
      = some (.atom (.str "Included".toList)) := generated_pipeline_runs.2.2

/-- Outside that class the include workaround is the identity, for every environment: no file is read, and the
    theorems about the metadata format above (stated without it) speak about the whole `load_markdown_settings`. -/
theorem include_only_where_a_value_opens_with_an_include (env : IncEnv) (kw : Settings)
    (h : opensInclude kw = false) : includeStep env kw kw = .ok kw :=
  includeStep_id env kw kw h

/-- The documented shape of an include statement is read as `markdown_include` reads it: text before, file name
    (blanks around it dropped), text after; a line without `{!` is left alone (non-vacuity of `incParse`). -/
example : incParse "see {! docs/inc.md !} end".toList = .inc "see ".toList "docs/inc.md".toList " end".toList
    ∧ incParse "{!inc.md!}".toList = .inc [] "inc.md".toList []
    ∧ incParse "a { b ! c".toList = .plain ∧ incParse "{!a!}{!b!}".toList = .other
    ∧ incParse "{! !}".toList = .other := by
  simp -index only [String.toList_ofList]
  decide +kernel

/-- A manifest in any directory other than the project file's - the working directory, the parent
    directory, an unrelated fpm package - has no influence on the effective configuration: it may
    appear, disappear, change its `[extra.ford]` table or be unreadable. -/
theorem manifest_elsewhere_is_ignored (fs : FileSys) (files : List (Str × List Str)) (incRep : Bool)
    (d : Str) (m : Manifest) (cwd addr pkg : Str)
    (md : List Str) (config : Option Settings) (cli : Settings)
    (h : projectDirOf cwd addr ≠ d) :
    effectiveAt generatedTables Generated.tomlLookups (aset d m fs) cwd addr pkg md config cli files incRep
      = effectiveAt generatedTables Generated.tomlLookups fs cwd addr pkg md config cli files incRep := by
  simp only [effectiveAt, source_is_manifest_next_to_project_file, manifestAt_aset_ne fs d _ m h]

/-- "written as project-file metadata, as the `[extra.ford]` table of fpm.toml": the manifest next to
    the project file is the configuration exactly when it has an `[extra.ford]` table (then the
    metadata block is not consulted); without the file, without `[extra]` or without `[extra.ford]`
    the metadata block of the project file is.  In both cases relative paths are taken from the
    project file's directory. -/
theorem source_is_manifest_table_or_metadata (fs : FileSys) (files : List (Str × List Str)) (incRep : Bool)
    (cwd addr pkg : Str) (md : List Str) (config : Option Settings) (cli : Settings) :
    (∀ kw, manifestAt fs (projectDirOf cwd addr) = .ford kw →
      effectiveAt generatedTables Generated.tomlLookups fs cwd addr pkg md config cli files incRep
        = (effective generatedTables (projectDirOf cwd addr) pkg (some kw) md config cli).mapError .settings)
    ∧ (manifestAt fs (projectDirOf cwd addr) = .absent ∨ manifestAt fs (projectDirOf cwd addr) = .noExtra
        ∨ manifestAt fs (projectDirOf cwd addr) = .noFord →
      effectiveAt generatedTables Generated.tomlLookups fs cwd addr pkg md config cli files incRep
        = (effective generatedTables (projectDirOf cwd addr) pkg none md config cli
            { cwd := cwd, directory := dirname addr, files := files, baseFromProject := incRep }).mapError .settings) := by
  refine ⟨fun kw hk => ?_, fun hk => ?_⟩
  · simp only [effectiveAt, source_is_manifest_next_to_project_file, hk, loadToml]
    rw [effective_env_irrelevant generatedTables (projectDirOf cwd addr) pkg (some kw) md config cli _ {} (Or.inl rfl)]
    cases effective generatedTables (projectDirOf cwd addr) pkg (some kw) md config cli <;> rfl
  · rcases hk with hk | hk | hk <;>
      simp only [effectiveAt, source_is_manifest_next_to_project_file, hk, loadToml] <;>
      cases effective generatedTables (projectDirOf cwd addr) pkg none md config cli
        { cwd := cwd, directory := dirname addr, files := files, baseFromProject := incRep } <;> rfl

/-- A project file given by an absolute path has the same project directory from every working
    directory (so `effective_same_from_every_working_directory_partial` applies to `ford /abs/doc/ford.md` started anywhere) ... -/
theorem absolute_project_file_fixes_project_dir (cwd₁ cwd₂ r : Str) :
    projectDirOf cwd₁ ('/' :: r) = projectDirOf cwd₂ ('/' :: r) :=
  path_absolute_ignores_dir cwd₁ cwd₂ _ (dirname_absolute r)

/-- ... and a bare file name (`ford ford.md`) has the working directory as project directory. -/
theorem bare_project_file_is_in_working_directory (cwd name : Str) (h : name.contains '/' = false) :
    projectDirOf cwd name = normPath cwd [] := by
  simp [projectDirOf, dirname_no_slash name h]

/-- Why `toml_lookup_sound` is demanded, for any option table: with a fall-back lookup in the working
    directory, one and the same project file (absolute path, no manifest next to it) is configured
    by its metadata block when FORD is started in `cwd₁` and by the unrelated manifest lying in
    `cwd₂` when started there. -/
theorem cwd_lookup_depends_on_cwd_witness (kw : Settings) (cwd₁ cwd₂ r : Str)
    (hp₁ : normPath cwd₁ ('/' :: r) ≠ normPath cwd₂ []) (hp₂ : normPath cwd₂ ('/' :: r) ≠ normPath cwd₂ [])
    (hc : normPath cwd₁ [] ≠ normPath cwd₂ []) :
    selectToml [(normPath cwd₂ [], .ford kw)] cwd₁ ('/' :: r) [.projectDir, .cwd] = .ok none
    ∧ selectToml [(normPath cwd₂ [], .ford kw)] cwd₂ ('/' :: r) [.projectDir, .cwd] = .ok (some kw) := by
  simp [selectToml, lookupDir, manifestAt, aget, loadToml, Ne.symm hp₁, Ne.symm hp₂, Ne.symm hc]

/-- non-vacuity: the layout of the usual fpm package - project file `/w/pkg/doc/ford.md`, started from
    `/w/pkg/doc`, from `/w/pkg` and from `/w/other` - is one project directory; `dirname` behaves as
    `os.path.dirname` on the boundary spellings -/
example : projectDirOf "/w/pkg/doc".toList "ford.md".toList = "/w/pkg/doc".toList
    ∧ projectDirOf "/w/pkg".toList "doc/ford.md".toList = "/w/pkg/doc".toList
    ∧ projectDirOf "/w/other".toList "../pkg/./doc//ford.md".toList = "/w/pkg/doc".toList
    ∧ projectDirOf "/w/other".toList "/w/pkg/doc/ford.md".toList = "/w/pkg/doc".toList
    ∧ dirname "/ford.md".toList = "/".toList ∧ dirname "//a".toList = "//".toList
    ∧ dirname "a//b".toList = "a".toList ∧ dirname "a/b/".toList = "a/b".toList := by
  simp -index only [String.toList_ofList]
  decide +kernel

/-- non-vacuity of the witness: the hypotheses are satisfiable, and over the regenerated lookup table
    the start from `/w/other` finds no manifest either -/
example :
    selectToml [("/w/other".toList, .ford [("project".toList, .atom (.str "Other".toList))])]
        "/w/pkg".toList "/w/pkg/doc".toList [.projectDir, .cwd] = .ok none
    ∧ selectToml [("/w/other".toList, .ford [("project".toList, .atom (.str "Other".toList))])]
        "/w/other".toList "/w/pkg/doc".toList [.projectDir, .cwd]
        = .ok (some [("project".toList, .atom (.str "Other".toList))])
    ∧ selectToml [("/w/other".toList, .ford [("project".toList, .atom (.str "Other".toList))])]
        "/w/other".toList "/w/pkg/doc".toList Generated.tomlLookups = .ok none := by
  refine ⟨?_, ?_, ?_⟩ <;> rfl

end Ford.C15
