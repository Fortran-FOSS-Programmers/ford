/-
  C06 — USE association imports exactly the accessible names.
  Property theorems only.  Model: FordModel/Use.lean (FORD's tables and loops as they
  are), UseBind.lean (`find_used_modules`), UseExt.lean (external projects), Generated/C06.lean
  (constants read off the working tree); specification: FordModel/Lemmas/UseSpec.lean (`Admits`,
  `Exports`, `Imports`, `Sees`: the standard's rules as inductive relations, and the side conditions);
  helper lemmas: FordModel/Lemmas/Use.lean, UseAccess.lean, UseHost.lean, UseBind.lean.

  `run k g order` is `for container in ranklist: container.correlate(project)` for the
  kind-`k` tables (procedures, abstract interfaces, types, variables) of project `g`.
  Nothing below bounds the number of modules, the length of re-export chains, the
  number of USE statements per scope or the size of only-lists.
-/
import FordModel.Use
import FordModel.Lemmas.UseSpec
import FordModel.Lemmas.Use
import FordModel.Lemmas.UseHost
import FordModel.UseBind
import FordModel.Lemmas.UseBind
import FordModel.Generated.C06
import FordModel.UseExt
namespace Ford.C06
open Ford Ford.Use

/-- **Nothing inaccessible is imported** (soundness), for *every* correlation order, every
    module graph, every mix of plain / only / only+rename USE statements, several USEs of one
    module, every entity kind: each entry `l ↦ e` of a scope's `all_*` table is a name the
    standard makes denote `e` there, and each entry of a module's `pub_*` table is exported by
    the standard's rules.  The excluded defect classes are explicit:
    rename lists without ONLY (`NoBareRename`) and `private ::` statements about imported
    names that FORD's filter ignores (`NoEffectivePrivate`); `NoShadow` is Fortran's own
    rule that a use-associated identifier is not redeclared.  `Exports` starts from the standard's
    accessibility of a declaration (`declAccessible`: PUBLIC / PRIVATE keyword in whatever order
    and place, else the module default, PROTECTED irrelevant) while the code reads its single
    `permission` slot; the class where the two differ in this direction is excluded explicitly
    (`NoProtectedOverPrivate`, finding C06-protected-private-exported). -/
theorem tables_sound_partial (g : List Scope) (k : Nat) (order : List Str)
    (hu : UniqueNames g) (hb : NoBareRename g) (hp : NoEffectivePrivate g) (hs : NoShadow g k)
    (hq : NoProtectedOverPrivate g)
    (m : Scope) (hm : m ∈ g) (l : Str) (e : Ent) :
    (aget (getTabs (run k g order) m.name).pub l = some e → Exports g k m l e) ∧
    (aget (getTabs (run k g order) m.name).all l = some e → Sees g k m l e) :=
  ⟨fun h => (sound_run g k hu hb hp hs hq order m hm).1 (l, e) (aget_mem h),
   fun h => (sound_run g k hu hb hp hs hq order m hm).2 (l, e) (aget_mem h)⟩

/-- **Everything accessible is imported** (completeness), across any chain or diamond of
    re-exporting modules: when the scopes are correlated in *any* topological order of the
    USE graph (`isTopo`, what `toposort_flatten` + appended programs provide — checked on the
    real order in every run), every identifier the standard makes accessible in a scope is a
    key of its table.  Excluded defect classes: rename lists without ONLY, and only-lists
    naming one remote entity twice (`NoRepeatedRemote`).  Every entity that is accessible by the
    standard (`declAccessible`) is found - `public, protected` in either order, by attribute or by
    statement, in default-public and default-private modules alike; `LegalAccess` is Fortran's
    constraint that no entity is given both PUBLIC and PRIVATE. -/
theorem tables_complete_partial (g : List Scope) (k : Nat) (order : List Str)
    (hu : UniqueNames g) (hb : NoBareRename g) (hr : NoRepeatedRemote g) (hl : LegalAccess g)
    (ht : isTopo g [] order = true) (m : Scope) (hm : m ∈ g) (hin : m.name ∈ order)
    (l : Str) (e : Ent) :
    (Exports g k m l e → hasKey (getTabs (run k g order) m.name).pub l) ∧
    (Sees g k m l e → hasKey (getTabs (run k g order) m.name).all l) :=
  ⟨fun h => (complete_run g k hu hb hr hl order ht m hm hin).1 l e h,
   fun h => (complete_run g k hu hb hr hl order ht m hm hin).2 l e h⟩

/-- **Exactly the accessible names, resolved to the exporting module's entity**: in a legal
    program (no identifier denotes two entities in the scope) the name table *is* the
    standard's relation: `all_*[l] = e ↔ Sees s l e`. -/
theorem use_exact_partial (g : List Scope) (k : Nat) (order : List Str)
    (hu : UniqueNames g) (hb : NoBareRename g) (hr : NoRepeatedRemote g)
    (hp : NoEffectivePrivate g) (hs : NoShadow g k) (hl : LegalAccess g)
    (hq : NoProtectedOverPrivate g) (ht : isTopo g [] order = true)
    (m : Scope) (hm : m ∈ g) (hin : m.name ∈ order)
    (hamb : ∀ l e e', Sees g k m l e → Sees g k m l e' → e = e') (l : Str) (e : Ent) :
    aget (getTabs (run k g order) m.name).all l = some e ↔ Sees g k m l e :=
  aget_eq_some_iff (fun l e => (tables_sound_partial g k order hu hb hp hs hq m hm l e).2)
    (fun l e => (tables_complete_partial g k order hu hb hr hl ht m hm hin l e).2) hamb l e

/-- ... and a module's `pub_*` table is exactly what it exports (own public entities and
    re-exports, restricted by its default accessibility and access statements). -/
theorem export_exact_partial (g : List Scope) (k : Nat) (order : List Str)
    (hu : UniqueNames g) (hb : NoBareRename g) (hr : NoRepeatedRemote g)
    (hp : NoEffectivePrivate g) (hs : NoShadow g k) (hl : LegalAccess g)
    (hq : NoProtectedOverPrivate g) (ht : isTopo g [] order = true)
    (m : Scope) (hm : m ∈ g) (hin : m.name ∈ order)
    (hamb : ∀ l e e', Exports g k m l e → Exports g k m l e' → e = e') (l : Str) (e : Ent) :
    aget (getTabs (run k g order) m.name).pub l = some e ↔ Exports g k m l e :=
  aget_eq_some_iff (fun l e => (tables_sound_partial g k order hu hb hp hs hq m hm l e).1)
    (fun l e => (tables_complete_partial g k order hu hb hr hl ht m hm hin l e).1) hamb l e

/-- **Regardless of the order in which source files are read**: any two topological orders
    of the USE graph give every scope the same name table. -/
theorem order_independent_partial (g : List Scope) (k : Nat) (o₁ o₂ : List Str)
    (hu : UniqueNames g) (hb : NoBareRename g) (hr : NoRepeatedRemote g)
    (hp : NoEffectivePrivate g) (hs : NoShadow g k) (hl : LegalAccess g)
    (hq : NoProtectedOverPrivate g)
    (h₁ : isTopo g [] o₁ = true) (h₂ : isTopo g [] o₂ = true)
    (m : Scope) (hm : m ∈ g) (hi₁ : m.name ∈ o₁) (hi₂ : m.name ∈ o₂)
    (hamb : ∀ l e e', Sees g k m l e → Sees g k m l e' → e = e') (l : Str) :
    aget (getTabs (run k g o₁) m.name).all l = aget (getTabs (run k g o₂) m.name).all l :=
  Option.ext fun e => (use_exact_partial g k o₁ hu hb hr hp hs hl hq h₁ m hm hi₁ hamb l e).trans
    (use_exact_partial g k o₂ hu hb hr hp hs hl hq h₂ m hm hi₂ hamb l e).symm

/-- **Private entities are never imported** — unconditionally: whatever the USE forms (the
    defect classes included), whatever the correlation order, every entity in a `pub_*` table
    is a declaration of a project module whose accessibility is not private, and every entity
    in a scope's `all_*` table is such a declaration or one of the scope's own. -/
theorem private_never_imported (g : List Scope) (k : Nat) (order : List Str) (hu : UniqueNames g)
    (m : Scope) (hm : m ∈ g) (l : Str) (e : Ent) :
    (aget (getTabs (run k g order) m.name).pub l = some e → PubEnt g k e) ∧
    (aget (getTabs (run k g order) m.name).all l = some e → PubEnt g k e ∨ OwnEnt k m e) :=
  ⟨fun h => (priv_run g k hu order m hm).1 (l, e) (aget_mem h),
   fun h => (priv_run g k hu order m hm).2 (l, e) (aget_mem h)⟩

/-- **Private entities are never imported**, with "private" read as the standard's accessibility
    (PRIVATE attribute or statement, or default-private module without PUBLIC; PROTECTED does not
    make an entity accessible): outside the defect class `NoProtectedOverPrivate`, for every USE
    form (the other defect classes included) and every correlation order, whatever sits in a
    `pub_*` / `all_*` table is a declaration that `declAccessible` admits, or the scope's own. -/
theorem private_never_imported_std_partial (g : List Scope) (k : Nat) (order : List Str)
    (hu : UniqueNames g) (hq : NoProtectedOverPrivate g) (m : Scope) (hm : m ∈ g) (l : Str) (e : Ent) :
    (aget (getTabs (run k g order) m.name).pub l = some e → AccessibleEnt g k e) ∧
    (aget (getTabs (run k g order) m.name).all l = some e → AccessibleEnt g k e ∨ OwnEnt k m e) := by
  have h := private_never_imported g k order hu m hm l e
  exact ⟨fun h1 => accessibleEnt_of_pubEnt g k e hq (h.1 h1),
         fun h1 => (h.2 h1).imp (accessibleEnt_of_pubEnt g k e hq) id⟩

/-- **What a module exports of its own declarations is decided by PUBLIC / PRIVATE / the default,
    not by PROTECTED** - for every list of access keywords in every order (attribute list, then
    statements), in default-public and default-private modules: the filter of `_cleanup` over
    FORD's single permission slot (the keyword met last) equals the standard's accessibility,
    outside the defect class and for legal keyword sets. -/
theorem own_export_filter_exact_partial (m : Scope) (d : Decl)
    (hl : ¬ (Perm.pub ∈ d.accs ∧ Perm.priv ∈ d.accs)) (hq : ¬ ProtectedOverPrivate m d) :
    declExported m d = declAccessible m d := by
  cases ha : declAccessible m d with
  | true => exact (declExported_iff m d).2 (exported_of_accessible m d hl ha)
  | false =>
    cases he : declExported m d with
    | false => rfl
    | true =>
      rw [accessible_of_exported m d hq ((declExported_iff m d).1 he)] at ha
      cases ha

/-- ... in particular an entity that is PUBLIC and PROTECTED is exported whatever the default
    accessibility of its module and wherever PROTECTED stands (`integer, public, protected :: x`,
    `integer, protected, public :: x`, `public :: x` + `protected :: x` in either order). -/
theorem public_protected_exported (m : Scope) (d : Decl) (hp : Perm.pub ∈ d.accs) (hn : Perm.priv ∉ d.accs) :
    declExported m d = true := by
  have ha : declAccessible m d = true := by simp [declAccessible, hp]
  rw [own_export_filter_exact_partial m d (fun h => hn h.2) (fun h => by have h2 := h.2; rw [ha] at h2; cases h2), ha]

/-- The export filter of the model *is* the filter of the working tree: `_cleanup` keeps the entities whose
    `permission` is in `exportedPermissions`, the slot holds the word of the keyword met last (`declPerm`),
    and at every place where the reader meets an access keyword - attribute list and access statement of a
    variable, access statements about types, functions, subroutines, generic and abstract interfaces and
    bodies of generic interfaces - exactly PUBLIC, PRIVATE and PROTECTED are written into the slot, alone
    and over any earlier keyword (so each of the three overwrites the others).  Both tables are OBSERVED on
    every run (translate/c06.py reads a stub source file with every keyword and every ordered pair of
    keywords through the real `FortranSourceFile`), not read off the spelling of the source. -/
theorem export_filter_is_source_table :
    (∀ m d, declExported m d = Generated.C06.exportedPermissions.contains (declPerm m d).word) ∧
    (∀ l ∈ Generated.C06.slotKeywordLists, l = [Perm.pub.word, Perm.priv.word, Perm.prot.word]) ∧
    Generated.C06.slotKeywordLists ≠ [] := by
  refine ⟨?_, by decide +kernel, by decide +kernel⟩
  intro m d
  unfold declExported
  cases declPerm m d <;> decide

/-- With ONLY, the local name FORD chooses is the standard's: `used_names` against
    `Admits`, for every only-list without a repeated remote name. -/
theorem only_list_admits (u : UseA) (r l : Str) (ho : u.only = true)
    (hn : (u.items.map UItem.remote).Nodup) : AdmitsCode u r l ↔ Admits u r l :=
  ⟨admits_of_code u r l (by simp [ho]), code_of_admits u r l (by simp [ho]) (fun _ => hn)⟩

/-- After `fixes/C06-rename-without-only.diff` (model variant `renAll = true`, selected at run
    time when the working tree honours the witness) a rename list without ONLY is read exactly
    as the standard says, for every rename list without a repeated remote name. -/
theorem bare_rename_admits_repaired (u : UseA) (r l : Str) (ho : u.only = false) (hf : u.renAll = true)
    (hn : (u.items.map UItem.remote).Nodup) (hall : ∀ it ∈ u.items, ∃ a b, it = UItem.ren a b) :
    AdmitsCode u r l ↔ Admits u r l := by
  -- `used_names[r]` is the local name of the one rename of `r`, if there is one
  have hA : ∀ x, aget (usedNames u.items) r = some x ↔ UItem.ren x r ∈ u.items := by
    intro x
    refine ⟨fun h => ?_, aget_usedNames_of_mem hn⟩
    rcases mem_usedNames (aget_mem h) with h | h
    · exact h
    · obtain ⟨a, b, hab⟩ := hall _ h.2
      cases hab
  rw [admitsCode_iff]
  unfold localName Admits
  rw [ho, hf, if_neg Bool.false_ne_true, if_neg Bool.false_ne_true, if_pos rfl]
  cases hg : aget (usedNames u.items) r with
  | none =>
    have hno : ∀ l', UItem.ren l' r ∉ u.items := fun l' h => by
      rw [← hA, hg] at h
      cases h
    exact ⟨fun h => Or.inr ⟨(Option.some.inj h).symm, hno⟩,
      fun h => h.elim (fun h => absurd h (hno l)) fun h => congrArg some h.1.symm⟩
  | some x =>
    have hx := (hA x).1 hg
    exact ⟨fun h => Or.inl (Option.some.inj h ▸ hx),
      fun h => h.elim (fun h => hg ▸ (hA l).2 h) fun h => absurd hx (h.2 x)⟩

/-! ### One identifier, entities of several kinds (a derived type and its constructor)

  F2018 15.4.3.4.1: "A generic name may be the same as a derived type name".  FORD keeps such a pair as an
  entry of `pub_procs` (the generic interface) and an entry of `pub_types` (the type) under one key;
  `getUsedAll u [pub_procs, pub_absints, pub_types, pub_vars]` is the tuple `get_used_entities` returns. -/

/-- **A USE statement treats every kind of entity alike and separately**: each of the tables
    `get_used_entities` returns is `getUsed` of the export table at the same position.  Whether an
    identifier is imported as a type does not depend on whether a procedure, an abstract interface or a
    variable of that name exists (the driver command `c06.used4` runs `getUsedAll` against the real
    function with export tables that share identifiers). -/
theorem import_tables_are_kindwise (u : UseA) (pubs : List Table) (i : Nat) :
    (getUsedAll u pubs)[i]? = (pubs[i]?).map (getUsed u) :=
  List.getElem?_map

/-- **An identifier named in an only-list (or admitted by a USE without ONLY) arrives in EVERY table in
    which the module exports it**, under the one local name the standard gives it (`Admits`: F2018 14.2.2),
    and nothing arrives in a table that is not an export of the same kind.  So `use m, only: t` and
    `use m, only: d => t` import the derived type `t` *and* its constructor.  For every number of kinds,
    every content of the other tables, every only-list without a repeated remote name. -/
theorem shared_identifier_imported_in_every_kind (u : UseA) (pubs : List Table)
    (hb : u.only = false → u.items = []) (hn : u.only = true → (u.items.map UItem.remote).Nodup) :
    (∀ r l, Admits u r l → ∀ (i : Nat) (pub : Table) (e : Ent), pubs[i]? = some pub → (r, e) ∈ pub →
        ∃ t, (getUsedAll u pubs)[i]? = some t ∧ hasKey t l) ∧
    (∀ (i : Nat) (t : Table), (getUsedAll u pubs)[i]? = some t → ∀ p : Str × Ent, p ∈ t →
        ∃ pub, pubs[i]? = some pub ∧ ∃ r, (r, p.2) ∈ pub ∧ Admits u r p.1) := by
  constructor
  · intro r l ha i pub e hi hm
    exact ⟨getUsed u pub, (import_tables_are_kindwise u pubs i).trans (congrArg (Option.map (getUsed u)) hi),
      hasKey_getUsed hm (code_of_admits u r l hb hn ha)⟩
  · intro i t ht p hp
    rw [import_tables_are_kindwise] at ht
    obtain ⟨pub, hpub, rfl⟩ := Option.map_eq_some_iff.1 ht
    obtain ⟨r, hr, hc⟩ := mem_getUsed hp
    exact ⟨pub, hpub, r, hr, admits_of_code u r p.1 hb hc⟩

/-- **End to end**: if module `n` exports the identifier `r` both as a procedure (`c`, the constructor) and
    as a type (`t`), every scope with a USE statement of `n` that admits `r` under the local name `l`
    has `l ↦ c` in `all_procs` and `l ↦ t` in `all_types` after the ranklist loop - across any chain of
    re-exporting modules behind `n`, for any topological order; same hypotheses as `use_exact_partial`,
    for the two kinds. -/
theorem type_and_constructor_imported_together_partial (g : List Scope) (order : List Str)
    (hu : UniqueNames g) (hb : NoBareRename g) (hr : NoRepeatedRemote g) (hp : NoEffectivePrivate g)
    (hs0 : NoShadow g 0) (hs2 : NoShadow g 2) (hl : LegalAccess g) (hq : NoProtectedOverPrivate g)
    (ht : isTopo g [] order = true) (m : Scope) (hm : m ∈ g) (hin : m.name ∈ order)
    (hamb0 : ∀ l e e', Sees g 0 m l e → Sees g 0 m l e' → e = e')
    (hamb2 : ∀ l e e', Sees g 2 m l e → Sees g 2 m l e' → e = e')
    (u : UseA) (huse : u ∈ m.uses) (n : Scope) (hn : n ∈ g) (hmod : n.isMod = true) (hname : n.name = u.mod)
    (r l : Str) (ha : Admits u r l) (c t : Ent) (hc : Exports g 0 n r c) (htp : Exports g 2 n r t) :
    aget (getTabs (run 0 g order) m.name).all l = some c ∧
    aget (getTabs (run 2 g order) m.name).all l = some t :=
  ⟨(use_exact_partial g 0 order hu hb hr hp hs0 hl hq ht m hm hin hamb0 l c).2
      (Sees.imp (Imports.mk hm huse hn hmod hname hc ha)),
   (use_exact_partial g 2 order hu hb hr hp hs2 hl hq ht m hm hin hamb2 l t).2
      (Sees.imp (Imports.mk hm huse hn hmod hname htp ha))⟩

private def cM0 : Scope :=
  { name := ['m', '0'], isMod := true, defPub := false, pubNames := [], privNames := [],
    decls := [{ name := ['t'], kind := 2, accs := [.pub] }, { name := ['t'], kind := 0, accs := [.pub] },
              { name := ['s'], kind := 0, accs := [] }],
    uses := [] }
private def cProg (rest : Str) : Scope :=
  { name := ['p'], isMod := false, defPub := true, pubNames := [], privNames := [], decls := [],
    uses := [mkUse ['m', '0'] rest] }

/-- Kernel-evaluated instance: the default-private module `m0` declares `type t`, `interface t` (both
    made public by `public :: t`) and a private procedure `s`.  `use m0, only: t`, `use m0, only: d => t`
    and plain `use m0` give the program the type and the constructor under the same local name; the
    private `s` never arrives; and on bare tables: an identifier shared by the procedure and the type
    table comes out of both, one that only the variable table holds only of that one. -/
theorem type_and_constructor_witness :
    (∀ k ∈ [0, 2],
      aget (getTabs (run k [cM0, cProg [',', ' ', 'o', 'n', 'l', 'y', ':', ' ', 't']] [['m', '0'], ['p']]) ['p']).all ['t']
        = some (['m', '0'], ['t']) ∧
      aget (getTabs (run k [cM0, cProg [',', ' ', 'o', 'n', 'l', 'y', ':', ' ', 'd', '=', '>', 't']] [['m', '0'], ['p']]) ['p']).all ['d']
        = some (['m', '0'], ['t']) ∧
      aget (getTabs (run k [cM0, cProg [',', ' ', 'o', 'n', 'l', 'y', ':', ' ', 'd', '=', '>', 't']] [['m', '0'], ['p']]) ['p']).all ['t']
        = none ∧
      (getTabs (run k [cM0, cProg []] [['m', '0'], ['p']]) ['p']).all = [(['t'], (['m', '0'], ['t']))]) ∧
    getUsedAll (mkUse ['m'] [',', ' ', 'o', 'n', 'l', 'y', ':', ' ', 'd', '=', '>', 't', ',', 'v'])
        [[(['t'], (['m'], ['t'])), (['s'], (['m'], ['s']))], [], [(['t'], (['m'], ['t']))], [(['v'], (['m'], ['v']))]]
      = [[(['d'], (['m'], ['t']))], [], [(['d'], (['m'], ['t']))], [(['v'], (['m'], ['v']))]] := by
  decide +kernel

/-! ### USE association inside contained procedures (host association, F2018 19.5.1.4)

  `runN` is the ranklist loop including the recursion into module procedures and internal
  procedures (`Nested`); `correlateNested g st k hostAll p` is `correlate` of the contained
  procedure `p` at the moment the project state is `st` and its host's table is `hostAll`. -/

/-- Contained procedures never disturb the tables of modules and programs: every theorem above
    about `run` holds verbatim for the tables `runN` gives the scopes of `g`. -/
theorem contained_procedures_leave_hosts_alone (g : List Scope) (ns : List Nested) (k : Nat)
    (order : List Str) (hd : NestedDisjoint g ns) (m : Scope) (hm : m ∈ g) :
    getTabs (runN k g ns order) m.name = getTabs (run k g order) m.name :=
  runN_agree g ns k hd order m hm

/-- **A name obtained by USE inside a procedure denotes the exporting module's entity, whatever
    the host knows under that name** (use association hides host association): for every host
    table, every state in which the `pub_*` tables of the used modules are sound (`hsd`) and
    complete (`hcp`) - what `tables_sound_partial` / `tables_complete_partial` establish once
    those modules are correlated -, every USE form without the defect classes. -/
theorem use_association_hides_host_partial (g : List Scope) (k : Nat) (st : State) (hostAll : Table)
    (p : Scope) (hun : UniqueNames g)
    (hb : ∀ u ∈ p.uses, u.only = false → u.items = [])
    (hr : ∀ u ∈ p.uses, u.only = true → (u.items.map UItem.remote).Nodup)
    (hsd : ∀ u ∈ p.uses, ∀ n, findMod g u.mod = some n → ∀ q ∈ (getTabs st n.name).pub, Exports g k n q.1 q.2)
    (hcp : ∀ u ∈ p.uses, ∀ n, findMod g u.mod = some n → ∀ r e, Exports g k n r e → hasKey (getTabs st n.name).pub r)
    (hamb : ∀ l e e', ImportsU g k p.uses l e → ImportsU g k p.uses l e' → e = e')
    (l : Str) (e : Ent) (hi : ImportsU g k p.uses l e) :
    aget (correlateNested g st k hostAll p).all l = some e := by
  obtain ⟨e', he', hg⟩ := aget_update_of_hasKey (update hostAll (tableOf p (declsOf k p))) _ l
    (hasKey_of_importsU hun hb hr hcp hi)
  rw [correlateNested_all, hg, hamb l e e' hi (importsU_of_mem hb hsd he')]

/-- **Exactly the accessible names in a contained procedure**: its table is the standard's
    relation `SeesIn` over its host's table - own declarations, names obtained by USE (under the
    local name, resolved to the exporting module's entity), and those host identifiers that are
    neither redeclared nor use-associated in the procedure.  Excluded classes, explicit: the
    USE defect classes, a use-associated identifier redeclared locally (`hs`, illegal Fortran),
    ambiguous imports (`hamb`, illegal when referenced) and hiding across kinds
    (`SameKindHiding`: FORD keeps one table per kind). -/
theorem nested_use_exact_partial (g : List Scope) (k : Nat) (st : State) (hostAll : Table) (p : Scope)
    (hun : UniqueNames g)
    (hb : ∀ u ∈ p.uses, u.only = false → u.items = [])
    (hr : ∀ u ∈ p.uses, u.only = true → (u.items.map UItem.remote).Nodup)
    (hsd : ∀ u ∈ p.uses, ∀ n, findMod g u.mod = some n → ∀ q ∈ (getTabs st n.name).pub, Exports g k n q.1 q.2)
    (hcp : ∀ u ∈ p.uses, ∀ n, findMod g u.mod = some n → ∀ r e, Exports g k n r e → hasKey (getTabs st n.name).pub r)
    (hs : ∀ l e, ImportsU g k p.uses l e → ∀ d ∈ p.decls, d.name ≠ l)
    (hamb : ∀ l e e', ImportsU g k p.uses l e → ImportsU g k p.uses l e' → e = e')
    (hx : SameKindHiding g k hostAll p) (l : Str) (e : Ent) :
    aget (correlateNested g st k hostAll p).all l = some e ↔
      SeesIn g k (fun l e => aget hostAll l = some e) p l e := by
  -- the USE statements supply `l` exactly when the specification imports something under `l`
  have hnoimp : ∀ l, (∀ e', ¬ ImportsU g k p.uses l e') → ¬ hasKey (p.uses.flatMap (impTable g st)) l :=
    fun l hno hk => let ⟨e', he', _⟩ := hasKey_mem hk; hno e' (importsU_of_mem hb hsd he')
  constructor
  · intro h
    rw [correlateNested_all] at h
    -- the layer that answers: what the USE statements supply, ...
    rcases aget_update_cases h with hi | ⟨hi, h⟩
    · exact SeesIn.imp (importsU_of_mem hb hsd hi)
    -- ... else the own declarations, ...
    rcases aget_update_cases h with ho | ⟨ho, h⟩
    · obtain ⟨d, hd, hp⟩ := mem_tableOf ho
      cases hp
      rw [mem_declsOf] at hd
      exact SeesIn.decl hd.1 hd.2
    -- ... else the host's table; `SameKindHiding`: nothing of another kind hides `l` either
    obtain ⟨hx1, hx2⟩ := hx l (Option.isSome_iff_exists.2 ⟨e, h⟩)
    refine SeesIn.host h (fun d hd hdl => ho (hdl ▸ hasKey_tableOf (mem_declsOf.2 ⟨hd, hx1 d hd hdl⟩))) fun k' e' hi' => ?_
    obtain ⟨e'', hi''⟩ := hx2 k' e' hi'
    exact hi (hasKey_of_importsU hun hb hr hcp hi'')
  · intro h
    cases h with
    | decl hd hk =>
      -- an own declaration is not use-associated (`hs`), so its layer answers
      rename_i d
      rw [correlateNested_all,
        aget_update_of_not_hasKey _ _ _ (hnoimp d.name fun e' hi => hs d.name e' hi d hd rfl)]
      exact aget_update_tableOf hostAll (mem_declsOf.2 ⟨hd, hk⟩)
    | imp hi => exact use_association_hides_host_partial g k st hostAll p hun hb hr hsd hcp hamb l e hi
    | host hh hd hi =>
      -- neither later layer has the key
      rw [correlateNested_all, aget_update_of_not_hasKey _ _ _ (hnoimp l (hi k)), aget_update_of_not_hasKey]
      · exact hh
      · intro ho
        obtain ⟨e', he', _⟩ := hasKey_mem ho
        obtain ⟨d, hd', hp⟩ := mem_tableOf he'
        exact hd d (mem_declsOf.1 hd').1 (Prod.mk.inj hp).1.symm

/-- **End to end, any nesting depth, any chain of re-exporting modules behind the USE**: after
    the whole ranklist loop, in any order that is topological for the USE graph *including the
    USE statements of contained procedures* (`isTopoN`; what `get_deps`' recursion provides,
    checked on the real order in every run), the table of a contained procedure `x` is exactly
    the standard's `SeesIn` over the final table of its host: names obtained by USE resolve to
    the exporting module's entity under the local name and hide the host's, the rest of the host's
    identifiers stay accessible.  `hostsFirst`: hosts are correlated before their children. -/
theorem nested_tables_exact_partial (g : List Scope) (ns : List Nested) (k : Nat) (order : List Str)
    (hu : UniqueNames g) (hb : NoBareRename g) (hr : NoRepeatedRemote g) (hp : NoEffectivePrivate g)
    (hs : NoShadow g k) (hl : LegalAccess g) (hq : NoProtectedOverPrivate g)
    (hd : NestedDisjoint g ns) (hpw : NestedNamesDistinct ns)
    (ht : isTopoN g ns [] order = true)
    (x : Nested) (hx : x ∈ ns) (m : Scope) (hm : m ∈ g) (hroot : m.name = x.root) (hin : x.root ∈ order)
    (hhf : hostsFirst [x.root] (ns.filter (fun y => y.root == x.root)))
    (hb' : ∀ u ∈ x.scope.uses, u.only = false → u.items = [])
    (hr' : ∀ u ∈ x.scope.uses, u.only = true → (u.items.map UItem.remote).Nodup)
    (hs' : ∀ l e, ImportsU g k x.scope.uses l e → ∀ d ∈ x.scope.decls, d.name ≠ l)
    (hamb : ∀ l e e', ImportsU g k x.scope.uses l e → ImportsU g k x.scope.uses l e' → e = e')
    (hk : SameKindHiding g k (getTabs (runN k g ns order) x.host).all x.scope) (l : Str) (e : Ent) :
    aget (getTabs (runN k g ns order) x.scope.name).all l = some e ↔
      SeesIn g k (fun l e => aget (getTabs (runN k g ns order) x.host).all l = some e) x.scope l e := by
  obtain ⟨pre, post, rfl⟩ := List.append_of_mem hin
  -- what the order says at the root of `x`: taken once, after the modules `x` uses
  have hfs : findScope g x.root = some m := hroot ▸ findScope_of_mem g hu m hm
  obtain ⟨htpre, ht2⟩ := isTopoN_append g ns pre (x.root :: post) [] ht
  rw [isTopoN_cons, List.append_nil] at ht2
  obtain ⟨_, hnotdone, hnd⟩ := ht2.1 m hfs
  have hxdone : usesDone g pre.reverse x.scope = true := by
    unfold nestedDone at hnd
    rw [List.all_eq_true] at hnd
    simpa using hnd x hx
  obtain ⟨S, hself, hhost, hmods⟩ := nested_moment g ns k pre post hd hpw x hx m hm hroot
    (fun h => hnotdone (List.mem_reverse.2 h)) (isTopoN_not_mem g ns post _ x.root m hfs (.head _) ht2.2) hhf
  have hused : ∀ u ∈ x.scope.uses, ∀ n, findMod g u.mod = some n → n ∈ g ∧ n.name ∈ pre :=
    fun u hu' n hn => ⟨(findMod_some hn).1, List.mem_reverse.1 (usesDone_spec hxdone hu' hn)⟩
  rw [hhost] at hk
  rw [hself, hhost]
  refine nested_use_exact_partial g k S _ x.scope hu hb' hr' ?_ ?_ hs' hamb hk l e
  · intro u hu' n hn q hq'
    obtain ⟨hng, hpre⟩ := hused u hu' n hn
    rw [hmods n hng hpre] at hq'
    exact (sound_run g k hu hb hp hs hq pre n hng).1 q hq'
  · intro u hu' n hn r e' hex
    obtain ⟨hng, hpre⟩ := hused u hu' n hn
    rw [hmods n hng hpre]
    exact (complete_run g k hu hb hr hl pre (isTopo_of_isTopoN g ns pre [] htpre) n hng hpre).1 r e' hex

private def hM0 : Scope :=
  { name := "m0".toList, isMod := true, defPub := true, pubNames := [], privNames := [],
    decls := [{ name := ['v'], kind := 3, accs := [] }, { name := ['u'], kind := 3, accs := [] }], uses := [] }
private def hM1 : Scope :=
  { name := "m1".toList, isMod := true, defPub := true, pubNames := [], privNames := [],
    decls := [{ name := ['v'], kind := 3, accs := [] }, { name := ['w'], kind := 3, accs := [] }], uses := [] }
private def hProc (rest : Str) : Nested :=
  { root := "m1".toList, host := "m1".toList,
    scope := { name := ['n'], isMod := false, defPub := true, pubNames := [], privNames := [], decls := [],
               uses := [mkUse "m0".toList rest] } }

/-- worked instance: module `m1` declares `v` and `w` and contains procedure `n`;
    with `use m0, only: v` (and with `use m0, only: v => u`, and with plain `use m0`) the
    procedure's `v` is `m0`'s entity, the host's `w` stays visible, the host's own table is
    untouched - for both file orders. -/
theorem use_hides_host_witness :
    (∀ order ∈ [["m0".toList, "m1".toList], ["m1".toList, "m0".toList]],
      aget (getTabs (runN 3 [hM0, hM1] [hProc ", only: v".toList] order) ['n']).all ['v'] = some ("m0".toList, ['v']) ∧
      aget (getTabs (runN 3 [hM0, hM1] [hProc ", only: v".toList] order) ['n']).all ['w'] = some ("m1".toList, ['w']) ∧
      aget (getTabs (runN 3 [hM0, hM1] [hProc ", only: v".toList] order) "m1".toList).all ['v'] = some ("m1".toList, ['v'])) ∧
    aget (getTabs (runN 3 [hM0, hM1] [hProc ", only: v => u".toList] ["m0".toList, "m1".toList]) ['n']).all ['v']
      = some ("m0".toList, ['u']) ∧
    aget (getTabs (runN 3 [hM0, hM1] [hProc []] ["m0".toList, "m1".toList]) ['n']).all ['v'] = some ("m0".toList, ['v']) := by
  -- a literal is `String.ofList` of its characters: rewriting `"..".toList` is cheap, evaluating it is not
  simp -index only [String.toList_ofList]
  decide +kernel

/-- the order hypothesis of `nested_tables_exact_partial` is satisfiable and is strictly stronger
    than `isTopo`: with the USE only inside the procedure, `m1` before `m0` is a topological order
    of the module-level USE graph but not of the graph that counts contained procedures -/
example :
    isTopoN [hM0, hM1] [hProc ", only: v".toList] [] ["m0".toList, "m1".toList] = true ∧
    isTopo [hM0, hM1] [] ["m1".toList, "m0".toList] = true ∧
    isTopoN [hM0, hM1] [hProc ", only: v".toList] [] ["m1".toList, "m0".toList] = false := by
  simp -index only [String.toList_ofList]
  decide +kernel

/-! ### Witnesses of the defect classes (the replay inputs of known_findings/C06.json) -/

private def wM0 : Scope :=
  { name := "m0".toList, isMod := true, defPub := true, pubNames := [], privNames := [],
    decls := [{ name := ['v'], kind := 3, accs := [] }], uses := [] }
private def wProg (u : UseA) : Scope :=
  { name := ['p'], isMod := false, defPub := true, pubNames := [], privNames := [], decls := [], uses := [u] }
private def wOrder : List Str := ["m0".toList, ['p']]

/-- `use m0, w => v` (no ONLY): the standard makes `w` denote `m0.v` in `p`, the table of the variant
    `renAll = false` (finding C06-rename-without-only, repaired in FORD by 4394651) has no `w` (and has
    `v` instead). -/
theorem rename_without_only_witness :
    let u : UseA := mkUse "m0".toList ", w => v".toList
    let g := [wM0, wProg u]
    Sees g 3 (wProg u) ['w'] ("m0".toList, ['v']) ∧
    aget (getTabs (run 3 g wOrder) ['p']).all ['w'] = none ∧
    aget (getTabs (run 3 g wOrder) ['p']).all ['v'] = some ("m0".toList, ['v']) := by
  -- `Sees` is no decidable relation: the USE text is evaluated to its items first (the empty text
  -- before the first comma gives `.plain []`), then the derivation is written out on the literal
  have hu : mkUse "m0".toList ", w => v".toList
      = { mod := ['m', '0'], only := false, items := [.plain [], .ren ['w'] ['v']] } := by
    simp -index only [String.toList_ofList]
    decide +kernel
  rw [hu]
  intro u g
  refine ⟨?_, by decide +kernel⟩
  have hx : Exports g 3 wM0 ['v'] ("m0".toList, ['v']) :=
    Exports.decl (d := ⟨['v'], 3, []⟩) (.head _) rfl (.head _) rfl rfl
  exact Sees.imp (Imports.mk (u := u) (.tail _ (.head _)) (.head _) (.head _) rfl rfl hx
    (Or.inl (.tail _ (.head _))))

/-- the same input under the repaired variant: `w` is there, `v` is not -/
theorem rename_without_only_repaired_witness :
    let g := [wM0, wProg (mkUse "m0".toList ", w => v".toList true)]
    aget (getTabs (run 3 g wOrder) ['p']).all ['w'] = some ("m0".toList, ['v']) ∧
    aget (getTabs (run 3 g wOrder) ['p']).all ['v'] = none := by
  simp -index only [String.toList_ofList]
  decide +kernel

/-- `use m0, only:` — ONLY_RE does not match an empty only-list, the statement is read as a
    USE without ONLY whose "rename list" is junk, and everything is imported. -/
theorem empty_only_witness :
    parseRest ", only:".toList = (false, [UItem.plain [], UItem.plain "only:".toList]) ∧
    parseRest ", only: v".toList = (true, [UItem.plain ['v']]) ∧
    aget (getTabs (run 3 [wM0, wProg (mkUse "m0".toList ", only:".toList)] wOrder) ['p']).all ['v']
      = some ("m0".toList, ['v']) := by
  simp -index only [String.toList_ofList]
  decide +kernel

/-- `only: v, w => v` : the standard gives both names, `used_names` (keyed by the remote
    name) keeps the last. -/
theorem only_remote_twice_witness :
    let u : UseA := mkUse "m0".toList ", only: v, w => v".toList
    let g := [wM0, wProg u]
    Sees g 3 (wProg u) ['v'] ("m0".toList, ['v']) ∧
    aget (getTabs (run 3 g wOrder) ['p']).all ['v'] = none ∧
    aget (getTabs (run 3 g wOrder) ['p']).all ['w'] = some ("m0".toList, ['v']) := by
  have hu : mkUse "m0".toList ", only: v, w => v".toList
      = { mod := ['m', '0'], only := true, items := [.plain ['v'], .ren ['w'] ['v']] } := by
    simp -index only [String.toList_ofList]
    decide +kernel
  rw [hu]
  intro u g
  refine ⟨?_, by decide +kernel⟩
  have hx : Exports g 3 wM0 ['v'] ("m0".toList, ['v']) :=
    Exports.decl (d := ⟨['v'], 3, []⟩) (.head _) rfl (.head _) rfl rfl
  exact Sees.imp (Imports.mk (u := u) (.tail _ (.head _)) (.head _) (.head _) rfl rfl hx
    (Or.inr ⟨rfl, (if_pos rfl).mpr (.head _)⟩))

private def wM1 : Scope :=
  { name := "m1".toList, isMod := true, defPub := true, pubNames := [], privNames := [['v']],
    decls := [], uses := [mkUse "m0".toList []] }

/-- `private :: v` for an imported `v` in a default-public module: not exported by the
    standard, still in FORD's `pub_vars`. -/
theorem private_imported_witness :
    (¬ Exports [wM0, wM1] 3 wM1 ['v'] ("m0".toList, ['v'])) ∧
    aget (getTabs (run 3 [wM0, wM1] ["m0".toList, "m1".toList]) "m1".toList).pub ['v']
      = some ("m0".toList, ['v']) := by
  refine ⟨?_, by decide +kernel⟩
  intro h
  -- `m1` declares nothing, and a re-export needs an identifier that no statement makes private
  rcases exports_inv h with ⟨d, _, _, hd, _⟩ | ⟨_, _, hp, _⟩
  · cases hd
  · exact hp (.head _)

private def wM0p (accs : List Perm) : Scope :=
  { name := "m0".toList, isMod := true, defPub := false, pubNames := [], privNames := [],
    decls := [{ name := ['v'], kind := 3, accs := accs }], uses := [] }

/-- `integer, protected :: v` under a bare `private` statement (and `integer, private, protected
    :: v`): private by the standard, exported by FORD and imported by `use m0`; with PRIVATE met
    last (`protected, private`) it is not.  And the legal forms of the same module:
    `public, protected` / `protected, public` are exported and imported. -/
theorem protected_over_private_witness :
    (∀ accs ∈ [[Perm.prot], [Perm.priv, Perm.prot]],
      (¬ Exports [wM0p accs, wProg (mkUse "m0".toList [])] 3 (wM0p accs) ['v'] ("m0".toList, ['v'])) ∧
      ProtectedOverPrivate (wM0p accs) { name := ['v'], kind := 3, accs := accs } ∧
      aget (getTabs (run 3 [wM0p accs, wProg (mkUse "m0".toList [])] wOrder) ['p']).all ['v']
        = some ("m0".toList, ['v'])) ∧
    aget (getTabs (run 3 [wM0p [.prot, .priv], wProg (mkUse "m0".toList [])] wOrder) ['p']).all ['v'] = none ∧
    (∀ accs ∈ [[Perm.pub, Perm.prot], [Perm.prot, Perm.pub]],
      declAccessible (wM0p accs) { name := ['v'], kind := 3, accs := accs } = true ∧
      aget (getTabs (run 3 [wM0p accs, wProg (mkUse "m0".toList [])] wOrder) ['p']).all ['v']
        = some ("m0".toList, ['v'])) := by
  have hcode : ∀ accs ∈ [[Perm.prot], [Perm.priv, Perm.prot]],
      ProtectedOverPrivate (wM0p accs) { name := ['v'], kind := 3, accs := accs } ∧
      aget (getTabs (run 3 [wM0p accs, wProg (mkUse "m0".toList [])] wOrder) ['p']).all ['v']
        = some ("m0".toList, ['v']) := by decide +kernel
  refine ⟨fun accs haccs => ⟨?_, hcode accs haccs⟩, by decide +kernel⟩
  -- without a USE statement the module exports nothing but its one declaration, which is private
  intro h
  rcases exports_inv h with ⟨d, _, _, hd, _, hacc, _, _⟩ | ⟨_, hi, _, _⟩
  · cases List.mem_singleton.1 hd
    rw [(hcode accs haccs).1.2] at hacc
    cases hacc
  · cases hi with
    | mk _ hu2 => cases hu2

/-- a topological order of a non-trivial project (re-export through a default-private module with a
    rename) and the table entry it yields -/
example :
    let a : Scope := wM0
    let b : Scope := { name := "m1".toList, isMod := true, defPub := false, pubNames := [['w']], privNames := [],
                       decls := [], uses := [mkUse "m0".toList ", only: w => v".toList] }
    let c : Scope := wProg (mkUse "m1".toList [])
    isTopo [a, b, c] [] ["m0".toList, "m1".toList, ['p']] = true ∧
    aget (getTabs (run 3 [a, b, c] ["m0".toList, "m1".toList, ['p']]) ['p']).all ['w'] = some ("m0".toList, ['v']) := by
  simp -index only [String.toList_ofList]
  decide +kernel

/-! ### Which module a USE statement refers to (`find_used_modules`)

  `bindName g exts n` is the scan `for candidate in chain(modules, external_modules): if
  n.lower() == candidate.name.lower(): bind; break`; `exts` are the `ExternalModule` stubs of
  `settings.extra_mods` (iso_fortran_env, omp_lib, mpi, ... and the project's own entries);
  `bindG` / `bindNs` is the project after that pass, which the driver then runs. -/

/-- **A module of the project is never shadowed by an external entry of the same name**: if the
    project defines a module whose name is the one in the USE statement (compared
    case-insensitively), the statement is bound to that module (the first such one) - for EVERY
    list of external modules, whatever names it contains, in whatever order and however often.
    (F2018 14.2.2: without module nature, a name that denotes both an intrinsic and a
    nonintrinsic module refers to the nonintrinsic one.) -/
theorem use_binds_project_module_first (g : List Scope) (exts : List ExtMod) (n : Str) (p : Scope)
    (h : g.find? (fun m => m.isMod && lower m.name == lower n) = some p) :
    bindName g exts n = .project p :=
  bindName_of_projMatch g exts n p h

/-- ... and conversely an external entry is used only when no module of the project has that name:
    then it is the first external entry of that name, and without one the name stays unbound
    (`correlate` skips it). -/
theorem use_binds_external_only_without_project_module (g : List Scope) (exts : List ExtMod) (n : Str) :
    (∀ e, bindName g exts n = .external e →
        (∀ m ∈ g, m.isMod = true → lower m.name ≠ lower n) ∧
        exts.find? (fun x => lower x.name == lower n) = some e) ∧
    (bindName g exts n = .unbound →
        (∀ m ∈ g, m.isMod = true → lower m.name ≠ lower n) ∧ ∀ e ∈ exts, lower e.name ≠ lower n) := by
  cases hp : projMatch g n with
  | some p =>
    rw [bindName_of_projMatch g exts n p hp]
    constructor
    · intro e h; cases h
    · intro h; cases h
  | none =>
    rw [bindName_of_noproj g exts n hp]
    cases he : exts.find? (fun x => lower x.name == lower n) with
    | some e0 =>
      constructor
      · intro e h
        cases h
        exact ⟨projMatch_none g n hp, rfl⟩
      · intro h; cases h
    | none =>
      constructor
      · intro e h; cases h
      · intro _
        refine ⟨projMatch_none g n hp, fun e hm => ?_⟩
        have := List.find?_eq_none.mp he e hm
        simpa using this

/-- **After binding every remaining USE names a module of the project by its declared name**, so
    the exact look-up of the correlation loop (`Use.findMod`) cannot miss it because of the case
    of either spelling; statements bound to an external stub or left unbound import nothing. -/
theorem bound_uses_name_project_modules (g : List Scope) (exts : List ExtMod) (s : Scope)
    (hs : s ∈ bindG g exts) (u : UseA) (hu : u ∈ s.uses) :
    ∃ p ∈ g, p.isMod = true ∧ u.mod = p.name := by
  unfold bindG at hs
  obtain ⟨s0, _, rfl⟩ := List.mem_map.mp hs
  exact bindUses_resolved g exts s0.uses u hu

/-- **The external stubs have no influence on any name table**: for a project whose module names
    are spelled in one case (`LowerNames`), running the correlation on the project as bound by
    `find_used_modules` - with ANY list of external entries - gives exactly the state of the
    plain model `runN`, about which all theorems above speak (modules, programs and contained
    procedures alike; any order).  In particular a project module called like an entry of
    `extra_mods` exports to its users exactly as any other module. -/
theorem external_stubs_leave_tables_alone (g : List Scope) (exts : List ExtMod) (ns : List Nested)
    (h : LowerNames g ns) (k : Nat) (order : List Str) :
    runN k (bindG g exts) (bindNs g exts ns) order = runN k g ns order := by
  unfold runN
  have hi : init k (bindG g exts) = init k g := init_bind k g g exts
  rw [hi]
  generalize init k g = st
  induction order generalizing st with
  | nil => rfl
  | cons n r ih =>
    simp only [List.foldl]
    rw [stepN_bound g exts ns h k st n]
    exact ih _

/-- The scopes `find_used_modules` does not reach obtain nothing from their USE statements (bodies
    of ABSTRACT interfaces in finding C06-abstract-interface-body-use-unbound, repaired in FORD by 04b66d7): their
    table stays the table they start from, for every state, kind and host table. -/
theorem unreached_scope_imports_nothing (g : List Scope) (exts : List ExtMod) (unreached : List Str)
    (ns : List Nested) (y : Nested) (hy : y ∈ bindNsU g exts unreached ns)
    (hu : unreached.contains y.scope.name = true) (g' : List Scope) (st : State) (k : Nat) (hostAll : Table) :
    correlateNested g' st k hostAll y.scope = nestedStart k hostAll y.scope := by
  unfold bindNsU at hy
  obtain ⟨x, _, rfl⟩ := List.mem_map.mp hy
  by_cases hc : unreached.contains x.scope.name = true
  · simp only [hc, if_true]
    rfl
  · simp only [hc] at hu ⊢
    exact absurd hu hc

/-- ... and once every interface body is reached (after fixes/C06-interface-body-uses.diff the harness
    passes no unreached scope) the bound project is `bindNs`, i.e. the one
    `external_stubs_leave_tables_alone` speaks about. -/
theorem every_scope_reached_repaired (g : List Scope) (exts : List ExtMod) (ns : List Nested) :
    bindNsU g exts [] ns = bindNs g exts ns := by
  unfold bindNsU bindNs
  simp

/-- Kernel-evaluated instance of the finding and of its repair: module `m0` declares the public
    variable `v`; the body `s` of an abstract interface of module `m1` says `use m0`.  With
    `s` unreached the body's variable table stays empty; once reached it holds `v`. -/
theorem abstract_body_use_unbound_witness :
    let m0 : Scope := { name := ['m', '0'], isMod := true, defPub := true, pubNames := [], privNames := [],
                        decls := [{ name := ['v'], kind := 3, accs := [] }], uses := [] }
    let m1 : Scope := { name := ['m', '1'], isMod := true, defPub := true, pubNames := [], privNames := [],
                        decls := [{ name := ['s'], kind := 1, accs := [] }], uses := [] }
    let s : Scope := { name := ['s'], isMod := false, defPub := true, pubNames := [], privNames := [],
                       decls := [], uses := [mkUse ['M', '0'] []] }
    let ns : List Nested := [{ root := ['m', '1'], host := [], scope := s }]
    let order : List Str := [['m', '1'], ['m', '0']]
    (getTabs (runN 3 (bindG [m0, m1] []) (bindNsU [m0, m1] [] [['s']] ns) order) ['s']).all = [] ∧
    (getTabs (runN 3 (bindG [m0, m1] []) (bindNsU [m0, m1] [] [] ns) order) ['s']).all
      = [(['v'], (['m', '0'], ['v']))] := by
  decide +kernel

/-- Kernel-evaluated instance of finding C06-generic-interface-body-use-not-a-dependency: `m0`
    declares the type `t`, `m1` re-exports it (`use m0`), the body `s` of a generic interface of `m2`
    says `use m1`.  With a `get_deps` that does not follow the bodies of generic interfaces (repaired in
    FORD by 04b66d7) `m2` is correlated in the first layer, before `m1`: that order is not `isTopoN` (the hypothesis of
    `nested_tables_exact_partial`) and the body's type table stays empty; in an order that counts
    the body's USE statement it holds `t`. -/
theorem generic_body_use_not_a_dependency_witness :
    let m0 : Scope := { name := ['m', '0'], isMod := true, defPub := true, pubNames := [], privNames := [],
                        decls := [{ name := ['t'], kind := 2, accs := [] }], uses := [] }
    let m1 : Scope := { name := ['m', '1'], isMod := true, defPub := true, pubNames := [], privNames := [],
                        decls := [], uses := [mkUse ['m', '0'] []] }
    let m2 : Scope := { name := ['m', '2'], isMod := true, defPub := true, pubNames := [], privNames := [],
                        decls := [{ name := ['g'], kind := 0, accs := [] }], uses := [] }
    let s : Scope := { name := ['s'], isMod := false, defPub := true, pubNames := [], privNames := [],
                       decls := [], uses := [mkUse ['m', '1'] []] }
    let g := [m0, m1, m2]
    let ns : List Nested := [{ root := ['m', '2'], host := ['m', '2'], scope := s }]
    let asFord : List Str := [['m', '0'], ['m', '2'], ['m', '1']]
    let topo : List Str := [['m', '0'], ['m', '1'], ['m', '2']]
    isTopo g [] asFord = true ∧ isTopoN g ns [] asFord = false ∧ isTopoN g ns [] topo = true ∧
    (getTabs (runN 2 (bindG g []) (bindNs g [] ns) asFord) ['s']).all = [] ∧
    (getTabs (runN 2 (bindG g []) (bindNs g [] ns) topo) ['s']).all = [(['t'], (['m', '0'], ['t']))] := by
  decide +kernel

/-- The scan the model mirrors is the one of the working tree, OBSERVED on every run (translate/c06.py calls
    the real `find_used_modules` on stand-in objects and watches what the real `Project.correlate` hands to
    it on a stub project): the project's `modules` are tried before its `extModules`, and of several
    candidates of one name the first is taken. -/
theorem binding_scan_is_source_scan :
    Generated.C06.bindingChain = chainOrder ∧
    Generated.C06.bindingChainArgs =
      [['m', 'o', 'd', 'u', 'l', 'e', 's'], ['e', 'x', 't', 'M', 'o', 'd', 'u', 'l', 'e', 's']] ∧
    Generated.C06.bindingFirstMatch = true :=
  ⟨rfl, rfl, rfl⟩

/-- No entry of the built-in table `ford.settings.INTRINSIC_MODS` (regenerated from the working
    tree) can take a USE statement away from a project module of that name. -/
theorem builtin_stubs_never_hide_project_module (g : List Scope) (n : Str) (p : Scope)
    (h : g.find? (fun m => m.isMod && lower m.name == lower n) = some p) :
    bindName g (Generated.C06.intrinsicModNames.map (fun x => { name := x })) n = .project p :=
  bindName_of_projMatch g _ n p h

/-- Kernel-evaluated instance: the project's own `omp_lib` (spelled `Omp_Lib`) next to the stub of
    the same name - a USE in another case (`OMP_lib`) is bound to the project's module, whose
    public variable arrives in the program; a name only the stub list knows is external, any
    other unbound. -/
theorem project_module_beats_stub_witness :
    let m : Scope := { name := ['O', 'm', 'p', '_', 'L', 'i', 'b'], isMod := true, defPub := true, pubNames := [],
                       privNames := [], decls := [{ name := ['v'], kind := 3, accs := [] }], uses := [] }
    let p : Scope := { name := ['p'], isMod := false, defPub := true, pubNames := [], privNames := [], decls := [],
                       uses := [mkUse ['O', 'M', 'P', '_', 'l', 'i', 'b'] []] }
    let exts : List ExtMod := [{ name := ['m', 'p', 'i'] }, { name := ['o', 'm', 'p', '_', 'l', 'i', 'b'] }]
    (bindG [m, p] exts).map (fun s => s.uses.map (·.mod)) = [[], [['O', 'm', 'p', '_', 'L', 'i', 'b']]] ∧
    aget (getTabs (run 3 (bindG [m, p] exts) [['O', 'm', 'p', '_', 'L', 'i', 'b'], ['p']]) ['p']).all ['v']
      = some (['O', 'm', 'p', '_', 'L', 'i', 'b'], ['v']) ∧
    (bindName [m, p] exts ['M', 'P', 'I']).tag = ['e', ':', 'm', 'p', 'i'] ∧
    (bindName [m, p] exts ['x']).tag = ['u'] := by
  decide +kernel

/-- Counter-example kept by the code as it is (finding C06-intrinsic-nature-binds-project-module):
    USE_RE drops the module nature, so `use, intrinsic :: iso_fortran_env` reaches
    `find_used_modules` exactly like `use iso_fortran_env` and is bound to a project module of
    that name, although F2018 14.2.2 makes it refer to the intrinsic module. -/
theorem intrinsic_nature_ignored_witness :
    parseUseStmt ['u', 's', 'e', ',', ' ', 'i', 'n', 't', 'r', 'i', 'n', 's', 'i', 'c', ' ', ':', ':', ' ', 'm', '1']
      = parseUseStmt ['u', 's', 'e', ' ', 'm', '1'] ∧
    parseUseStmt ['u', 's', 'e', ',', ' ', 'n', 'o', 'n', '_', 'i', 'n', 't', 'r', 'i', 'n', 's', 'i', 'c', ' ', ':', ':', ' ', 'm', '1']
      = parseUseStmt ['u', 's', 'e', ' ', 'm', '1'] ∧
    parseUseStmt ['u', 's', 'e', ' ', 'm', '1'] = some (['m', '1'], []) := by
  decide +kernel

/-! ### Tie of the scanners to the regular expressions in the source -/

/-- The three regular expressions the scanners `parseUseStmt`, `onlyMatch`, `renameSearch` mirror are the
    ones of the working tree.  Compared by MEANING: the generated constants are the
    normal form of the *parsed* pattern (`re._parser`; translate/c06.py re-derives them from the compiled
    objects on every run, re-compiles the normal form and compares it with the real object on every string
    over a small alphabet) - so the layout of the source (re.VERBOSE, comments, redundant non-capturing
    groups, `[\\s]` for `\\s`, the case of literals under IGNORECASE, how the flags are spelled) does not
    matter, while any change of an alternative, repeat, class, assertion, anchor, flag or of the
    capturing groups breaks this obligation in the same run (flags 34 = IGNORECASE | UNICODE). -/
theorem regex_sources_pinned :
    Generated.C06.useReSrc = "^use(?:\\s*(?:,\\s*(?:non_)?intrinsic\\s*)?::\\s*|\\s+)(\\w+)\\s*($|,.*)" ∧
    Generated.C06.onlyReSrc = "^\\s*,\\s*only\\s*:\\s*(?=[^,])" ∧
    Generated.C06.renameReSrc = "(\\w+)\\s*=>\\s*(\\w+)" ∧
    Generated.C06.useReFlags = 34 ∧ Generated.C06.onlyReFlags = 34 ∧ Generated.C06.renameReFlags = 34 ∧
    Generated.C06.useReGroups = 2 ∧ Generated.C06.onlyReGroups = 0 ∧ Generated.C06.renameReGroups = 2 :=
  ⟨rfl, rfl, rfl, rfl, rfl, rfl, rfl, rfl, rfl⟩

/-! ### USE association through the export tables of an external FORD project

  Project A is documented with `externalize: true` (`dump_modules` / `obj2dict`), project B lists it under
  `external:` (`load_external_modules` / `dict2obj`) and uses A's modules.  Model: FordModel/UseExt.lean
  (`dumpTable`, `loadTable`, `externalize`, `loadModules`, `bindUseX`, `runX`, `twoStep`); the driver command
  `c06.runx` runs `twoStep` against the real two projects. -/

/-- **What a consumer loads from modules.json is the export table the exporting project computed**, minus the
    entities that are external in the exporting project itself (`obj2dict` writes `null` for them, `dict2obj`
    skips the entry): same keys (the LOCAL names under which the module exports, renamed re-exports
    included), same entities, same order - for every table. -/
theorem external_table_roundtrip_partial (ext : List Ent) (t : Table) :
    loadTable (dumpTable ext t) = t.filter (fun p => !ext.contains p.2) := by
  induction t with
  | nil => rfl
  | cons p t ih =>
    unfold dumpTable loadTable at ih ⊢
    rw [List.map_cons, List.filterMap_cons, List.filter_cons, ih]
    cases ext.contains p.2 <;> rfl

/-- **The export table a consumer loads is the export table the exporting project computed** when none of
    its entities is external in the exporting project (one project boundary): nothing lost, nothing added,
    nothing moved to another key. -/
theorem external_table_roundtrip (t : Table) : loadTable (dumpTable [] t) = t := by
  rw [external_table_roundtrip_partial]; simp

/-- **Under a local name the loaded module holds the entity the exporting project put under that name** -
    whatever the entity's own name is, and whatever other entities of that name the module owns: the
    clause "resolve to the exporting module's entity under the local name" at the project boundary. -/
theorem external_entry_follows_local_name (t : Table) (l : Str) :
    aget (loadTable (dumpTable [] t)) l = aget t l := by
  rw [external_table_roundtrip]

/-- **Nothing inaccessible arrives through an external module**: whatever a USE statement `u` of the
    consuming project obtains from the loaded module `m` of project `gA` (correlated in ANY order) is an
    entity `m` exports by the standard's rules - across any chain of re-exporting modules inside `gA` -
    under a local name the standard admits.  Same excluded classes as `tables_sound_partial`. -/
theorem names_through_external_module_sound_partial (gA : List Scope) (k : Nat) (oA : List Str)
    (hu : UniqueNames gA) (hb : NoBareRename gA) (hp : NoEffectivePrivate gA) (hs : NoShadow gA k)
    (hq : NoProtectedOverPrivate gA) (m : Scope) (hm : m ∈ gA) (u : UseA)
    (hbu : u.only = false → u.items = []) (p : Str × Ent)
    (h : p ∈ getUsed u (loadTable (dumpTable [] (getTabs (run k gA oA) m.name).pub))) :
    ∃ r, Admits u r p.1 ∧ Exports gA k m r p.2 := by
  rw [external_table_roundtrip] at h
  obtain ⟨r, hr, hc⟩ := mem_getUsed h
  exact ⟨r, admits_of_code u r p.1 hbu hc, (sound_run gA k hu hb hp hs hq oA m hm).1 (r, p.2) hr⟩

/-- **Everything accessible arrives through an external module**: an identifier `r` that module `m` of `gA`
    exports by the standard's rules (directly or through any chain / diamond of re-export, `gA` correlated in
    any topological order) and that the USE statement admits under `l` is a key of what the consumer
    imports.  Same excluded classes as `tables_complete_partial`. -/
theorem names_through_external_module_complete_partial (gA : List Scope) (k : Nat) (oA : List Str)
    (hu : UniqueNames gA) (hb : NoBareRename gA) (hr : NoRepeatedRemote gA) (hl : LegalAccess gA)
    (ht : isTopo gA [] oA = true) (m : Scope) (hm : m ∈ gA) (hin : m.name ∈ oA) (u : UseA)
    (hbu : u.only = false → u.items = []) (hnu : u.only = true → (u.items.map UItem.remote).Nodup)
    (r l : Str) (e : Ent) (he : Exports gA k m r e) (ha : Admits u r l) :
    hasKey (getUsed u (loadTable (dumpTable [] (getTabs (run k gA oA) m.name).pub))) l := by
  rw [external_table_roundtrip]
  obtain ⟨e', hm', _⟩ := hasKey_mem ((complete_run gA k hu hb hr hl oA ht m hm hin).1 r e he)
  exact hasKey_getUsed hm' (code_of_admits u r l hbu hnu ha)

/-- **A loaded module is never touched by the consuming project's correlation**: after the whole ranklist
    loop of B (any order, contained procedures included) the entry of a loaded module `z` still holds the
    export table it was loaded with, so every scope of B imports from exactly that table. -/
theorem external_modules_are_frozen (k : Nat) (g : List Scope) (stubs : List ExtMod) (xs : List Loaded)
    (ns : List Nested) (order : List Str) (z : Str) (x : Loaded)
    (hx : xs.find? (fun y => y.name == z) = some x) (ho : z ∉ order)
    (hn : ∀ y ∈ ns, y.scope.name ≠ z) :
    getTabs (runX k g stubs xs ns order) z = { pub := x.pub, all := [] } := by
  unfold runX runFrom
  rw [getTabs_stepNFold_other _ _ k order _ z (Or.inl ho) (fun y hy _ => by
    unfold bindNsX at hy
    obtain ⟨y0, hy0, rfl⟩ := List.mem_map.1 hy
    exact hn y0 hy0)]
  generalize init k (bindGX g stubs xs) = st
  induction xs with
  | nil => simp at hx
  | cons a xs ih =>
    simp only [seed, List.foldr_cons]
    rw [getTabs_aset]
    by_cases ha : a.name = z
    · simp [ha] at hx
      subst hx; simp [ha]
    · have : (a.name == z) = false := by simpa using ha
      simp only [List.find?_cons, this] at hx
      simp only [ha, if_false]
      exact ih hx

/-- Kernel-evaluated instance (the shape of a compatibility wrapper): module `o` owns the procedure `s`;
    module `w` owns a procedure `s` of its own and passes `o`'s on as `x` (`use o, only: x => s`).  A program of
    another project that loads both through modules.json and says `use w` gets `x ↦ o's s` and `s ↦ w's s`;
    `use w, only: y => x` gets `y ↦ o's s`; the loaded table of `w` is the table `w` had. -/
theorem renamed_reexport_through_external_project_witness :
    let o : Scope := { name := ['o'], isMod := true, defPub := true, pubNames := [], privNames := [],
                       decls := [{ name := ['s'], kind := 0, accs := [] }], uses := [] }
    let w : Scope := { name := ['w'], isMod := true, defPub := true, pubNames := [], privNames := [],
                       decls := [{ name := ['s'], kind := 0, accs := [] }],
                       uses := [{ mod := ['o'], only := true, items := [.ren ['x'] ['s']] }] }
    let p : Scope := { name := ['p'], isMod := false, defPub := true, pubNames := [], privNames := [], decls := [],
                       uses := [{ mod := ['w'], only := false, items := [] }] }
    let q : Scope := { name := ['q'], isMod := false, defPub := true, pubNames := [], privNames := [], decls := [],
                       uses := [{ mod := ['W'], only := true, items := [.ren ['y'] ['x']] }] }
    let st := twoStep 0 [o, w] [['o'], ['w']] [p, q] [{ name := ['m', 'p', 'i'] }] [['p'], ['q']]
    (getTabs st ['p']).all = [(['s'], (['w'], ['s'])), (['x'], (['o'], ['s']))] ∧
    (getTabs st ['q']).all = [(['y'], (['o'], ['s']))] ∧
    (getTabs st ['w']).pub = (getTabs (run 0 [o, w] [['o'], ['w']]) ['w']).pub := by
  decide +kernel

/-- The parts of `external_project` the model mirrors are those of the working tree
    (observed by translate/c06.py on stand-in objects through the real `obj2dict` / `dict2obj`): the four
    export tables are the dict-valued attributes of a module that are written and read back; an entry is
    stored under its key and built from its own item (also when the module owns an entity with the item's
    name); an entity that is external in the exporting project is written as `null` and skipped. -/
theorem external_tables_are_source_tables :
    Generated.C06.externalExportTables =
      [['p', 'u', 'b', '_', 'a', 'b', 's', 'i', 'n', 't', 's'], ['p', 'u', 'b', '_', 'p', 'r', 'o', 'c', 's'],
       ['p', 'u', 'b', '_', 't', 'y', 'p', 'e', 's'], ['p', 'u', 'b', '_', 'v', 'a', 'r', 's']] ∧
    Generated.C06.externalEntryFromItsItem = true ∧
    Generated.C06.externalOfExternalDropped = true :=
  ⟨rfl, rfl, rfl⟩

end Ford.C06
