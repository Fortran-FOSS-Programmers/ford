/-
  C18 - rendered declarations say what the source says, and stay inert text.
  Property theorems only; helper lemmas live in FordModel/Lemmas/{Escape,Show,AttrStmt,ProcPrefix,DeclLine,SortComp,
  TypeSpec,TypeSpecChar,Chars}.lean, the tables of `Generated/C18.lean` (`escapeSites`, `procPrefixes`, `declAttrRules`,
  `charSelRules`, `procLine*` ...) are regenerated from FORD's source on every run; `Generated.C18Cfg` (variant flags)
  comes in through `FordModel.AttrStmt`.
-/
import FordModel.Escape
import FordModel.Show
import FordModel.Lemmas.Escape
import FordModel.Lemmas.Show
import FordModel.AttrStmt
import FordModel.Lemmas.AttrStmt
import FordModel.ProcPrefix
import FordModel.Lemmas.ProcPrefix
import FordModel.DeclLine
import FordModel.Lemmas.DeclLine
import FordModel.SortComp
import FordModel.Lemmas.SortComp
import FordModel.CharSel
import FordModel.ProcLine
import FordModel.Lemmas.TypeSpecChar
import FordModel.Generated.C18
namespace Ford.C18
open Ford Ford.Html Ford.Show Ford.Generated.C18

/-- "shown literally": whatever the string (all of `< > & " '`, backslashes, repeated
    blanks, text that looks like a character reference), the reader sees exactly it. -/
theorem escape_text (s : Str) : textContent (escape s) = s := by
  have h := (hscanFrom_escape .text rfl s []).2 rfl
  have h0 : evChars (hscanFrom .text []) = [] := by decide +kernel
  simp only [List.append_nil] at h
  have hd := decode_escape_append s []
  simp only [List.append_nil] at hd
  simp [textContent, rawText, hscan, h, h0, hd, decode]

/-- ... also in the middle of other text: the decoded text of `escape s ++ rest` is `s`
    followed by the decoded text of `rest` (no reference is completed or broken by what
    follows). -/
theorem escape_text_context (s rest : Str) : decode (escape s ++ rest) = s ++ decode rest :=
  decode_escape_append s rest

/-- "never changes the structure of the page": in every tokenizer state in which text may be
    inserted (character data, inside a tag after its name, inside a quoted attribute value)
    the element skeleton of `ctx₁ ++ escape s ++ ctx₂` is that of `ctx₁ ++ ctx₂`, for every
    string `s` and all contexts. -/
theorem escape_inert (ctx₁ ctx₂ s : Str) (h : (stateAfter ctx₁).stable = true) :
    elements (ctx₁ ++ escape s ++ ctx₂) = elements (ctx₁ ++ ctx₂) := by
  have h1 := (hscanFrom_escape (stateAfter ctx₁) h s ctx₂).1
  simp only [elements, hscan, hscanFrom, List.append_assoc, hrun_append, evTags_append] at *
  simp only [stateAfter] at h1
  rw [h1]

/-- the output of `escape` contains none of the characters that open or close markup or
    attribute values -/
theorem escape_no_special (s : Str) : ∀ c ∈ escape s, htmlSpecial c = false :=
  escape_safe s

/-- the same for a template site: an escaped `{{ expr|e }}` shows its value literally and is
    inert in every context -/
theorem site_escaped_inert (site : Site) (hs : site.escaped = true) (v ctx₁ ctx₂ : Str)
    (h : (stateAfter ctx₁).stable = true) :
    textContent (renderSite site v) = v ∧
    elements (ctx₁ ++ renderSite site v ++ ctx₂) = elements (ctx₁ ++ ctx₂) := by
  simp only [renderSite, hs, if_true]
  exact ⟨escape_text v, escape_inert ctx₁ ctx₂ v h⟩

/-- an unescaped site is *not* inert: source text `<b>` in a table cell adds an element and
    its text disappears (what happens today to `var.dimension`, `var.attribs`, `bindC`,
    kind / len, enumerator values) -/
theorem site_unescaped_witness :
    let site : Site := ⟨"macros.html", "variable_list", 217, "var.dimension", "dimension", []⟩
    elements ("<td>".toList ++ renderSite site "(n<b)".toList ++ "</td>".toList)
      ≠ elements ("<td>".toList ++ "</td>".toList) ∧
    textContent (renderSite site "(k<l))".toList ++ "</td>".toList) ≠ "(k<l))".toList := by
  -- the literals are turned into character lists by rewriting: evaluating `"..".toList` is quadratic
  -- (`chars! ".."` is a character list as written and needs nothing; either spelling may be used)
  simp -index only [String.toList_ofList]
  decide +kernel

/-- a `<` that is not followed by a letter stays text even unescaped (why `a<1` is harmless
    while `a<b` is not) -/
theorem lt_nonletter_is_text : textContent "a<1 < b".toList = "a<1 < b".toList ∧
    elements "a<1 < b".toList = [] := by
  simp -index only [String.toList_ofList]
  decide +kernel

/-- every initial value written by the variable tables (module, type, procedure, program,
    block-data, interface pages) and by the namelist tables goes through `|e` -/
theorem sites_initial_escaped :
    ∀ s ∈ escapeSites, (s.attr = "initial" ∧ (s.scope = "variable_list" ∨ s.scope = "namelist_row")) →
      s.escaped = true := by decide +kernel

/-- ... and there is such a site in each of the two macros (the statement above is not
    vacuous: deleting the cell does not satisfy it) -/
theorem sites_initial_present :
    (escapeSites.any fun s => s.scope == "variable_list" && s.expr == "var.initial") = true ∧
    (escapeSites.any fun s => s.scope == "namelist_row" && s.expr == "variable.initial") = true := by
  decide +kernel

/-- every other output expression that writes a plain piece of source text is either escaped
    or one of the listed known ones: no new unescaped site, in any template (the environment
    has no auto-escape, so this is the only protection) -/
theorem sites_unescaped_known_partial :
    autoescape = true ∨
    ∀ s ∈ escapeSites, rawSourceAttr s = true →
      s.escaped = true ∨ knownUnescaped.contains (s.scope, s.expr) = true := by
  right
  decide +kernel

/-- cutting the literals out of a statement loses nothing: texts and literals, in order,
    are the statement - for every line, also with unbalanced quotes -/
theorem cut_lossless (line : Str) : segOriginal (cutLits line) = line := by
  simpa [cutLits, CutSt.pending] using segOriginal_cutGo line 0 .scan

/-- what the parser sees (the masked line) depends only on the text outside the literals and
    on how many literals there are - never on their contents -/
theorem mask_independent_of_literals (a b : List Seg) (h : segShape a = segShape b) :
    segMasked a 0 = segMasked b 0 :=
  segMasked_shape a b 0 h

/-- with `lower: true` only the *code* is lower-cased: the literals kept for re-insertion
    (`self.strings`: initial values, bind names, kinds given as literals) are those of the
    statement as written, and the line the parser sees is the masked line of the statement with
    its code lower-cased - every placeholder `"k"` survives with its number, so each literal
    is put back where it was cut out.  For every statement, unbalanced quotes included. -/
theorem lower_option_keeps_literals (line : Str) :
    (prepLine true line).strings = (prepLine false line).strings ∧
    (prepLine true line).strings = segStrings (cutLits line) ∧
    (prepLine true line).masked = segMasked (lowerSegs (cutLits line)) 0 := by
  simp [prepLine, lower_segMasked]

/-- ... and the statement with its code lower-cased (`lowerSegs`) has the same literals, in the
    same order, and differs from the source statement in letter case only ("convert all
    non-string source code to lower case") -/
theorem lower_option_code_only (line : Str) :
    segStrings (lowerSegs (cutLits line)) = segStrings (cutLits line) ∧
    lower (segOriginal (lowerSegs (cutLits line))) = lower line := by
  refine ⟨segStrings_lowerSegs _, ?_⟩
  rw [lower_segOriginal_lowerSegs, cut_lossless]

/-- the order of the two steps is what protects the literals: lower-casing the statement
    *before* the literals are cut out gives the parser exactly the same line (letter case never
    opens or closes a literal, so no test of the parser can tell the two orders apart) but
    every literal kept for display is lower-cased - for every statement -/
theorem lower_before_cut_loses_case (line : Str) :
    (prepLineLowerFirst line).masked = (prepLine true line).masked ∧
    (prepLineLowerFirst line).strings = ((prepLine true line).strings).map lower := by
  have h : cutLits (lower line) = lowerAllSegs (cutLits line) := by
    simpa [cutLits, lowered_scan] using cutGo_lower line 0 .scan
  simp [prepLineLowerFirst, prepLine, h, segStrings_lowerAllSegs, segMasked_lowerAllSegs, lower_segMasked]

/-- ... which shows as soon as a literal contains a capital letter: `'Ab'` would be displayed
    as `'ab'`, a `bind(c, name="F_c")` as another C name -/
theorem lower_before_cut_witness :
    (prepLineLowerFirst "c = 'Ab'".toList).strings = ["'ab'".toList] ∧
    (prepLine true "C = 'Ab'".toList).strings = ["'Ab'".toList] ∧
    (prepLine true "C = 'Ab'".toList).masked = "c = \"0\"".toList := by
  simp -index only [String.toList_ofList]
  decide +kernel

/-- the whole path with the option on: names and code lower-cased, literal as written -/
example : (declVarsOpt true "CHARACTER(3) :: Xv(N) = 'Ab'//Q".toList).toOption
    = some [⟨"xv".toList, "(n)".toList, false, some "'Ab'//q".toList⟩] := by
  simp -index only [String.toList_ofList]
  decide +kernel

/-- the literal is used as a `re.sub` replacement *template*; doubling the backslashes
    exactly cancels the template's escape processing, for every string -/
theorem tmpl_double_cancels (s : Str) : tmplExpand (doubleBs s) = .ok s :=
  tmplExpand_doubleBs s

/-- ... the re-insertion sites that do not double (`_parse_bind_C`, the ATTRIB branch,
    `parse_type`) change or reject literals with backslashes: `\n` becomes a line feed,
    `\\` one backslash, `\d` raises `re.error` (the whole file is dropped) -/
theorem tmpl_undoubled_witness :
    tmplExpand "'a\\nb'".toList = .ok "'a\nb'".toList ∧
    tmplExpand "'a\\\\b'".toList = .ok "'a\\b'".toList ∧
    tmplExpand "'a\\db'".toList = .error .badEscape := by
  simp -index only [String.toList_ofList]
  exact ⟨rfl, rfl, rfl⟩

/-- after re-insertion the code advances `search_from` to the end of the next `QUOTES_RE`
    match: for every well-formed literal (any contents, doubled quotes included), with NBSPs
    substituted, followed by text that does not start with the same quote, that match is the
    literal itself - the loop resumes right behind it and never re-reads literal contents -/
theorem literal_found_whole (q : Char) (hq : isQuote q = true) (body rest : Str)
    (hb : litTail q body = true) (hr : rest.head? ≠ some q) :
    searchQuote (q :: nbsp body ++ rest) = some (0, body.length + 1) := by
  have h1 := litTail_nbspGo q hq body false hb
  have h2 := litEnd_of_litTail q (nbspGo false body) rest h1 hr
  simp [searchQuote, hq, nbsp, h2, nbspGo_length]

/-- ... while two adjacent literals with the same quote run together (`"a"` directly followed
    by the placeholder `"1"` is read as one literal `"a""1"`): the second is never put back -/
theorem literal_adjacent_witness :
    searchQuote "\"a\"\"1\"".toList = some (0, 6) ∧
    (reinsert true true ["'a'".toList, "\"b\"".toList] "\"1\"\"0\"".toList).toOption = none := by
  simp -index only [String.toList_ofList]
  decide +kernel

/-- the whole loop on concrete statements (non-vacuity of the pieces above) -/
example : (reinsert true true ["'a  \\d<b>'".toList, "\"it's\"".toList] "\"0\"//n//\"1\"".toList).toOption
    = some ("'a".toList ++ [nbspChar, nbspChar] ++ "\\d<b>'//n//\"it's\"".toList) := by
  simp -index only [String.toList_ofList]
  decide +kernel

/-- the NBSP substitution only turns blanks into non-breaking blanks: read with NBSP as a
    blank the literal is unchanged, and no character is added or removed -/
theorem nbsp_display (s : Str) (h : ∀ c ∈ s, c ≠ nbspChar) :
    unNbsp (nbsp s) = s ∧ (nbsp s).length = s.length :=
  ⟨unNbsp_nbspGo s false h, nbspGo_length s false⟩

/-- `COMMA_RE` only adds blanks after commas -/
theorem comma_blank_only (s : Str) : removeSpaces (commaSpace s) = removeSpaces s := by
  fun_induction commaSpace s <;> simp_all [removeSpaces_cons]

/-- name and dimension of an entity are a split of what was written: `x(2,3)`, `s*8`,
    `c[*]` - nothing dropped -/
theorem name_dim_lossless (n : Str) : (splitNameDim n).1 ++ (splitNameDim n).2 = n := by
  unfold splitNameDim
  split <;> simp

/-- `kind=<expr>` is shown as written when the expression contains no comma ... -/
theorem kind_shown_partial (e : Str) (hne : e ≠ []) (h : ∀ c ∈ e, c ≠ ',' ∧ isSpace c = false) :
    kindOfArgs ("kind=".toList ++ e) = e := by
  have hkw : startsWithCI ("kind=".toList ++ e) "kind=".toList = true := by
    rw [startsWithCI, lower_append]
    exact startsWith_append_self "kind=".toList (lower e)
  have htw : List.takeWhile (fun c => c != ',' && !isSpace c) e = e :=
    takeWhile_all e (by intro c hc; have := h c hc; simp [this.1, this.2])
  have hd : ("kind=".toList ++ e).drop 5 = e := rfl
  simp only [kindOfArgs, hkw, if_true, hd, htw]
  cases e with
  | nil => exact absurd rfl hne
  | cons _ _ => rfl

/-- ... and is cut at the first comma otherwise (finding C18-kind-cut-at-comma) -/
theorem kind_cut_witness : kindOfArgs "kind=merge(4,8,c)".toList = "merge(4".toList := by
  simp -index only [String.toList_ofList]
  decide +kernel

/-- the type cell is the type keyword with kind and length exactly as stored -/
theorem full_type_text (vt k l : Str) (hk : k ≠ []) (hl : l ≠ []) :
    fullType vt k [] [] [] = vt ++ "(kind=".toList ++ k ++ ")".toList ∧
    fullType vt [] l [] [] = vt ++ "(len=".toList ++ l ++ ")".toList ∧
    fullType vt k l [] [] = vt ++ "(kind=".toList ++ k ++ ", len=".toList ++ l ++ ")".toList ∧
    fullType vt [] [] [] [] = vt := by
  simp [fullType, hk, hl, joinStr]

/-- two entities, the second with a literal that holds blanks and a backslash -/
example : (declVars "integer :: x(2,3) = [1,2], s*8 = 'a  b\\d'//\"q\"".toList).toOption.map (·.length) = some 2 := by
  simp -index only [String.toList_ofList]
  decide +kernel

/- Attributes given by separate attribute statements:
  `intent(in) :: n`, `dimension a(n, *)`, `optional :: flag`, `value w`, `target :: r` ... reach the
  displayed variable through `attr_dict` and `process_attribs`; the dummy arguments and the
  function result are *moved out of* `self.variables` by `_cleanup`.  `procCleanupSteps` /
  `funcCleanupSteps` are the steps of `_cleanup` in the order the source has them, regenerated
  from ford/sourceform.py on every run (translate/c18.py). -/

open Ford.AttrStmt in
/-- what one variable receives from its attribute statements, for every list of attributes: each
    attribute that is not translated into a field of its own (visibility, intent, the dimension of
    `allocatable x(:)` / `pointer p(:)`, parameter) is among the displayed attributes, the
    attributes of the type declaration are all kept, name and type are untouched -/
theorem statement_attrs_displayed (p : List (Str × Str)) (v : DVar) (attrs : List Str) :
    (∀ a ∈ attrs, isPlainAttr a = true → a ∈ (applyAttrs p v attrs).attribs) ∧
    (∀ a ∈ v.attribs, a ∈ (applyAttrs p v attrs).attribs) ∧
    (applyAttrs p v attrs).name = v.name ∧ (applyAttrs p v attrs).ftype = v.ftype :=
  ⟨fun a ha h => applyAttrs_plain p attrs v a ha h, fun a ha => applyAttrs_attribs_mono p attrs v a ha,
   (applyAttrs_keeps p attrs v).1, (applyAttrs_keeps p attrs v).2.1⟩

open Ford.AttrStmt in
/-- the intent shown is the one of the (last) INTENT statement that names the variable -/
theorem statement_intent_displayed (p : List (Str × Str)) (v : DVar) (pre post : List Str) (a : Str)
    (h : a.take 6 = (chars! "intent")) (hp : ∀ b ∈ post, b.take 6 ≠ (chars! "intent")) :
    (applyAttrs p v (pre ++ a :: post)).intent = (a.drop 7).dropLast := by
  have e : pre ++ a :: post = (pre ++ [a]) ++ post := by simp
  rw [e, applyAttrs_append, applyAttrs_intent_other p post _ hp, applyAttrs_append]
  simpa [applyAttrs] using applyAttr_intent p (applyAttrs p v pre) a h

open Ford.AttrStmt in
/-- `process_attribs`, any number of variables and statements: the declaration of a name (the first
    variable with that name) leaves the loop with *all* the attributes recorded for that name, as
    long as no procedure / type / interface of the unit has the name (and the loop over those did
    not raise) -/
theorem attach_first_declaration (p : List (Str × Str)) (items : List Item) (d : Dict)
    (vars vars' : List DVar) (key : Str) (hi : key ∉ items.map (·.name))
    (ha : attach p items d vars = some vars') :
    firstVar key vars' = (firstVar key vars).map (fun v => applyAttrs p v (lookupAttrs d key)) :=
  firstVar_attach p items d vars vars' key hi ha

open Ford.AttrStmt in
/-- ... and an attribute other than a visibility or `bind` for an entry of an interface block makes
    that loop raise (`item.attribs.append` on an object without `attribs`): `optional :: cb` for a
    dummy procedure `cb` that is described by an interface block - the whole source file is then
    dropped (finding C18-attribute-statement-on-interface-procedure) -/
theorem interface_dummy_attribute_raises_witness :
    let st : PState := ⟨[], [.name (chars! "cb")], none, [chars! "cb"], [⟨chars! "cb", false⟩],
      some [(chars! "cb", [chars! "optional"])], []⟩
    runCleanup procStepsSound st = none ∧
    (runCleanup procStepsSound { st with dict := some [(chars! "cb", [chars! "private"])] }).map (·.args)
      = some [.proc (chars! "cb")] := by
  decide +kernel

open Ford.AttrStmt in
/-- **dummy arguments keep the attributes of the attribute statements.**  With the steps of
    `FortranProcedure._cleanup` *in the order they have in the source*, for every subroutine - any
    declarations, any attribute statements, any argument list with pairwise distinct names -
    position `i` of the argument table is the declaration of that argument with everything the
    attribute statements say about it (excluded: a dummy procedure given the `external`
    attribute, which FORD removes from the variables).  Matching the arguments before the
    attributes are attached breaks this obligation. -/
theorem proc_args_keep_statement_attribs_partial (st : PState) (d d' : Dict) (argNames : List Str)
    (hd : st.dict = some d) (ha : st.args = argNames.map Slot.name)
    (hc : consumeItems d st.items = some d') (hn : (argNames.map lower).Nodup) :
    ∃ st', runCleanup procCleanupSteps st = some st' ∧
      ∀ (i : Nat) (a : Str) (v : DVar), argNames[i]? = some a → firstVar (lower a) st.vars = some v → lower a ∉ st.items.map (·.name) →
        isExternal (applyAttrs st.params v (lookupAttrs d (lower a))) = false →
        st'.args[i]? = some (Slot.var (applyAttrs st.params v (lookupAttrs d (lower a)))) := by
  have hat := attach_of_consumeItems st.params st.items d d' st.vars hc
  simp only [procCleanupSteps, runCleanup, cleanStep, hd, hat]
  refine ⟨_, rfl, ?_⟩
  intro i a v h1 h2 h3 h4
  simp only [ha]
  exact matchArgs_get argNames hn _ _ i a _ h1 (firstVar_attached _ _ _ _ _ _ _ hat h2 h3 h4)

open Ford.AttrStmt in
/-- the order of the steps of `FortranFunction._cleanup` is one of the two known ones: the result
    matched first (as the code is: finding C18-result-attribute-statements-lost) or last
    (repaired) - in both the attribute statements are processed before the arguments are matched -/
theorem func_cleanup_order_known :
    funcCleanupSteps = funcStepsResultFirst ∨ funcCleanupSteps = funcStepsSound := by decide +kernel

open Ford.AttrStmt in
/-- ... and the same for the dummy arguments of every function, with the steps of
    `FortranFunction._cleanup` in their source order -/
theorem func_args_keep_statement_attribs_partial (st : PState) (d d' : Dict) (argNames : List Str) (r : Str)
    (hd : st.dict = some d) (ha : st.args = argNames.map Slot.name) (hr : st.ret = some (.name r))
    (hc : consumeItems d st.items = some d')
    (hn : (argNames.map lower).Nodup) (hra : lower r ∉ argNames.map lower) :
    ∃ st', runCleanup funcCleanupSteps st = some st' ∧
      ∀ (i : Nat) (a : Str) (v : DVar), argNames[i]? = some a → firstVar (lower a) st.vars = some v → lower a ∉ st.items.map (·.name) →
        isExternal (applyAttrs st.params v (lookupAttrs d (lower a))) = false →
        st'.args[i]? = some (Slot.var (applyAttrs st.params v (lookupAttrs d (lower a)))) := by
  have hat := fun vs => attach_of_consumeItems st.params st.items d d' vs hc
  rcases func_cleanup_order_known with e | e <;> rw [e]
  · simp only [funcStepsResultFirst, runCleanup, cleanStep, hd, hr, hat]
    refine ⟨_, rfl, ?_⟩
    intro i a v h1 h2 h3 h4
    simp only [ha]
    have hne : lower r ≠ lower a := fun e =>
      hra (e ▸ List.mem_map.mpr ⟨a, List.mem_of_getElem? h1, rfl⟩)
    have h2' := h2
    rw [← matchResult_vars_other r (lower a) hne st.vars] at h2'
    exact matchArgs_get argNames hn _ _ i a _ h1 (firstVar_attached _ _ _ _ _ _ _ (hat _) h2' h3 h4)
  · simp only [funcStepsSound, runCleanup, cleanStep, hd, hat]
    refine ⟨_, rfl, ?_⟩
    intro i a v h1 h2 h3 h4
    simp only [ha]
    exact matchArgs_get argNames hn _ _ i a _ h1 (firstVar_attached _ _ _ _ _ _ _ (hat _) h2 h3 h4)

open Ford.AttrStmt in
/-- the function result keeps the attributes of its attribute statements (`dimension r(3)`,
    `allocatable :: r`, `target r`) when it is matched *after* the attributes are attached (the
    repaired order `funcStepsSound`), for every function ... -/
theorem result_keeps_statement_attribs_partial (st : PState) (d d' : Dict) (argNames : List Str) (r : Str) (v : DVar)
    (hd : st.dict = some d) (ha : st.args = argNames.map Slot.name) (hr : st.ret = some (.name r))
    (hc : consumeItems d st.items = some d')
    (hra : lower r ∉ argNames.map lower) (hv : firstVar (lower r) st.vars = some v)
    (hi : lower r ∉ st.items.map (·.name))
    (hx : isExternal (applyAttrs st.params v (lookupAttrs d (lower r))) = false) :
    ∃ st', runCleanup funcStepsSound st = some st' ∧
      st'.ret = some (.var (applyAttrs st.params v (lookupAttrs d (lower r)))) := by
  have hat := attach_of_consumeItems st.params st.items d d' st.vars hc
  simp only [funcStepsSound, runCleanup, cleanStep, hd, hr, hat]
  refine ⟨_, rfl, ?_⟩
  simp only [ha]
  apply matchResult_get
  rw [matchArgs_vars_other argNames (lower r) hra]
  exact firstVar_attached _ _ _ _ _ _ _ hat hv hi hx

open Ford.AttrStmt in
/-- ... and loses them when it is matched first, as `FortranFunction._cleanup` does today:
    `function f() result(r); real r; dimension r(3); target r` is shown as `real`
    (finding C18-result-attribute-statements-lost); the same state under the repaired order shows
    `real, dimension(3), target` -/
theorem result_matched_first_loses_attribs_witness :
    let r : DVar := ⟨chars! "r", chars! "real", chars! "public", [], false, false, [], [], none⟩
    let st : PState := ⟨[r], [], some (.name (chars! "r")), [], [],
      some [(chars! "r", [chars! "dimension(3)", chars! "target"])], []⟩
    (runCleanup funcStepsResultFirst st).map (·.ret) = some (some (.var r)) ∧
    (runCleanup funcStepsSound st).map (·.ret) =
      some (some (.var { r with attribs := [chars! "dimension(3)", chars! "target"] })) := by
  decide +kernel

open Ford.AttrStmt in
/-- the same for dummy arguments if the argument loop ran before `process_attribs`:
    `subroutine s(n); integer n; intent(in) :: n; value n` would be shown as `integer :: n` -
    the attributes are recorded for a name that is no longer among the variables and are dropped
    with `del self.attr_dict`; in the order of the source they are shown -/
theorem args_matched_first_lose_attribs_witness :
    let n : DVar := ⟨chars! "n", chars! "integer", chars! "public", [], false, false, [], [], none⟩
    let st : PState := ⟨[n], [.name (chars! "N")], none, [], [],
      some [(chars! "n", [chars! "intent(in)", chars! "value"])], []⟩
    (runCleanup [.matchArgs, .attribs, .dropExternal] st).map (·.args) = some [.var n] ∧
    (runCleanup procStepsSound st).map (·.args) =
      some [.var { n with intent := chars! "in", attribs := [chars! "value"] }] := by
  decide +kernel

open Ford.ProcPrefix in
/-- Obligation on the *generated* table of prefix keywords (`_list_of_procedure_attributes`, in the order in
    which the loop tries them): while a keyword is recognised by a substring test no keyword may occur inside a
    keyword that is tried later - `impure` must be found and deleted before `pure` is looked for,
    `non_recursive` before `recursive`.  A reordering of the table breaks this obligation (the heading then
    says `pure` for an `impure` procedure).  With word-wise recognition (repaired code) the order is free. -/
theorem prefix_table_sound : prefixByWord = true ∨ orderSound procPrefixes = true := by decide +kernel

/-- the table knows every prefix of Fortran 2018 (R1527) that is not a type specification, once -/
theorem prefix_table_complete :
    (∀ k ∈ [chars! "elemental", chars! "impure", chars! "module", chars! "non_recursive",
            chars! "pure", chars! "recursive"], k ∈ procPrefixes) ∧ procPrefixes.Nodup := by decide +kernel

open Ford.ProcPrefix in
/-- "procedure heading ... is textually the declaration": for *every* table in a sound order and every prefix
    written as blank-separated chunks, each chunk (lower-cased) a keyword of the table or a text in which no
    keyword occurs (the type of the result: `integer`, `real(kind=dp)`, `double` `precision`), the substring loop
    reports exactly the keywords that were written - none invented, none lost - and hands the other chunks on
    unchanged (blanks removed) as the type specification of the result. -/
theorem prefixes_recognised_substring (table : List Str) (hs : orderSound table = true) (ws : List Str)
    (hne : joinSep ' ' ws ≠ [])
    (hw : ∀ w ∈ ws.map lower, w ∈ table ∨ noKeyword table w = true) :
    listProcAttrs table (joinSep ' ' ws) =
      (table.filter (fun k => decide (k ∈ ws.map lower)),
       (((ws.map lower).filter (fun w => !decide (w ∈ table))).map dropBlanks).flatten) := by
  have hne' : (joinSep ' ' ws).isEmpty = false := by simpa using hne
  have hw' : ∀ w ∈ ws.map lower, w = [] ∨ w ∈ table ∨ noKeyword table w = true :=
    fun w hm => Or.inr (hw w hm)
  simp only [listProcAttrs, hne', Bool.false_eq_true, if_false, lower_joinSep]
  rw [attrsGo_words table hs _ hw']
  simp only [dropBlanks_joinSep, List.map_map]
  congr 1
  have := flatten_map_ite (fun w => decide (w ∈ table)) dropBlanks (ws.map lower)
  simp only [decide_eq_true_eq, List.map_map] at this
  rw [← this]
  congr 1
  apply List.map_congr_left
  intro w _
  by_cases h : lower w ∈ table <;> simp [h, dropBlanks]

open Ford.ProcPrefix in
/-- the same for word-wise recognition (repaired code): for every table without repetitions and every prefix
    written as well-formed chunks (parentheses balanced, no blank outside them) - *whatever* the chunks contain:
    `type(module_data)` is a type, not the prefix `module` -/
theorem prefixes_recognised_words (table : List Str) (hn : table.Nodup) (ws : List Str)
    (hne : joinSep ' ' ws ≠ []) (hw : ∀ w ∈ ws.map lower, chunkOk w 0 0 = true ∧ '\t' ∉ w) :
    listProcAttrsW table (joinSep ' ' ws) =
      (table.filter (fun k => decide (k ∈ ws.map lower)),
       (((ws.map lower).filter (fun w => !decide (w ∈ table))).map dropBlanks).flatten) := by
  have hne' : (joinSep ' ' ws).isEmpty = false := by simpa using hne
  have hws : ws.map lower ≠ [] := by
    intro h
    have : ws = [] := by simpa using h
    subst this
    exact hne rfl
  simp only [listProcAttrsW, hne', Bool.false_eq_true, if_false, lower_joinSep]
  rw [tabsToBlanks_joinSep _ (fun w hm => (hw w hm).2),
    parenSplit_joinSep _ hws (fun w hm => (hw w hm).1), attrsWordsGo_eq _ _ hn, dropBlanks_flatten]
  simp

open Ford.ProcPrefix in
/-- ... and for the code as it is today (generated table, generated variant): every prefix keyword written in
    the statement, in any order and letter case, is in the heading, nothing else is, and the type written in the
    prefix reaches `parse_type` whole.  (The excluded class - a keyword *inside* a chunk that is not a keyword,
    `type(module_data) function f()` - is finding C18-prefix-keyword-inside-type-spec while the substring test
    is in the code; see `prefix_inside_type_spec_witness`.) -/
theorem prefixes_recognised_partial (ws : List Str) (hne : joinSep ' ' ws ≠ [])
    (hw : ∀ w ∈ ws.map lower,
      (w ∈ procPrefixes ∨ noKeyword procPrefixes w = true) ∧ chunkOk w 0 0 = true ∧ '\t' ∉ w) :
    procAttrs prefixByWord procPrefixes (joinSep ' ' ws) =
      (procPrefixes.filter (fun k => decide (k ∈ ws.map lower)),
       (((ws.map lower).filter (fun w => !decide (w ∈ procPrefixes))).map dropBlanks).flatten) := by
  by_cases hv : prefixByWord = true
  · simp only [procAttrs, hv, if_true]
    exact prefixes_recognised_words _ prefix_table_complete.2 ws hne (fun w hm => (hw w hm).2)
  · have hs : orderSound procPrefixes = true := by
      rcases prefix_table_sound with h | h
      · exact absurd h hv
      · exact h
    simp only [procAttrs, hv, Bool.false_eq_true, if_false]
    exact prefixes_recognised_substring _ hs ws hne (fun w hm => (hw w hm).1)

open Ford.ProcPrefix in
/-- what a "tidied" table (each keyword next to its opposite) does under the substring test: the order is
    rejected by `orderSound`, and `impure elemental integer function` is headed `pure elemental` with the
    left-over `im` glued to the type (`parse_type` then fails and the result falls back to the implicit type) -/
theorem prefix_order_matters_witness :
    let tidy := [chars! "pure", chars! "impure", chars! "elemental", chars! "recursive",
                 chars! "non_recursive", chars! "module"]
    orderSound tidy = false ∧
    listProcAttrs tidy (chars! "impure elemental integer") = ([chars! "pure", chars! "elemental"], chars! "iminteger") ∧
    listProcAttrs tidy (chars! "non_recursive") = ([chars! "recursive"], chars! "non_") ∧
    listProcAttrsW tidy (chars! "impure elemental integer") =
      ([chars! "impure", chars! "elemental"], chars! "integer") := by
  decide +kernel

open Ford.ProcPrefix in
/-- the substring test also finds a keyword inside the type specification: `type(module_data) function f()` is
    headed `module function` and its result is of type `_data` (finding C18-prefix-keyword-inside-type-spec);
    word-wise recognition leaves the type alone -/
theorem prefix_inside_type_spec_witness :
    let table := [chars! "impure", chars! "pure", chars! "elemental", chars! "non_recursive",
                  chars! "recursive", chars! "module"]
    orderSound table = true ∧
    listProcAttrs table (chars! "type(module_data)") = ([chars! "module"], chars! "type(_data)") ∧
    listProcAttrsW table (chars! "type(module_data)") = ([], chars! "type(module_data)") ∧
    listProcAttrsW table (chars! "Pure\ttype( module_data )") = ([chars! "pure"], chars! "type(module_data)") := by
  decide +kernel

/-- "dimensions ... is textually the declaration": the name of a declared entity is the text in front of its
    first `(`, `[` or `*` - whichever of the three comes first *in the text* -, the rest is its dimension /
    length: `label*(*)` is `label` + `*(*)`, `codes(n)*(4)` is `codes` + `(n)*(4)`, `s[*]` is `s` + `[*]`.
    (It is under this name that `_cleanup` finds the declaration of a dummy argument or result.) -/
theorem entity_name_is_leading_text (nm rest : Str) (c : Char) (hne : nm ≠ [])
    (h : ∀ x ∈ nm, isNameDelim x = false) (hc : isNameDelim c = true) :
    splitNameDim (nm ++ c :: rest) = (nm, c :: rest) :=
  splitNameDim_leading nm rest c hne h hc

/-- ... and an entity without any of the three is all name -/
theorem entity_name_plain (nm : Str) (h : ∀ x ∈ nm, isNameDelim x = false) :
    splitNameDim nm = (nm, []) :=
  splitNameDim_plain nm h

/-- position, not kind of delimiter, decides: cutting at "the first kind that occurs" (`(` before `[` before
    `*`) is as lossless as the code (`name_dim_lossless` cannot tell them apart) but names `character label*(*)`
    `label*`, so that the dummy argument `label` loses its declaration -/
theorem split_by_kind_witness :
    splitNameDim (chars! "label*(*)") = (chars! "label", chars! "*(*)") ∧
    splitNameDimByKind (chars! "label*(*)") = (chars! "label*", chars! "(*)") ∧
    (splitNameDimByKind (chars! "label*(*)")).1 ++ (splitNameDimByKind (chars! "label*(*)")).2 = chars! "label*(*)" ∧
    splitNameDim (chars! "codes(n)*(4)") = splitNameDimByKind (chars! "codes(n)*(4)") := by
  decide +kernel

open Ford.DeclLine in
/-- Obligation on the *generated* if-chain of `line_to_variables`: the attributes that are turned into a field of
    their own are exactly the visibility keywords, `optional`, `parameter` and the three `intent`s, each to its own
    field with its own value - a branch that stores `intent(out)` as `in`, or that swallows another attribute,
    breaks this -/
theorem decl_attr_rules_sound :
    (∀ r ∈ rulesSpec, r ∈ declAttrRules) ∧ (∀ r ∈ declAttrRules, r ∈ rulesSpec) ∧
    (declAttrRules.map Prod.fst).Nodup := by decide +kernel

open Ford.DeclLine in
/-- "attributes ... is textually the declaration": for every rule table and every attribute list, the attributes
    that have no field of their own are kept as written, all of them, in the order of the source -/
theorem decl_attrs_kept (rules : Rules) (perm : Str) (as : List Str) :
    (classify rules perm as).attribs = as.filter (isPlain rules) := by
  simp [classify, foldl_attribs, DeclAttrs.init]

open Ford.DeclLine in
/-- ... `optional` / `parameter` are set exactly when the declaration says so (in any spelling: the attribute is
    compared lower-cased and without blanks) -/
theorem decl_optional_parameter (rules : Rules) (perm : Str) (as : List Str) :
    (classify rules perm as).optional = as.any (isOptRule rules) ∧
    (classify rules perm as).parameter = as.any (isParamRule rules) := by
  simp [classify, foldl_optional, foldl_parameter, DeclAttrs.init]

open Ford.DeclLine in
/-- ... the intent shown is the one written (the last one, should there be two), the visibility the one written, or
    the default of the scope when none is -/
theorem decl_intent_permission (rules : Rules) (perm : Str) (pre post : List Str) (a : Str) :
    (∀ v, lookupRule rules (normAttr a) = some (.intent v) → (∀ b ∈ post, isIntentRule rules b = false) →
      (classify rules perm (pre ++ a :: post)).intent = v) ∧
    (lookupRule rules (normAttr a) = some .permission → (∀ b ∈ post, isPermRule rules b = false) →
      (classify rules perm (pre ++ a :: post)).permission = normAttr a) ∧
    ((∀ b ∈ pre ++ a :: post, isPermRule rules b = false) →
      (classify rules perm (pre ++ a :: post)).permission = perm) :=
  ⟨fun v ha hp => classify_intent_last rules perm pre post a v ha hp,
   fun ha hp => classify_permission_last rules perm pre post a ha hp,
   fun hp => classify_permission_default rules perm _ hp⟩

open Ford.DeclLine in
/-- a declaration without attributes needs no `::`: `integer n` and `integer :: n` give the same entity list -/
theorem old_style_declaration_same_entities (d : Str) (h : TypeSpec.skipWs d = d)
    (hc : ∀ t, d ≠ ':' :: ':' :: t) :
    attribSplit2 (':' :: ':' :: ' ' :: d) = d ∧ attribSplit2 (' ' :: d) = d := by
  constructor
  · simp [attribSplit2, TypeSpec.skipWs, isSpace, h]
  · have : TypeSpec.skipWs (' ' :: d) = d := by simp [TypeSpec.skipWs, isSpace, h]
    simp only [attribSplit2, this]

open Ford.DeclLine in
/-- non-vacuity / the whole function on one line: `Character(len=8), Intent( In ), OPTIONAL, target :: label*(*), s(3)` -/
theorem line_vars_example :
    let r := (lineVars declAttrRules false true (chars! "public")
        ((chars! "Character(len=8), Intent( In ),") ++ (chars! " OPTIONAL, target :: ") ++
         (chars! "label*(*), s(3)"))).toOption
    r.map (fun vs => vs.map (fun v => (v.name, v.dimension, v.attrs.attribs))) =
      some [(chars! "label", chars! "*(*)", [chars! "target"]), (chars! "s", chars! "(3)", [chars! "target"])] ∧
    r.map (fun vs => vs.map (fun v => (v.attrs.intent, v.attrs.optional, v.strlen))) =
      some [(chars! "in", true, some (chars! "8")), (chars! "in", true, some (chars! "8"))] := by
  decide +kernel

open Ford.AttrStmt in
/-- an ALLOCATABLE / POINTER / TARGET statement with an array spec (`allocatable :: c(:)`): the variable shows the
    attribute and the array spec of the statement - for every variable and every such attribute -/
theorem shape_statement_shown (p : List (Str × Str)) (v : DVar) (a : Str) (h : isShapeAttr a = true)
    (hp : isPermission a = false) (hi : a.take 6 ≠ (chars! "intent")) :
    a.takeWhile (· != '(') ∈ (applyAttr p v a).attribs ∧
    ∃ t, (applyAttr p v a).dimension = a.dropWhile (· != '(') ++ t ∧
      (Generated.C18Cfg.shapeKeepsLength = true → v.dimension.head? ≠ some '(' → t = v.dimension) := by
  unfold applyAttr
  rw [if_neg (by simp [hp]), if_neg (by simpa using hi), if_pos h]
  refine ⟨by simp, _, rfl, ?_⟩
  intro hk hd
  simp [hk, hd]

open Ford.AttrStmt in
/-- what the two forms of that branch do to `character(len=:) :: title*(80)` + `allocatable title(:)`: the variant
    `shapeDimensionV false` shows `title(:)` (finding C18-shape-statement-drops-length, repaired in FORD by ab065eb),
    the variant `true` `title(:)*(80)`; an array spec of the declaration itself is replaced in both -/
theorem shape_statement_length_witness :
    shapeDimensionV false (chars! "*(80)") (chars! "allocatable(:)") = chars! "(:)" ∧
    shapeDimensionV true (chars! "*(80)") (chars! "allocatable(:)") = chars! "(:)*(80)" ∧
    shapeDimensionV true (chars! "(3)") (chars! "pointer(:)") = chars! "(:)" := by
  decide +kernel

open Ford.ProcPrefix in
/-- "argument list ... is textually the declaration": for every list of argument names (each not empty, without
    comma or white space) written `(a, b, c)`, the names of the heading are these names, in this order -/
theorem heading_argument_list (names : List Str) (h : ∀ n ∈ names, argOk n = true) :
    procArgs ('(' :: joinStr [',', ' '] names ++ [')']) = names := by
  cases names with
  | nil => simp [procArgs, joinStr, strip, rstrip, lstrip, splitCommas]
  | cons x r =>
    have hcomma : ∀ n ∈ x :: r, ',' ∉ n := fun n hn => (argOk_spec (h n hn)).2.1
    have hd : (List.drop 1 ('(' :: joinStr [',', ' '] (x :: r) ++ [')'])).dropLast = joinStr [',', ' '] (x :: r) := by
      simp
    simp only [procArgs]
    rw [hd, strip_joinStr_names x r h, splitCommas_joinStr x r hcomma]
    have hx := argOk_spec (h x (by simp))
    have hmap : (x :: r.map (' ' :: ·)).map strip = x :: r := by
      have hsx : strip x = x := strip_nospace x hx.2.2
      simp only [List.map_cons, hsx, List.map_map]
      congr 1
      have : ∀ n ∈ r, (strip ∘ (' ' :: ·)) n = n := fun n hn => by
        simpa using strip_pad [' '] n [] rfl rfl (argOk_spec (h n (List.mem_cons_of_mem _ hn))).2.2
      exact (List.map_congr_left this).trans (List.map_id' r)
    rw [hmap]
    apply List.filter_eq_self.mpr
    intro n hn
    have := (argOk_spec (h n hn)).1
    cases n with
    | nil => exact absurd rfl this
    | cons _ _ => rfl

open Ford.ProcPrefix in
/-- blanks around the names and commas do not matter, an empty list gives no arguments -/
theorem heading_argument_list_blanks :
    procArgs (chars! "( a ,b,  c )") = [chars! "a", chars! "b", chars! "c"] ∧
    procArgs (chars! "()") = [] ∧ procArgs (chars! "( )") = [] := by decide +kernel

open Ford.SortComp in
/-- obligation on the two regenerated constants ("argument list ... is textually the declaration"): the collection
    from which `proc_line` assembles the argument list of a heading is not one of the collections that
    `sort_components` sorts in place -/
theorem heading_args_not_sorted : sortedCollections.contains headingArgsCollection = false := by decide +kernel

open Ford.SortComp in
/-- "argument list": for every value of the option `sort`, every entity and whatever its other collections hold, the
    argument list of the heading after `sort_components` is the argument list before it - the calling sequence of the
    procedure statement (`heading_argument_list`), never a sorted one -/
theorem heading_args_any_sort_option (o : Opt) (e : Entity) :
    headingArgs headingArgsCollection (sortComponents sortedCollections o e) = headingArgs headingArgsCollection e := by
  unfold headingArgs
  rw [coll_sortComponents_unlisted _ _ heading_args_not_sorted]

open Ford.SortComp in
/-- the general form: whatever the table of sorted collections, a collection that is not in it keeps its order -/
theorem sort_keeps_unlisted (tbl : List Str) (n : Str) (h : tbl.contains n = false) (o : Opt) (e : Entity) :
    coll n (sortComponents tbl o e) = coll n e :=
  coll_sortComponents_unlisted tbl n h o e

open Ford.SortComp in
/-- "each displayed variable, argument, component ...": sorting only reorders - for every option, table and
    collection the rows after `sort_components` are the rows before it, each exactly once and unchanged -/
theorem sort_same_rows (tbl : List Str) (n : Str) (o : Opt) (e : Entity) :
    (coll n (sortComponents tbl o e)).Perm (coll n e) := by
  rw [coll_sortComponents]
  cases keyFn o with
  | none => exact List.Perm.refl _
  | some k =>
    by_cases h : tbl.contains n = true
    · simp only [h, if_true]; exact sortK_perm k _
    · simp only [h]; exact List.Perm.refl _

open Ford.SortComp in
/-- `sort: src` (the default) touches nothing -/
theorem sort_src_identity (tbl : List Str) (e : Entity) : sortComponents tbl .src e = e := rfl

open Ford.SortComp in
/-- the keys of the code's SORT_KEY_FUNCTIONS (regenerated) are the options the model knows, and the one whose entry is
    `None` is `src` -/
theorem sort_options_known :
    sortOptions.map (fun p => (optOf p.1, p.2)) =
      [(some .alpha, false), (some .permission, false), (some .permissionAlpha, false), (some .type, false),
       (some .typeAlpha, false), (some .src, true)] := by decide +kernel

open Ford.SortComp in
/-- what happens when the argument collection *is* sorted: `subroutine solve(n, matrix, info)` is headed
    `solve(info, matrix, n)` with `sort: alpha` (the table of the code with `args` added) -/
theorem sorted_heading_args_witness :
    let v (nm : String) : Item := ⟨nm.toList, some "public".toList, "variable".toList, some ⟨"real".toList, [], [], []⟩, none, none⟩
    let e : Entity := [("args".toList, [v "n", v "matrix", v "info"])]
    headingArgs "args".toList (sortComponents ("args".toList :: sortedCollections) .alpha e)
      = ["info".toList, "matrix".toList, "n".toList] ∧
    headingArgs "args".toList (sortComponents sortedCollections .alpha e)
      = ["n".toList, "matrix".toList, "info".toList] := by
  simp -index only [String.toList_ofList]
  decide +kernel

/-- the sort is stable: equal keys keep their order -/
example : (Ford.SortComp.sortK (fun (p : Nat × Nat) => .int p.1) [(2, 0), (1, 1), (2, 2), (1, 3)]) = [(1, 1), (1, 3), (2, 0), (2, 2)] := by
  decide +kernel

open Ford.TypeSpec Ford.CharSel in
/-- obligation on the regenerated branches of the loop over the parameters of a `character(...)` selector: run in
    source order, first branch that fires, they are the loop of the hand-written model of `parse_type` - for every
    list of parameters and every state.  (Dropping an "already set" guard changes the regenerated branches and this
    proof no longer goes through.) -/
theorem char_selector_chain_as_modelled (args : List Str) (len kind : Option Str) :
    charSel charSelRules args len kind = charArgs args len kind := by
  unfold charSelRules
  induction args generalizing len kind with
  | nil => simp [charSel, charArgs]
  | cons a as ih =>
    cases hk : kindMatch a with
    | none =>
      cases len <;> cases kind <;> cases hl : lenMatch a <;>
        simp [charSel, charArgs, stepArg, fire, hl, hk, ih]
    | some v =>
      cases hq : hasQuote v <;> cases len <;> cases kind <;> cases hl : lenMatch a <;>
        simp [charSel, charArgs, stepArg, fire, hl, hk, hq, ih]

open Ford.TypeSpec Ford.CharSel Ford.Show in
/-- "type, kind/length": both parameters given positionally - `character(n, k)` with `n` a digit string, a name, `*`
    or `:` and `k` any text without blank, parenthesis, comma, `=` or quote (an integer literal `4` in particular) -
    are stored as length `n` and kind `k`, and the type cell reads `character(kind=k, len=n)` -/
theorem char_selector_positional (n k : Str) (h : LenVal n) (hk : ∀ c ∈ k, kindCh c = true) (hne : k ≠ []) :
    charSel charSelRules [n, k] none none = .ok (some n, some k) ∧
    fullType (chars! "character") k n [] [] = (chars! "character(kind=") ++ k ++ (chars! ", len=") ++ n ++ [')'] := by
  refine ⟨?_, ?_⟩
  · rw [char_selector_chain_as_modelled]; exact charArgs_bare_bare n k h hk
  · have := (full_type_text (chars! "character") k n hne (lenVal_ne h)).2.2.1
    simpa using this

open Ford.TypeSpec Ford.CharSel in
/-- ... and the spellings with keywords, in either order, give the same two fields -/
theorem char_selector_keywords (L K n k : Str) (hL : lower L = (chars! "len")) (hK : lower K = (chars! "kind"))
    (h : LenVal n) (hk : ∀ c ∈ k, kindCh c = true) (hne : k ≠ []) :
    charSel charSelRules [L ++ '=' :: n, K ++ '=' :: k] none none = .ok (some n, some k) ∧
    charSel charSelRules [K ++ '=' :: k, L ++ '=' :: n] none none = .ok (some n, some k) ∧
    charSel charSelRules [n, K ++ '=' :: k] none none = .ok (some n, some k) := by
  simp only [char_selector_chain_as_modelled]
  exact ⟨charArgs_len_kind L K n k hL hK h hk hne, charArgs_kind_len L K n k hL hK h hk hne,
         charArgs_bare_kind K n k hK h hk hne⟩

open Ford.TypeSpec Ford.CharSel in
/-- what the chain without the guards of its two regular-expression branches does to `character(10, 4)` and
    `character(*, 4)`: the kind overwrites the length / is taken for the length, the kind is gone; the chain of the
    code gives length and kind -/
theorem char_selector_unguarded_witness :
    charSel unguardedRules [chars! "10", chars! "4"] none none = .ok (some (chars! "4"), none) ∧
    charSel unguardedRules [chars! "*", chars! "4"] none none = .ok (some (chars! "4"), none) ∧
    charSel soundRules [chars! "10", chars! "4"] none none = .ok (some (chars! "10"), some (chars! "4")) ∧
    charSel soundRules [chars! "*", chars! "4"] none none = .ok (some (chars! "*"), some (chars! "4")) :=
  ⟨rfl, rfl, rfl, rfl⟩

/-- the generated chain on `character(len=3, kind=ck)` -/
example : Ford.CharSel.charSel charSelRules [chars! "len=3", chars! "kind=ck"] none none
    = .ok (some (chars! "3"), some (chars! "ck")) := rfl

open Ford.ProcLine in
/-- obligation on the regenerated macro: its output expressions (with their filters - the BIND name goes through
    `|e`), the separators of its two `join` filters, the literal text between the expressions and the tests of its `if`
    statements are the ones the model `ProcLine.procLine` lays out; the test of the RESULT clause has one of the two
    known forms and the variant flag says which -/
theorem proc_line_as_modelled :
    (escapeSites.filter (fun s => s.scope == "proc_line")).map (fun s => (s.expr, s.filters)) = modelledSites ∧
    procLineJoins = modelledJoins ∧ procLineData = modelledData ∧
    procLineTests = modelledTests procLineResultCI :=
  -- `procLineJoins`, `procLineData`, `procLineTests` (regenerated, `Generated/C18.lean`) and the `modelled*` tables
  -- (`ProcLine.lean`) are the same literals; only the selection from the site table is computed
  ⟨by decide +kernel, rfl, rfl, rfl⟩

open Ford.ProcLine in
/-- "bind name ... shown literally and never changes the structure of the page": for every procedure and every BIND
    name the reader sees the name as written, and the element skeleton of the heading (in any context that leaves the
    tokenizer in a stable state) is that of the heading with an empty name -/
theorem heading_bind_name_inert (ci proto : Bool) (p : Proc) (hb : p.bindC ≠ []) (ctx₂ : Str)
    (h : (stateAfter (headText ci proto p ++ " bind(".toList)).stable = true) :
    textContent (escape p.bindC) = p.bindC ∧
    elements (procLine ci proto p ++ ctx₂) = elements (headText ci proto p ++ " bind(".toList ++ (')' :: ctx₂)) := by
  refine ⟨escape_text _, ?_⟩
  have hne : p.bindC.isEmpty = false := by cases hp : p.bindC <;> simp_all
  have := escape_inert (headText ci proto p ++ " bind(".toList) (')' :: ctx₂) p.bindC h
  simpa [procLine, hne, List.append_assoc] using this

open Ford.ProcLine in
/-- "result name": the heading has a RESULT clause exactly when the procedure is a function whose result is not
    named like the function (names compared case-insensitively, as Fortran does), and then it shows the result's name -/
theorem heading_result_clause (p : Proc) (r : Str) :
    showsResult true p = some r ↔
      (lower p.proctype = kwFunction ∧ p.retName = some r ∧ lower p.name ≠ lower r) := by
  unfold showsResult
  by_cases hf : lower p.proctype = kwFunction
  · cases hr : p.retName with
    | none => simp [hf]
    | some r' =>
      by_cases hn : lower p.name = lower r'
      · have : ∀ h : r' = r, lower p.name = lower r := fun h => h ▸ hn
        simpa [hf, namesDiffer, hn] using this
      · simp only [hf, namesDiffer, if_true, bne_iff_ne, ne_eq, hn, not_false_eq_true, Option.some.injEq, true_and]
        exact ⟨fun h => ⟨h, h ▸ hn⟩, fun h => h.1⟩
  · simp [hf]

open Ford.ProcLine in
/-- the other form of that test (names compared as written) invents a RESULT clause for `function f1(x)` whose
    result is declared as `F1` (finding C18-result-clause-invented); the form of the code as it is does not -/
theorem heading_result_case_witness :
    let p : Proc := ⟨true, "public".toList, [], "Function".toList, "f1".toList, ["x".toList], some "F1".toList, []⟩
    showsResult false p = some "F1".toList ∧ showsResult true p = none ∧
    procLine true false p = "public  function f1(x)".toList := by
  simp -index only [String.toList_ofList]
  decide +kernel

open Ford.ProcLine Ford.ProcPrefix Ford.SortComp in
/-- "argument list ... is textually the declaration", end to end over the three mechanisms: the names written between
    the parentheses of the procedure statement (`procArgs`), carried by the collection the heading is assembled from,
    through `sort_components` with any value of the option `sort`, into the markup of `proc_line`: the heading
    contains `(` the names in the order of the statement, joined with `, ` `)` -/
theorem heading_shows_statement_arguments (names : List Str) (h : ∀ n ∈ names, argOk n = true)
    (o : Opt) (e : Entity) (p : Proc) (proto : Bool)
    (he : headingArgs headingArgsCollection e = procArgs ('(' :: joinStr [',', ' '] names ++ [')']))
    (hp : p.args = headingArgs headingArgsCollection (sortComponents sortedCollections o e)) :
    ∃ pre post, procLine procLineResultCI proto p = pre ++ '(' :: joinStr [',', ' '] names ++ ')' :: post := by
  rw [heading_args_any_sort_option, he, heading_argument_list names h] at hp
  refine ⟨(if p.moduleLevel && !proto then p.permission ++ [' '] else []) ++
            joinStr [' '] p.attribs ++ ' ' :: lower p.proctype ++ ' ' :: p.name,
          (match showsResult procLineResultCI p with
           | some r => " result(".toList ++ r ++ [')']
           | none => []) ++
          (if p.bindC.isEmpty then [] else " bind(".toList ++ escape p.bindC ++ [')']), ?_⟩
  simp only [procLine, headText, hp, List.append_assoc, List.cons_append, List.nil_append]
  rfl

/-- the whole heading, BIND name escaped -/
example : Ford.ProcLine.procLine true false
    ⟨true, "public".toList, ["pure".toList], "Function".toList, "f".toList, ["b".toList, "a".toList], some "r".toList,
     "c, name=\"x<b>&y\"".toList⟩
    = "public pure function f(b, a) result(r) bind(c, name=&#34;x&lt;b&gt;&amp;y&#34;)".toList := by
  simp -index only [String.toList_ofList]
  decide +kernel

end Ford.C18
