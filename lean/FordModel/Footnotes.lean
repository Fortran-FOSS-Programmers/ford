/-
  C09 — footnote links and the state of the one Markdown converter of a run.

  `ford.main` builds ONE `MetaMarkdown` object; every text of the run goes through it:

      proj_docs           md.reset().convert(proj_docs, path=…)                (ford.main)
      entity doc comment  md.reset().convert(dedent(doc_list), context=self)   (FortranBase.markdown, in the loop of Project.markdown)
      `summary:` metadata md.convert(summary, context=self)                    (FortranBase.markdown, right after the doc comment)
      project summary     md.convert(proj_data.summary)                        (ford.main, after Project.markdown)
      author description  md.convert(proj_data.author_description)             (ford.main)
      static page         md.reset().convert(text, path=…)                     (PageNode.__init__)

  The footnote extension (`markdown.extensions.extra`) keeps the definitions `[^label]: text` it has met in an
  ordered table on the converter; `reset()` empties it.  A conversion renders

      <sup id="fnref:l"><a class="footnote-ref" href="#fn:l">…         for each reference `[^l]` whose label is in the table
      <li id="fn:l">… <a class="footnote-backref" href="#fnref:l">…     for EVERY entry of the table, below the text

  so the back-link of an entry that an earlier text left in the table points at an element that is not in this text.
  Which sites start from a reset converter is a regenerated fact (`Tables.resets`, probed on the real pipeline).
  Restriction: a label is referred to at most once per text (a second reference gets the id `fnref2:l`).
  Import-free (driver).
-/
import FordModel.Basic.Chars
namespace Ford.Footnotes

/-- the places where a text is converted -/
inductive Site where
  | projectDocs | entityDoc | entitySummary | projectSummary | authorDescription | staticPage
  deriving DecidableEq, Repr

structure Tables where
  /-- the sites whose conversion starts from a reset converter -/
  resets : List Site
  /-- the sites where only the FIRST conversion of the run does (a reset in front of a loop instead of inside it) -/
  resetsFirst : List Site := []
  deriving DecidableEq, Repr

/-- one conversion: where, is the text blank (`Markdown.convert` returns `""` for a text that is empty after
    `strip()` without running any processor: undocumented entities), the labels its text defines (`[^l]: …`) and
    refers to (`[^l]`) -/
structure Conv where
  site : Site
  blank : Bool
  defs : List Str
  refs : List Str
  deriving DecidableEq, Repr

/-- `footnotes[label] = text` on the ordered table: a label is stored once, at its first position -/
def addLabel (st : List Str) (l : Str) : List Str := if l ∈ st then st else st ++ [l]

def addLabels (st : List Str) (ls : List Str) : List Str := ls.foldl addLabel st

/-- the ids / fragments of the footnote links of one converted text -/
structure Out where
  /-- `id="fnref:l"` (and `href="#fn:l"`) of the references in the text -/
  refIds : List Str
  /-- `id="fn:l"` (and `href="#fnref:l"`) of the list of footnotes below the text -/
  noteIds : List Str
  deriving DecidableEq, Repr

/-- `md.convert(text)` on a converter whose table is `st`: new table, links -/
def convert (st : List Str) (c : Conv) : List Str × Out :=
  if c.blank then (st, { refIds := [], noteIds := [] }) else
  let st' := addLabels st c.defs
  (st', { refIds := c.refs.filter (fun l => decide (l ∈ st')), noteIds := st' })

/-- the table a conversion at this site starts from; `seen`: the sites that have converted something already -/
def start (T : Tables) (seen : List Site) (st : List Str) (c : Conv) : List Str :=
  if c.site ∈ T.resets then [] else if c.site ∈ T.resetsFirst ∧ c.site ∉ seen then [] else st

/-- all conversions of a run, in order, one converter -/
def convertAll (T : Tables) : List Site → List Str → List Conv → List Out
  | _, _, [] => []
  | seen, st, c :: cs =>
    let r := convert (start T seen st c) c
    r.2 :: convertAll T (c.site :: seen) r.1 cs

/-- every footnote link of a converted text names an element of the same text: each back-link
    `#fnref:l` a reference, each reference `#fn:l` an entry of the list -/
def linksOk (o : Out) : Bool :=
  o.noteIds.all (fun l => decide (l ∈ o.refIds)) && o.refIds.all (fun l => decide (l ∈ o.noteIds))

/-- the sites that convert the texts a user writes footnotes in (front page text, doc comments, static pages) -/
def mainSites : List Site := [.projectDocs, .entityDoc, .staticPage]

def allSites : List Site :=
  [.projectDocs, .entityDoc, .entitySummary, .projectSummary, .authorDescription, .staticPage]

def tablesOk (T : Tables) : Bool := mainSites.all (fun s => decide (s ∈ T.resets))

/-- the variant of finding C09-footnotes-leak-into-conversions-without-reset (FORD before 0409932) -/
def asIs : Tables := { resets := [.projectDocs, .entityDoc, .staticPage] }

def siteName : Site → Str
  | .projectDocs => ['p', 'r', 'o', 'j', 'e', 'c', 't', 'D', 'o', 'c', 's']
  | .entityDoc => ['e', 'n', 't', 'i', 't', 'y', 'D', 'o', 'c']
  | .entitySummary => ['e', 'n', 't', 'i', 't', 'y', 'S', 'u', 'm', 'm', 'a', 'r', 'y']
  | .projectSummary => ['p', 'r', 'o', 'j', 'e', 'c', 't', 'S', 'u', 'm', 'm', 'a', 'r', 'y']
  | .authorDescription => ['a', 'u', 't', 'h', 'o', 'r', 'D', 'e', 's', 'c', 'r', 'i', 'p', 't', 'i', 'o', 'n']
  | .staticPage => ['s', 't', 'a', 't', 'i', 'c', 'P', 'a', 'g', 'e']

def siteOf (s : Str) : Option Site := allSites.find? (fun x => siteName x == s)

end Ford.Footnotes
