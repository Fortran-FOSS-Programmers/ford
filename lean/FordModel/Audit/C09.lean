import FordModel.Props.C09
#print axioms Ford.C09.relpath_roundtrip
#print axioms Ford.C09.relpathPy_roundtrip
#print axioms Ford.C09.relpath_relative
#print axioms Ford.C09.relpath_relocatable
#print axioms Ford.C09.navHref_resolves
#print axioms Ford.C09.valid_all_shapes
#print axioms Ford.C09.list_page_written_iff
#print axioms Ford.C09.nav_entry_sound
#print axioms Ford.C09.nav_targets_exist_partial
#print axioms Ford.C09.nav_targets_exist
#print axioms Ford.C09.nav_index_files_witness
#print axioms Ford.C09.entity_pages_written_iff
#print axioms Ford.C09.str_link_entry_sound
#print axioms Ford.C09.parent_str_link_page_written_partial
#print axioms Ford.C09.no_page_no_parent_str_link
#print axioms Ford.C09.getDir_in_outDirs
#print axioms Ford.C09.getUrl_points_at_owner_page
#print axioms Ford.C09.entity_url_depth_one
#print axioms Ford.C09.doclink_resolves_from_depth_one
#print axioms Ford.C09.doclink_other_depth_witness
#print axioms Ford.C09.read_more_link_has_url_partial
#print axioms Ford.C09.read_more_without_url_witness
#print axioms Ford.C09.read_more_href_resolves
#print axioms Ford.C09.relurl_rewrites_output_links
#print axioms Ford.C09.relurl_output_link_resolves
#print axioms Ford.C09.normalise_without_resolve_witness
#print axioms Ford.C09.asset_link_sound
#print axioms Ford.C09.asset_links_written
#print axioms Ford.C09.asset_renamed_copy_witness
#print axioms Ford.C09.alias_roots_are_copied_trees
#print axioms Ford.C09.page_copy_subdir_link_resolves
#print axioms Ford.C09.page_file_link_resolves
#print axioms Ford.C09.page_copy_index_only_witness
#print axioms Ford.C09.footnote_links_sound
#print axioms Ford.C09.footnote_links_resolve_partial
#print axioms Ford.C09.footnote_links_resolve
#print axioms Ford.C09.footnote_leak_witness
#print axioms Ford.C09.relurl_filter_is_function_of_page
#print axioms Ford.C09.relurl_cache_by_dir_name_witness
#print axioms Ford.C09.page_link_sound
#print axioms Ford.C09.page_link_names_written_file
#print axioms Ford.C09.page_link_relocatable
#print axioms Ford.C09.page_search_url_names_written_file
#print axioms Ford.C09.page_namings_agree_on_plain_stems
#print axioms Ford.C09.page_name_mixed_witness
#print axioms Ford.C09.graph_node_url_sound
#print axioms Ford.C09.graph_node_url_resolves
#print axioms Ford.C09.graph_node_url_only_if_visible
#print axioms Ford.C09.graph_hosts_depth_one
#print axioms Ford.C09.graph_node_url_depth_zero_witness
