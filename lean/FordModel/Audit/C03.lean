import FordModel.Props.C03
#print axioms Ford.C03.admRe_decomposes
#print axioms Ford.C03.admRun_no_marker_id
#print axioms Ford.C03.indent_keeps_words
#print axioms Ford.C03.procOne_closed_words
#print axioms Ford.C03.procOne_open_words
#print axioms Ford.C03.startStep_drops_text_before_marker_witness
#print axioms Ford.C03.metaSplit_header
#print axioms Ford.C03.metaSplit_header_partial
#print axioms Ford.C03.metaSplit_colon_line_witness
#print axioms Ford.C03.single_line_with_colon_is_text
#print axioms Ford.C03.single_line_known_key_is_metadata
#print axioms Ford.C03.single_line_agrees_with_header
#print axioms Ford.C03.single_line_then_blank_witness
#print axioms Ford.C03.comment_without_header_is_body
#print axioms Ford.C03.wide_indented_comment_is_body
#print axioms Ford.C03.attach_leaf_docstring
#print axioms Ford.C03.attach_container_docstring
#print axioms Ford.C03.attach_docstring_frozen
#print axioms Ford.C03.interface_bookkeeping_preserves_attach
#print axioms Ford.C03.interface_wrappers_get_block_comment
#print axioms Ford.C03.interface_wrappers_get_block_metadata_when_fixed
#print axioms Ford.C03.interface_wrapper_metadata_witness
#print axioms Ford.C03.predoc_block_lands_after_statement
#print axioms Ford.C03.predoc_block_documents_next_declaration
#print axioms Ford.C03.inline_doc_lands_after_every_statement_of_its_line
#print axioms Ford.C03.predoc_block_then_inline_doc_in_source_order
#print axioms Ford.C03.inline_doc_documents_last_statement_of_its_line
#print axioms Ford.C03.inline_doc_after_two_declarations_documents_the_second
#print axioms Ford.C03.conversion_filter_disjoint_from_correlate
#print axioms Ford.C03.registered_entity_gets_its_own_doc
#print axioms Ford.C03.inherited_component_keeps_metadata_when_fixed
#print axioms Ford.C03.inherited_component_metadata_reset_witness
#print axioms Ford.C03.inherited_generic_copy_undocumented_witness
#print axioms Ford.C03.markdown_links_footnotes_isolated
#print axioms Ford.C03.markdown_isolated_when_abbr_reset
#print axioms Ford.C03.markdown_abbr_leak_witness
#print axioms Ford.C03.closed_literals_are_not_open
#print axioms Ford.C03.open_literal_after_closed_ones
#print axioms Ford.C03.continued_literal_text_is_not_documentation
#print axioms Ford.C03.continued_literal_declaration_keeps_its_docstring
#print axioms Ford.C03.included_file_read_with_same_markers
#print axioms Ford.C03.include_reads_every_file_under_the_same_rules
#print axioms Ford.C03.include_marker_not_handed_over_witness
#print axioms Ford.C03.dedent_keeps_every_word
#print axioms Ford.C03.summary_paragraph_is_first_paragraph_of_own_doc
#print axioms Ford.C03.summary_is_part_of_own_doc
#print axioms Ford.C03.summary_without_url_is_whole_doc_partial
#print axioms Ford.C03.summary_without_url_is_whole_doc_when_fixed
#print axioms Ford.C03.summary_without_url_and_paragraph_witness
#print axioms Ford.C03.shortened_summary_links_to_full_documentation
#print axioms Ford.C03.single_paragraph_doc_is_its_own_summary
#print axioms Ford.C03.summary_metadata_is_shown
