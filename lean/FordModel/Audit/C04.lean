import FordModel.Props.C04
#print axioms Ford.C04.access_correct_partial
#print axioms Ford.C04.late_private_witness
#print axioms Ford.C04.procedure_access_correct
#print axioms Ford.C04.access_statement_position_irrelevant
#print axioms Ford.C04.submodule_entities_private
#print axioms Ford.C04.protected_recorded
#print axioms Ford.C04.protected_private_witness
#print axioms Ford.C04.protected_lost_witness
#print axioms Ford.C04.specific_procedure_access_partial
#print axioms Ford.C04.specific_access_statement_witness
#print axioms Ford.C04.constructor_access_statement_repaired
#print axioms Ford.C04.self_named_generic_access_statement_repaired
#print axioms Ford.C04.constructor_export_early
#print axioms Ford.C04.constructor_access_statement_witness
#print axioms Ford.C04.export_correct_partial
#print axioms Ford.C04.component_access_correct
#print axioms Ford.C04.binding_access_correct
#print axioms Ford.C04.private_type_stays_private
#print axioms Ford.C04.generated_tables_sound
#print axioms Ford.C04.declared_name_key
#print axioms Ford.C04.statement_name_key
#print axioms Ford.C04.spelling_irrelevant
#print axioms Ford.C04.access_correct_as_written_partial
#print axioms Ford.C04.generic_spec_spelling_witness
#print axioms Ford.C04.generic_spec_key_repaired
#print axioms Ford.C04.name_tables_sound
#print axioms Ford.C04.apply_tables_sound
#print axioms Ford.C04.private_statement_on_protected_variable
#print axioms Ford.C04.submodule_implementations_private
#print axioms Ford.C04.submodule_entities_private_after_correlate
#print axioms Ford.C04.implementation_tables_sound
#print axioms Ford.C04.own_module_body_access_statement
#print axioms Ford.C04.own_module_body_deletion_order_witness
#print axioms Ford.C04.own_module_short_body_witness
#print axioms Ford.C04.own_module_short_body_repaired
#print axioms Ford.C04.own_module_body_tables_sound
#print axioms Ford.C04.page_tables_sound
#print axioms Ford.C04.module_page_shows_own_permission
#print axioms Ford.C04.module_page_shows_fortran_access_partial
