import FordModel.Props.C08
#print axioms Ford.C08.strip_paren_depth
#print axioms Ford.C08.recorded_once
#print axioms Ford.C08.intrinsics_never_recorded
#print axioms Ford.C08.keywords_filtered_partial
#print axioms Ford.C08.sync_images_witness
#print axioms Ford.C08.statement_records_iff
#print axioms Ford.C08.recorded_stable
#print axioms Ford.C08.format_never_scanned
#print axioms Ford.C08.arith_goto_never_scanned
#print axioms Ford.C08.format_statement_records_nothing
#print axioms Ford.C08.computed_goto_anywhere_never_scanned
#print axioms Ford.C08.computed_goto_statement_records_nothing_partial
#print axioms Ford.C08.format_without_blank_witness
#print axioms Ford.C08.declarations_never_scanned_partial
#print axioms Ford.C08.common_statement_never_scanned
#print axioms Ford.C08.block_local_array_witness
#print axioms Ford.C08.dedup_last_element_witness
#print axioms Ford.C08.labelled_call_witness
#print axioms Ford.C08.computed_goto_witness
#print axioms Ford.C08.semicolon_line_is_its_statements
#print axioms Ford.C08.semicolon_inside_literal_never_splits
#print axioms Ford.C08.semicolon_lines_record_as_statements
#print axioms Ford.C08.semicolon_literal_lines_record_exactly
#print axioms Ford.C08.literal_text_inert
#print axioms Ford.C08.external_attribute_never_variable
#print axioms Ford.C08.external_statement_never_variable
#print axioms Ford.C08.external_function_reference_kept
#print axioms Ford.C08.declared_variable_never_recorded
#print axioms Ford.C08.dummy_argument_never_recorded
#print axioms Ford.C08.result_variable_never_recorded
#print axioms Ford.C08.host_variable_never_recorded
#print axioms Ford.C08.declared_data_object_never_recorded
#print axioms Ford.C08.procedure_reference_kept
#print axioms Ford.C08.external_declarations_resolve_exactly
#print axioms Ford.C08.typed_function_without_external_witness
#print axioms Ford.C08.implicitly_typed_array_witness
#print axioms Ford.C08.deny_list_is_the_specified_names
#print axioms Ford.C08.never_recorded_names_are_specified
#print axioms Ford.C08.specified_names_are_never_recorded
#print axioms Ford.C08.user_procedure_reference_recorded
#print axioms Ford.C08.specified_name_never_recorded
#print axioms Ford.C08.continued_lines_record_as_one_line
#print axioms Ford.C08.continued_call_lines_record_exactly
#print axioms Ford.C08.component_through_chain_never_recorded
#print axioms Ford.C08.binding_through_chain_resolved
#print axioms Ford.C08.binding_through_function_result_resolved
#print axioms Ford.C08.unknown_root_chain_kept_by_name
#print axioms Ford.C08.fixed_deck_records_as_free_equivalent
#print axioms Ford.C08.sequence_field_cards_record_as_free_form
#print axioms Ford.C08.fixed_cards_with_sequence_field_record_exactly
