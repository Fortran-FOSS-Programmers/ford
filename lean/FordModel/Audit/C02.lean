import FordModel.Props.C02
#print axioms Ford.C02.quoteSplit_join
#print axioms Ford.C02.quoteSplit_lexical
#print axioms Ford.C02.comScan_iff
#print axioms Ford.C02.comMatch_unique
#print axioms Ford.C02.layout_join
#print axioms Ford.C02.comment_lines_transparent
#print axioms Ford.C02.leading_amp_joins_verbatim
#print axioms Ford.C02.code_part_outside_comment
#print axioms Ford.C02.code_part_outside_plain
#print axioms Ford.C02.code_part_outside_open_literal
#print axioms Ford.C02.code_part_inside_literal
#print axioms Ford.C02.ordinary_comment_is_not_doc
#print axioms Ford.C02.comment_while_literal_continued_witness
#print axioms Ford.C02.cut_with_amp_is_exact
#print axioms Ford.C02.initial_value_literals_verbatim
#print axioms Ford.C02.initial_value_single_literal
#print axioms Ford.C02.nbsp_reads_as_blank
#print axioms Ford.C02.comma_tidy_after_restore_witness
#print axioms Ford.C02.regex_sources_pinned
#print axioms Ford.C02.comment_after_literal_any_contents
#print axioms Ford.C02.masking_pass_exact
#print axioms Ford.C02.masked_literals_return_in_place
#print axioms Ford.C02.first_occurrence_replacement_witness
#print axioms Ford.C02.mask_loop_pinned
#print axioms Ford.C02.include_expanded_wherever_it_stands_partial
#print axioms Ford.C02.semicolon_or_newline_same_includes_partial
#print axioms Ford.C02.queue_without_includes_unchanged
#print axioms Ford.C02.include_file_name_verbatim
#print axioms Ford.C02.include_blank_optional_partial
#print axioms Ford.C02.include_keyword_separator_witness
#print axioms Ford.C02.include_after_semicolon_witness
#print axioms Ford.C02.include_without_statements_witness
#print axioms Ford.C02.queue_pops_pinned
#print axioms Ford.C02.include_method_pinned
#print axioms Ford.C02.untermOld_witness
#print axioms Ford.C02.line_step_shared_with_batch_model
#print axioms Ford.C02.queued_statement_is_served_first
#print axioms Ford.C02.handed_back_statement_is_returned_next
#print axioms Ford.C02.semicolon_statements_reach_a_look_ahead_consumer_in_order
#print axioms Ford.C02.read_docstring_hands_the_statement_back
#print axioms Ford.C02.pass_back_behind_the_queue_reorders_witness
#print axioms Ford.C02.docbuffer_before_queue_reorders_witness
#print axioms Ford.C02.iterator_protocol_pinned
#print axioms Ford.C02.queue_call_by_call_is_batch_drain_partial
#print axioms Ford.C02.split_site_pinned
#print axioms Ford.C02.buffered_doc_is_served_after_the_queue
#print axioms Ford.C02.read_docstring_without_docs_changes_nothing
#print axioms Ford.C02.iteration_call_by_call_is_batch_read_partial
#print axioms Ford.C02.iteration_theorem_applies_to_this_tree_partial
#print axioms Ford.C02.look_ahead_consumer_receives_batch_list_partial
