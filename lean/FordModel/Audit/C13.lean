import FordModel.Props.C13
#print axioms Ford.C13.edges_closed
#print axioms Ford.C13.size_limit
#print axioms Ford.C13.sound
#print axioms Ford.C13.complete
#print axioms Ford.C13.exact_nodes
#print axioms Ford.C13.inverse_sets
#print axioms Ford.C13.inverse_sets_later
#print axioms Ford.C13.usedBy_inverse
#print axioms Ford.C13.inheritedBy_inverse
#print axioms Ford.C13.afferent_inverse
#print axioms Ford.C13.calledBy_inverse_partial
#print axioms Ford.C13.calledBy_inverse_style
#print axioms Ford.C13.calledBy_style_witness
#print axioms Ford.C13.call_skip_sound
#print axioms Ford.C13.call_skip_complete
#print axioms Ford.C13.call_skip_kept
#print axioms Ford.C13.call_skip_total
#print axioms Ford.C13.call_skip_exact
#print axioms Ford.C13.call_skip_every_caller
#print axioms Ford.C13.call_skip_union
#print axioms Ford.C13.call_skip_hidden_unfold
#print axioms Ford.C13.graph_false_no_own_graph
#print axioms Ford.C13.graph_false_not_root_partial
#print axioms Ford.C13.graph_false_witness
#print axioms Ford.C13.relation_exact
#print axioms Ford.C13.relation_exact_later
#print axioms Ford.C13.registered_have_nodes
#print axioms Ford.C13.calls_shown_exact
#print axioms Ford.C13.hidden_shared_by_callers
#print axioms Ford.C13.bound_root_partial
#print axioms Ford.C13.bound_root_fixed
#print axioms Ford.C13.bound_root_witness
#print axioms Ford.C13.iface_rule_specific
#print axioms Ford.C13.iface_rule_unmatched
#print axioms Ford.C13.iface_rule_impl_partial
#print axioms Ford.C13.iface_rule_impl_hidden
#print axioms Ford.C13.iface_specific_linked
#print axioms Ford.C13.iface_specific_hidden
#print axioms Ford.C13.iface_links_sound
#print axioms Ford.C13.iface_edge_drawn
#print axioms Ford.C13.iface_impl_witness
#print axioms Ford.C13.ctor_links_both_directions
#print axioms Ford.C13.ctor_slots_match_model
#print axioms Ford.C13.ctor_classes_cover
#print axioms Ford.C13.registration_partial
#print axioms Ford.C13.registration_covers_kinds
#print axioms Ford.C13.registration_witness
#print axioms Ford.C13.ctor_slot_linked
#print axioms Ford.C13.ctor_links_only_slots
#print axioms Ford.C13.usedBy_every_unit
#print axioms Ford.C13.call_slots_exact
#print axioms Ford.C13.ctor_one_direction_witness
#print axioms Ford.C13.table_shows_first_hop
#print axioms Ford.C13.svg_within_limits
#print axioms Ford.C13.shown_if_fits
#print axioms Ford.C13.table_rows_partial
#print axioms Ford.C13.table_rows_fixed
#print axioms Ford.C13.hop_edges_oriented
#print axioms Ford.C13.table_rows_witness
#print axioms Ford.C13.edges_sound
#print axioms Ford.C13.edges_complete
#print axioms Ford.C13.root_edges_drawn
#print axioms Ford.C13.extends_and_contains_both_drawn
#print axioms Ford.C13.uses_and_ancestor_both_drawn
#print axioms Ford.C13.comp_label_exact
#print axioms Ford.C13.comp_label_ordered
#print axioms Ford.C13.comp_one_edge_per_type
#print axioms Ford.C13.comp_label_inverse
#print axioms Ford.C13.comp_edge_labelled
#print axioms Ford.C13.proc_label_injective
#print axioms Ford.C13.proc_label_shows_parent
#print axioms Ford.C13.proc_label_shows_name
#print axioms Ford.C13.proc_label_plain_partial
#print axioms Ford.C13.proc_label_ambiguous_witness
#print axioms Ford.C13.table_root_span_partial
#print axioms Ford.C13.table_root_span_short
#print axioms Ford.C13.table_root_span_fixed
#print axioms Ford.C13.table_root_span_witness
