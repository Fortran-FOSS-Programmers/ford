import FordModel.Props.C11
#print axioms Ford.C11.documented_component_kinds_known
#print axioms Ford.C11.documented_item_kinds_known
#print axioms Ford.C11.documented_synonyms_agree
#print axioms Ford.C11.project_search_order
#print axioms Ford.C11.children_search_order
#print axioms Ford.C11.getDir_overrides_modelled
#print axioms Ford.C11.project_file_converted_at_base_url
#print axioms Ford.C11.conversion_sites_modelled
#print axioms Ford.C11.lookup_order_partial
#print axioms Ford.C11.lookup_order_bare
#print axioms Ford.C11.own_contents_win
#print axioms Ford.C11.parent_contents_win
#print axioms Ford.C11.lookup_ignores_entity_classes
#print axioms Ford.C11.parent_contents_win_for_every_parent_class
#print axioms Ford.C11.qualifier_honoured
#print axioms Ford.C11.item_qualifier_honoured
#print axioms Ford.C11.linked_entity_is_listed_and_named
#print axioms Ford.C11.absent_is_text
#print axioms Ford.C11.absent_never_links
#print axioms Ford.C11.hidden_is_never_linked
#print axioms Ford.C11.lookup_case_insensitive
#print axioms Ford.C11.link_pattern_modelled
#print axioms Ford.C11.link_pattern_separators_safe
#print axioms Ford.C11.word_class_covers_letters_digits_underscore
#print axioms Ford.C11.documented_reference_recognised
#print axioms Ford.C11.accepted_name_recognised
#print axioms Ford.C11.references_of_a_text_recognised
#print axioms Ford.C11.text_references_reach_lookup
#print axioms Ford.C11.reference_in_running_text
#print axioms Ford.C11.absent_reference_in_text_is_plain_name
#print axioms Ford.C11.text_without_brackets_unchanged
#print axioms Ford.C11.digit_leading_names_example
#print axioms Ford.C11.file_name_outside_pattern_witness
#print axioms Ford.C11.warnings_do_not_change_the_rendering
#print axioms Ford.C11.plain_text_is_always_warned
#print axioms Ford.C11.not_found_warning_only_for_plain_text
#print axioms Ford.C11.link_warned_only_on_fallback
#print axioms Ford.C11.warning_quotes_reference_as_written
#print axioms Ford.C11.absent_is_text_with_warning
#print axioms Ford.C11.text_warnings_in_order
#print axioms Ford.C11.repeated_absent_reference_warned_each_time
#print axioms Ford.C11.run_warnings_have_no_memory
#print axioms Ford.C11.warning_says_where
#print axioms Ford.C11.link_pattern_position
#print axioms Ford.C11.code_spans_stay_verbatim
#print axioms Ford.C11.references_in_code_spans_not_warned
#print axioms Ford.C11.url_two_segments
#print axioms Ford.C11.url_correct_from_every_entity_page
#print axioms Ford.C11.url_correct_from_given_path
#print axioms Ford.C11.url_correct_from_every_written_entity_page
#print axioms Ford.C11.url_correct_from_page_below_base
#print axioms Ford.C11.relpath_roundtrip
#print axioms Ford.C11.context_without_url_witness
#print axioms Ford.C11.context_with_url_example
#print axioms Ford.C11.target_without_url_witness
#print axioms Ford.C11.constructor_qualifier_witness
#print axioms Ford.C11.impossible_item_kind_witness
#print axioms Ford.C11.variable_qualifier_witness
#print axioms Ford.C11.static_page_with_project_url_witness
#print axioms Ford.C11.same_file_unit_wins_example
#print axioms Ford.C11.warning_messages_example
#print axioms Ford.C11.code_span_order_example
