import FordModel.Props.C18
#print axioms Ford.C18.escape_text
#print axioms Ford.C18.escape_text_context
#print axioms Ford.C18.escape_inert
#print axioms Ford.C18.escape_no_special
#print axioms Ford.C18.site_escaped_inert
#print axioms Ford.C18.site_unescaped_witness
#print axioms Ford.C18.lt_nonletter_is_text
#print axioms Ford.C18.sites_initial_escaped
#print axioms Ford.C18.sites_initial_present
#print axioms Ford.C18.sites_unescaped_known_partial
#print axioms Ford.C18.cut_lossless
#print axioms Ford.C18.mask_independent_of_literals
#print axioms Ford.C18.lower_option_keeps_literals
#print axioms Ford.C18.lower_option_code_only
#print axioms Ford.C18.lower_before_cut_loses_case
#print axioms Ford.C18.lower_before_cut_witness
#print axioms Ford.C18.tmpl_double_cancels
#print axioms Ford.C18.tmpl_undoubled_witness
#print axioms Ford.C18.literal_found_whole
#print axioms Ford.C18.literal_adjacent_witness
#print axioms Ford.C18.nbsp_display
#print axioms Ford.C18.comma_blank_only
#print axioms Ford.C18.name_dim_lossless
#print axioms Ford.C18.kind_shown_partial
#print axioms Ford.C18.kind_cut_witness
#print axioms Ford.C18.full_type_text
#print axioms Ford.C18.statement_attrs_displayed
#print axioms Ford.C18.statement_intent_displayed
#print axioms Ford.C18.attach_first_declaration
#print axioms Ford.C18.interface_dummy_attribute_raises_witness
#print axioms Ford.C18.proc_args_keep_statement_attribs_partial
#print axioms Ford.C18.func_cleanup_order_known
#print axioms Ford.C18.func_args_keep_statement_attribs_partial
#print axioms Ford.C18.result_keeps_statement_attribs_partial
#print axioms Ford.C18.result_matched_first_loses_attribs_witness
#print axioms Ford.C18.args_matched_first_lose_attribs_witness
#print axioms Ford.C18.prefix_table_sound
#print axioms Ford.C18.prefix_table_complete
#print axioms Ford.C18.prefixes_recognised_substring
#print axioms Ford.C18.prefixes_recognised_words
#print axioms Ford.C18.prefixes_recognised_partial
#print axioms Ford.C18.prefix_order_matters_witness
#print axioms Ford.C18.prefix_inside_type_spec_witness
#print axioms Ford.C18.entity_name_is_leading_text
#print axioms Ford.C18.entity_name_plain
#print axioms Ford.C18.split_by_kind_witness
#print axioms Ford.C18.decl_attr_rules_sound
#print axioms Ford.C18.decl_attrs_kept
#print axioms Ford.C18.decl_optional_parameter
#print axioms Ford.C18.decl_intent_permission
#print axioms Ford.C18.old_style_declaration_same_entities
#print axioms Ford.C18.line_vars_example
#print axioms Ford.C18.shape_statement_shown
#print axioms Ford.C18.shape_statement_length_witness
#print axioms Ford.C18.heading_argument_list
#print axioms Ford.C18.heading_argument_list_blanks
#print axioms Ford.C18.heading_args_not_sorted
#print axioms Ford.C18.heading_args_any_sort_option
#print axioms Ford.C18.sort_keeps_unlisted
#print axioms Ford.C18.sort_same_rows
#print axioms Ford.C18.sort_src_identity
#print axioms Ford.C18.sort_options_known
#print axioms Ford.C18.sorted_heading_args_witness
#print axioms Ford.C18.char_selector_chain_as_modelled
#print axioms Ford.C18.char_selector_positional
#print axioms Ford.C18.char_selector_keywords
#print axioms Ford.C18.char_selector_unguarded_witness
#print axioms Ford.C18.proc_line_as_modelled
#print axioms Ford.C18.heading_bind_name_inert
#print axioms Ford.C18.heading_result_clause
#print axioms Ford.C18.heading_result_case_witness
#print axioms Ford.C18.heading_shows_statement_arguments
