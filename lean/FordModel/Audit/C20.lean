import FordModel.Props.C20
#print axioms Ford.C20.contained
#print axioms Ford.C20.contained_many
#print axioms Ford.C20.rejected_named
#print axioms Ford.C20.registered_files
#print axioms Ford.C20.never_aborts
#print axioms Ford.C20.abort_without_dbg_witness
#print axioms Ford.C20.project_contained
#print axioms Ford.C20.truncated_rejected
#print axioms Ford.C20.unclosed_unit_rejected
#print axioms Ford.C20.stray_end_rejected
#print axioms Ford.C20.undecodable_and_reader_errors_rejected
#print axioms Ford.C20.reader_error_contained
#print axioms Ford.C20.reader_stops_at_eof
#print axioms Ford.C20.reader_eof_probes
#print axioms Ford.C20.reader_truncation_prefix
#print axioms Ford.C20.truncated_source_contained
#print axioms Ford.C20.parse_reserves_nothing
#print axioms Ford.C20.names_contained
#print axioms Ford.C20.idents_contained
#print axioms Ford.C20.reservation_would_leak_witness
#print axioms Ford.C20.recursion_depth_bounded
#print axioms Ford.C20.matcher_walks_paths
#print axioms Ford.C20.functional_body_single_way
#print axioms Ford.C20.functional_loop_linear
#print axioms Ford.C20.statement_patterns_loops_functional_partial
#print axioms Ford.C20.statement_patterns_loops_linear_partial
#print axioms Ford.C20.call_chain_backtracking_witness
#print axioms Ford.C20.ambiguous_list_loop_witness
#print axioms Ford.C20.reported_not_skipped_witness
#print axioms Ford.C20.junk_not_detected_witness
#print axioms Ford.C20.registered_clean_partial
#print axioms Ford.C20.repaired_reported_implies_skipped
#print axioms Ford.C20.reports_only_grow
#print axioms Ford.C20.escaped_text_shown_verbatim_partial
#print axioms Ford.C20.warn_message_is_inert
#print axioms Ford.C20.warn_shows_message_partial
#print axioms Ford.C20.handler_warns_and_continues
#print axioms Ford.C20.every_rejection_rule_names_the_file
#print axioms Ford.C20.rejected_file_named_on_terminal_partial
#print axioms Ford.C20.verbatim_reader_message_witness
#print axioms Ford.C20.warn_probes
#print axioms Ford.C20.progress_display_survives_partial
#print axioms Ford.C20.progress_probes
#print axioms Ford.C20.unescaped_message_witness
#print axioms Ford.C20.progress_markup_abort_witness
#print axioms Ford.C20.escape_quirks_witness
#print axioms Ford.C20.non_integer_enumerator_raises
#print axioms Ford.C20.enumerator_values_complete
#print axioms Ford.C20.non_integer_enumerator_contained
#print axioms Ford.C20.registered_file_has_all_enumerator_values
#print axioms Ford.C20.enum_probes
#print axioms Ford.C20.enum_errors_surface_inside_the_handler
#print axioms Ford.C20.rejected_files_leave_no_process_state
#print axioms Ford.C20.enumerator_value_quirks_witness
#print axioms Ford.C20.include_failure_rejects_the_including_file
#print axioms Ford.C20.self_include_ends_in_recursion_error
#print axioms Ford.C20.include_failure_contained
#print axioms Ford.C20.file_without_include_unchanged
#print axioms Ford.C20.include_searched_beside_the_includer_first
#print axioms Ford.C20.include_error_names_the_include_file_witness
