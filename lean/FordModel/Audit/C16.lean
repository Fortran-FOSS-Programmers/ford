import FordModel.Props.C16
#print axioms Ford.C16.roundtrip_exact
#print axioms Ford.C16.roundtrip_document
#print axioms Ford.C16.roundtrip
#print axioms Ford.C16.strip_first_segment
#print axioms Ford.C16.export_list_pointwise
#print axioms Ford.C16.export_dict_pointwise
#print axioms Ford.C16.export_module_names
#print axioms Ford.C16.export_attribute_exact
#print axioms Ford.C16.export_dict_keys
#print axioms Ford.C16.pub_keys_exported
#print axioms Ford.C16.external_items_not_reexported
#print axioms Ford.C16.export_header_own
#print axioms Ford.C16.remote_entity_url_below_written_url
#print axioms Ford.C16.remote_index_url
#print axioms Ford.C16.remote_trailing_slash_irrelevant
#print axioms Ford.C16.roundtrip_remote
#print axioms Ford.C16.remote_base_needs_slash_witness
#print axioms Ford.C16.total_on_valid_export
#print axioms Ford.C16.total_on_valid_export_partial
#print axioms Ford.C16.total_on_valid_export_witness
#print axioms Ford.C16.local_first_use
#print axioms Ford.C16.use_falls_back_to_external
#print axioms Ford.C16.find_qualified_local_only
#print axioms Ford.C16.find_unqualified_local_first_partial
#print axioms Ford.C16.find_same_kind_local_first
#print axioms Ford.C16.find_unqualified_local_first_witness
#print axioms Ford.C16.bad_description_costs_only_links
#print axioms Ford.C16.bad_description_costs_only_links_partial
#print axioms Ford.C16.bad_description_costs_only_links_witness
#print axioms Ford.C16.wrong_shape_aborts_witness
#print axioms Ford.C16.handler_exits_table
#print axioms Ford.C16.handler_never_leaves_loop
#print axioms Ford.C16.unusable_project_costs_only_its_own_links
#print axioms Ford.C16.every_usable_project_loaded
#print axioms Ford.C16.roundtrip_among_several
#print axioms Ford.C16.single_project_load
#print axioms Ford.C16.leaving_the_loop_loses_later_projects_witness
#print axioms Ford.C16.graph_node_of_external_entity_carries_its_url
#print axioms Ford.C16.graph_node_roundtrip
#print axioms Ford.C16.graph_node_without_url_is_not_a_link_partial
#print axioms Ford.C16.graph_node_without_url_is_not_a_link_witness
#print axioms Ford.C16.scheme_test_breaks_local_externals_witness
#print axioms Ford.C16.reference_to_any_exported_module_resolves
#print axioms Ford.C16.reexport_filter_ignores_origin
#print axioms Ford.C16.external_entity_passes_through_prelude
#print axioms Ford.C16.reexport_dropping_external_entities_witness
#print axioms Ford.C16.child_lookup_exact
#print axioms Ford.C16.child_reference_reaches_entity
#print axioms Ford.C16.qualified_child_lookup_exact
#print axioms Ford.C16.qualified_child_reference_reaches_entity
#print axioms Ford.C16.child_lists_exported_and_visited
#print axioms Ford.C16.module_without_its_plain_lists_loses_child_references_witness
#print axioms Ford.C16.second_strip_loses_directory
#print axioms Ford.C16.strip_fixed_point
#print axioms Ford.C16.converting_the_same_dictionary_twice_witness
#print axioms Ford.C16.textual_link_leads_to_imported_url_partial
#print axioms Ford.C16.current_path_is_sibling_of_page_directories
#print axioms Ford.C16.remote_link_href_verbatim
#print axioms Ford.C16.tree_processor_leaves_foreign_href
#print axioms Ford.C16.textual_link_exclusions_witness
#print axioms Ford.C16.find_skips_bindings
#print axioms Ford.C16.bare_name_never_reaches_a_skipped_class
#print axioms Ford.C16.bare_name_never_reaches_a_binding
#print axioms Ford.C16.binding_found_by_bare_name_witness
#print axioms Ford.C16.reference_through_project_find_reaches_entity
