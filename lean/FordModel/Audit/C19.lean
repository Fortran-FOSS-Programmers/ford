import FordModel.Props.C19
#print axioms Ford.C19.norm_under
#print axioms Ford.C19.norm_under_budget
#print axioms Ford.C19.dirs_normal
#print axioms Ford.C19.ident_safe
#print axioms Ford.C19.fixed_names_safe
#print axioms Ford.C19.copy_dereferences_links
#print axioms Ford.C19.copy_creates_no_link
#print axioms Ford.C19.kept_links_escape_witness
#print axioms Ford.C19.touch_only_own_copies
#print axioms Ford.C19.guard_iff_strictly_below
#print axioms Ford.C19.guarded_copy_below
#print axioms Ford.C19.string_prefix_guard_unsound_witness
#print axioms Ford.C19.confined
#print axioms Ford.C19.confined_partial
#print axioms Ford.C19.copy_subdir_escape_witness
#print axioms Ford.C19.src_copy_confined
#print axioms Ford.C19.relpath_below
#print axioms Ford.C19.subpage_guard_iff_strictly_inside
#print axioms Ford.C19.page_locations_inside
#print axioms Ford.C19.page_locations_inside_partial
#print axioms Ford.C19.confined_from_input
#print axioms Ford.C19.confined_from_input_partial
#print axioms Ford.C19.crash_closed_from_input
#print axioms Ford.C19.any_order_closed_from_input
#print axioms Ford.C19.reordered_prefix_closed_from_input
#print axioms Ford.C19.ordered_subpage_escape_witness
#print axioms Ford.C19.wipe_leaves_no_link
#print axioms Ford.C19.physical_eq_lexical
#print axioms Ford.C19.confined_physical_partial
#print axioms Ford.C19.confined_physical_from_input
#print axioms Ford.C19.entrywise_wipe_escape_witness
#print axioms Ford.C19.failed_wipe_escape_witness
#print axioms Ford.C19.graphdir_stale_link_witness
#print axioms Ford.C19.crash_closed
#print axioms Ford.C19.prefix_closed
#print axioms Ford.C19.refusal_iff
#print axioms Ford.C19.refusal_no_ops
#print axioms Ford.C19.inputs_read_only
#print axioms Ford.C19.sources_untouched
#print axioms Ford.C19.fnmatch_plain_iff_eq
#print axioms Ford.C19.exclude_plain_iff_prefix
#print axioms Ford.C19.output_excluded_partial
#print axioms Ford.C19.output_exclude_glob_witness
#print axioms Ford.C19.output_excluded
#print axioms Ford.C19.output_excluded_only
#print axioms Ford.C19.refusal_any_name
#print axioms Ford.C19.refusal_glob_plain
#print axioms Ford.C19.refusal_glob_unsound_witness
