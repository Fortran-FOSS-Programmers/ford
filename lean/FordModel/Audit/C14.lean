import FordModel.Props.C14
#print axioms Ford.C14.model_constants_match_source
#print axioms Ford.C14.convertToFree_length
#print axioms Ford.C14.convertToFree_simulation
#print axioms Ford.C14.held_back_lines_transparent
#print axioms Ford.C14.blank_and_col7_comment_lines_held_back_repaired
#print axioms Ford.C14.continuation_any_char
#print axioms Ford.C14.label_leads_statement
#print axioms Ford.C14.comment_line_any_style
#print axioms Ford.C14.omp_sentinel_exact
#print axioms Ford.C14.col72_limit_on_partial
#print axioms Ford.C14.sequence_field_never_doc_repaired
#print axioms Ford.C14.col72_limit_off
#print axioms Ford.C14.continuation_mark_visible_partial
#print axioms Ford.C14.inline_comment_on_continued_line_witness
#print axioms Ford.C14.col7_comment_between_witness
#print axioms Ford.C14.sequence_field_bang_witness
#print axioms Ford.C14.doc_past_col72_witness
#print axioms Ford.C14.inline_comment_on_continued_line_witness_repaired
#print axioms Ford.C14.col7_comment_between_repaired
#print axioms Ford.C14.sequence_field_bang_repaired
#print axioms Ford.C14.doc_past_col72_witness_repaired
#print axioms Ford.C14.comment_line_doc_mark_any_style
#print axioms Ford.C14.include_tree_same_form_and_limit
#print axioms Ford.C14.fixed_extension_selects_fixed_form
#print axioms Ford.C14.default_fixed_extensions_select_fixed_form
#print axioms Ford.C14.fixed_file_reader_config
#print axioms Ford.C14.reader_limit_is_the_setting
#print axioms Ford.C14.preprocess_off_only_drops_the_preprocessor
#print axioms Ford.C14.included_file_inherits_form_and_limit
#print axioms Ford.C14.default_fixed_extensions_keep_the_limit_setting
#print axioms Ford.C14.reader_config_probe_matches_model
#print axioms Ford.C14.project_fixed_file_same_as_free_equivalent
#print axioms Ford.C14.fixed_statement_reads_as_one_logical_line
#print axioms Ford.C14.comment_line_between_is_transparent
#print axioms Ford.C14.continuation_line_code_part
