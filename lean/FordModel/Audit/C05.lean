import FordModel.Props.C05
#print axioms Ford.C05.prune_probe_matches_model
#print axioms Ford.C05.source_shape_pinned
#print axioms Ford.C05.set_display_probe_matches_model
#print axioms Ford.C05.should_display_probe_matches_model
#print axioms Ford.C05.str_probe_links_only_visible
#print axioms Ford.C05.source_shape_pinned_round3
#print axioms Ford.C05.prune_lists_cover
#print axioms Ford.C05.internals_lists_cover
#print axioms Ford.C05.prune_recursion_cover
#print axioms Ford.C05.blockdata_prune_cover
#print axioms Ford.C05.enums_list_unfiltered_witness
#print axioms Ford.C05.namelists_commons_unfiltered_witness
#print axioms Ford.C05.setDisplay_denotes_inForce
#print axioms Ford.C05.site_eq_selected_partial_gaps
#print axioms Ford.C05.outside_findings_trivial
#print axioms Ford.C05.site_eq_selected
#print axioms Ford.C05.site_eq_selected_partial
#print axioms Ford.C05.no_leak_partial
#print axioms Ford.C05.complete_partial
#print axioms Ford.C05.inherited_members_well_formed
#print axioms Ford.C05.inherit_type_members
#print axioms Ford.C05.inherited_member_shown_iff
#print axioms Ford.C05.binding_name_links_partial
#print axioms Ford.C05.internals_off_ignores_display
#print axioms Ford.C05.pages_exact_partial
#print axioms Ford.C05.bound_declaration_probe_matches_model
#print axioms Ford.C05.binding_name_links
#print axioms Ford.C05.binding_name_links_point_at_selected_pages
#print axioms Ford.C05.binding_name_link_unguarded_witness
#print axioms Ford.C05.graph_node_probe_links_only_shown
#print axioms Ford.C05.graph_node_urls
#print axioms Ford.C05.graph_node_urls_point_at_selected_pages
#print axioms Ford.C05.graph_node_gate_witness
#print axioms Ford.C05.extends_links_partial
#print axioms Ford.C05.site_eq_selected_inherited
#print axioms Ford.C05.page_shows_within_site
#print axioms Ford.C05.per_page_no_leak_partial
#print axioms Ford.C05.namelist_pages_complete
#print axioms Ford.C05.pages_are_linkable
#print axioms Ford.C05.link_lookup_pinned
#print axioms Ford.C05.convert_link_probe_pinned
#print axioms Ford.C05.url_probe_pinned
#print axioms Ford.C05.link_lookup_lists_are_tree_lists
#print axioms Ford.C05.link_lookup_project_lists_are_page_lists
#print axioms Ford.C05.doc_links_point_at_written_pages_partial
#print axioms Ford.C05.doc_links_point_at_selected_pages_partial
#print axioms Ford.C05.doc_links_point_at_selected_pages
#print axioms Ford.C05.enum_never_filtered_witness
#print axioms Ford.C05.namelist_never_filtered_witness
#print axioms Ford.C05.module_namelist_not_described_witness
#print axioms Ford.C05.inherited_binding_links_to_unselected_type_witness
#print axioms Ford.C05.blockdata_extends_link_witness
#print axioms Ford.C05.common_never_filtered_witness
#print axioms Ford.C05.link_via_binding_witness
#print axioms Ford.C05.link_in_referenced_procedure_witness
