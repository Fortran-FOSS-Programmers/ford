import FordModel.Props.C17
#print axioms Ford.C17.listing_sorted
#print axioms Ford.C17.listing_order_total
#print axioms Ford.C17.order_documented
#print axioms Ford.C17.order_complete
#print axioms Ford.C17.nav_order
#print axioms Ford.C17.missing_ordered_isolated
#print axioms Ford.C17.missing_ordered_isolated_partial
#print axioms Ford.C17.missing_ordered_witness
#print axioms Ford.C17.mirror_partial
#print axioms Ford.C17.mirror_subtree_partial
#print axioms Ford.C17.mirror_repaired_partial
#print axioms Ford.C17.bad_page_isolated_partial
#print axioms Ford.C17.untitled_expects_nothing
#print axioms Ford.C17.same_page_same_file
#print axioms Ford.C17.expected_pages_distinct
#print axioms Ford.C17.expected_subtree_distinct
#print axioms Ford.C17.expected_pages_are_titled_files
#print axioms Ford.C17.pages_distinct_partial
#print axioms Ford.C17.pages_distinct_subtree_partial
#print axioms Ford.C17.pages_distinct_any_encoding_partial
#print axioms Ford.C17.pages_bijection_partial
#print axioms Ford.C17.dotted_stem_witness
#print axioms Ford.C17.dotted_stem_collision_witness
#print axioms Ford.C17.copy_subdir_grandparent_witness
#print axioms Ford.C17.relpath_roundtrip
#print axioms Ford.C17.nav_link_correct
#print axioms Ford.C17.alias_link_correct
#print axioms Ford.C17.alias_page_is_page_dir
#print axioms Ford.C17.relative_link_mirrored
#print axioms Ford.C17.outside_link_untouched
#print axioms Ford.C17.alias_media_is_media_copy
#print axioms Ford.C17.alias_url_is_output_root
#print axioms Ford.C17.aliases_rooted_at_base_url
#print axioms Ford.C17.media_link_reaches_copied_file
#print axioms Ford.C17.top_nav_link_correct
#print axioms Ford.C17.recursive_call_forwards
#print axioms Ford.C17.page_reads_forward
#print axioms Ford.C17.main_passes_project_encoding
#print axioms Ford.C17.encoding_reaches_every_depth
#print axioms Ford.C17.mirror_any_encoding_partial
#print axioms Ford.C17.project_encoding_loses_nothing
#print axioms Ford.C17.encoding_not_forwarded_witness
#print axioms Ford.C17.alias_run_every_line
#print axioms Ford.C17.alias_indentation_irrelevant
#print axioms Ford.C17.alias_substituted_anywhere
#print axioms Ford.C17.alias_line_is_link_href
#print axioms Ford.C17.alias_probe_agrees
#print axioms Ford.C17.hidden_and_backup_names_skipped
#print axioms Ford.C17.guard_keeps_directory_entries
#print axioms Ford.C17.guard_rejects_escape_witness
#print axioms Ford.C17.symlinks_transparent_probe
#print axioms Ford.C17.symlink_probe_mirrors
#print axioms Ford.C17.page_file_written
#print axioms Ford.C17.other_files_copied_next_to_pages
#print axioms Ford.C17.copy_subdir_every_item_attempted
#print axioms Ford.C17.copy_listing_rooted
#print axioms Ford.C17.built_pages_copy_every_listed_directory
#print axioms Ford.C17.project_run_copies_every_listed_directory
#print axioms Ford.C17.copy_loop_copies_whole_directory_partial
#print axioms Ford.C17.built_page_copies_whole_directory_partial
#print axioms Ford.C17.copy_into_existing_directory_witness
#print axioms Ford.C17.copy_subdir_file_option_first
#print axioms Ford.C17.main_passes_project_copy_subdir
#print axioms Ford.C17.project_copy_subdir_reaches_every_depth
#print axioms Ford.C17.copy_subdir_not_forwarded_witness
#print axioms Ford.C17.copy_probe_agrees
#print axioms Ford.C17.copy_probe_assets_next_to_pages
#print axioms Ford.C17.copy_probe_nothing_else
