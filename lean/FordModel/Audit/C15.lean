import FordModel.Props.C15
#print axioms Ford.C15.schema_supported
#print axioms Ford.C15.schema_separators
#print axioms Ford.C15.cli_table_sound
#print axioms Ford.C15.cli_table_dests_distinct
#print axioms Ford.C15.metadata_block_read_back
#print axioms Ford.C15.formats_agree_md_toml
#print axioms Ford.C15.formats_agree_filetypes
#print axioms Ford.C15.formats_agree_block
#print axioms Ford.C15.precedence
#print axioms Ford.C15.cli_namespace_is_given
#print axioms Ford.C15.precedence_generated_cli
#print axioms Ford.C15.absent_cli_keeps_file
#print axioms Ford.C15.cli_default_overrides_file_witness
#print axioms Ford.C15.file_over_defaults
#print axioms Ford.C15.extra_mods_entry_effective
#print axioms Ford.C15.extra_mods_entry_effective_partial
#print axioms Ford.C15.extra_mods_intrinsic_wins_witness
#print axioms Ford.C15.double_conversion_harmless
#print axioms Ford.C15.illtyped_names_option_partial
#print axioms Ford.C15.illtyped_int_unnamed_witness
#print axioms Ford.C15.unknown_key_reported_md
#print axioms Ford.C15.unknown_key_toml_aborts_witness
#print axioms Ford.C15.config_stored_raw_witness
#print axioms Ford.C15.config_not_normalised_witness
#print axioms Ford.C15.toml_illtyped_accepted_witness
#print axioms Ford.C15.path_absolute_ignores_dir
#print axioms Ford.C15.path_relative_to_project_dir
#print axioms Ford.C15.path_normal_form
#print axioms Ford.C15.path_idempotent
#print axioms Ford.C15.sentinel_tests_sound
#print axioms Ford.C15.written_path_relative_to_project_dir
#print axioms Ford.C15.written_path_list_relative_to_project_dir
#print axioms Ford.C15.written_path_relative_generated
#print axioms Ford.C15.coerced_sentinel_swallows_written_witness
#print axioms Ford.C15.toml_lookup_sound
#print axioms Ford.C15.manifest_is_extra_ford_of_fpm_toml
#print axioms Ford.C15.source_is_manifest_next_to_project_file
#print axioms Ford.C15.effective_same_from_every_working_directory_partial
#print axioms Ford.C15.include_base_dir_depends_on_cwd_witness
#print axioms Ford.C15.include_only_where_a_value_opens_with_an_include
#print axioms Ford.C15.manifest_elsewhere_is_ignored
#print axioms Ford.C15.source_is_manifest_table_or_metadata
#print axioms Ford.C15.absolute_project_file_fixes_project_dir
#print axioms Ford.C15.bare_project_file_is_in_working_directory
#print axioms Ford.C15.cwd_lookup_depends_on_cwd_witness
