import FordModel.Props.C01
#print axioms Ford.C01.structure_roundtrip
#print axioms Ford.C01.unit_then_rest
#print axioms Ford.C01.stray_end_rejects
#print axioms Ford.C01.cascade_as_modelled
#print axioms Ford.C01.hasattr_as_modelled
#print axioms Ford.C01.canHaveContains_as_modelled
#print axioms Ford.C01.typespec_regexes_as_modelled
#print axioms Ford.C01.getParens_stops_as_modelled
#print axioms Ford.C01.kind_spellings_agree
#print axioms Ford.C01.kind_keyword_optional
#print axioms Ford.C01.character_length_spellings_agree
#print axioms Ford.C01.character_length_kind_spellings_agree
#print axioms Ford.C01.mask_literals_in_order
#print axioms Ford.C01.restore_placeholders
#print axioms Ford.C01.mask_restore_roundtrip
#print axioms Ford.C01.nbsp_keeps_quotes
#print axioms Ford.C01.mask_source_as_modelled
#print axioms Ford.C01.double_types_spelling
#print axioms Ford.C01.declaration_entities_exact
#print axioms Ford.C01.attributes_reach_exactly_the_named_entities
#print axioms Ford.C01.unnamed_entity_is_as_declared
#print axioms Ford.C01.attribute_statement_equals_attribute_on_declaration
#print axioms Ford.C01.one_declaration_or_several
#print axioms Ford.C01.parameter_item_without_value_rejects
#print axioms Ford.C01.attribs_source_as_modelled
#print axioms Ford.C01.attr_key_repair_invisible_to_variables
#print axioms Ford.C01.derived_type_spec_spellings
#print axioms Ford.C01.type_definition_every_identifier
#print axioms Ford.C01.type_definition_spellings_agree
#print axioms Ford.C01.type_definition_attribute_list_as_written
#print axioms Ford.C01.extends_attribute_names_the_parent
#print axioms Ford.C01.access_attribute_sets_the_permission
#print axioms Ford.C01.other_attribute_is_kept_as_written
#print axioms Ford.C01.type_definition_with_parameters_partial
#print axioms Ford.C01.select_type_guards_declare_nothing
#print axioms Ford.C01.derived_type_declaration_is_a_declaration
#print axioms Ford.C01.typehead_source_as_modelled
#print axioms Ford.C01.entity_keeps_its_declared_name
#print axioms Ford.C01.character_length_after_the_name
#print axioms Ford.C01.dummy_arguments_take_their_declarations
#print axioms Ford.C01.entity_source_as_modelled
#print axioms Ford.C01.result_clause_found_behind_anything
#print axioms Ford.C01.result_clause_found_before_bind_partial
#print axioms Ford.C01.bind_text_behind_anything_partial
#print axioms Ford.C01.bind_before_result_witness
#print axioms Ford.C01.function_result_is_the_declared_variable
#print axioms Ford.C01.function_head_as_modelled
#print axioms Ford.C01.every_source_file_once
#print axioms Ford.C01.source_file_selected_iff
#print axioms Ford.C01.overlapping_source_directories_select_the_same_files
