import FordModel.Props.C10
#print axioms Ford.C10.table_ok
#print axioms Ford.C10.base_injective_on_legal_names
#print axioms Ford.C10.suffix_fresh
#print axioms Ford.C10.ident_stable
#print axioms Ford.C10.stems_injective
#print axioms Ford.C10.stems_injective_partial
#print axioms Ford.C10.fix_conservative
#print axioms Ford.C10.stems_case_witness
#print axioms Ford.C10.identifiers_legal
#print axioms Ford.C10.spellings_legal
#print axioms Ford.C10.spellings_distinct
#print axioms Ford.C10.stem_no_slash
#print axioms Ford.C10.outfile_injective
#print axioms Ford.C10.url_injective
#print axioms Ford.C10.pages_distinct
#print axioms Ford.C10.pages_distinct_partial
#print axioms Ford.C10.entity_dirs_disjoint
#print axioms Ford.C10.borrowers_alone
#print axioms Ford.C10.generic_children_own_ident
#print axioms Ford.C10.anchor_injective
#print axioms Ford.C10.anchors_distinct
#print axioms Ford.C10.quote_injective
#print axioms Ford.C10.src_copy_partial
#print axioms Ford.C10.src_copy_witness
#print axioms Ford.C10.source_file_is_defining_file
#print axioms Ford.C10.file_is_own_source
#print axioms Ford.C10.children_share_source_file
#print axioms Ford.C10.hierarchy_extends_parent
#print axioms Ford.C10.source_link_serves_definer_partial
#print axioms Ford.C10.source_link_witness
