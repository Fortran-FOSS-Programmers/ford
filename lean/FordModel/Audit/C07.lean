import FordModel.Props.C07
#print axioms Ford.C07.resolution_correct
#print axioms Ford.C07.no_sibling_leak
#print axioms Ford.C07.exports_are_frame
#print axioms Ford.C07.inner_shadows_host
#print axioms Ford.C07.unresolved_stays_text
#print axioms Ford.C07.case_insensitive
#print axioms Ford.C07.use_association_correct
#print axioms Ford.C07.use_import_sound
#print axioms Ford.C07.renamed_original_hidden
#print axioms Ford.C07.rename_keeps_own_entity_witness
#print axioms Ford.C07.no_sibling_leak_partial
#print axioms Ford.C07.inner_shadows_host_partial
#print axioms Ford.C07.no_sibling_leak_witness
#print axioms Ford.C07.child_leak_witness
#print axioms Ford.C07.inner_shadows_host_witness
#print axioms Ford.C07.proto_before_absint_witness
#print axioms Ford.C07.block_local_invisible
#print axioms Ford.C07.resolution_correct_blocks
#print axioms Ford.C07.block_local_invisible_partial
#print axioms Ford.C07.block_use_leak_witness
#print axioms Ford.C07.block_type_leak_witness
#print axioms Ford.C07.local_entity_shadows_host
#print axioms Ford.C07.dummy_procedure_shadows_host_witness
#print axioms Ford.C07.deferred_binding_stays_text
#print axioms Ford.C07.binding_tables
#print axioms Ford.C07.generic_specifics_correct
#print axioms Ford.C07.generic_specifics_partial
#print axioms Ford.C07.generic_specifics_witness
#print axioms Ford.C07.submodule_resolution_correct
#print axioms Ford.C07.submodule_local_shadows_partial
#print axioms Ford.C07.submodule_local_shadowed_witness
#print axioms Ford.C07.submodule_parent_by_name_witness
#print axioms Ford.C07.projects_without_submodules
#print axioms Ford.C07.recursion_order_generated
#print axioms Ford.C07.host_tables_generated
#print axioms Ford.C07.used_objects_generated
#print axioms Ford.C07.block_guards_generated
#print axioms Ford.C07.blocks_invisible_generated
#print axioms Ford.C07.bound_procedure_lookup_generated
#print axioms Ford.C07.name_tables_generated
#print axioms Ford.C07.inherited_generic_generated
#print axioms Ford.C07.submodule_lookup_generated
#print axioms Ford.C07.slot_lookups_generated
#print axioms Ford.C07.generic_specifics_private_partial
#print axioms Ford.C07.generic_specifics_inherit_all
#print axioms Ford.C07.generic_specifics_private_witness
#print axioms Ford.C07.private_binding_generated
#print axioms Ford.C07.accessibility_is_fortran
#print axioms Ford.C07.constructor_shares_type_accessibility
#print axioms Ford.C07.private_entities_not_exported
#print axioms Ford.C07.public_entities_exported
#print axioms Ford.C07.reexport_follows_default
#print axioms Ford.C07.exports_are_accessible_frame
#print axioms Ford.C07.constructor_sync_late_witness
#print axioms Ford.C07.access_generated
