import FordModel.Props.C06
#print axioms Ford.C06.tables_sound_partial
#print axioms Ford.C06.tables_complete_partial
#print axioms Ford.C06.use_exact_partial
#print axioms Ford.C06.export_exact_partial
#print axioms Ford.C06.order_independent_partial
#print axioms Ford.C06.private_never_imported
#print axioms Ford.C06.private_never_imported_std_partial
#print axioms Ford.C06.own_export_filter_exact_partial
#print axioms Ford.C06.public_protected_exported
#print axioms Ford.C06.export_filter_is_source_table
#print axioms Ford.C06.only_list_admits
#print axioms Ford.C06.bare_rename_admits_repaired
#print axioms Ford.C06.import_tables_are_kindwise
#print axioms Ford.C06.shared_identifier_imported_in_every_kind
#print axioms Ford.C06.type_and_constructor_imported_together_partial
#print axioms Ford.C06.type_and_constructor_witness
#print axioms Ford.C06.contained_procedures_leave_hosts_alone
#print axioms Ford.C06.use_association_hides_host_partial
#print axioms Ford.C06.nested_use_exact_partial
#print axioms Ford.C06.nested_tables_exact_partial
#print axioms Ford.C06.use_hides_host_witness
#print axioms Ford.C06.rename_without_only_witness
#print axioms Ford.C06.rename_without_only_repaired_witness
#print axioms Ford.C06.empty_only_witness
#print axioms Ford.C06.only_remote_twice_witness
#print axioms Ford.C06.private_imported_witness
#print axioms Ford.C06.protected_over_private_witness
#print axioms Ford.C06.use_binds_project_module_first
#print axioms Ford.C06.use_binds_external_only_without_project_module
#print axioms Ford.C06.bound_uses_name_project_modules
#print axioms Ford.C06.external_stubs_leave_tables_alone
#print axioms Ford.C06.unreached_scope_imports_nothing
#print axioms Ford.C06.every_scope_reached_repaired
#print axioms Ford.C06.abstract_body_use_unbound_witness
#print axioms Ford.C06.generic_body_use_not_a_dependency_witness
#print axioms Ford.C06.binding_scan_is_source_scan
#print axioms Ford.C06.builtin_stubs_never_hide_project_module
#print axioms Ford.C06.project_module_beats_stub_witness
#print axioms Ford.C06.intrinsic_nature_ignored_witness
#print axioms Ford.C06.regex_sources_pinned
#print axioms Ford.C06.external_table_roundtrip_partial
#print axioms Ford.C06.external_table_roundtrip
#print axioms Ford.C06.external_entry_follows_local_name
#print axioms Ford.C06.names_through_external_module_sound_partial
#print axioms Ford.C06.names_through_external_module_complete_partial
#print axioms Ford.C06.external_modules_are_frozen
#print axioms Ford.C06.renamed_reexport_through_external_project_witness
#print axioms Ford.C06.external_tables_are_source_tables
