import FordModel.Props.C12
#print axioms Ford.C12.sorted_spec
#print axioms Ford.C12.sorted_stage_order_irrelevant
#print axioms Ford.C12.graph_nodes_emitted_in_fixed_order
#print axioms Ford.C12.graph_node_sites_all_sorted
#print axioms Ford.C12.deterministic_when_files_sorted
#print axioms Ford.C12.site_deterministic_repaired
#print axioms Ford.C12.tree_site_deterministic_of_sorted
#print axioms Ford.C12.file_order_witness
#print axioms Ford.C12.numbering_order_irrelevant_partial
#print axioms Ford.C12.numbering_two_runs_agree_partial
#print axioms Ford.C12.tree_numbering_two_runs_agree_partial
#print axioms Ford.C12.numbering_stable
#print axioms Ford.C12.numbering_same_key_distinct_numbers
#print axioms Ford.C12.case_variants_witness
#print axioms Ford.C12.numbering_first_come_witness
#print axioms Ford.C12.uses_list_order_irrelevant_when_sorted
#print axioms Ford.C12.uses_list_partial
#print axioms Ford.C12.uses_list_order_witness
#print axioms Ford.C12.stale_output_irrelevant_steps
#print axioms Ford.C12.stale_output_irrelevant
#print axioms Ford.C12.stale_output_irrelevant_plain_file
#print axioms Ford.C12.stale_output_witness
#print axioms Ford.C12.parallel_irrelevant
#print axioms Ford.C12.parallel_branches_same_graphs
#print axioms Ford.C12.parallel_collision_witness
#print axioms Ford.C12.src_copies_order_irrelevant_partial
#print axioms Ford.C12.src_copies_order_witness
#print axioms Ford.C12.include_first_hit_wins
#print axioms Ford.C12.include_resolution_tree_deterministic
#print axioms Ford.C12.include_resolution_perm_partial
#print axioms Ford.C12.include_own_dir_first
#print axioms Ford.C12.include_resolution_order_witness
#print axioms Ford.C12.inherited_bindings_source_order
#print axioms Ford.C12.inherited_bindings_mem
#print axioms Ford.C12.inherited_bindings_only_source_order
#print axioms Ford.C12.type_bindings_tree_deterministic
#print axioms Ford.C12.chain_bindings_tree_deterministic
#print axioms Ford.C12.type_bindings_perm_partial
#print axioms Ford.C12.type_bindings_order_witness
#print axioms Ford.C12.stale_output_never_read
#print axioms Ford.C12.output_dir_excluded_however_configured
#print axioms Ford.C12.stale_output_never_read_tree
#print axioms Ford.C12.stale_output_read_witness
#print axioms Ford.C12.file_kind_by_suffix_order_irrelevant
#print axioms Ford.C12.file_kind_tree_deterministic
#print axioms Ford.C12.file_kind_first_match_partial
#print axioms Ford.C12.file_kind_first_match_order_witness
#print axioms Ford.C12.hash_iter_sites_all_reviewed
#print axioms Ford.C12.graph_nodes_tree_deterministic
#print axioms Ford.C12.entities_sorted_tree_deterministic
#print axioms Ford.C12.graph_nodes_any_key_partial
#print axioms Ford.C12.graph_nodes_label_key_witness
#print axioms Ford.C12.order_defs_compare_the_set_identity
#print axioms Ford.C12.sort_sites_natural_or_reviewed
#print axioms Ford.C12.page_entries_tree_deterministic
#print axioms Ford.C12.page_entries_any_key_partial
#print axioms Ford.C12.page_entries_user_order_first
#print axioms Ford.C12.page_entries_stem_key_witness
#print axioms Ford.C12.edge_colours_tree_deterministic
#print axioms Ford.C12.edge_colours_emission_order
#print axioms Ford.C12.edge_colours_iteration_order_partial
#print axioms Ford.C12.edge_colours_set_order_witness
#print axioms Ford.C12.find_sources_listed_eq_findSources
#print axioms Ford.C12.find_sources_enumeration_order_irrelevant_tree
#print axioms Ford.C12.parse_order_enumeration_irrelevant_tree
#print axioms Ford.C12.find_sources_first_come_partial
#print axioms Ford.C12.find_sources_first_come_order_witness
#print axioms Ford.C12.sort_modes_all_modelled
#print axioms Ford.C12.sort_components_src_identity
#print axioms Ford.C12.sort_components_perm
#print axioms Ford.C12.sort_components_ordered
#print axioms Ford.C12.sort_components_ties_keep_source_order
#print axioms Ford.C12.sort_components_input_order_witness
