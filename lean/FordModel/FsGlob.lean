/-
  C19 - "is this path inside that directory" as the code decides it, on path *strings* whose
  directory names are arbitrary (every character except `/`).

  Mirrors, as the code is:
    fnmatch.fnmatch / fnmatch.translate (CPython 3.12, POSIX: `normcase` is the identity)
        `*` any run of characters (also `/`), `?` one character, `[seq]` / `[!seq]` a character
        class with ranges, a `[` that is never closed is a literal `[`
    ford/fortran_project.py  find_all_files 103-107
        for exclude_dir in settings.exclude_dir:
            src_files = {src for src in src_files if not fnmatch(str(src), f"{exclude_dir}/*")}
        (the output directory is the last entry of `exclude_dir`: settings.py 241, __init__.py 361)
    ford/__init__.py  parse_arguments 368-374   (the refusal; component-wise, `Fs.refuses`)

  `Generated.C19.excludeOutputByPath` (observed by a probe of the real `find_all_files`) says whether
  files below the output directory are *also* dropped by location (`output_dir in src.parents`,
  = fixes/C19-output-exclude-glob.diff) - the variant `false` has the pattern test only (finding
  C19-output-exclude-glob, repaired in FORD by 7f6b57f).
-/
import FordModel.Fs
namespace Ford.FsGlob
open Ford Ford.Fs

/-! ### fnmatch -/

inductive Tok
  | lit (c : Char)
  | any
  | star
  | cls (neg : Bool) (body : Str)
  deriving DecidableEq, Repr

/-- scanning state inside the body of a bracket expression (ranges are taken greedily, left to right:
    `a-b` is a range when a character follows the `-`) -/
inductive CS
  | none
  | one (a : Char)
  | dash (a : Char)

/-- is `c` in the set a bracket body denotes -/
def classHas (c : Char) : CS → Str → Bool
  | .none, [] => false
  | .one a, [] => a == c
  | .dash a, [] => a == c || c == '-'
  | .none, x :: r => classHas c (.one x) r
  | .one a, x :: r => if x = '-' then classHas c (.dash a) r else (a == c) || classHas c (.one x) r
  | .dash a, x :: r => (decide (a ≤ c) && decide (c ≤ x)) || classHas c .none r

/-- does the bracket expression opened just before `r` get closed: after an optional `!` and an
    optional `]` (a `]` in first position is a member) there is a `]` -/
def closes (r : Str) : Bool :=
  let r1 := match r with | '!' :: t => t | _ => r
  let r2 := match r1 with | ']' :: t => t | _ => r1
  r2.contains ']'

inductive TS
  | top
  | open0
  | open1
  | inCls (neg : Bool) (bodyRev : Str)

/-- `fnmatch.translate`, as a token list -/
def tokAux : TS → Str → List Tok
  | .top, [] => []
  | .top, c :: r =>
    if c = '*' then .star :: tokAux .top r
    else if c = '?' then .any :: tokAux .top r
    else if c = '[' ∧ closes r = true then tokAux .open0 r
    else .lit c :: tokAux .top r
  | .open0, c :: r => if c = '!' then tokAux .open1 r else tokAux (.inCls false [c]) r
  | .open1, c :: r => tokAux (.inCls true [c]) r
  | .inCls neg b, c :: r =>
    if c = ']' then .cls neg b.reverse :: tokAux .top r else tokAux (.inCls neg (c :: b)) r
  | .open0, [] => []
  | .open1, [] => []
  | .inCls _ _, [] => []

def tokenize (pat : Str) : List Tok := tokAux .top pat

def tokMatch : Tok → Char → Bool
  | .lit a, c => a == c
  | .any, _ => true
  | .cls neg b, c => classHas c .none b != neg
  | .star, _ => false

/-- some suffix of `s` is accepted by `k` -/
def starAny (k : Str → Bool) : Str → Bool
  | [] => k []
  | c :: r => k (c :: r) || starAny k r

def globT : List Tok → Str → Bool
  | [], s => s.isEmpty
  | .star :: p, s => starAny (globT p) s
  | .lit _ :: _, [] => false
  | .any :: _, [] => false
  | .cls _ _ :: _, [] => false
  | .lit a :: p, c :: s => (a == c) && globT p s
  | .any :: p, _ :: s => globT p s
  | .cls neg b :: p, c :: s => (classHas c .none b != neg) && globT p s

/-- `fnmatch.fnmatch(name, pat)` -/
def fnmatch (name pat : Str) : Bool := globT (tokenize pat) name

/-- a character `fnmatch` gives a meaning to -/
def isMeta (c : Char) : Bool := c == '*' || c == '?' || c == '['

/-- a path string without pattern characters -/
def plain (s : Str) : Bool := s.all (fun c => !isMeta c)

/-! ### the source search's exclusion of directories -/

/-- `fnmatch(str(src), f"{exclude_dir}/*")` -/
def excludedBy (dir file : Str) : Bool := fnmatch file (dir ++ ['/', '*'])

/-- the loop of `find_all_files` over `settings.exclude_dir` -/
def dropExcluded : List Str → List Str → List Str
  | [], files => files
  | d :: ds, files => dropExcluded ds (files.filter (fun f => !excludedBy d f))

/-- `output_dir in src.parents` on the strings of absolute, normalised paths: strictly below -/
def belowStr (dir file : Str) : Bool :=
  (parents (norm (splitSlash file))).contains (norm (splitSlash dir))

/-- what `find_all_files` keeps of the files found below the source directories: the user's
    `exclude_dir` entries and then the output directory are applied as patterns; with the repair the
    output directory is in addition applied as a location -/
def keepSources (byPath : Bool) (userExcl : List Str) (out : Str) (files : List Str) : List Str :=
  let kept := dropExcluded (userExcl ++ [out]) files
  if byPath then kept.filter (fun f => !belowStr out f) else kept

/-- the code under test -/
def keepSourcesGen (userExcl : List Str) (out : Str) (files : List Str) : List Str :=
  keepSources Generated.C19.excludeOutputByPath userExcl out files

/-- the refusal of `parse_arguments` on path strings (absolute, as `normalise_paths` leaves them):
    `output_dir in (srcdir, *srcdir.parents)` - pathlib compares component lists -/
def refusesStr (out : Str) (srcs : List Str) : Bool :=
  srcs.any (fun s =>
    let d := norm (splitSlash s)
    (d :: parents d).contains (norm (splitSlash out)))

/-- the same decision taken with the source search's pattern test (what a shared "is under" helper
    built on `fnmatch` computes: `fnmatch(f"{src}/", f"{out}/*")`) - only for the witness theorem -/
def refusesGlob (out : Str) (srcs : List Str) : Bool :=
  srcs.any (fun s => fnmatch (s ++ ['/']) (out ++ ['/', '*']))

end Ford.FsGlob
