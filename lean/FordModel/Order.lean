/-
  C12 — the order-sensitive parts of FORD's pipeline, as the code is.

  * `strLe`, `sortOn`      Python `sorted()` on `str` keys (code-point lexicographic, stable)
  * `numberAux`/`number`   `NameSelector.get_name`: first-come numbering of equal (get_dir(), name)
  * `parseOrder`           `for filename in find_all_files(settings)`: the *enumeration order* of a
                           Python set is an adversarial input (`enum`); `Variant.repaired` sorts it
  * project lists / docs   `_fortran_file`, the gather loop of `correlate`, `entity_list_page_map`
                           (orders taken from the generated tables)
  * `Op`, `run`, `look`    the output directory as an operation list (rmtree / write)
  * `graphWrites`          `output_graphs`: serial = list order, parallel = any schedule
  * further sections       include look-up, inherited bindings, `find_all_files` / kind of a file, the reviewed
                           hash-iteration and sort sites, page directories, edge colours, aliased source paths,
                           `sort_components`
  Import-free apart from FordModel.* (compiled into the driver).
-/
import FordModel.Basic.Chars
import FordModel.Generated.C12
namespace Ford.Order
open Ford

/-! ### Python string order and `sorted` -/

/-- Python `a <= b` on `str`: lexicographic by code point. -/
def strLe : Str → Str → Bool
  | [], _ => true
  | _ :: _, [] => false
  | a :: as, b :: bs =>
    if a.toNat < b.toNat then true
    else if b.toNat < a.toNat then false
    else strLe as bs

/-- `sorted(l, key=key)` (stable merge sort; Python's timsort is stable too). -/
def sortOn {α : Type} (key : α → Str) (l : List α) : List α :=
  l.mergeSort (fun a b => strLe (key a) (key b))

/-! ### NameSelector -/

/-- An entity that asks for an identifier: `uid` is the Python object identity,
    `dir` is `get_dir()` (`"none"` for `None`), `name` is `item.name`. -/
structure Ent where
  uid : Nat
  dir : Str
  name : Str
deriving DecidableEq, Repr

/-- the key of the counter `_counts[get_dir()][...]`: the name as written (`lk = false`, the variant
    of the findings repaired in FORD by 8dec555) or the lower-cased name (`lk = true`) -/
def Ent.keyAs (lk : Bool) (e : Ent) : Str × Str := (e.dir, if lk then lower e.name else e.name)

/-- the key the working tree uses (switch generated from the AST of `get_name`) -/
def Ent.key (e : Ent) : Str × Str := e.keyAs Gen.C12.countKeyLower

/-- the `for symbol, replacement in {...}.items(): name = name.replace(...)` loop;
    all symbols are single characters and no replacement contains a symbol, so the
    sequential replacement is a per-character substitution -/
def replaceSym (tab : List (Char × Str)) (c : Char) : Str :=
  match tab.find? (fun p => p.1 == c) with
  | some p => p.2
  | none => [c]

def showNat (n : Nat) : Str := Nat.toDigits 10 n

/-- the name handed out for the `num`-th item that asked under `name` -/
def mkIdent (name : Str) (num : Nat) : Str :=
  let n0 := (lower name).flatMap (replaceSym Gen.C12.symbolReplacements)
  let n1 := if n0.isEmpty then "__unnamed__".toList else n0
  if num > 1 then n1 ++ '~' :: showNat num else n1

/-- `seen` is `_items` (most recent first); `_counts[dir][name]` is the number of
    distinct items already seen under that key. -/
def numberAux (lk : Bool) : List Ent → List Ent → List (Ent × Nat)
  | _, [] => []
  | seen, e :: rest =>
    if seen.any (fun s => s.uid == e.uid) then numberAux lk seen rest
    else (e, (seen.filter (fun s => s.keyAs lk == e.keyAs lk)).length + 1) :: numberAux lk (e :: seen) rest

/-- numbers assigned by a fresh NameSelector to a sequence of `get_name` requests,
    in order of first request -/
def numberNWith (lk : Bool) (reqs : List Ent) : List (Ent × Nat) := numberAux lk [] reqs

/-- identifiers assigned (`item.ident`) -/
def numberWith (lk : Bool) (reqs : List Ent) : List (Ent × Str) :=
  (numberNWith lk reqs).map (fun p => (p.1, mkIdent p.1.name p.2))

/-- ... by the NameSelector of the working tree -/
def numberN (reqs : List Ent) : List (Ent × Nat) := numberNWith Gen.C12.countKeyLower reqs
def number (reqs : List Ent) : List (Ent × Str) := numberWith Gen.C12.countKeyLower reqs

def numOf (asg : List (Ent × Nat)) (uid : Nat) : Option Nat :=
  (asg.find? (fun p => p.1.uid == uid)).map (·.2)

/-! ### Files, enumeration order, project lists -/

inductive Variant | asIs | repaired
deriving DecidableEq, Repr

/-- a page-producing entity of a source file: `list` is the attribute of the
    `FortranSourceFile` / code unit it lives in (`modules`, `functions`, `types` ...) -/
structure Item where
  list : Str
  ent : Ent
deriving DecidableEq, Repr

/-- a program unit of a file (module / submodule / program / blockdata) with its contained entities -/
structure CodeUnit where
  list : Str            -- which attribute of the file holds it
  ent : Ent
  inner : List Item     -- contained entities, `list` = functions / subroutines / types ...
deriving DecidableEq, Repr

structure SrcFile where
  path : Str                 -- path as enumerated
  base : Str                 -- basename (copied to src/<base>)
  content : Str
  ent : Ent                  -- the sourcefile entity itself
  units : List CodeUnit      -- modules, submodules, programs, blockdata (source order)
  top : List Item            -- file-level functions / subroutines (source order)
deriving DecidableEq, Repr

/-- The order in which `Project.__init__` parses the files.  `enum` is the order
    in which the set returned by `find_all_files` happens to be iterated. -/
def parseOrder (v : Variant) (enum : List SrcFile) : List SrcFile :=
  match v with
  | .asIs => enum
  | .repaired => sortOn (·.path) enum

def variantOfTree : Variant := if Gen.C12.fileIterSorted then .repaired else .asIs

/-- `Project._fortran_file`: what one file appends to the project lists at parse time -/
def parseAppend (f : SrcFile) (projList : Str) : List Ent :=
  Gen.C12.fortranFileOrder.flatMap fun attr =>
    if attr == "modules".toList ∨ attr == "submodules".toList ∨ attr == "programs".toList ∨ attr == "blockdata".toList then
      if attr == projList then (f.units.filter (·.list == attr)).map (·.ent) else []
    else
      -- file-level functions and subroutines go to `procedures`
      if projList == "procedures".toList then (f.top.filter (·.list == attr)).map (·.ent) else []

/-- the gather loop of `Project.correlate` for one file -/
def gatherAppend (f : SrcFile) (projList : Str) : List Ent :=
  Gen.C12.unitChainOrder.flatMap fun uattr =>
    (f.units.filter (·.list == uattr)).flatMap fun u =>
      Gen.C12.containersOrder.flatMap fun kc =>
        if kc.2 == projList then (u.inner.filter (·.list == kc.1)).map (·.ent) else []

/-- a project list (`project.modules`, `project.procedures`, ...) after `correlate` -/
def projectList (files : List SrcFile) (projList : Str) : List Ent :=
  if projList == "allfiles".toList then files.map (·.ent)
  else files.flatMap (parseAppend · projList) ++ files.flatMap (gatherAppend · projList)

/-- `Documentation.docs`: the entity pages in creation order (= order of the search index) -/
def docsOrder (files : List SrcFile) : List Ent :=
  Gen.C12.pageListOrder.flatMap fun p => projectList files p.1

/-! ### `uses` -/

/-- the "Uses" list of a page: `ω` is the iteration order of the `uses` set -/
def usesShown (sorted : Bool) (ω : List Str) : List Str :=
  if sorted then sortOn id ω else ω

/-! ### graph node emission -/

structure Node where
  ident : Str
  label : Str
deriving DecidableEq, Repr

/-- `for n in sorted(nodes): self.dot.node(n.ident, ...)` -/
def emitNodes (nodes : List Node) : List Node := sortOn (·.ident) nodes

/-! ### the output directory as an operation list -/

abbrev Path := List Str
abbrev FS := List (Path × Str)

inductive Op
  | rmtree (d : Path)            -- `shutil.rmtree(d, ignore_errors=True)` / unlink when `d` is a file
  | write (p : Path) (c : Str)   -- create / overwrite a file
deriving DecidableEq, Repr

/-- `d` is `p` or an ancestor of `p` -/
def isUnder : Path → Path → Bool
  | [], _ => true
  | _ :: _, [] => false
  | a :: as, b :: bs => a == b && isUnder as bs

def apply : Op → FS → FS
  | .rmtree d, fs => fs.filter (fun e => !isUnder d e.1)
  | .write p c, fs => (p, c) :: fs.filter (fun e => !(e.1 == p))

def run (ops : List Op) (fs : FS) : FS := ops.foldl (fun fs op => apply op fs) fs

def look (fs : FS) (p : Path) : Option Str := (fs.find? (fun e => e.1 == p)).map (·.2)

/-- `Documentation.writeout`, abstracted to the list of things a run does at the output directory
    (generated table, observed on a real run): a `removeOut` step removes the output directory, the k-th
    `write` step performs the k-th group of file writes (all below `out`), other steps create directories. -/
def kwRemove : Str := "removeOut".toList
def kwWrite : Str := "write".toList

def stepsOps (out : Path) : List Str → List (List (Path × Str)) → List Op
  | [], _ => []
  | s :: ss, ws =>
    if s == kwRemove then Op.rmtree out :: stepsOps out ss ws
    else if s == kwWrite then
      match ws with
      | [] => stepsOps out ss []
      | w :: ws' => w.map (fun x => Op.write (out ++ x.1) x.2) ++ stepsOps out ss ws'
    else stepsOps out ss ws

/-- the output directory is removed before the first write step -/
def removeFirst : List Str → Bool
  | [] => false
  | s :: ss =>
    if s == kwRemove then true
    else if s == kwWrite then false
    else removeFirst ss

def writeoutOps (out : Path) (writes : List (List (Path × Str))) : List Op :=
  stepsOps out Gen.C12.writeoutSteps writes

/-- `output_graphs`: `njobs = 0` writes in list order; otherwise `process_map`
    lets the workers finish in any order `sched` (a permutation of the tasks). -/
def graphWrites (njobs : Nat) (sched : List (Path × Str) → List (Path × Str)) (tasks : List (Path × Str)) :
    List Op :=
  ((if njobs == 0 then tasks else sched tasks)).map (fun w => Op.write w.1 w.2)

/-- copies of the source files: `src/<basename>` written in project-file order -/
def srcCopyOps (files : List SrcFile) : List Op :=
  files.map (fun f => Op.write ["src".toList, f.base] f.content)

/-! ### the site, as far as it depends on orders -/

structure Site where
  idents : List (Nat × Str)      -- uid ↦ ident, in order of first request
  search : List Nat              -- uids of the entity pages in search-index order
  srcTree : FS                   -- the src/ copies
deriving DecidableEq, Repr

/-- requests in file-major order (an abstraction of the real request sequence;
    the real one is replayed through `number` by the harness) -/
def requests (files : List SrcFile) : List Ent :=
  files.flatMap fun f =>
    f.ent :: (f.units.flatMap fun u => u.ent :: u.inner.map (·.ent)) ++ f.top.map (·.ent)

def siteOf (files : List SrcFile) : Site :=
  { idents := (number (requests files)).map (fun p => (p.1.uid, p.2))
    search := (docsOrder files).map (·.uid)
    srcTree := run (srcCopyOps files) [] }

def site (v : Variant) (enum : List SrcFile) : Site := siteOf (parseOrder v enum)

/-! ### include files (`FortranReader.include`) -/

/-- char-list literal (string literals are byte arrays in this Lean version; `"..".toList` is slow to
    unfold inside `simp`/`decide` on long tables) -/
macro "cs! " s:str : term => do
  let elems := s.getString.toList.toArray.map fun c => Lean.Syntax.mkCharLit c
  `([$elems,*])

/-- `for b in [os.path.dirname(self.name)] + self.inc_dirs: if os.path.isfile(join(b, name)): break`:
    the directory of the including file is probed first, then the include directories in the order the
    reader keeps them; the first directory that holds the file wins.  `has d` = "`d` holds the file". -/
def resolveInclude (has : Str → Bool) (own : Str) (dirs : List Str) : Option Str :=
  (own :: dirs).find? has

/-- `self.inc_dirs` of the reader: the configured list as given (`ordered`), or the list pushed through a
    hash-ordered collection whose iteration order `ω` is an adversarial input. -/
def incDirsKept (ordered : Bool) (ω : List Str → List Str) (cfg : List Str) : List Str :=
  if ordered then cfg else ω cfg

/-- the include file the working tree documents (switch generated from the AST of `FortranReader`) -/
def resolveIncludeTree (ω : List Str → List Str) (has : Str → Bool) (own : Str) (cfg : List Str) : Option Str :=
  resolveInclude has own (incDirsKept Gen.C12.incDirsOrdered ω cfg)

/-! ### inherited components and type-bound procedures (`FortranType.correlate`) -/

/-- a component or a type-bound procedure of a derived type: its name and whether it is `private` -/
structure Binding where
  name : Str
  priv : Bool
deriving DecidableEq, Repr

/-- `not all(bp.name.lower() != b.name.lower() for b in self.boundprocs)` -/
def overrides (own : List Binding) (bp : Binding) : Bool :=
  own.any (fun b => lower b.name == lower bp.name)

/-- the bindings of the parent type that the child shows as its own: not private, not overridden,
    *in the parent's order* -/
def inheritedBindings (parent own : List Binding) : List Binding :=
  parent.filter (fun bp => !bp.priv && !overrides own bp)

/-- `self.boundprocs = inherited + self.boundprocs`.  `ordered`: the loop that collects `inherited`
    walks the parent's list; otherwise it walks a hash-ordered collection (iteration order `ω`). -/
def typeBindings (ordered : Bool) (ω : List Binding → List Binding) (parent own : List Binding) : List Binding :=
  (if ordered then inheritedBindings parent own else ω (inheritedBindings parent own)) ++ own

/-- `self.variables = [v for v in extends.variables if v.permission == "public"] + self.variables` -/
def typeComps (ordered : Bool) (ω : List Binding → List Binding) (parent own : List Binding) : List Binding :=
  (if ordered then parent.filter (fun c => !c.priv) else ω (parent.filter (fun c => !c.priv))) ++ own

/-- a whole inheritance chain, root type first (a parent is correlated before its children, so the
    child sees the parent's list with what the parent inherited itself) -/
def chainBindings (ordered : Bool) (ω : List Binding → List Binding) (levels : List (List Binding)) : List Binding :=
  levels.foldl (fun acc own => typeBindings ordered ω acc own) []

def chainComps (ordered : Bool) (ω : List Binding → List Binding) (levels : List (List Binding)) : List Binding :=
  levels.foldl (fun acc own => typeComps ordered ω acc own) []

/-! ### which files are read, and as what (`find_all_files`, `Project.__init__`) -/

/-- `name.endswith("." + ext)`: what the glob `**/*.<ext>` of `find_all_files` asks of a file name -/
def endsWithExt (name ext : Str) : Bool := ('.' :: ext).isSuffixOf name

/-- the file name of `p` ends with one of the configured extensions -/
def hasSourceName (exts : List Str) (p : Path) : Bool :=
  match p.getLast? with
  | some n => exts.any (endsWithExt n)
  | none => false

/-- `fnmatch(str(p), f"{d}/*")`: `p` lies strictly below the directory `d` -/
def isBelow (d p : Path) : Bool := isUnder d p && d.length < p.length

/-- `find_all_files`: the files of the file system that lie below a source directory, carry a configured
    extension and do not lie below an excluded directory (in file-system order; the real function returns a set) -/
def findSources (srcDirs excl : List Path) (exts : List Str) (fs : FS) : List Path :=
  (fs.map (·.1)).filter fun p => srcDirs.any (isBelow · p) && !excl.any (isBelow · p) && hasSourceName exts p

/-- Is the output directory among the excluded directories when the settings are complete?  Looked up in the
    generated table (probed through the real `load_settings` / `parse_arguments` / `find_all_files` for every
    way the output directory can be configured); an unknown configuration counts as "no". -/
def outDirExcluded (cfg : Str) : Bool :=
  match Gen.C12.outputDirExcludedIn.find? (fun c => c.1 == cfg) with
  | some c => c.2
  | none => false

/-- `settings.exclude_dir` as `find_all_files` sees it: the user's list, plus the output directory -/
def excludeDirsTree (cfg : Str) (userExcl : List Path) (out : Path) : List Path :=
  if outDirExcluded cfg then userExcl ++ [out] else userExcl

def findSourcesTree (cfg : Str) (srcDirs userExcl : List Path) (out : Path) (exts : List Str) (fs : FS) : List Path :=
  findSources srcDirs (excludeDirsTree cfg userExcl out) exts fs

/-- configurations in which the output directory is *not* excluded: finding
    `C12-cli-output-dir-not-excluded` of `known_findings/C12.json`, repaired in FORD by 4833068 (`--output_dir` on the command line replaces the directory after
    `ProjectSettings.__post_init__` has put the old one on the exclude list) -/
def defectiveOutDirConfigs : List Str := [
  cs! "output_dir from the command line; relative URLs",
  cs! "output_dir from the command line; project_url set"
]

/-- `pathlib.PurePath(name).suffix[1:]`: what follows the last dot, unless that dot is the first or the last
    character of the name -/
def lastSuffix (name : Str) : Str :=
  let r := name.reverse
  let suf := r.takeWhile (· != '.')
  if suf.length == r.length then []            -- no dot at all
  else if suf.isEmpty then []                  -- `a.`
  else if suf.length + 1 == r.length then []   -- `.f90`
  else suf.reverse

/-- the extension lists of the settings; `exts` (`settings.extensions`) is `list(set(..) | set(..))`: its order
    is a hash order -/
structure ExtCfg where
  exts : List Str
  fixed : List Str
  fpp : List Str
  extra : List Str
deriving DecidableEq, Repr

inductive FileKind
  | fortran (preprocessed fixedForm : Bool)
  | extra
  | skipped
deriving DecidableEq, Repr

/-- the extension `Project.__init__` works with: the last suffix of the name (`bySuffix`), or - the other
    mechanism the translator recognises - the first configured extension the name ends with -/
def extensionOf (bySuffix : Bool) (c : ExtCfg) (name : Str) : Str :=
  if bySuffix then lastSuffix name
  else match (c.exts ++ c.fixed ++ c.extra).find? (endsWithExt name) with
    | some e => e
    | none => lastSuffix name

/-- `if extension in self.extensions + self.fixed_extensions: _fortran_file(..) elif extension in
    self.extra_filetypes: GenericSource(..)`; `_fortran_file` preprocesses iff `extension in fpp_extensions` and
    reads fixed form iff `extension in fixed_extensions` -/
def fileKind (bySuffix : Bool) (c : ExtCfg) (name : Str) : FileKind :=
  let e := extensionOf bySuffix c name
  if (c.exts ++ c.fixed).contains e then .fortran (c.fpp.contains e) (c.fixed.contains e)
  else if c.extra.contains e then .extra
  else .skipped

/-- as the tree is (switch probed on the real `Project.__init__`); `ω` is the order the set union behind
    `settings.extensions` happens to be listed in -/
def fileKindTree (ω : List Str → List Str) (c : ExtCfg) (name : Str) : FileKind :=
  fileKind Gen.C12.extensionBySuffix { c with exts := ω c.exts } name

/-! ### hash-ordered collections turned into sequences

  `Gen.C12.hashIterSites` lists every place in `ford/*.py` where an expression that is syntactically a
  hash-ordered collection (a `set(...)`, a set literal / comprehension, a set operator on such or on a
  dict view, a local name or an attribute of the same file bound to one of these) is iterated, converted
  to a list / tuple, joined, mapped or unpacked — with a flag "goes through `sorted(...)`".  The unsorted
  ones have been looked at one by one: -/

/-- unsorted sites whose iteration order cannot reach the output -/
def reviewedHashIterSites : List Str := [
  -- the loop only inserts into other sets / dicts keyed by the element (`self.uses.add(n)`, `n.used_by.add(self)`);
  -- the node objects it creates ask for identifiers: that order is covered by the replay of the real
  -- request trace through `number` and by the numbering theorems
  cs! "graphs.py:ModNode.__init__: for obj.uses",
  cs! "graphs.py:ProcNode.__init__: for getattr(obj, 'uses', [])",
  cs! "graphs.py:ProgNode.__init__: for obj.uses",
  cs! "graphs.py:BlockNode.__init__: for obj.uses",
  -- `calls` is the list attribute of a Fortran entity here (same attribute name as the set of a graph node);
  -- the function returns a set
  cs! "graphs.py:get_call_nodes: for calls",
  -- one graph object is built per element and stored on the element; nothing is emitted in loop order
  cs! "graphs.py:GraphManager.graph_all: for self.blockdata",
  -- one task per element, every task writes its own files: `parallel_irrelevant`
  cs! "graphs.py:GraphManager.output_graphs: for self.modules",
  cs! "graphs.py:GraphManager.output_graphs: for self.types",
  cs! "graphs.py:GraphManager.output_graphs: for self.procedures",
  cs! "graphs.py:GraphManager.output_graphs: for self.programs",
  cs! "graphs.py:GraphManager.output_graphs: for self.sourcefiles",
  cs! "graphs.py:GraphManager.output_graphs: for self.blockdata",
  cs! "graphs.py:GraphManager.output_graphs: comprehension self.modules",
  cs! "graphs.py:GraphManager.output_graphs: comprehension self.types",
  cs! "graphs.py:GraphManager.output_graphs: comprehension self.procedures",
  cs! "graphs.py:GraphManager.output_graphs: comprehension self.programs",
  cs! "graphs.py:GraphManager.output_graphs: comprehension self.sourcefiles",
  cs! "graphs.py:GraphManager.output_graphs: comprehension self.blockdata",
  -- the extension list is only used for membership tests and to build glob patterns whose hits go into a set
  cs! "settings.py:ProjectSettings.__post_init__: list() set(self.extensions) | set(self.fpp_extensions)",
  -- `self.uses` is still the *list* of (module, only-list) pairs when these loops run; it is replaced by a
  -- set afterwards (that set is iterated by the `use_list` template macro: `usesIterSorted`)
  cs! "sourceform.py:FortranCodeUnit.correlate: for self.uses",
  cs! "sourceform.py:FortranBlockData.correlate: for self.uses",
  cs! "sourceform.py:FortranBlockData.correlate: comprehension self.uses",
  -- the loop only deletes the entries of `attr_dict` under the collected names
  -- (`del self.attr_dict[name]` under `suppress(KeyError)`): deletions of distinct keys commute
  cs! "sourceform.py:FortranCodeUnit.process_attribs: for attributed_names"
]

/-- unsorted sites whose order does reach the output: each is a finding of `known_findings/C12.json` -/
def defectiveHashIterSites : List Str := [
  -- C12-inheritedby-children-set-order (repaired in FORD by 930e8a9): edges of the "inherited by" graph follow the iteration order of a set
  cs! "graphs.py:InheritedByGraph.add_node: for node.children"
]


/-! ### the order `sorted()` puts graph nodes and entities in (`BaseNode.__lt__`, `FortranBase.__lt__`)

  A node set keeps one node per `ident` (`__eq__` / `__hash__`).  `sorted(set)` is stable, so it hands the
  iteration order of the set on wherever the compared key does not distinguish two members. -/

/-- the key `__lt__` compares: the identifier, or (any other key is represented by) the lower-cased label -/
def nodeKeyOf (byIdent : Bool) (n : Node) : Str := if byIdent then n.ident else lower n.label

/-- `sorted(nodes)` -/
def emitNodesBy (byIdent : Bool) (nodes : List Node) : List Node := sortOn (nodeKeyOf byIdent) nodes

/-- ... with the `__lt__` of the working tree (switches generated from the AST of the two classes) -/
def emitNodesTree (nodes : List Node) : List Node := emitNodesBy Gen.C12.nodeLtByIdent nodes
def sortEntitiesTree (ents : List Node) : List Node := emitNodesBy Gen.C12.entityLtByIdent ents

/-- sort sites with a `key=` (or a template sort filter) that were looked at one by one: (site, key).  Their
    input is a list whose order is itself determined (never a set, never a directory listing), so the ties the
    key leaves are broken by that order. -/
def reviewedKeyedSorts : List (Str × Str) := [
  -- table view of an over-long graph: `hop_edges` was filled by the loops over `sorted(nodes)`
  (cs! "graphs.py:FortranGraph._make_graph_as_table: self.hop_edges.sort()", cs! "lambda x: x[key].attribs['label'].lower()"),
  -- `sort:` option: the lists of an entity are in source order when they are sorted
  (cs! "sourceform.py:FortranBase.sort_components: entity.sort()", cs! "sort_key"),
  -- the list pages: the project lists are in parse order (`projectList`), Jinja's sort is stable
  (cs! "templates/absint_list.html: project.absinterfaces|sort", cs! "attribute='name'"),
  (cs! "templates/block_list.html: project.blockdata|sort", cs! "attribute='name'"),
  (cs! "templates/file_list.html: project.allfiles|sort", cs! "attribute='name'"),
  (cs! "templates/index.html: project.allfiles|sort", cs! "attribute='name'"),
  (cs! "templates/index.html: project.modules|sort", cs! "attribute='name'"),
  (cs! "templates/index.html: project.procedures|sort", cs! "attribute='name'"),
  (cs! "templates/index.html: project.types|sort", cs! "attribute='name'"),
  (cs! "templates/mod_list.html: project.modules|sort", cs! "attribute='name'"),
  (cs! "templates/namelist_list.html: project.namelists|sort", cs! "attribute='name'"),
  (cs! "templates/proc_list.html: project.procedures|sort", cs! "attribute='name'"),
  (cs! "templates/prog_list.html: project.programs|sort", cs! "attribute='name'"),
  (cs! "templates/types_list.html: project.types|sort", cs! "attribute='name'")
]

/-! ### the entries of a page directory (`get_page_tree`)

  `enum` is what `os.listdir` returns: the names in the directory (pairwise different) in the order the file
  system happens to enumerate them - an adversarial input. -/

/-- `os.path.splitext(name)[0]`: cut at the last dot unless only dots precede it -/
def lastDotSplit (name : Str) : Str :=
  -- index of the last '.', usable only if some non-dot character precedes it
  let rev := name.reverse
  let ext := rev.takeWhile (· != '.')
  if ext.length == rev.length then name
  else
    let stem := (rev.drop (ext.length + 1)).reverse
    if stem.any (· != '.') then stem else name

/-- the key of a keyed variant: lower-cased name without its extension -/
def stemLower (name : Str) : Str := lower (lastDotSplit name)

def pageKey (natural : Bool) (name : Str) : Str := if natural then name else stemLower name

/-- `list(OrderedDict.fromkeys(l))`: first occurrences, in order -/
def dedupAux : List Str → List Str → List Str
  | _, [] => []
  | seen, x :: xs => if seen.contains x then dedupAux seen xs else x :: dedupAux (x :: seen) xs

def indexMd : Str := cs! "index.md"

/-- `name[0] == "."` / `name[-1] == "~"` entries are skipped -/
def pageVisible (name : Str) : Bool := !(name.head? == some '.') && !(name.getLast? == some '~')

/-- the names `get_page_tree` walks for one directory, in order: the sorted listing without `index.md`, the
    user's `ordered_subpage` list merged in front of it -/
def pageFileList (natural : Bool) (ordered enum : List Str) : List Str :=
  let fl := (sortOn (pageKey natural) enum).erase indexMd
  let merged := if ordered.isEmpty then fl else dedupAux [] (ordered ++ fl)
  merged.filter pageVisible

/-- ... in the working tree (switch generated from the AST of `get_page_tree`) -/
def pageFileListTree (ordered enum : List Str) : List Str := pageFileList Gen.C12.pageListNatural ordered enum


/-! ### the colours of the edges of a hop (`FortranGraph.add_nodes`) -/

/-- `enumerate`: the position of the node with identifier `i` in `order` -/
def posOf (order : List Node) (i : Str) : Nat := (order.map (·.ident)).idxOf i

/-- `FortranGraph.add_nodes` with `coloured_edges`: the nodes of a hop are handled in sorted order, and the edges
    that leave a node get colour number `k` of `len(nodes)` (`rainbowcolour(k, total_len)`).
    `bySortedIndex = true`: `k` is the position of the node in the sorted list (`enumerate(sorted(nodes))`, the
    tree as it is); `false`: `k` is its position in the collection as it is iterated (`ω nodes`; for the set
    `hop_nodes` that is hash order).  Result: (identifier, colour number) in emission order. -/
def hopColours (bySortedIndex : Bool) (ω : List Node → List Node) (nodes : List Node) : List (Str × Nat) :=
  let emitted := emitNodesTree nodes
  let numbered := if bySortedIndex then emitted else ω nodes
  emitted.map fun n => (n.ident, posOf numbered n.ident)

/-- ... in the working tree (switch probed on the real `add_nodes` on every run) -/
def hopColoursTree (ω : List Node → List Node) (nodes : List Node) : List (Str × Nat) :=
  hopColours Gen.C12.edgeColourBySortedIndex ω nodes

/-! ### source files that are reachable under more than one path (`find_all_files`) -/

/-- keep the first path of every real file: `seen` holds the real files met so far -/
def dedupByReal (real : Path → Path) : List Path → List Path → List Path
  | _, [] => []
  | seen, p :: ps =>
    if seen.contains (real p) then dedupByReal real seen ps
    else p :: dedupByReal real (real p :: seen) ps

/-- `find_all_files` on the directory entries in the order the file system hands them out (`listing`; what
    `Path.glob` yields follows `os.scandir`).  `real p` is the file a path leads to (`Path.resolve()`: the target
    of a symbolic link, else the path itself).  `firstCome = false`: every matching path is a source file (the
    tree as it is: a linked file is documented once per path); `firstCome = true`: a path whose file was met
    before under another path is dropped. -/
def findSourcesListed (firstCome : Bool) (real : Path → Path) (srcDirs excl : List Path) (exts : List Str)
    (listing : List Path) : List Path :=
  let hits := listing.filter fun p => srcDirs.any (isBelow · p) && !excl.any (isBelow · p) && hasSourceName exts p
  if firstCome then dedupByReal real [] hits else hits

/-- ... in the working tree (switch probed on the real `find_all_files` on every run) -/
def findSourcesListedTree (real : Path → Path) (srcDirs excl : List Path) (exts : List Str) (listing : List Path) :
    List Path :=
  findSourcesListed Gen.C12.sourceAliasesFirstCome real srcDirs excl exts listing

/-! ### `FortranBase.sort_components` (the `sort` option) -/

/-- what the sort keys read of a variable: `vartype`, `kind`, `strlen`, `proto[0]` (empty = falsy) -/
structure VarSig where
  vartype : Str
  kind : Str
  strlen : Str
  proto : Str
deriving DecidableEq, Repr

/-- an entry of one of the entity lists of a program unit / type / procedure -/
structure Comp where
  uid : Nat
  name : Str
  obj : Str
  /-- `getattr(item, "permission", "default")` -/
  permission : Str
  var : VarSig
  /-- `item.proctype`, empty when the attribute is missing -/
  proctype : Str
  /-- `item.retvar` of a function -/
  retvar : Option VarSig
deriving DecidableEq, Repr

/-- `permission(item)`: rank in `{"default": 0, "public": 1, "protected": 2, "private": 3}` (the code raises
    `KeyError` on anything else; the model gives 0) -/
def permRank (p : Str) : Nat :=
  if p == cs! "public" then 1 else if p == cs! "protected" then 2 else if p == cs! "private" then 3 else 0

/-- `fortran_type_name` of a variable -/
def varTypeName (v : VarSig) : Str :=
  let r := if v.vartype == cs! "class" then cs! "type" else v.vartype
  let r := if v.kind.isEmpty then r else r ++ '-' :: v.kind
  let r := if v.strlen.isEmpty then r else r ++ '-' :: v.strlen
  if v.proto.isEmpty then r else r ++ '-' :: v.proto

/-- `fortran_type_name(item)` -/
def fortranTypeName (c : Comp) : Str :=
  if c.obj == cs! "variable" then varTypeName c.var
  else if c.obj == cs! "proc" && !c.proctype.isEmpty then
    lower c.proctype ++
      (if c.proctype == cs! "Function" then
        match c.retvar with
        | some v => '-' :: varTypeName v
        | none => []
       else [])
  else c.obj

/-- `SORT_KEY_FUNCTIONS[settings.sort.lower()]`: `none` for `src` (and for a word the table does not have, where
    the code raises).  The integer key of `permission` is one digit, so comparing the digit as text is comparing
    the number. -/
def sortKeyFn (mode : Str) : Option (Comp → Str) :=
  if mode == cs! "alpha" then some (·.name)
  else if mode == cs! "permission" then some fun c => showNat (permRank c.permission)
  else if mode == cs! "permission-alpha" then some fun c => showNat (permRank c.permission) ++ '-' :: c.name
  else if mode == cs! "type" then some fortranTypeName
  else if mode == cs! "type-alpha" then some fun c => fortranTypeName c ++ '-' :: c.name
  else none

/-- `entity.sort(key=sort_key)` for one entity list given in source order (`list.sort` is stable) -/
def sortComponents (mode : Str) (l : List Comp) : List Comp :=
  match sortKeyFn (lower mode) with
  | some key => sortOn key l
  | none => l

end Ford.Order
