/-
  Model of how ford/sourceform.py distributes the reader's doc lines over
  entities:

  * every entity-creating statement is followed by `read_docstring`, which
    takes the maximal run of doc items that follows (`startswith("!" + docmark)`,
    cut `len("!" + docmark)` characters) and passes the first other item back;
  * a doc item met in a container's own loop (`line[0:2] == "!" + docmark`) is
    appended to that container's `doc_list` (after its metadata was split off);
  * `read_metadata` splits the docstring read at creation into metadata and
    body (module-procedure references get their docstring *after*
    `read_metadata`, so theirs is not split); the source file's `doc_list` is
    split once, at the end.

  Character literals are masked first (`dropLits`), as the parser does.
  The statement classifier `classify` is a keyword reading of the `if/elif`
  cascade of `FortranContainer.__init__` restricted to the statement forms the
  C03 generator emits (lower-cased line, first words); the full cascade is
  the subject of C01.  Names are compared lower-cased.
-/
import FordModel.Basic.Chars
import FordModel.Basic.Split
import FordModel.Meta
namespace Ford

inductive Kind
  | openE (name : Str)               -- container entity: docstring, then its own loop until END
  | leafAll (names : List Str) (split : Bool)  -- every name gets (a copy of) the docstring
  | leafLast (names : List Str) (split : Bool) -- only the last name gets the docstring
  | close
  | other
  deriving Repr, DecidableEq

def firstWord (s : Str) : Str × Str := (s.takeWhile isWord, s.dropWhile isWord)

def unitKeywords : List Str :=
  ["module", "submodule", "subroutine", "function", "procedure", "program", "type",
   "interface", "enum"].map String.toList

def typeKeywords : List Str :=
  ["integer", "real", "logical", "complex", "character", "class", "enumerator", "double"].map String.toList

def prefixKeywords : List Str := ["pure", "elemental", "recursive", "impure"].map String.toList

/-- text after the first `::` (none when there is no `::`) -/
def afterColons : Str → Option Str
  | [] => none
  | [_] => none
  | c :: d :: rest => if c == ':' && d == ':' then some rest else afterColons (d :: rest)

/-- entity name at the start of a declarator: `a`, `a(3)`, `a = 1`, `bp => s` -/
def declName (s : Str) : Str := (lstrip s).takeWhile isWord

/-- names declared after `::` (or after the keyword when `::` is absent) -/
def declNames (s : Str) : List Str :=
  let body := match afterColons s with | some r => r | none => s
  (parenSplit ',' body).map declName

def classifyCore (w r : Str) (whole : Str) : Kind :=
  let r' := lstrip r
  let w2 := (firstWord r').1
  if w == "module".toList then
    if w2 == "procedure".toList then .leafLast (declNames (firstWord r').2) false
    else .openE w2
  else if w == "program".toList || w == "subroutine".toList || w == "function".toList then .openE w2
  else if w == "interface".toList then .openE w2
  else if w == "enum".toList then .openE []
  else if w == "type".toList then
    if r'.head? == some '(' then .leafAll (declNames whole) true
    else match afterColons r' with
      | some n => .openE (declName n)
      | none => .openE w2
  else if w == "procedure".toList || w == "generic".toList then
    if r'.head? == some '(' then .leafAll (declNames whole) true
    else .leafAll [declName (match afterColons r' with | some n => n | none => r')] true
  else if w == "final".toList then .leafLast (declNames r') true
  else if typeKeywords.contains w then
    if w2 == "function".toList then .openE (firstWord (lstrip (firstWord r').2)).1
    else .leafAll (declNames whole) true
  else .other

/-- The statement with the contents of its character literals removed (the quote characters stay):
    `FortranContainer.__init__` replaces every literal by a numbered placeholder before it looks at the
    statement (`QUOTES_RE`, "Temporarily replace all strings to make the parsing simpler"), so a comma, `::`,
    `=>`, keyword or parenthesis inside a literal is never syntax.  `inq` = the quote character of the literal
    the scan is in (a doubled quote closes and re-opens, which drops the same characters). -/
def dropLits : Str → Option Char → Str
  | [], _ => []
  | c :: cs, none => if c == '"' || c == '\'' then c :: dropLits cs (some c) else c :: dropLits cs none
  | c :: cs, some q => if c == q then c :: dropLits cs none else dropLits cs (some q)

/-- classification of a (non-doc) reader item -/
def classify (line : Str) : Kind :=
  let l := lower (dropLits line none)
  let (w, r) := firstWord l
  if w == "end".toList then
    let r' := lstrip r
    if r'.isEmpty || unitKeywords.contains (firstWord r').1 then .close else .other
  else if startsWith w "end".toList && unitKeywords.contains (w.drop 3) then .close
  else if prefixKeywords.contains w then
    let (w1, r1) := firstWord (lstrip r)
    if prefixKeywords.contains w1 then
      let (w2, r2) := firstWord (lstrip r1)
      classifyCore w2 r2 l
    else classifyCore w1 r1 l
  else if w == "abstract".toList then
    -- `abstract interface`: a container like `interface` (its FortranInterface object is taken out of the
    -- registration list again, see AttachIface.lean)
    if (firstWord (lstrip r)).1 == "interface".toList then .openE [] else .other
  else classifyCore w r l

structure Ent where
  name : Str
  split : Bool            -- `read_metadata` sees the docstring read at creation
  init : List Str         -- docstring read by `read_docstring` at creation
  extra : List Str        -- doc lines appended later by the container loop
  deriving Repr, DecidableEq

def modifyAt (f : Ent → Ent) : Nat → List Ent → List Ent
  | _, [] => []
  | 0, e :: es => f e :: es
  | i + 1, e :: es => e :: modifyAt f i es

/-- apply `f` to the last `k` entities -/
def modifyLast (f : Ent → Ent) (k : Nat) (es : List Ent) : List Ent :=
  es.take (es.length - k) ++ (es.drop (es.length - k)).map f

structure ASt where
  stack : List Nat := []      -- indices (in `ents`) of the open containers, innermost first; the file (0) is the implicit bottom
  reading : Nat := 0          -- `read_docstring` in progress for the last `reading` entities
  ents : List Ent := []
  deriving Repr

def fileName : Str := "<file>".toList

def mkEnts (names : List Str) (split : Bool) : List Ent := names.map (fun n => ⟨n, split, [], []⟩)

/-- a statement item (not a doc line of the current container) -/
def attachStmt (mark : Str) (s : ASt) (it : Str) : ASt :=
  if it.take 2 == '!' :: mark then
    { s with reading := 0,
             ents := modifyAt (fun e => { e with extra := e.extra ++ [it.drop 2] }) (s.stack.headD 0) s.ents }
  else
    match classify it with
    | .openE n => { stack := s.ents.length :: s.stack, reading := 1, ents := s.ents ++ mkEnts [n] true }
    | .leafAll ns sp => { s with reading := ns.length, ents := s.ents ++ mkEnts ns sp }
    | .leafLast ns sp => { s with reading := min 1 ns.length, ents := s.ents ++ mkEnts ns sp }
    | .close => { s with reading := 0, stack := s.stack.drop 1 }
    | .other => { s with reading := 0 }

/-- one reader item -/
def attachStep (mark : Str) (s : ASt) (it : Str) : ASt :=
  if s.reading > 0 && startsWith it ('!' :: mark) then
    { s with ents := modifyLast (fun e => { e with init := e.init ++ [it.drop (1 + mark.length)] }) s.reading s.ents }
  else attachStmt mark s it

def attachFrom (mark : Str) : ASt → List Str → ASt
  | s, [] => s
  | s, it :: rest => attachFrom mark (attachStep mark s it) rest

/-- all entities of a file in creation order, the file itself first -/
def attach (mark : Str) (items : List Str) : List Ent :=
  (attachFrom mark { ents := [⟨fileName, true, [], []⟩] } items).ents

/-- what `read_metadata` leaves: (metadata, final `doc_list`) of a non-file entity.
    `rep` selects the variant of the code: `false` = FORD before aa13990 (module-procedure references get
    their docstring after `read_metadata` ran, so it is not split; finding
    C03-modproc-metadata-not-split), `true` = since (fixes/C03-modproc-metadata.diff); `tb` selects the variant of the
    one-line rule (see `isOneLine`). -/
def entDoc (tb : Bool) (fields : List Str) (rep : Bool) (e : Ent) : MetaDict × List Str :=
  if e.split || rep then
    let r := readMetadata tb fields e.init
    (r.1, r.2 ++ e.extra)
  else ([], e.init ++ e.extra)

/-- (name, metadata, final doc_list) of every entity; the first one is the source file,
    whose `doc_list` is filled by its loop and split at the end -/
def entDocs (tb : Bool) (fields : List Str) (rep : Bool) : List Ent → List (Str × MetaDict × List Str)
  | [] => []
  | f :: rest =>
    (f.name, readMetadata tb fields (f.init ++ f.extra)) ::
      rest.map (fun e => (e.name, entDoc tb fields rep e))

end Ford
