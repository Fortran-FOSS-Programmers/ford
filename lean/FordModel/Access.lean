/-
  C04 - model of FORD's permission mechanism *as the code is*
  (ford/sourceform.py: FortranContainer.__init__, line_to_variables,
  FortranType._initialize, FortranBoundProcedure._initialize,
  FortranCodeUnit.process_attribs, FortranType.correlate).

  A specification part is a list of abstract statements folded by `step` with
  the state the code keeps (`self.permission`, `child_permission`, `incontains`,
  `attr_dict`, the entity lists); `passes` is `process_attribs`; `ctorPass` is
  the constructor assignment of `FortranType.correlate`.
  Every word list / iteration order / constant comes from Generated/C04.lean.
-/
import FordModel.Generated.C04
namespace Ford.Access

/-- a component, binding or specific procedure: name and stored permission -/
structure Kid where
  name : Str
  perm : Perm
  deriving DecidableEq, Repr

/-- an entity of a module's specification part / procedure part -/
structure Ent where
  cat : Cat
  name : Str
  perm : Perm
  comps : List Kid := []
  binds : List Kid := []
  procs : List Kid := []
  /-- `module procedure x` references of a generic interface (`FortranModuleProcedureReference`): they are not
      procedures, their stored permission is never read for display or export -/
  refs : List Kid := []
  /-- interface-procedure wrapper (`FortranModuleProcedureInterface`): the wrapped
      procedure reads this entity's permission (`FortranProcedure.permission`) -/
  wrapper : Bool := false
  deriving DecidableEq, Repr

/-- The loop over the attribute words of a declaration: the last recognised
    access word wins, everything else is ignored (`words` = the list of the `in [...]` test). -/
def declPerm (words : List Perm) (inh : Perm) : List Attr → Perm
  | [] => inh
  | .acc q :: r => if q ∈ words then declPerm words q r else declPerm words inh r
  | .other :: r => declPerm words inh r

def pick (self child : Perm) : Src → Perm
  | .self => self
  | .child => child

/-! ### derived-type bodies -/

inductive TStmt
  | bare (p : Perm)
  | contains
  | comp (names : List Str) (attrs : List Attr)
  | bind (generic : Bool) (names : List Str) (attrs : List Attr)
  | other
  deriving DecidableEq, Repr

structure TSt where
  child : Perm
  incontains : Bool
  comps : List Kid
  binds : List Kid
  deriving Repr

/-- one statement of a derived-type body; `self` is the type's own permission -/
def tstep (self : Perm) (s : TSt) : TStmt → TSt
  | .bare p => if p ∈ bareWords ∧ bareSetsChild then { s with child := p } else s
  | .contains => if s.incontains then s else { s with incontains := true, child := containsReset }
  | .comp ns as =>
    { s with comps := s.comps ++ ns.map (fun n => ⟨n, declPerm varAttrWords (pick self s.child srcVariables) as⟩) }
  | .bind g ns as =>
    if s.incontains then
      let p := declPerm bindAttrWords (pick self s.child srcBoundProc) as
      { s with binds := s.binds ++ ((if g || ns.length == 1 then ns.take 1 else ns.reverse).map (fun n => ⟨n, p⟩)) }
    else s
  | .other => s

def tinit : TSt := ⟨typeChildInit, false, [], []⟩

def runType (self : Perm) (body : List TStmt) : TSt := body.foldl (tstep self) tinit

/-! ### module / submodule specification part -/

inductive IKind | generic | abstract | plain
  deriving DecidableEq, Repr

inductive Stmt
  | bare (p : Perm)
  | access (a : Attr) (names : List Str)
  | var (names : List Str) (attrs : List Attr)
  | typeDef (name : Str) (attrs : List Attr) (body : List TStmt)
  | iface (k : IKind) (name : Str) (procs : List Str) (refs : List Str)
  | proc (isFunc : Bool) (name : Str)
  | contains
  | other
  deriving DecidableEq, Repr

structure St where
  perm : Perm
  child : Perm
  incontains : Bool
  attrs : List (Str × Attr)
  ents : List Ent
  deriving Repr

/-- the entities a declaration statement creates, given the container's two permissions -/
def mkEnts (self child : Perm) (incontains : Bool) : Stmt → List Ent
  | .var ns as => ns.map (fun n => { cat := .var, name := n, perm := declPerm varAttrWords (pick self child srcVariables) as })
  | .typeDef n as body =>
    let p := declPerm typeAttrWords (pick self child srcType) as
    let t := runType p body
    [{ cat := .type, name := n, perm := p, comps := t.comps, binds := t.binds }]
  | .iface .generic n ps rs =>
    let p := pick self child srcInterface
    [{ cat := .iface, name := n, perm := p, procs := ps.map (fun q => ⟨q, p⟩), refs := rs.map (fun q => ⟨q, p⟩) }]
  | .iface .abstract _ ps _ =>
    ps.map (fun q => { cat := .absIface, name := q, perm := pick self child srcInterface, wrapper := true })
  | .iface .plain _ ps _ =>
    ps.map (fun q => { cat := .iface, name := q, perm := pick self child srcInterface, wrapper := true })
  | .proc f n =>
    if incontains then
      [{ cat := if f then .func else .sub, name := n,
         perm := pick self child (if f then srcFunction else srcSubroutine) }]
    else []
  | _ => []

def step (s : St) (x : Stmt) : St :=
  match x with
  | .bare p =>
    if p ∈ bareWords then
      { s with child := if bareSetsChild then p else s.child, perm := if bareSetsSelf then p else s.perm }
    else s
  | .access a ns => { s with attrs := s.attrs ++ ns.map (fun n => (n, a)) }
  | .contains => { s with incontains := true }
  | .other => s
  | d => { s with ents := s.ents ++ mkEnts s.perm s.child s.incontains d }

def init (submodule : Bool) : St :=
  let p := if submodule then submoduleInit else moduleInit
  ⟨p, p, false, [], []⟩

/-! ### process_attribs -/

/-- the `for attr in self.attr_dict[name]` loop: every recognised access word overwrites -/
def applyAttrs (words : List Perm) (n : Str) (p : Perm) : List (Str × Attr) → Perm
  | [] => p
  | (m, .acc q) :: r => if m = n ∧ q ∈ words then applyAttrs words n q r else applyAttrs words n p r
  | (_, .other) :: r => applyAttrs words n p r

def wordsFor (c : Cat) : List Perm := if c = .var then applyVarWords else applyWords

/-- one entity list: apply, then `del self.attr_dict[name]` -/
def pass (c : Cat) : List Ent → List (Str × Attr) → List Ent × List (Str × Attr)
  | [], a => ([], a)
  | e :: es, a =>
    if e.cat = c then
      let r := pass c es (a.filter (fun x => x.1 ≠ e.name))
      ({ e with perm := applyAttrs (wordsFor c) e.name e.perm a } :: r.1, r.2)
    else
      let r := pass c es a
      (e :: r.1, r.2)

def passes : List Cat → List Ent → List (Str × Attr) → List Ent × List (Str × Attr)
  | [], es, a => (es, a)
  | c :: cs, es, a => let r := pass c es a; passes cs r.1 r.2

/-- what `process_attribs` does to one entity when it sees the whole `attr_dict` `a` -/
def upd (a : List (Str × Attr)) (e : Ent) : Ent :=
  { e with perm := applyAttrs (wordsFor e.cat) e.name e.perm a }

/-- Where `process_attribs` forgets an `attr_dict` entry.  `perEntity`: right after the first entity of that
    name (variant `asIs`: a derived type takes the statement, the constructor interface of the same name
    never sees it).  `afterLoop` (in FORD since bbe7689): every entity of the first loop sees the whole
    `attr_dict`, the names are forgotten when the loop is over (the variables' loop is unchanged).
    Which one the code under test has is decided by the harness by probing it. -/
inductive DelOrder | perEntity | afterLoop
  deriving DecidableEq, Repr

def passesAfter (es : List Ent) (a : List (Str × Attr)) : List Ent × List (Str × Attr) :=
  pass .var (es.map (fun e => if e.cat ∈ itemPasses then upd a e else e))
    (a.filter (fun x => !(es.any (fun e => decide (e.cat ∈ itemPasses) && decide (e.name = x.1)))))

def passesV : DelOrder → List Ent → List (Str × Attr) → List Ent × List (Str × Attr)
  | .perEntity, es, a => passes attribPasses es a
  | .afterLoop, es, a => passesAfter es a

/-- `public_list` -/
def publicList (es : List Ent) (rest : List (Str × Attr)) : List Str :=
  publicListCats.flatMap (fun c => (es.filter (fun e => e.cat = c ∧ e.perm = publicWord)).map (·.name))
  ++ ((rest.filter (fun x => x.2 = .acc publicWord)).map (·.1)).eraseDups

/-- `FortranType.correlate`: an interface named like a type is its constructor and takes the type's permission -/
def ctorPass (es : List Ent) : List Ent :=
  es.map (fun e =>
    if e.cat = .iface then
      match es.find? (fun t => t.cat = .type ∧ t.name = e.name) with
      | some t => { e with perm := t.perm }
      | none => e
    else e)

/-- `FortranProcedure.permission` (the getter): a procedure declared by an interface body reads its parent's
    permission when the generated truth table says so (`readWrapper`: parent is a non-generic interface -
    carried by `Ent.wrapper`, checked on the implementation; `readGeneric`: parent is a generic interface),
    else its own stored one. -/
def readKids (e : Ent) : Ent :=
  if readGeneric then { e with procs := e.procs.map (fun k => ⟨k.name, e.perm⟩) } else e

/-- the four tables of a module through which its entities reach other scopes by use association
    (`pub_procs`, `pub_vars`, `pub_types`, `pub_absints`, built in `FortranModule._cleanup`, i.e. after
    `process_attribs` and *before* `correlate`) -/
inductive Tab | procs | vars | types | absints
  deriving DecidableEq, Repr

def tabOf : Cat → Tab
  | .func => .procs | .sub => .procs | .iface => .procs
  | .type => .types | .absIface => .absints | .var => .vars

/-- `all_procs` of `FortranCodeUnit._cleanup`: procedures, then per (non-abstract) interface the interface and,
    for a generic one, its interface bodies; a dict, so a later entry replaces an earlier one of the same name -/
def allProcs (es : List Ent) : List (Str × Perm) :=
  (es.filter (fun e => e.cat = .func)).map (fun e => (e.name, e.perm))
  ++ (es.filter (fun e => e.cat = .sub)).map (fun e => (e.name, e.perm))
  ++ (es.filter (fun e => e.cat = .iface)).flatMap (fun e => (e.name, e.perm) :: e.procs.map (fun k => (k.name, k.perm)))

/-- value of a key of a dict written as its list of insertions -/
def lookupLast (n : Str) : List (Str × Perm) → Option Perm
  | [] => none
  | (m, p) :: r => match lookupLast n r with
    | some q => some q
    | none => if m = n then some p else none

def exportsOf (es : List Ent) : List (Tab × Str) :=
  (((allProcs es).map (·.1)).eraseDups.filter (fun n => match lookupLast n (allProcs es) with
      | some p => decide (p ∈ exportWords) | none => false)).map (fun n => (Tab.procs, n))
  ++ ((es.filter (fun e => tabOf e.cat ≠ .procs ∧ e.perm ∈ exportWords)).map (fun e => (tabOf e.cat, e.name)))

/-- The places where the code under test may differ from the variant `asIs` (each the repair of a finding, in
    FORD's tree since bbe7689, 18c7094, 34545d1); decided by the harness by probing the real code, see `DelOrder`.  `ctorEarly`: the
    constructor interface takes its type's permission already in `_cleanup`, before the export tables are built
    (`asIs`: only in `FortranType.correlate`, after they were built). -/
structure Variant where
  del : DelOrder
  ctorEarly : Bool
  /-- repair of "access statement naming a specific procedure is ignored": `process_attribs` starts with a
      loop over the interface bodies of the generic interfaces that applies the access words of `attr_dict` to them
      (nothing is deleted there) -/
  specLoop : Bool
  deriving DecidableEq, Repr

/-- the variant without any of these repairs (FORD before bbe7689) -/
def asIs : Variant := ⟨.perEntity, false, false⟩

/-- the loop over the interface bodies of generic interfaces (only generic interfaces have `procs`) -/
def specUpd (on : Bool) (a : List (Str × Attr)) (e : Ent) : Ent :=
  if on then { e with procs := e.procs.map (fun k => ⟨k.name, applyAttrs applyWords k.name k.perm a⟩) } else e

structure Out where
  /-- entities with the permissions they have after `correlate` -/
  ents : List Ent
  publicList : List Str
  /-- entities as `process_attribs` leaves them -/
  attr : List Ent
  /-- entities as `_cleanup` sees them when it builds the export tables -/
  pre : List Ent
  exports : List (Tab × Str)
  deriving Repr

def finish (v : Variant) (s : St) : Out :=
  let r := passesV v.del (s.ents.map (specUpd v.specLoop s.attrs)) s.attrs
  let pre := (if v.ctorEarly then ctorPass r.1 else r.1).map readKids
  ⟨(ctorPass r.1).map readKids, publicList r.1 r.2, r.1, pre, exportsOf pre⟩

def runUnit (v : Variant) (submodule : Bool) (stmts : List Stmt) : Out :=
  finish v (stmts.foldl step (init submodule))

end Ford.Access
