/-
  C04 - separate module procedures: the *implementation* of a procedure whose interface body
  (`module subroutine f` / `module function f`) stands in an ancestor module.

  A submodule can hold such an implementation in two forms:
    * long  - `module subroutine f(...) ... end subroutine`: an ordinary `FortranSubroutine` / `FortranFunction`
      of the submodule (the `.proc` statement of Access.lean; `correlate` later files it under
      `modsubroutines` / `modfunctions`);
    * short - `module procedure f ... end procedure`: a `FortranModuleProcedureImplementation`, constructed with
      the unit's `self.permission` at that point and kept in `modprocedures`, a list `process_attribs` never walks.
  `FortranCodeUnit.correlate` (`assign_implementation_attributes`) copies the metadata the short form lacks
  (attributes, arguments, result, kind of procedure) from the interface body.  Whether it also hands the
  *accessibility* of the interface to the implementation is measured on the code under test
  (`implShortTakesIface`, `implLongTakesIface` in Generated/C04.lean); the model follows the measured table, the
  theorems of Props/C04.lean need it to say "no".
-/
import FordModel.AccessNames
namespace Ford.Access

/-- a statement of a unit as the harness sends it: an ordinary statement (as written), or the body of a separate
    module procedure in the short form -/
inductive XStmt
  | stmt (r : RStmt)
  | impl (name : Str)
  deriving DecidableEq, Repr

/-- the ordinary statements of the unit -/
def xstmts : List XStmt → List RStmt
  | [] => []
  | .stmt r :: t => r :: xstmts t
  | .impl _ :: t => xstmts t

/-- `self.permission` of the unit after one more statement (only a bare access statement moves it) -/
def permAfter (p : Perm) : Stmt → Perm
  | .bare q => if q ∈ bareWords then (if bareSetsSelf then q else p) else p
  | _ => p

/-- the short-form implementations with the permission they are constructed with:
    `FortranModuleProcedureImplementation(source, match, self, self.permission)` -/
def implsFrom (g : Bool) (perm : Perm) : List XStmt → List Kid
  | [] => []
  | .impl n :: t => ⟨n, perm⟩ :: implsFrom g perm t
  | .stmt r :: t => implsFrom g (permAfter perm (keyed g r)) t

/-- `assign_implementation_attributes`: with `on` the implementation named `n` takes the permission of the interface
    body of that name among the host's (`host`: name and permission of the interface bodies the ancestor module /
    parent submodule makes visible), else it keeps its own -/
def takeHost (on : Bool) (host : List (Str × Perm)) (n : Str) (p : Perm) : Perm :=
  if on then (match lookupLast n host with | some q => q | none => p) else p

def hostEnt (host : List (Str × Perm)) (e : Ent) : Ent :=
  if e.cat = .func ∨ e.cat = .sub then { e with perm := takeHost implLongTakesIface host e.name e.perm } else e

structure XOut where
  /-- the unit's entities (long-form implementations among its procedures), `public_list`, export tables -/
  out : Out
  /-- the short-form implementations (`modprocedures`) with the permission they have after `correlate` -/
  impls : List Kid
  deriving Repr

/-- a module / submodule with the implementations of separate module procedures, after `correlate` -/
def runX (v : Variant) (g sub : Bool) (host : List (Str × Perm)) (xs : List XStmt) : XOut :=
  let o := runRaw v g sub (xstmts xs)
  ⟨{ o with ents := o.ents.map (hostEnt host) },
   (implsFrom g (init sub).perm xs).map (fun k => ⟨k.name, takeHost implShortTakesIface host k.name k.perm⟩)⟩

/-! ### the body in the module of its own interface

  Fortran allows the body of a separate module procedure "in the module or a descendant submodule".  In the module
  that declares the interface, interface body and body are **one entity**; FORD keeps two objects for it:
    * long form: the wrapper in `interfaces` (`Stmt.iface .plain`) and a procedure of the same name in
      `subroutines` / `functions` (`Stmt.proc`).  Both lists are walked by the first loop of `process_attribs`, so an
      access statement naming the entity reaches both exactly when an `attr_dict` entry outlives the first entity of
      its name (`DelOrder.afterLoop`, in FORD since bbe7689; `perEntity`: only the
      procedure, which comes first).  That is `runUnit`; nothing new is needed in the model.
    * short form: the wrapper and a `FortranModuleProcedureImplementation` in `modprocedures` - a list
      `process_attribs` never walks.  The body keeps the default it was constructed with.  `implAttr` is the
      repair fixes/C04-own-module-short-body.diff (in FORD since 29840eb): a loop over `modprocedures` at the start of
      `process_attribs` that applies the access words of the whole `attr_dict` (nothing is deleted there).
-/

/-- `attr_dict` of the unit when `process_attribs` starts: every attribute statement of the unit, in order -/
def attrsOf (g sub : Bool) (xs : List XStmt) : List (Str × Attr) :=
  (((xstmts xs).map (keyed g)).foldl step (init sub)).attrs

/-- the loop over `modprocedures` (`implAttr`) -/
def implUpd (on : Bool) (a : List (Str × Attr)) (k : Kid) : Kid :=
  if on then ⟨k.name, applyAttrs applyWords k.name k.perm a⟩ else k

/-- a module / submodule with the implementations of separate module procedures, after `correlate`; `implAttr`:
    do access statements reach the short-form bodies (decided by the harness by probing the code under test) -/
def runXI (v : Variant) (g sub implAttr : Bool) (host : List (Str × Perm)) (xs : List XStmt) : XOut :=
  ⟨(runX v g sub host xs).out,
   ((implsFrom g (init sub).perm xs).map (implUpd implAttr (attrsOf g sub xs))).map
     (fun k => ⟨k.name, takeHost implShortTakesIface host k.name k.perm⟩)⟩

end Ford.Access
