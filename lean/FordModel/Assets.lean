/-
  C09 — the files that are *not* pages but that pages link to.

  (1) Assets.  Every page template writes `{{ project_url }}/<path>` URLs that are neither list pages
      nor entity pages: the icon, the style sheets and scripts shipped with FORD, the user's style
      sheet, the MathJax configuration, the search index and its loader, `index.html`, `search.html`.
      Each of them exists only because `Documentation.writeout` puts a file at exactly that path
      (`shutil.copy(.., out_dir / "favicon.png")`, `copytree(loc / "css", out_dir / "css")`, …,
      the `writeout()` of the index and search page; the user's `media_dir` and `page_dir` trees go below
      the directories the `|media|` / `|page|` aliases expand to).  Both sides are regenerated from the source
      (Generated/C09.lean: `assetTables`): the links with the conjunction of the enclosing
      `{% if %}` tests, the writes with their destination expression, their kind and the enclosing
      Python `if`s.  A path is a list of pieces: literal text, or the value of an expression
      (`basename(mathjax_config)`) that both sides name by the same key.

  (2) Copies next to static pages.  `PagetreePage.writeout` copies, for *every* page, the directories
      named by the page's `copy_subdir` and the page's `files` next to the page; a relative link
      `<dir>/<file>` written on that page resolves only because of that copy.  The guard under which
      the two loops run is regenerated (`pageTables`).

  Import-free (driver).
-/
import FordModel.Path
import FordModel.Nav
import FordModel.PageName
namespace Ford.Assets
open Ford.Path Ford.Nav

/-! ## (1) asset links versus asset writes -/

/-- one piece of a path expression -/
inductive Piece where
  | lit (s : Str)     -- literal text (may contain `/`)
  | dyn (key : Str)   -- the value of an expression, named by a key both sides agree on
  deriving Repr, DecidableEq

/-- a token of the flattened path: one literal character, or a dynamic value -/
inductive Tok where
  | ch (c : Char)
  | val (key : Str)
  deriving Repr, DecidableEq

/-- literals spelt out character by character: `css` `/` `user.css` and `css/user.css` are the same path -/
def flat : List Piece → List Tok
  | [] => []
  | .lit s :: ps => s.map Tok.ch ++ flat ps
  | .dyn k :: ps => Tok.val k :: flat ps

def tokStr (ρ : Str → Str) : Tok → Str
  | .ch c => [c]
  | .val k => ρ k

/-- the text of a path for given values of the dynamic pieces -/
def inst (ρ : Str → Str) (p : List Piece) : Str := (flat p).flatMap (tokStr ρ)

/-- a URL below the root that a template writes: `<tag … attr="{{ project_url }}/<path>">` -/
structure Link where
  tpl : Str
  tag : Str
  attr : Str
  path : List Piece
  cond : Cond
  deriving Repr, DecidableEq

/-- what puts files below the destination -/
inductive Src where
  | file                        -- `shutil.copy(x, dest)`: exactly the file `dest`
  | page                        -- `writeout()` of a page whose `outfile` is `dest`
  | shipped (files : List Str)  -- `copytree(loc / d, dest)`: the files of FORD's own directory `d`
  | user                        -- `copytree(<user directory>, dest)`: whatever the user put there
  deriving Repr, DecidableEq

/-- one write of `Documentation.writeout`, destination relative to the output directory -/
structure Write where
  dest : List Piece
  src : Src
  cond : Cond
  deriving Repr, DecidableEq

structure Tables where
  links : List Link
  writes : List Write
  /-- the built-in Markdown aliases (`|url|`, `|media|`, `|page|`): name, path below `project_url` -/
  aliases : List (Str × List Piece)

/-- the files one write creates (paths below the output directory) -/
def writeFiles (ρ : Str → Str) (w : Write) : List Str :=
  match w.src with
  | .file => [inst ρ w.dest]
  | .page => [inst ρ w.dest]
  | .shipped fs => fs.map fun f => inst ρ w.dest ++ '/' :: f
  | .user => []

/-- all asset files written for a project of shape / option values `sh` -/
def written (T : Tables) (sh : Shape) (ρ : Str → Str) : List Str :=
  T.writes.flatMap fun w => if eval sh w.cond then writeFiles ρ w else []

/-- the asset links a template emits -/
def emitted (T : Tables) (sh : Shape) (tpl : Str) : List Link :=
  T.links.filter fun l => decide (l.tpl = tpl) && eval sh l.cond

/-- does the write create the file the link names, whatever the dynamic values are? -/
def covers (w : Write) (l : Link) : Bool :=
  match w.src with
  | .file => decide (flat w.dest = flat l.path)
  | .page => decide (flat w.dest = flat l.path)
  | .shipped fs => fs.any fun f => decide (flat l.path = flat w.dest ++ (('/' :: f).map Tok.ch))
  | .user => false

/-- the obligation for one link: some write creates its file, under a condition the link's condition implies -/
def linkOk (T : Tables) (l : Link) : Bool :=
  T.writes.any fun w => covers w l && valid (imp l.cond w.cond)

/-- the obligation for one built-in alias: it expands to the output root itself, or to the very directory
    below which a copy of a user directory is made (`media_dir` -> `media`, `page_dir` -> `page`) -/
def aliasOk (T : Tables) (a : Str × List Piece) : Bool :=
  decide (flat a.2 = []) || T.writes.any fun w => decide (w.src = .user) && decide (flat w.dest = flat a.2)

/-! ## (2) copies next to static pages -/

/-- the guard of a loop of `PagetreePage.writeout`, as a function of "is this the index page of its directory" -/
inductive CopyGuard where
  | always
  | indexOnly
  | nonIndexOnly
  | never
  deriving Repr, DecidableEq

def CopyGuard.runs : CopyGuard → Bool → Bool
  | .always, _ => true
  | .indexOnly, i => i
  | .nonIndexOnly, i => !i
  | .never, _ => false

structure PageTables where
  /-- guard of `for item in self.obj.copy_subdir: copytree(..)` -/
  copyGuard : CopyGuard
  /-- guard of `for item in self.obj.files: shutil.copy(..)` -/
  filesGuard : CopyGuard
  /-- how `PageNode.url`, `PagetreePage.outfile` and `PagetreePage.loc` name the page's HTML file
      (`PageName.lean`) -/
  names : PageName.NameTables
  deriving Repr, DecidableEq

abbrev pageSeg : Seg := PageName.pageSeg
def indexStem : Seg := ['i', 'n', 'd', 'e', 'x']
abbrev htmlExt : Str := PageName.htmlExt

/-- a `PageNode` as `PagetreePage.writeout` sees it: `copySubdir` pairs every item that is a directory
    next to the page source with the files below it; `files` are the other files of the page's directory
    (only the node of `index.md` carries them). -/
structure PageNode where
  loc : List Seg
  stem : Seg
  copySubdir : List (Seg × List (List Seg))
  files : List Seg

def PageNode.isIndex (p : PageNode) : Bool := p.stem == indexStem

/-- the files `PagetreePage.writeout` creates for one page, below the output directory -/
def pageWrites (T : PageTables) (p : PageNode) : List (List Seg) :=
  PageName.outPath T.names p.loc p.stem ::
    ((if T.copyGuard.runs p.isIndex then
        p.copySubdir.flatMap fun it => it.2.map fun f => pageSeg :: p.loc ++ it.1 :: f
      else []) ++
     (if T.filesGuard.runs p.isIndex then p.files.map fun f => pageSeg :: p.loc ++ [f] else []))

/-- the directory of the page's HTML file below the output directory -/
def pageDirOf (p : PageNode) : List Seg := pageSeg :: p.loc

end Ford.Assets
