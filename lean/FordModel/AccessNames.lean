/-
  C04 - the *name keying* of FORD's permission mechanism as the code is: under which key an access statement
  files a name in `attr_dict`, and under which key `process_attribs` looks an entity up.

    declaration side   `line_to_variables`: the entity list is split at top-level commas (`paren_split`),
                       every entity-decl loses the characters of `declDropChars` (`re.sub(" ", "", dec)`),
                       is split at its first top-level `=`; `FortranVariable.__init__` cuts the name at the
                       first `(`, `[`, `*` (`cutChars`; a character found at index 0 does not count);
                       `process_attribs` looks up `var.name.lower()`.
    statement side     `FortranContainer.__init__` (ATTRIB_RE branch): `paren_split(",", names)`, every name
                       `.strip().lower()`.
    interface side     `FortranInterface._initialize`: the generic-spec is everything after `interface`,
                       looked up as `item.name.lower()`.

  `declDropChars` and `cutChars` are measured on the code under test by the translator (Generated/C04.lean).
  `RStmt` is a statement of a specification part with these three name lists *as written*; `keyed` turns it into
  the abstract `Stmt` of Access.lean whose names are the keys.  `normKey` is the repair
  fixes/C04-generic-spec-spelling.diff (in FORD since cbe48be) (a key that contains `(` loses all its blanks on both sides).
-/
import FordModel.Access
import FordModel.Basic.Split
import FordModel.TypeSpec
namespace Ford.Access

/-- `re.sub(" ", "", dec)` of `line_to_variables` (the characters are measured: `declDropChars`) -/
def dropBlanks (d : Str) : Str := d.filter (fun c => !(declDropChars.contains c))

/-- `indexlist` of `FortranVariable.__init__`: for each cut character the index of its first occurrence,
    when that is positive -/
def cutCands (s : Str) : List Nat :=
  cutChars.filterMap (fun c => let i := s.idxOf c; if 0 < i ∧ i < s.length then some i else none)

/-- `min(indexlist)` (the whole name when the list is empty) -/
def cutIdx (s : Str) : Nat := (cutCands s).foldl min s.length

/-- `self.name = self.name[0:min(indexlist)]` -/
def cutName (s : Str) : Str := s.take (cutIdx s)

/-- the name `line_to_variables` + `FortranVariable.__init__` give one entity-decl -/
def declName (d : Str) : Str :=
  let dec := dropBlanks d
  match parenSplit '=' dec with
  | nm :: _ :: _ => cutName nm
  | _ => cutName (strip dec)

/-- the `attr_dict` keys under which the entities of one entity list are looked up, in order -/
def declKeys (raw : Str) : List Str := (parenSplit ',' raw).map (fun d => lower (declName d))

/-- with `g`: a generic-spec is one identifier however its tokens are spaced -/
def normKey (g : Bool) (y : Str) : Str :=
  if g && y.contains '(' then y.filter (fun c => !isSpace c) else y

/-- key of one name of an attribute statement: `name.strip().lower()` -/
def nameKey (g : Bool) (x : Str) : Str := normKey g (lower (strip x))

/-- the keys an attribute statement files its names under, in order -/
def stmtKeys (g : Bool) (raw : Str) : List Str := (parenSplit ',' raw).map (nameKey g)

/-- key under which a generic interface is looked up: `item.name.lower()` -/
def ifaceKey (g : Bool) (raw : Str) : Str := normKey g (lower raw)

/-- a statement of a specification part with its name lists as they are written in the source -/
inductive RStmt
  /-- a statement whose names need no keying here (type, procedure, bare statement ...) -/
  | plain (s : Stmt)
  /-- attribute statement: the attribute and the text of its name list -/
  | accessR (a : Attr) (raw : Str)
  /-- type declaration statement: the text of its entity list and its attribute words -/
  | varR (raw : Str) (attrs : List Attr)
  /-- generic interface: the text of its generic-spec, its interface bodies and `module procedure` references -/
  | genericR (raw : Str) (procs refs : List Str)
  deriving DecidableEq, Repr

def keyed (g : Bool) : RStmt → Stmt
  | .plain s => s
  | .accessR a raw => .access a (stmtKeys g raw)
  | .varR raw attrs => .var (declKeys raw) attrs
  | .genericR raw ps rs => .iface .generic (ifaceKey g raw) ps rs

/-- a module / submodule from its statements as written -/
def runRaw (v : Variant) (g : Bool) (submodule : Bool) (rs : List RStmt) : Out :=
  runUnit v submodule (rs.map (keyed g))

/-! ### vocabulary of the theorem statements: how Fortran lets these names be spelled -/

/-- a Fortran name: letters, digits, underscores -/
def IsIdent (n : Str) : Prop := n ≠ [] ∧ ∀ c ∈ n, isWord c = true

instance (n : Str) : Decidable (IsIdent n) := by unfold IsIdent; infer_instance

def blanks (k : Nat) : Str := List.replicate k ' '

/-- levels of `paren_split` after a text in which no top-level separator occurs (`none`: it would split) -/
def scanLv (sep : Char) : Str → Int → Int → Option (Int × Int)
  | [], l, b => some (l, b)
  | c :: r, l, b =>
    if c == '(' then scanLv sep r (l + 1) b
    else if c == ')' then scanLv sep r (l - 1) b
    else if c == '[' then scanLv sep r l (b + 1)
    else if c == ']' then scanLv sep r l (b - 1)
    else if c == sep && l == 0 && b == 0 then none
    else scanLv sep r l b

/-- the text has balanced parentheses / brackets and no separator outside them -/
def Closed (sep : Char) (t : Str) : Prop := scanLv sep t 0 0 = some (0, 0)

instance (sep : Char) (t : Str) : Decidable (Closed sep t) := by unfold Closed; infer_instance

/-- One entity-decl (F2018 R803) as written: blanks, the object name in any letter case, blanks, and then
    nothing, or an array-spec `(`, a coarray-spec `[`, a char-length `*` or an initialisation `=` with
    whatever follows. -/
structure DeclSp where
  lead : Nat
  name : Str
  gap : Nat
  rest : Str
  deriving Repr

def DeclSp.text (d : DeclSp) : Str := blanks d.lead ++ d.name ++ blanks d.gap ++ d.rest

/-- literal Fortran syntax - nothing here refers to a generated table -/
def DeclSp.Ok (d : DeclSp) : Prop :=
  IsIdent d.name
  ∧ (d.rest = [] ∨ d.rest.head? = some '(' ∨ d.rest.head? = some '[' ∨ d.rest.head? = some '*'
      ∨ d.rest.head? = some '=')
  ∧ (∀ c ∈ d.rest, isSpace c = true → c = ' ')
  ∧ Closed ',' d.rest

instance (d : DeclSp) : Decidable d.Ok := by unfold DeclSp.Ok; infer_instance

/-- one name of an access statement as written: blanks, the name in any letter case, blanks -/
structure NameSp where
  lead : Nat
  name : Str
  trail : Nat
  deriving Repr

def NameSp.text (d : NameSp) : Str := blanks d.lead ++ d.name ++ blanks d.trail

/-- `r` is a spelling of the abstract statement `s` (names = lower-cased identifiers) -/
inductive Spells : RStmt → Stmt → Prop
  | plain (s : Stmt) : Spells (.plain s) s
  | var (ds : List DeclSp) (attrs : List Attr) (hne : ds ≠ []) (h : ∀ d ∈ ds, d.Ok) :
      Spells (.varR (joinSep ',' (ds.map DeclSp.text)) attrs) (.var (ds.map (fun d => lower d.name)) attrs)
  | access (a : Attr) (ns : List NameSp) (hne : ns ≠ []) (h : ∀ d ∈ ns, IsIdent d.name) :
      Spells (.accessR a (joinSep ',' (ns.map NameSp.text))) (.access a (ns.map (fun d => lower d.name)))
  | generic (n : Str) (ps rs : List Str) (h : IsIdent n) :
      Spells (.genericR n ps rs) (.iface .generic (lower n) ps rs)

/-- statement by statement -/
inductive SpellsAll : List RStmt → List Stmt → Prop
  | nil : SpellsAll [] []
  | cons {r s rs ss} (h : Spells r s) (t : SpellsAll rs ss) : SpellsAll (r :: rs) (s :: ss)

end Ford.Access
