/-
  Interface blocks with procedure bodies (`FortranInterface._cleanup`,
  `FortranModuleProcedureInterface.__init__` in ford/sourceform.py), on top of `Attach.lean`.

  * An `interface` block without a generic name, and every `abstract interface` block, does not
    show up as an entity of its own: at its END, `_cleanup` creates one wrapper entity
    (`FortranModuleProcedureInterface`) per procedure declared directly in the block — functions
    first, then subroutines, each group in source order — which is what the enclosing scope
    lists in `interfaces` / `absinterfaces`.  The wrapper is named like its procedure, is
    registered for conversion when it is created (so after everything declared inside the block) and
    is constructed with **the block's `doc_list` object**: the block's comment documents each of them.
  * Every wrapper runs `read_metadata` on that shared list again; `meta_preprocessor` works in
    place, so the lists of the block and of all its wrappers are one object whose final content
    is what the last `read_metadata` left.
  * The `FortranInterface` object of an `abstract interface` removes itself from the registration
    list (`_initialize`); the one of a plain `interface` block stays registered.

  The pass below runs next to `attachStep` (it never changes what `attachStep` computes, see
  `wFrom_a`) and records for each such block: the index of its entity, its procedures and where
  it ended.  `entDocsW` then inserts the wrappers into `entDocs`' answer.
-/
import FordModel.Attach
namespace Ford

structure IfRec where
  idx : Nat                 -- index (in `ents`) of the block's own entity
  abstr : Bool
  funs : List Str := []     -- functions declared directly in the block, in source order
  subs : List Str := []     -- subroutines
  stop : Option Nat := none -- `ents.length` when the block ended
  deriving Repr, DecidableEq

/-- the statement opens a block that gets wrappers: `some false` for `interface` without a name,
    `some true` for `abstract interface` -/
def ifaceOpen (line : Str) : Option Bool :=
  let l := lower line
  let (w, r) := firstWord l
  if w == "abstract".toList then
    if (firstWord (lstrip r)).1 == "interface".toList then some true else none
  else if w == "interface".toList then
    if (firstWord (lstrip r)).1.isEmpty then some false else none
  else none

def procKindCore (w r : Str) : Option Bool :=
  if w == "subroutine".toList then some false
  else if w == "function".toList then some true
  else if typeKeywords.contains w && (firstWord (lstrip r)).1 == "function".toList then some true
  else none

/-- `some true` = the statement opens a function, `some false` = a subroutine (same reading of the
    statement as `classify`: up to two prefix words) -/
def procKind (line : Str) : Option Bool :=
  let l := lower line
  let (w, r) := firstWord l
  if prefixKeywords.contains w then
    let (w1, r1) := firstWord (lstrip r)
    if prefixKeywords.contains w1 then
      let (w2, r2) := firstWord (lstrip r1)
      procKindCore w2 r2
    else procKindCore w1 r1
  else procKindCore w r

def modifyRec (f : IfRec → IfRec) : Nat → List IfRec → List IfRec
  | _, [] => []
  | 0, r :: rs => f r :: rs
  | i + 1, r :: rs => r :: modifyRec f i rs

structure WSt where
  a : ASt
  kstack : List (Option Nat) := []   -- parallel to `a.stack`: `some k` = the container is block number `k`
  recs : List IfRec := []
  deriving Repr

/-- one reader item: `attachStep`, plus the bookkeeping of interface blocks -/
def wStep (mark : Str) (w : WSt) (it : Str) : WSt :=
  let a' := attachStep mark w.a it
  if (w.a.reading > 0 && startsWith it ('!' :: mark)) || it.take 2 == '!' :: mark then { w with a := a' }
  else
    match classify it with
    | .openE n =>
      let recs1 :=
        match w.kstack.head?, procKind it with
        | some (some k), some true => modifyRec (fun r => { r with funs := r.funs ++ [n] }) k w.recs
        | some (some k), some false => modifyRec (fun r => { r with subs := r.subs ++ [n] }) k w.recs
        | _, _ => w.recs
      match ifaceOpen it with
      | some ab => { a := a', kstack := some recs1.length :: w.kstack,
                     recs := recs1 ++ [{ idx := w.a.ents.length, abstr := ab }] }
      | none => { a := a', kstack := none :: w.kstack, recs := recs1 }
    | .close =>
      match w.kstack with
      | some k :: rest =>
        { a := a', kstack := rest, recs := modifyRec (fun r => { r with stop := some a'.ents.length }) k w.recs }
      | _ => { a := a', kstack := w.kstack.drop 1, recs := w.recs }
    | _ => { w with a := a' }

def wFrom (mark : Str) : WSt → List Str → WSt
  | w, [] => w
  | w, it :: rest => wFrom mark (wStep mark w it) rest

/-- the wrappers of one block, created one after the other on the shared list `L`:
    (name, metadata) of each, and the final content of the list.  `wfix = false`: FORD before
    def6ba9, each wrapper runs `read_metadata` on the shared list (what the block's own
    `read_metadata` left), so the metadata of the block's comment (`bm`) does not reach the
    wrappers and the remaining text is searched for metadata again — finding
    C03-interface-block-metadata-not-applied; `wfix = true`: since
    (fixes/C03-interface-block-metadata.diff) each wrapper takes a copy of the block's metadata
    and the list is left alone. -/
def wrapFold (wfix tb : Bool) (fields : List Str) (bm : MetaDict) : List Str → List Str → List (Str × MetaDict) × List Str
  | [], L => ([], L)
  | n :: ns, L =>
    if wfix then
      let rest := wrapFold wfix tb fields bm ns L
      ((n, bm) :: rest.1, rest.2)
    else
      let r := readMetadata tb fields L
      let rest := wrapFold wfix tb fields bm ns r.2
      ((n, r.1) :: rest.1, rest.2)

abbrev EntDoc := Str × MetaDict × List Str

/-- the wrapper entities of one block: each with its own metadata and the shared list -/
def wrappersOf (wfix tb : Bool) (fields : List Str) (base : List EntDoc) (r : IfRec) : List EntDoc :=
  match base[r.idx]? with
  | none => []
  | some b =>
    let f := wrapFold wfix tb fields b.2.1 (r.funs ++ r.subs) b.2.2
    f.1.map (fun nm => (nm.1, nm.2, f.2))

/-- `entDocs` with the wrappers inserted where they are registered (when their block ends), the
    shared doc list written back to the block's own entity, and the entities of
    `abstract interface` blocks dropped -/
def insertWrappers (wfix tb : Bool) (fields : List Str) (recs : List IfRec) (base : List EntDoc) :
    Nat → List EntDoc → List EntDoc
  | _, [] => []
  | i, x :: xs =>
    let own :=
      match recs.find? (fun r => r.idx == i) with
      | some r =>
        if r.abstr then [] else [(x.1, x.2.1, (wrapFold wfix tb fields x.2.1 (r.funs ++ r.subs) x.2.2).2)]
      | none => [x]
    own ++ (recs.filter (fun r => r.stop == some (i + 1))).flatMap (wrappersOf wfix tb fields base)
      ++ insertWrappers wfix tb fields recs base (i + 1) xs

def attachW (mark : Str) (items : List Str) : WSt :=
  wFrom mark { a := { ents := [⟨fileName, true, [], []⟩] } } items

/-- (name, metadata, final doc_list) of every registered entity of a file, in registration order -/
def entDocsW (wfix tb : Bool) (fields : List Str) (rep : Bool) (w : WSt) : List EntDoc :=
  let base := entDocs tb fields rep w.a.ents
  insertWrappers wfix tb fields w.recs base 0 base

end Ford
