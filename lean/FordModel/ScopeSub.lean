/-
  C07 - submodules.  A submodule is a scoping unit nested in its parent - the submodule
  `parent` of its ancestor module in `submodule (anc:parent) name`, else the ancestor module: it
  accesses the parent's entities by host association, its own declarations shadow them, and a
  separate module procedure (`module subroutine n` / `module procedure n`) implements the module
  procedure interface `n` it accesses from an ancestor.

  FORD before 28078b8 and 7b17ce2 (`FortranCodeUnit.correlate`, `fortran_project.find_used_modules`;
  the variant `SVariant.asFound`):
  * the tables of a submodule start from its local declarations; then
    `all_X.update(parent_submodule.all_X)` if the parent submodule was found, else
    `all_X.update(ancestor_module.all_X)` - the parent's entries OVERWRITE the local ones
    (`SVariant.ancOverLocal`); then the USE imports;
  * the parent submodule is searched in the project's list of ALL submodules by its name alone
    (`SVariant.parentByName`): the first one of that name wins, whatever its ancestor module;
  * a separate module procedure `n` is paired with `all_procs.get(n)` (after the `update`, before
    the USE imports) if that is an interface body.
  No imports outside FordModel (linked into the driver).
-/
import FordModel.Scope
import FordModel.ScopeSpec
namespace Ford.Scope
open Ford

/-- header of a submodule: names of the ancestor module and of the parent submodule, the slots
    that hold the two references, and the separate module procedures it implements
    (slot of the interface reference, name) -/
structure SubInfo where
  anc : Str
  parent : Option Str
  ancSlot : Nat
  parSlot : Nat
  pairs : List (Nat × Str)
  deriving Repr

inductive UKind
  | mod
  | other
  | sub (i : SubInfo)
  deriving Repr

structure SVariant where
  ancOverLocal : Bool   -- the parent's tables are `update`d into the submodule's
  parentByName : Bool   -- the parent submodule is looked up by its name alone
  deriving DecidableEq, Repr

def SVariant.asFound : SVariant := ⟨true, true⟩
def SVariant.repaired : SVariant := ⟨false, false⟩

/-- a correlated module (`name = []`) or submodule -/
structure UnitRec where
  anc : Str     -- module: its own name; submodule: the name of its ancestor module (lower case)
  name : Str    -- submodule: its name (lower case)
  ent : Ent
  tabs : Tabs
  deriving Repr

structure PState where
  env : ModEnv              -- what USE sees of the modules
  mods : List UnitRec       -- the modules with their full tables (most recent first)
  subs : List UnitRec       -- the submodules
  deriving Repr

def PState.empty : PState := ⟨[], [], []⟩

def findUnit (us : List UnitRec) (anc name : Str) : Option UnitRec :=
  us.find? fun r => decide (r.anc = anc) && decide (r.name = name)

/-- `for submod in submodules: if parent_submodule_name == submod.name.lower(): ... break` over the
    project's list (`order` = the entities of the submodules in that list's order) -/
def findSubByName (order : List Ent) (subs : List UnitRec) (name : Str) : Option UnitRec :=
  order.findSome? fun e => subs.find? fun r => decide (r.ent = e) && decide (r.name = name)

def parentOf (sv : SVariant) (order : List Ent) (subs : List UnitRec) (i : SubInfo) : Option UnitRec :=
  match i.parent with
  | none => none
  | some p =>
    if sv.parentByName then findSubByName order subs (lower p) else findUnit subs (lower i.anc) (lower p)

def emptyTabs : Tabs := ⟨[], [], []⟩

/-- the tables host association starts from: the parent submodule's if one was found, else the
    ancestor module's -/
def hostTabs (sv : SVariant) (order : List Ent) (st : PState) (i : SubInfo) : Tabs :=
  match parentOf sv order st.subs i with
  | some r => r.tabs
  | none => match findUnit st.mods (lower i.anc) [] with
    | some m => m.tabs
    | none => emptyTabs

/-- tables of a module after `correlate` (a top-level unit: empty host tables) -/
def modTabs (v : Variant) (env : ModEnv) : Scope → Tabs
  | .mk _ _ _ uses decls _ kids => unitTabs v env [] [] [] uses decls kids

/-- tables of a submodule: local declarations, host association, USE -/
def subTabs (ancOverLocal : Bool) (env : ModEnv) (host : Tabs) (uses : List Use) (decls : List Decl) (kids : Kids) : Tabs :=
  let lp := localProcs decls kids
  if ancOverLocal then
    applyUses env uses ⟨host.p ++ lp, host.a ++ declsOf .ab decls, host.t ++ declsOf .ty decls⟩
  else
    applyUses env uses ⟨lp ++ host.p, declsOf .ab decls ++ host.a, declsOf .ty decls ++ host.t⟩

/-- the interface a separate module procedure is paired with: `self.all_procs.get(name)` after the
    parent's entries were brought in and before the USE imports - the parent's entry if it has one,
    else the submodule's own (both merge orders agree on that) - if it is an interface body
    (`pairable`) -/
def pairLookup (pairable : List Ent) (host : Tabs) (decls : List Decl) (kids : Kids) (n : Str) : Option Ent :=
  match tget (host.p ++ localProcs decls kids) (lower n) with
  | some e => if e ∈ pairable then some e else none
  | none => none

def pairSlots (pairable : List Ent) (host : Tabs) (decls : List Decl) (kids : Kids) : List (Nat × Str) → Res
  | [] => []
  | (i, n) :: r =>
    (⟨i, .pr, .early, n⟩, pairLookup pairable host decls kids n) :: pairSlots pairable host decls kids r

/-- `correlate` of a submodule: its tables (inherited by its own submodules) and its slots -/
def corrSub (v : Variant) (ancOverLocal : Bool) (env : ModEnv) (host : Tabs) : Scope → Tabs × Res
  | .mk _ _ _ uses decls slots kids =>
    let tb := subTabs ancOverLocal env host uses decls kids
    let early := resolvePhase .early tb slots
    let r1 := corrKids v env tb.p true tb.a tb.t kids
    let r2 := corrKids v env tb.p false r1.1 r1.2.1 kids
    let late := resolvePhase .late ⟨tb.p, r2.1, r2.2.1⟩ slots
    (⟨tb.p, if v.alias then r2.1 else tb.a, if v.alias then r2.2.1 else tb.t⟩,
     early ++ (r1.2.2 ++ (r2.2.2 ++ late)))

def scopeEnt : Scope → Ent
  | .mk _ e _ _ _ _ _ => e

def scopeDecls : Scope → List Decl
  | .mk _ _ _ _ d _ _ => d

def scopeKids : Scope → Kids
  | .mk _ _ _ _ _ _ k => k

/-- the references of a submodule to its ancestor module and parent submodule -/
def headSlots (sv : SVariant) (order : List Ent) (st : PState) (i : SubInfo) : Res :=
  [(⟨i.ancSlot, .pr, .early, i.anc⟩, (findUnit st.mods (lower i.anc) []).map (·.ent)),
   (⟨i.parSlot, .pr, .early, i.parent.getD []⟩, (parentOf sv order st.subs i).map (·.ent))]

/-- `Project.correlate` with submodules: units in dependency order (a submodule after its parent) -/
def corrProjectS (v : Variant) (sv : SVariant) (pairable order : List Ent) : PState → List (UKind × Scope) → Res
  | _, [] => []
  | st, (.mod, s) :: us =>
    corrUnit v st.env s ++
      corrProjectS v sv pairable order
        ⟨(lower (scopeName s), exportsOf st.env s) :: st.env,
         ⟨lower (scopeName s), [], scopeEnt s, modTabs v st.env s⟩ :: st.mods, st.subs⟩ us
  | st, (.other, s) :: us => corrUnit v st.env s ++ corrProjectS v sv pairable order st us
  | st, (.sub i, s) :: us =>
    let host := hostTabs sv order st i
    let r := corrSub v sv.ancOverLocal st.env host s
    headSlots sv order st i ++
      (pairSlots pairable host (scopeDecls s) (scopeKids s) i.pairs ++
        (r.2 ++
          corrProjectS v sv pairable order
            ⟨st.env, st.mods, ⟨lower i.anc, lower (scopeName s), scopeEnt s, r.1⟩ :: st.subs⟩ us))

/-! ### specification -/

/-- a module or submodule with the chain of frames a scope nested in it sees (innermost first) -/
structure SpecRec where
  anc : Str
  name : Str
  ent : Ent
  chain : List Frame

structure SpecState where
  env : ModEnv
  mods : List SpecRec
  subs : List SpecRec

def SpecState.empty : SpecState := ⟨[], [], []⟩

def findSpec (us : List SpecRec) (anc name : Str) : Option SpecRec :=
  us.find? fun r => decide (r.anc = anc) && decide (r.name = name)

/-- Fortran (F2018 14.2.3): the parent of `submodule (anc:parent) name` is the submodule `parent`
    of the module `anc`; of `submodule (anc) name` the module `anc` -/
def specParent (st : SpecState) (i : SubInfo) : Option SpecRec :=
  match i.parent with
  | none => none
  | some p => findSpec st.subs (lower i.anc) (lower p)

def specHostChain (st : SpecState) (i : SubInfo) : List Frame :=
  match i.parent with
  | some p => match findSpec st.subs (lower i.anc) (lower p) with
    | some r => r.chain
    | none => []
  | none => match findSpec st.mods (lower i.anc) [] with
    | some m => m.chain
    | none => []

/-- a separate module procedure implements the module procedure interface of its name that it
    accesses by host association - the innermost host frame that has the name decides - or, if no
    host has the name, the one the submodule declares itself (`lp` = its own procedure-like
    declarations) -/
def specPairs (pairable : List Ent) (ch : List Frame) (lp : Table) : List (Nat × Str) → Res
  | [] => []
  | (i, n) :: r =>
    (⟨i, .pr, .early, n⟩,
      match (match chainGet (·.p) ch (lower n) with
             | some e => some e
             | none => tget lp (lower n)) with
      | some e => if e ∈ pairable then some e else none
      | none => none) :: specPairs pairable ch lp r

def specProjectS (pairable : List Ent) : SpecState → List (UKind × Scope) → Res
  | _, [] => []
  | st, (.mod, s) :: us =>
    specScope st.env [] s ++
      specProjectS pairable
        ⟨(lower (scopeName s), (let f := frameOf st.env s; ⟨f.p, f.a, f.t⟩)) :: st.env,
         ⟨lower (scopeName s), [], scopeEnt s, [frameOf st.env s]⟩ :: st.mods, st.subs⟩ us
  | st, (.other, s) :: us => specScope st.env [] s ++ specProjectS pairable st us
  | st, (.sub i, s) :: us =>
    let ch := specHostChain st i
    [(⟨i.ancSlot, .pr, .early, i.anc⟩, (findSpec st.mods (lower i.anc) []).map (·.ent)),
     (⟨i.parSlot, .pr, .early, i.parent.getD []⟩, (specParent st i).map (·.ent))] ++
      (specPairs pairable ch (localProcs (scopeDecls s) (scopeKids s)) i.pairs ++
        (specScope st.env ch s ++
          specProjectS pairable
            ⟨st.env, st.mods, ⟨lower i.anc, lower (scopeName s), scopeEnt s, frameOf st.env s :: ch⟩ :: st.subs⟩ us))

def kindIsSub : UKind → Bool
  | .sub _ => true
  | _ => false

def kindIsMod : UKind → Bool
  | .mod => true
  | _ => false

end Ford.Scope
