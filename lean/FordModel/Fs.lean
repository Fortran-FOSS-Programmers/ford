/-
  C19 - file-system write-out model.

  Mirrors, as the code is:
    ford/utils.py      normalise_path            ((base / p).absolute().resolve())
    ford/settings.py   normalise_paths           (output_dir, graph_dir, src_dir ... resolved)
    ford/__init__.py   parse_arguments 368-374   (refusal when output_dir is a src_dir or above one)
                       main                      (writeout, then dump_modules)
    ford/output.py     Documentation.writeout, BasePage.writeout, PagetreePage.writeout, copytree
    ford/graphs.py     GraphManager.output_graphs / FortranGraph._create_image_file
    ford/tipue_search  print_output
    ford/sourceform.py NameSelector.get_name     (entity name -> file stem)

  Paths are lists of segments (absolute; `[]` is `/`).  The run is a list of
  *primitive file-system attempts* `Prim` (what `sys.addaudithook` sees in the
  real run: rmtree / remove / mkdir / open-for-write / chmod / utime / rename),
  every path passed through `norm`, the lexical resolution of `.`, `..`, `//`
  that the OS performs.  That the lexical resolution is also the physical one rests on
  there being no symbolic link below the output directory: it has just been wiped.  This
  is made explicit by `Cfg.old` (the symbolic links lying in the old output directory / in
  the graph directory before the run), `survivors` (which of them are still there after the
  clean-up) and `runPhys` (every attempt at the physical path the OS resolves it to).
  `resolve` additionally follows a table of symbolic links
  (used for the settings paths, `Path.resolve()`).
-/
import FordModel.Basic.Chars
import FordModel.Generated.C19
namespace Ford.Fs
open Ford

abbrev Seg := Str
abbrev Path := List Seg

def dotdot : Seg := ['.', '.']
def dot : Seg := ['.']

/-- split on `/` -/
def splitSlashAux : Str → Str → List Seg
  | [], cur => [cur.reverse]
  | c :: cs, cur => if c = '/' then cur.reverse :: splitSlashAux cs [] else splitSlashAux cs (c :: cur)

def splitSlash (s : Str) : List Seg := splitSlashAux s []

/-- lexical resolution of `.`, `..` and empty segments; `st` is the reversed stack.
    `/..` is `/` (POSIX). -/
def normAux : List Seg → List Seg → Path
  | st, [] => st.reverse
  | st, s :: r =>
    if s = dotdot then normAux st.tail r
    else if s = dot ∨ s = [] then normAux st r
    else normAux (s :: st) r

def norm (p : List Seg) : Path := normAux [] p

/-- `Path.resolve()` with a table of symbolic links (absolute link path ->
    absolute, already physical target). -/
def resolveAux (links : List (Path × Path)) : List Seg → List Seg → Path
  | st, [] => st.reverse
  | st, s :: r =>
    if s = dotdot then resolveAux links st.tail r
    else if s = dot ∨ s = [] then resolveAux links st r
    else match links.lookup (s :: st).reverse with
      | some t => resolveAux links t.reverse r
      | none => resolveAux links (s :: st) r

def resolve (links : List (Path × Path)) (p : List Seg) : Path := resolveAux links [] p

/-- `base / s` of pathlib: an absolute right operand replaces the left one. -/
def joinRaw (base : Path) (s : Str) : List Seg :=
  match s with
  | '/' :: _ => splitSlash s
  | _ => base ++ splitSlash s

/-- `normalise_path(base, s)` -/
def normalisePath (links : List (Path × Path)) (base : Path) (s : Str) : Path :=
  resolve links (joinRaw base s)

/-- how many segments may still be popped by `..` without leaving the base:
    `safe k x` - walking `x` from a position `k` segments below the base never
    goes above the base. -/
def safe : Nat → List Seg → Bool
  | _, [] => true
  | k, s :: r =>
    if s = dotdot then (match k with | 0 => false | k + 1 => safe k r)
    else if s = dot ∨ s = [] then safe k r
    else safe (k + 1) r

/-- a relative name that cannot climb: every use site `base / name` stays below `base` -/
def safeRel (s : Str) : Bool := safe 0 (splitSlash s)

def Clean (s : Seg) : Prop := s ≠ dotdot ∧ s ≠ dot ∧ s ≠ []
def Normal (p : Path) : Prop := ∀ s ∈ p, Clean s

/-- `pathlib.PurePath.parents`: proper prefixes, nearest first -/
def parents (p : Path) : List Path := (List.range p.length).reverse.map (fun n => p.take n)

/-! ### primitive attempts -/

inductive PK | rmtree | rm | mk | wr | chmod | utime | mvFrom | mvTo | symlink
  deriving DecidableEq, Repr

structure Prim where
  kind : PK
  path : Path
  deriving DecidableEq, Repr

/-- `base / rel`, as the OS resolves it -/
def sub (base : Path) (rel : Str) : Path := norm (base ++ splitSlash rel)

/-- `Path.mkdir(parents=True)` with `k` missing proper ancestors: the attempts made -/
def mkdirP (p : Path) : Nat → List Prim
  | 0 => [⟨.mk, p⟩]
  | k + 1 => ⟨.mk, p⟩ :: mkdirP p.dropLast k ++ [⟨.mk, p⟩]

/-- listing of a source tree in the order `shutil.copytree` walks it
    (0 = file, 1 = enter directory, 2 = leave directory, 3 = entry that cannot be read: a
    dangling symbolic link; a symbolic link to a file / directory is listed as what it points to,
    which is how `os.scandir` + `is_dir()` see it), the order in which `dst.rglob("*")` yields the
    copies (for `touch`), and the symbolic links among the entries of the source tree with the
    physical path each one points to (any path at all: inside the tree, elsewhere in the project,
    anywhere on disk). -/
structure Tree where
  walk : List (Nat × Str)
  touch : List Str
  links : List (Str × Path) := []
  deriving Repr

def walkOps (dst : Path) : List (Nat × Str) → List Prim
  | [] => []
  | (k, rel) :: r =>
    (if k = 0 then [⟨.wr, sub dst rel⟩, ⟨.chmod, sub dst rel⟩]
     else if k = 1 then [⟨.mk, sub dst rel⟩]
     else if k = 2 then [⟨.utime, sub dst rel⟩, ⟨.chmod, sub dst rel⟩]
     else []) ++ walkOps dst r

/-- `shutil.copytree` collects the entries it could not copy and raises `shutil.Error` *after*
    everything else has been copied (unless dangling links are ignored) -/
def copyFails (t : Tree) : Bool :=
  !Generated.C19.copytreeIgnoreDangling && t.walk.any (fun e => e.1 = 3)

/-- `ford.output.copytree(src, dst)` with links dereferenced (`symlinks=False`): the copy holds
    regular files and directories only, whatever the links point to; FORD's `touch` pass over the
    copy is skipped when `shutil.copytree` raised. -/
def copyTreeDeref (dst : Path) (t : Tree) : List Prim :=
  ⟨.mk, dst⟩ :: walkOps dst t.walk ++ [⟨.utime, dst⟩, ⟨.chmod, dst⟩] ++
  (if copyFails t then [] else t.touch.map (fun r => ⟨.utime, sub dst r⟩))

/-- the listing is coherent: what `rglob` finds in the copy are the files and directories of the
    walk, and every directory that is left has been entered -/
def treeWf (t : Tree) : Bool :=
  t.touch.all (fun r => t.walk.contains (0, r) || t.walk.contains (1, r)) &&
  t.walk.all (fun e => e.1 != 2 || t.walk.contains (1, e.2))

def isLinkEntry (t : Tree) (rel : Str) : Bool := (t.links.lookup rel).isSome

/-- the entry lies below a directory entry that is a symbolic link -/
def belowLink (t : Tree) (rel : Str) : Bool := t.links.any (fun l => (l.1 ++ ['/']).isPrefixOf rel)

def walkOpsKeep (dst : Path) (t : Tree) : List (Nat × Str) → List Prim
  | [] => []
  | (k, rel) :: r =>
    (if belowLink t rel then []
     else if isLinkEntry t rel then (if k = 2 then [] else [⟨.symlink, sub dst rel⟩])
     else if k = 0 then [⟨.wr, sub dst rel⟩, ⟨.chmod, sub dst rel⟩]
     else if k = 1 then [⟨.mk, sub dst rel⟩]
     else if k = 2 then [⟨.utime, sub dst rel⟩, ⟨.chmod, sub dst rel⟩]
     else []) ++ walkOpsKeep dst t r

/-- `Path.touch()` follows symbolic links: `utime` on what the link points to, and when that does
    not exist `open(O_CREAT)` creates it -/
def touchKeep (dst : Path) (t : Tree) (rel : Str) : List Prim :=
  if belowLink t rel then []
  else match t.links.lookup rel with
    | some target => ⟨.utime, target⟩ :: (if t.walk.contains (3, rel) then [⟨.wr, target⟩] else [])
    | none => [⟨.utime, sub dst rel⟩]

/-- `ford.output.copytree(src, dst)` if `shutil.copytree` were told to keep links (`symlinks=True`) -/
def copyTreeKeep (dst : Path) (t : Tree) : List Prim :=
  ⟨.mk, dst⟩ :: walkOpsKeep dst t t.walk ++ [⟨.utime, dst⟩, ⟨.chmod, dst⟩] ++
  (t.touch ++ (t.walk.filter (fun e => e.1 = 3)).map (·.2)).flatMap (touchKeep dst t)

/-- `ford.output.copytree(src, dst)` when `src` is readable and `dst` does not exist; the keyword
    arguments of its `shutil.copytree` call are read from the source (generated table) -/
def copyTree (dst : Path) (t : Tree) : List Prim :=
  if Generated.C19.copytreeSymlinks then copyTreeKeep dst t else copyTreeDeref dst t

/-- `os.path.basename` / `Path.name`: the last component of a path string -/
def baseName (s : Str) : Seg := (splitSlash s).getLastD []

/-- `shutil.copy(src, dst_file)` -/
def copyFile (dst : Path) : List Prim := [⟨.wr, dst⟩, ⟨.chmod, dst⟩]

/-! ### NameSelector.get_name -/

def replaceChar (c : Char) (r : Str) : Str → Str
  | [] => []
  | x :: xs => if x = c then r ++ replaceChar c r xs else x :: replaceChar c r xs

def sanitize (tbl : List (Char × Str)) (s : Str) : Str :=
  tbl.foldl (fun acc e => replaceChar e.1 e.2 acc) s

def natStr (n : Nat) : Str := (toString n).toList

/-- file stem of an entity page: lower-cased name, symbols replaced, `~n` for the n-th homonym -/
def ident (name : Str) (num : Nat) : Str :=
  let n := sanitize Generated.C19.symbolReplacements (lower name)
  let n := if n = [] then "__unnamed__".toList else n
  if num > 1 then n ++ '~' :: natStr num else n

def identFile (name : Str) (num : Nat) : Str := ident name num ++ ".html".toList

/-! ### configuration and site -/

/-- a symbolic link that lies, before the run, in a directory the run writes to (the old output
    directory at any depth, the graph directory) -/
structure OldLink where
  loc : Path              -- where the link is (absolute; the directory it lies in is physical)
  target : Path           -- the physical path it points to: anywhere on disk
  isDir : Bool := false   -- ... which is a directory
  kept : Bool := false    -- the attempt of the clean-up to remove it fails (injected fault)
  deriving Repr, DecidableEq

structure Cfg where
  repaired : Bool := false        -- variant: page-level copy_subdir targets outside the output dir are skipped
  subGuard : Bool := false        -- variant: `get_page_tree` skips `ordered_subpage` entries that leave the page's directory
  dir : Path := []                -- project directory (absolute, physical)
  links : List (Path × Path) := []
  out : Str := []                 -- raw `output_dir`
  gdir : Option Str := none       -- raw `graph_dir`
  graph : Bool := false
  search : Bool := false
  inclSrc : Bool := false
  externalize : Bool := false
  css : Bool := false
  mathjax : Option Str := none    -- raw `mathjax_config`
  srcDirs : List Str := []        -- raw `src_dir` entries
  outKind : Nat := 0              -- 0 absent, 1 regular file, 2 directory
  outMissing : Nat := 0           -- missing proper ancestors of the output dir
  gMissing : Nat := 0
  pre : List Path := []           -- paths existing before the run (outside the output dir)
  old : List OldLink := []        -- symbolic links in the old output directory / in the graph directory
  deriving Repr

structure PCopy where
  item : Str
  tree : Option Tree              -- none: source directory unreadable
  deriving Repr

structure Page where
  loc : List Seg                  -- `PageNode.location`, as path components (`.` is `[]`)
  stem : Str                      -- file name without `.md`
  copies : List PCopy
  files : List Str
  deriving Repr

structure Site where
  libs : List Tree := []                  -- listings of `Generated.C19.libDirs` (css, js, webfonts) of the installation
  searchTree : Tree := ⟨[], [], []⟩
  mediaTree : Option Tree := none         -- none: no media_dir / unreadable
  docs : List (Str × Str × Nat) := []     -- (get_dir(), entity name, homonym number)
  lists : List Str := []                  -- `out_page` of the list pages
  srcFiles : List Str := []               -- `src.path` of every file of `project.allfiles` (where the file is)
  pages : List Page := []
  graphs : List Str := []                 -- `imgfile` of every graph that is saved
  deriving Repr

def outDir (c : Cfg) : Path := normalisePath c.links c.dir c.out
def graphDir (c : Cfg) : Option Path := c.gdir.map (normalisePath c.links c.dir)
def srcDirsN (c : Cfg) : List Path := c.srcDirs.map (normalisePath c.links c.dir)

/-- `parse_arguments` 368-374 -/
def refuses (c : Cfg) : Bool :=
  (srcDirsN c).any (fun d => (d :: parents d).contains (outDir c))

/-- graphviz `render` + rename, for one graph; `skip` = the paths at which `_create_image_file`
    finds a symbolic link and therefore writes nothing (empty when `_create_image_file` does not test for links, see
    `staleSkips`) -/
def graphOps (skip : List Path) (g : Path) (name : Str) : List Prim :=
  if skip.contains (sub g name) || skip.contains (sub g (name ++ ".svg".toList)) then []
  else
  [⟨.mk, g⟩, ⟨.wr, sub g name⟩, ⟨.wr, sub g (name ++ ".svg".toList)⟩,
   ⟨.mvFrom, sub g name⟩, ⟨.mvTo, sub g (name ++ ".gv".toList)⟩]

/-- emptying the output directory entry by entry
    (`for e in out_dir.iterdir(): rmtree(e, ignore_errors=True) if e.is_dir() else e.unlink()`) instead of
    removing it: `is_dir()` follows a symbolic link and `rmtree` refuses to work on one, so a link
    to a directory that is an entry of the output directory itself is left alone (links deeper down
    go with their real parent directory, which is removed without following them) -/
def survivesEntrywise (o : Path) (l : OldLink) : Bool := l.loc.dropLast == o && l.isDir

/-- the symbolic links that are still there when the run starts to write.  `whole`: the clean-up is
    `shutil.rmtree(out_dir)` on the output directory itself (generated constant `wipeWholeTree`),
    which unlinks every link below it without following it.  Links that are not below the output
    directory (the graph directory is never cleaned) and links whose removal fails stay. -/
def survivorsW (whole : Bool) (c : Cfg) : List OldLink :=
  c.old.filter (fun l => !(outDir c).isPrefixOf l.loc || l.kept || (!whole && survivesEntrywise (outDir c) l))

def survivors (c : Cfg) : List OldLink := survivorsW Generated.C19.wipeWholeTree c

/-- the links `_create_image_file` refuses to write through: none unless it tests `is_symlink`
    (`skipLinks` = generated constant `graphSkipsLinks`); the test sees the links that are still there
    when the graphs are written (a graph directory inside the output directory has been wiped with it) -/
def staleSkips (skipLinks : Bool) (c : Cfg) : List Path := if skipLinks then (survivors c).map (·.loc) else []

def isProperPrefix (o p : Path) : Bool := o.isPrefixOf p && o.length < p.length

/-- the guard of `PagetreePage.writeout`: `self.out_dir in target.parents`, `parents` as pathlib
    defines it (component-wise, proper ancestors only) -/
def guardAccepts (o dst : Path) : Bool := (parents dst).contains o

/-- a path as the string the OS / `os.fspath` shows -/
def pathStr (p : Path) : Str := if p = [] then ['/'] else p.flatMap (fun s => '/' :: s)

/-- the tempting textual version of the guard: `str(target).startswith(str(out_dir))` -/
def strPrefixGuard (o dst : Path) : Bool := (pathStr o).isPrefixOf (pathStr dst)

/-- one page-level `copy_subdir` item; `created` are the directories made so far -/
def pcopyOps (c : Cfg) (o : Path) (to : List Seg) (created : List Path) (pc : PCopy) : List Prim :=
  let dst := norm (joinRaw to pc.item)
  if c.repaired && !guardAccepts o dst then []        -- `if self.out_dir not in target.parents: continue`
  else match pc.tree with
    | none => []
    | some t =>
      if (c.pre.contains dst || created.contains dst) && !Generated.C19.copytreeDirsExistOk then [⟨.mk, dst⟩]
      else copyTree dst t

def mkPaths (l : List Prim) : List Path := (l.filter (fun p => p.kind = .mk)).map (·.path)

def pcopiesOps (c : Cfg) (o : Path) (to : List Seg) : List Path → List PCopy → List Prim
  | _, [] => []
  | created, pc :: r =>
    let ops := pcopyOps c o to created pc
    ops ++ pcopiesOps c o to (mkPaths ops ++ created) r

/-- `PagetreePage.writeout` -/
def pageOps (c : Cfg) (o : Path) (created : List Path) (pg : Page) : List Prim :=
  let to := o ++ ["page".toList] ++ pg.loc
  (if pg.stem = "index".toList then [⟨.mk, norm to⟩] else []) ++
  [⟨.wr, norm (to ++ [pg.stem ++ ".html".toList])⟩] ++
  pcopiesOps c o to ((if pg.stem = "index".toList then [norm to] else []) ++ created) pg.copies ++
  pg.files.flatMap (fun f => copyFile (norm (to ++ splitSlash f)))

def pagesOps (c : Cfg) (o : Path) : List Path → List Page → List Prim
  | _, [] => []
  | created, pg :: r =>
    let ops := pageOps c o created pg
    ops ++ pagesOps c o (mkPaths ops ++ created) r

/-- `Documentation.writeout` followed by `dump_modules` -/
def writeOpsW (skipLinks : Bool) (c : Cfg) (s : Site) : List Prim :=
  let o := outDir c
  (if c.outKind = 1 then [⟨.rm, o⟩] else [⟨.rmtree, o⟩]) ++
  mkdirP o c.outMissing ++
  Generated.C19.outDirs.map (fun d => ⟨.mk, sub o d⟩) ++
  (Generated.C19.libDirs.zip s.libs).flatMap (fun l => copyTree (sub o l.1) l.2) ++
  (if c.graph then
     match graphDir c with
     | some g => mkdirP g c.gMissing ++ s.graphs.flatMap (graphOps (staleSkips skipLinks c) g)
     | none => []
   else []) ++
  (if c.search then copyTree (sub o "search".toList) s.searchTree ++
      [⟨.wr, sub o "search/search_database.json".toList⟩] else []) ++
  (match s.mediaTree with | some t => copyTree (sub o "media".toList) t | none => []) ++
  (if c.css then copyFile (sub o "css/user.css".toList) else []) ++
  copyFile (sub o "favicon.png".toList) ++
  (if c.inclSrc then s.srcFiles.flatMap (fun n => copyFile (norm (o ++ ["src".toList] ++ [baseName n]))) else []) ++
  (match c.mathjax with
   | some m =>
     let mj := sub o "js/MathJax-config".toList
     ⟨.mk, mj⟩ :: copyFile (norm (mj ++ [(normalisePath c.links c.dir m).getLastD []]))
   | none => []) ++
  s.docs.map (fun d => ⟨.wr, norm (o ++ splitSlash d.1 ++ [identFile d.2.1 d.2.2])⟩) ++
  s.lists.map (fun l => ⟨.wr, norm (o ++ ["lists".toList] ++ splitSlash l)⟩) ++
  pagesOps c o [] s.pages ++
  [⟨.wr, sub o "index.html".toList⟩, ⟨.wr, sub o "search.html".toList⟩] ++
  (if c.externalize then [⟨.wr, sub o "modules.json".toList⟩] else [])

def writeOps (c : Cfg) (s : Site) : List Prim := writeOpsW Generated.C19.graphSkipsLinks c s

/-- the whole run: refusal happens in `parse_arguments`, before anything else -/
def runW (skipLinks : Bool) (c : Cfg) (s : Site) : List Prim :=
  if refuses c then [] else writeOpsW skipLinks c s

def run (c : Cfg) (s : Site) : List Prim := runW Generated.C19.graphSkipsLinks c s

/-! ### what is left in the directories the run writes to, and where the attempts really land -/

/-- follow the symbolic links of a table along a path that is already lexically resolved -/
def followAux (links : List (Path × Path)) : List Seg → List Seg → Path
  | st, [] => st.reverse
  | st, s :: r =>
    match links.lookup (s :: st).reverse with
    | some t => followAux links t.reverse r
    | none => followAux links (s :: st) r

/-- `open`, `chmod`, `utime` act on what a link in the last component points to; `mkdir`, `unlink`,
    `rmtree`, `rename`, `symlink` act on the entry itself -/
def followsLast : PK → Bool
  | .wr | .chmod | .utime => true
  | _ => false

/-- where the OS performs an attempt, given the symbolic links that exist -/
def physical (ls : List OldLink) (k : PK) (p : Path) : Path :=
  let tbl := ls.map (fun l => (l.loc, l.target))
  if followsLast k then followAux tbl [] p
  else match p.getLast? with
    | some last => followAux tbl [] p.dropLast ++ [last]
    | none => []

/-- the run as the file system sees it: the clean-up (first attempt) acts on the output directory
    itself; every later attempt is resolved through the links that survived it.  `fatal`: a failing
    `out_dir.mkdir` - the directory is still there because a removal failed - ends the run
    (generated constant `wipeFailureFatal`; with `false` the run prints a message and goes on: finding
    C19-wipe-failure-ignored). -/
def runPhysW (whole fatal skipLinks : Bool) (c : Cfg) (s : Site) : List Prim :=
  match runW skipLinks c s with
  | [] => []
  | w :: r =>
    if fatal && c.old.any (fun l => (outDir c).isPrefixOf l.loc && l.kept) then w :: r.take 1
    else w :: r.map (fun p => ⟨p.kind, physical (survivorsW whole c) p.kind p.path⟩)

def runPhys (c : Cfg) (s : Site) : List Prim :=
  runPhysW Generated.C19.wipeWholeTree Generated.C19.wipeFailureFatal Generated.C19.graphSkipsLinks c s

/-! ### the property vocabulary -/

/-- an attempt is allowed if its target lies in the output directory or the
    graph directory, or it is the creation of a (missing) ancestor directory of one of them -/
def Allowed (o : Path) (g : Option Path) (p : Prim) : Prop :=
  o <+: p.path ∨ (∃ gd, g = some gd ∧ gd <+: p.path) ∨
  (p.kind = .mk ∧ (p.path <+: o ∨ ∃ gd, g = some gd ∧ p.path <+: gd))

/-- names that come from directory listings and fixed strings cannot climb -/
structure SiteOk (s : Site) : Prop where
  libs : ∀ l ∈ s.libs, (∀ e ∈ l.walk, safeRel e.2 = true) ∧ ∀ e ∈ l.touch, safeRel e = true
  search : (∀ e ∈ s.searchTree.walk, safeRel e.2 = true) ∧ ∀ e ∈ s.searchTree.touch, safeRel e = true
  media : ∀ t, s.mediaTree = some t → (∀ e ∈ t.walk, safeRel e.2 = true) ∧ ∀ e ∈ t.touch, safeRel e = true
  docs : ∀ d ∈ s.docs, safeRel d.1 = true
  lists : ∀ l ∈ s.lists, safeRel l = true
  graphs : ∀ n ∈ s.graphs, '/' ∉ n ∧ n ≠ dotdot
  pages : ∀ pg ∈ s.pages, safe 0 pg.loc = true ∧ (∀ f ∈ pg.files, safeRel f = true) ∧
    ∀ pc ∈ pg.copies, ∀ t, pc.tree = some t → (∀ e ∈ t.walk, safeRel e.2 = true) ∧ ∀ e ∈ t.touch, safeRel e = true

/-- the defect class: a `copy_subdir` item that is absolute (pathlib: replaces the target
    directory; this is what project-level `copy_subdir` becomes after `normalise_paths`) or that
    climbs out of the output directory with `..` -/
def copyEscapes (pg : Page) (pc : PCopy) : Bool :=
  pc.item.head? = some '/' || !safe 0 ("page".toList :: pg.loc ++ splitSlash pc.item)

def noEscape (s : Site) : Bool :=
  s.pages.all (fun pg => pg.copies.all (fun pc => !copyEscapes pg pc))

end Ford.Fs
