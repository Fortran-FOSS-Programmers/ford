import FordModel.FsGlob
import FordModel.Lemmas.Fs
namespace Ford.FsGlob
open Ford Ford.Fs

theorem plain_cons (c : Char) (p : Str) : plain (c :: p) = true ↔ isMeta c = false ∧ plain p = true := by
  simp [plain]

theorem plain_append (p q : Str) : plain (p ++ q) = true ↔ plain p = true ∧ plain q = true := by
  simp [plain, List.all_append]

theorem tokAux_plain_append (p q : Str) (hp : plain p = true) :
    tokAux .top (p ++ q) = p.map .lit ++ tokAux .top q := by
  induction p with
  | nil => simp
  | cons c p ih =>
    rw [plain_cons] at hp
    obtain ⟨hc, hp⟩ := hp
    simp only [isMeta, Bool.or_eq_false_iff, beq_eq_false_iff_ne, ne_eq] at hc
    simp [tokAux, hc, ih hp]

theorem tokenize_plain (p : Str) (hp : plain p = true) : tokenize p = p.map .lit := by
  have := tokAux_plain_append p [] hp
  simpa [tokenize, tokAux] using this

theorem globT_lits (l : Str) (rest : List Tok) (s : Str) :
    globT (l.map .lit ++ rest) s = true ↔ ∃ t, s = l ++ t ∧ globT rest t = true := by
  induction l generalizing s with
  | nil => simp
  | cons a l ih =>
    cases s with
    | nil => simp [globT]
    | cons c s =>
      simp only [List.map_cons, List.cons_append, globT, Bool.and_eq_true, beq_iff_eq, ih]
      constructor
      · rintro ⟨rfl, t, rfl, ht⟩
        exact ⟨t, rfl, ht⟩
      · rintro ⟨t, ht, hg⟩
        simp only [List.cons.injEq] at ht
        exact ⟨ht.1.symm, t, ht.2, hg⟩

theorem starAny_of_all (k : Str → Bool) (hk : ∀ s, k s = true) (s : Str) : starAny k s = true := by
  cases s <;> simp [starAny, hk]

/-- a trailing `*` accepts every rest (also one with `/` in it) -/
theorem globT_star_nil (s : Str) : globT [.star] s = true := by
  simp only [globT]
  induction s with
  | nil => simp [starAny]
  | cons c s ih => simp [starAny, ih]

theorem tok_slash_star : tokAux .top ['/', '*'] = [.lit '/', .star] := by
  simp [tokAux]

theorem mem_dropExcluded (ds files : List Str) (f : Str) :
    f ∈ dropExcluded ds files ↔ f ∈ files ∧ ∀ d ∈ ds, excludedBy d f = false := by
  induction ds generalizing files with
  | nil => simp [dropExcluded]
  | cons d ds ih =>
    simp only [dropExcluded, ih, List.mem_filter, List.mem_cons, forall_eq_or_imp, Bool.not_eq_true']
    constructor
    · rintro ⟨⟨h1, h2⟩, h3⟩
      exact ⟨h1, h2, h3⟩
    · rintro ⟨h1, h2, h3⟩
      exact ⟨⟨h1, h2⟩, h3⟩

theorem keepSources_sub (b : Bool) (ue : List Str) (out : Str) (files : List Str) (f : Str)
    (h : f ∈ keepSources b ue out files) : f ∈ dropExcluded (ue ++ [out]) files := by
  unfold keepSources at h
  cases b
  · simpa using h
  · simp only [if_true] at h
    exact (List.mem_filter.1 h).1

end Ford.FsGlob
