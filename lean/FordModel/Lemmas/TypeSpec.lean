/-
  Lemmas about the scanners of FordModel/TypeSpec.lean.
-/
import FordModel.TypeSpec
import FordModel.Lemmas.Chars
namespace Ford.TypeSpec

theorem kwCI_of_lower (kw t r : Str) (h : lower t = kw) : kwCI kw (t ++ r) = some r := by
  subst h
  induction t with
  | nil => cases r <;> rfl
  | cons c cs ih => simpa [lower, kwCI] using ih

/-- the two keywords differ at a position both have.  This is how the earlier alternatives of `VAR_TYPE_STRING` are
    ruled out for a spelling of a later keyword (`kwCI_diverge`, used in every `varTypeRest_*`). -/
def diverge : Str → Str → Bool
  | a :: as, b :: bs => a != b || diverge as bs
  | _, _ => false

theorem kwCI_diverge (kw t r : Str) (h : diverge kw (lower t) = true) : kwCI kw (t ++ r) = none := by
  induction kw generalizing t with
  | nil => simp [diverge] at h
  | cons k ks ih =>
    cases t with
    | nil => simp [lower, diverge] at h
    | cons c cs =>
      simp only [lower, List.map_cons, diverge, Bool.or_eq_true, bne_iff_ne, ne_eq] at h
      by_cases hk : lowerChar c = k
      · subst hk
        simp only [List.cons_append, kwCI, beq_self_eq_true, if_true]
        exact ih cs (by simpa [lower] using h)
      · simp [kwCI, hk]

theorem kwCI_suffix (kw s r : Str) (h : kwCI kw s = some r) : ∃ p, s = p ++ r := by
  induction kw generalizing s with
  | nil => cases s <;> simp [kwCI] at h <;> exact ⟨[], by simp [h]⟩
  | cons k ks ih =>
    cases s with
    | nil => simp [kwCI] at h
    | cons c cs =>
      simp only [kwCI] at h
      split at h
      · obtain ⟨p, hp⟩ := ih cs h
        exact ⟨c :: p, by simp [hp]⟩
      · simp at h

theorem skipWs_suffix (s : Str) : ∃ p, s = p ++ skipWs s := by
  induction s with
  | nil => exact ⟨[], rfl⟩
  | cons c cs ih =>
    by_cases hc : isSpace c = true
    · obtain ⟨p, hp⟩ := ih
      exact ⟨c :: p, by simp only [skipWs, hc, if_true, List.cons_append]; rw [← hp]⟩
    · exact ⟨[], by simp [skipWs, hc]⟩

/-- `\s*` is `lstrip` -/
theorem skipWs_eq_lstrip (s : Str) : skipWs s = lstrip s := by
  induction s with
  | nil => rfl
  | cons c cs ih => simp only [skipWs, lstrip, ih]

theorem skipWs_blank_append (w r : Str) (hw : isBlank w = true) : skipWs (w ++ r) = skipWs r := by
  simpa only [skipWs_eq_lstrip] using lstrip_blank_append w r hw

theorem skipWs_of_head (c : Char) (cs : Str) (h : isSpace c = false) : skipWs (c :: cs) = c :: cs := by
  simpa only [skipWs_eq_lstrip] using lstrip_of_not_space c cs h

theorem removeWs_append (a b : Str) : removeWs (a ++ b) = removeWs a ++ removeWs b := by
  simp [removeWs]

theorem removeWs_blank (w : Str) (hw : isBlank w = true) : removeWs w = [] := by
  simpa [removeWs, isBlank] using hw

theorem removeWs_nospace (k : Str) (hk : ∀ c ∈ k, isSpace c = false) : removeWs k = k := by
  simpa [removeWs] using hk

theorem removeWs_padded (w2 k w3 : Str) (h2 : isBlank w2 = true) (h3 : isBlank w3 = true)
    (hk : ∀ c ∈ k, isSpace c = false) : removeWs (w2 ++ k ++ w3) = k := by
  simp [removeWs_append, removeWs_blank _ h2, removeWs_blank _ h3, removeWs_nospace k hk]

def isParen (c : Char) : Bool := c == '(' || c == ')' || c == '[' || c == ']'

/-- characters that neither change the level nor (at level 0) stop the scan are copied -/
theorem getParensAux_copy (d x : Str) (lv : Int) (acc : Str)
    (h : ∀ c ∈ d, isParen c = false ∧ (isStop c && lv == 0) = false) :
    getParensAux (d ++ x) lv 0 acc = getParensAux x lv 0 (d.reverse ++ acc) := by
  induction d generalizing acc with
  | nil => rfl
  | cons c cs ih =>
    obtain ⟨hc, hs⟩ := h c (by simp)
    simp only [isParen, Bool.or_eq_false_iff, beq_eq_false_iff_ne, ne_eq] at hc
    obtain ⟨⟨⟨h1, h2⟩, h3⟩, h4⟩ := hc
    simp only [List.cons_append, getParensAux, h1, h2, h3, h4, hs, beq_iff_eq, if_false, Bool.false_and]
    rw [ih _ (fun d hd => h d (by simp [hd]))]
    simp

/-- where the scan ends: end of text, or a stop character at level 0 -/
def EndsScan (tail : Str) : Prop := tail = [] ∨ ∃ c cs, tail = c :: cs ∧ isStop c = true ∧ isParen c = false

theorem getParensAux_end (tail acc : Str) (h : EndsScan tail) :
    getParensAux tail 0 0 acc = .ok acc.reverse := by
  rcases h with rfl | ⟨c, cs, rfl, hs, hp⟩
  · simp [getParensAux]
  · simp only [isParen, Bool.or_eq_false_iff, beq_eq_false_iff_ne, ne_eq] at hp
    obtain ⟨⟨⟨h1, h2⟩, h3⟩, h4⟩ := hp
    simp [getParensAux, h1, h2, h3, h4, hs]

/-- `( inner )` at level 0, followed by a tail that ends the scan -/
theorem getParensAux_paren (inner tail acc : Str) (h : ∀ c ∈ inner, isParen c = false) (ht : EndsScan tail) :
    getParensAux ('(' :: (inner ++ ')' :: tail)) 0 0 acc = .ok (acc.reverse ++ '(' :: (inner ++ [')'])) := by
  simp only [getParensAux, beq_self_eq_true, if_true]
  rw [show (0 : Int) + 1 = 1 by decide, getParensAux_copy inner _ 1 _ (fun c hc => ⟨h c hc, Bool.and_false _⟩)]
  simp only [getParensAux, show (')' == '(') = false by decide, beq_self_eq_true, if_true]
  rw [show (1 : Int) - 1 = 0 by decide, getParensAux_end _ _ ht]
  simp

theorem getParens_paren (inner tail : Str) (h : ∀ c ∈ inner, isParen c = false) (ht : EndsScan tail) :
    getParens ('(' :: (inner ++ ')' :: tail)) = .ok ('(' :: (inner ++ [')'])) := by
  simpa [getParens] using getParensAux_paren inner tail [] h ht

/-- a flat text followed by a tail that ends the scan (as in `*digits`) -/
theorem getParens_flat (d tail : Str) (h : ∀ c ∈ d, isParen c = false ∧ isStop c = false)
    (ht : EndsScan tail) : getParens (d ++ tail) = .ok d := by
  simp only [getParens]
  rw [getParensAux_copy d tail 0 [] (fun c hc => ⟨(h c hc).1, by simp [(h c hc).2]⟩), getParensAux_end _ _ ht]
  simp

theorem lastClose_append_close (x : Str) (h : ∀ c ∈ x, c ≠ ')') : lastClose (x ++ [')']) = some x.length := by
  induction x with
  | nil => simp [lastClose]
  | cons c cs ih =>
    have := ih (fun d hd => h d (by simp [hd]))
    simp [lastClose, this]

theorem isBlank_append (a b : Str) : isBlank (a ++ b) = (isBlank a && isBlank b) := Ford.isBlank_append a b

theorem rstrip_blank (w : Str) (hw : isBlank w = true) : rstrip w = [] := Ford.rstrip_blank w hw

theorem rstrip_cons (c : Char) (cs : Str) :
    rstrip (c :: cs) = if isBlank (c :: cs) then [] else c :: rstrip cs := by
  simp only [rstrip, List.reverse_cons, lstrip_append, isBlank_reverse]
  by_cases hb : isBlank cs = true
  · have hl : lstrip cs.reverse = [] := lstrip_blank_nil _ (by rw [isBlank_reverse]; exact hb)
    by_cases hc : isSpace c = true
    · have hbb : isBlank (c :: cs) = true := by simp [isBlank, hc]; simpa [isBlank] using hb
      simp [hb, hc, lstrip, hbb]
    · have hbb : isBlank (c :: cs) = false := by simp [isBlank, hc]
      simp [hb, hc, lstrip, hbb, hl]
  · have : isBlank (c :: cs) = false := by
      simp only [isBlank, List.all_cons, Bool.and_eq_false_iff]
      right; simpa [isBlank] using hb
    simp [hb, this]

theorem lstrip_rstrip_comm (t : Str) : lstrip (rstrip t) = rstrip (lstrip t) := by
  induction t with
  | nil => rfl
  | cons c cs ih =>
    by_cases hc : isSpace c = true
    · rw [rstrip_cons]
      by_cases hb : isBlank (c :: cs) = true
      · have hcs : isBlank cs = true := by simpa [isBlank, hc] using hb
        simp [hb, lstrip, hc, lstrip_blank_nil cs hcs, rstrip]
      · simp only [hb, if_false, lstrip, hc, if_true, ih, Bool.false_eq_true]
    · have hb : isBlank (c :: cs) = false := by simp [isBlank, hc]
      rw [rstrip_cons]
      simp only [hb, if_false, lstrip, hc, Bool.false_eq_true]
      rw [rstrip_cons]; simp [hb]

theorem strip_rstrip (t : Str) : strip (rstrip t) = strip t := by
  simp [strip, lstrip_rstrip_comm, rstrip_idem]

theorem rstrip_nospace (k : Str) (hk : ∀ c ∈ k, isSpace c = false) : rstrip k = k := Ford.rstrip_nospace k hk

theorem rstrip_append_of_last (A tail : Str) (e : Char) (he : isSpace e = false) :
    rstrip ((A ++ [e]) ++ tail) = (A ++ [e]) ++ rstrip tail := by
  simp only [rstrip, List.reverse_append, List.reverse_cons, List.reverse_nil, List.nil_append,
    List.singleton_append, lstrip_append, isBlank_reverse]
  by_cases hb : isBlank tail = true
  · simp [hb, lstrip, he, lstrip_blank_nil tail.reverse (by rw [isBlank_reverse]; exact hb)]
  · simp [hb]

/-- characters of a "flat" kind / length value: no blank, parenthesis, bracket, comma, `=`, quote -/
def kindCh (c : Char) : Bool := !isSpace c && !isParen c && c != ',' && c != '=' && !isQuote c

theorem kindCh_space {c : Char} (h : kindCh c = true) : isSpace c = false := by
  simp [kindCh] at h; exact h.1.1.1.1

theorem kindCh_paren {c : Char} (h : kindCh c = true) : isParen c = false := by
  simp [kindCh] at h; exact h.1.1.1.2

theorem kindCh_comma {c : Char} (h : kindCh c = true) : c ≠ ',' := by
  simp [kindCh] at h; exact h.1.1.2

theorem kindCh_eq {c : Char} (h : kindCh c = true) : c ≠ '=' := by
  simp [kindCh] at h; exact h.1.2

theorem isParen_close {c : Char} (h : isParen c = false) : c ≠ ')' := by
  intro hc; subst hc; simp [isParen] at h

theorem blank_paren {w : Str} (hw : isBlank w = true) : ∀ c ∈ w, isParen c = false := by
  intro c hc
  have : isSpace c = true := by simpa [isBlank] using (List.all_eq_true.mp hw c hc)
  revert this; simp only [isSpace, isParen, Bool.or_eq_true, beq_iff_eq]
  rintro (((((h | h) | h) | h) | h) | h) <;> subst h <;> decide

theorem padded_paren {w2 k w3 : Str} (h2 : isBlank w2 = true) (hk : ∀ c ∈ k, isParen c = false)
    (h3 : isBlank w3 = true) : ∀ c ∈ w2 ++ k ++ w3, isParen c = false := by
  intro c hc
  simp only [List.mem_append] at hc
  rcases hc with (hc | hc) | hc
  · exact blank_paren h2 c hc
  · exact hk c hc
  · exact blank_paren h3 c hc

inductive NumT where
  | integer | real | complex | logical
  deriving DecidableEq, Repr

def NumT.kw : NumT → Str
  | .integer => (chars! "integer") | .real => (chars! "real")
  | .complex => (chars! "complex") | .logical => (chars! "logical")

theorem vkSearch_paren (X : Str) (h : ∀ c ∈ X, c ≠ ')') :
    vkSearch ('(' :: (X ++ [')'])) = some (.g1 X) := by
  simp [vkSearch, vkAt, lastClose_append_close X h]

/-- `kw\s*=` matches only a text with an `=` -/
theorem eq_mem_of_kwCI {kw s r r' : Str} (hk : kwCI kw s = some r) (hs : skipWs r = '=' :: r') : '=' ∈ s := by
  obtain ⟨p, hp⟩ := kwCI_suffix _ _ _ hk
  obtain ⟨q, hq⟩ := skipWs_suffix r
  rw [hp, hq, hs]; simp

theorem kindMatch_no_eq (k : Str) (h : ∀ c ∈ k, c ≠ '=') : kindMatch k = none := by
  unfold kindMatch
  split
  · rfl
  · split
    · rename_i hk _ _ hs
      exact absurd rfl (h '=' (eq_mem_of_kwCI hk hs))
    · rfl

theorem kindMatch_kw (K k : Str) (hK : lower K = (chars! "kind")) (hk : ∀ c ∈ k, kindCh c = true)
    (hne : k ≠ []) : kindMatch (K ++ '=' :: k) = some k := by
  unfold kindMatch
  rw [kwCI_of_lower _ K _ hK]
  have h1 : skipWs ('=' :: k) = '=' :: k := skipWs_of_head _ _ (by decide)
  have h2 : skipWs k = k := by
    cases k with
    | nil => rfl
    | cons c cs => exact skipWs_of_head _ _ (kindCh_space (hk c (by simp)))
  have h3 : k.takeWhile (fun c => c != ',' && !isSpace c) = k := by
    apply takeWhile_all
    intro c hc
    simp [kindCh_comma (hk c hc), kindCh_space (hk c hc)]
  simp only [h1, h2, h3]
  cases k with
  | nil => exact absurd rfl hne
  | cons c cs => simp

theorem numT_notProto (ty : NumT) : isProtoType ty.kw = false := by cases ty <;> decide
theorem numT_notChar (ty : NumT) : (ty.kw == (chars! "character")) = false := by cases ty <;> decide
theorem numT_notType (ty : NumT) : (ty.kw == (chars! "type") || ty.kw == (chars! "class")
    || ty.kw == (chars! "character")) = false := by cases ty <;> decide

theorem padded_nonempty (w2 : Str) {k : Str} (w3 : Str) (hne : k ≠ []) :
    (w2 ++ k ++ w3).isEmpty = false ∧ ¬ (('(' :: ((w2 ++ k ++ w3) ++ [')'])).length < 3) := by
  cases k with
  | nil => exact absurd rfl hne
  | cons c cs => exact ⟨by simp, by simp; omega⟩

/-- `t(k)` -/
theorem finish_paren (ty : NumT) (w2 k w3 rest : Str) (h2 : isBlank w2 = true) (h3 : isBlank w3 = true)
    (hk : ∀ c ∈ k, kindCh c = true) (hne : k ≠ []) :
    finish ty.kw ('(' :: ((w2 ++ k ++ w3) ++ [')'])) rest = .ok { vartype := ty.kw, rest, kind := some k } := by
  have hX : ∀ c ∈ w2 ++ k ++ w3, c ≠ ')' := fun c hc =>
    isParen_close (padded_paren h2 (fun c hc => kindCh_paren (hk c hc)) h3 c hc)
  obtain ⟨hXne, hlen⟩ := padded_nonempty w2 w3 hne
  have hks : ∀ c ∈ k, isSpace c = false := fun c hc => kindCh_space (hk c hc)
  unfold finish
  simp only [hlen, decide_false, Bool.false_and, vkSearch_paren _ hX, hXne, strip_pad w2 k w3 h2 h3 hks,
    numT_notProto, numT_notChar]
  simp [removeWs_nospace k hks, kindMatch_no_eq k (fun c hc => kindCh_eq (hk c hc))]

theorem space_cases {c : Char} (h : isSpace c = true) :
    c = ' ' ∨ c = '\t' ∨ c = '\n' ∨ c = '\r' ∨ c = '\x0b' ∨ c = '\x0c' := by
  simp only [isSpace, Bool.or_eq_true, beq_iff_eq] at h
  rcases h with ((((h | h) | h) | h) | h) | h <;> simp [h]

theorem paren_cases {c : Char} (h : isParen c = true) : c = '(' ∨ c = ')' ∨ c = '[' ∨ c = ']' := by
  simp only [isParen, Bool.or_eq_true, beq_iff_eq] at h
  rcases h with ((h | h) | h) | h <;> simp [h]

theorem digit_not_alpha {c : Char} (h : isDigit c = true) : isAlpha c = false := by
  -- `Char` order is order of code points: the bounds are rewritten to numbers and compared by `omega`
  simp only [isDigit, isAlpha, decide_eq_true_eq, Bool.or_eq_false_iff, decide_eq_false_iff_not, Char.le_def] at *
  have h1 : ('0':Char).val = 48 := by decide
  have h2 : ('9':Char).val = 57 := by decide
  have h3 : ('a':Char).val = 97 := by decide
  have h4 : ('z':Char).val = 122 := by decide
  have h5 : ('A':Char).val = 65 := by decide
  have h6 : ('Z':Char).val = 90 := by decide
  rw [h1, h2] at h
  rw [h3, h4, h5, h6]
  constructor <;> (intro hh; have := h.1; have := h.2; have := hh.1; have := hh.2; simp only [UInt32.le_iff_toNat_le] at *; simp at *; omega)

theorem digit_space {c : Char} (h : isDigit c = true) : isSpace c = false := by
  cases hs : isSpace c with
  | false => rfl
  | true =>
    rcases space_cases hs with h' | h' | h' | h' | h' | h' <;> subst h' <;> revert h <;> decide

theorem digit_paren {c : Char} (h : isDigit c = true) : isParen c = false := by
  cases hs : isParen c with
  | false => rfl
  | true => rcases paren_cases hs with h' | h' | h' | h' <;> subst h' <;> revert h <;> decide

theorem digit_ne {c d : Char} (h : isDigit c = true) (hd : isDigit d = false) : c ≠ d := by
  intro e; subst e; simp [h] at hd

theorem digit_stop {c : Char} (h : isDigit c = true) : isStop c = false := by
  simp only [isStop, digit_not_alpha h, Bool.false_or, Bool.or_eq_false_iff, beq_eq_false_iff_ne, ne_eq]
  exact ⟨⟨⟨digit_ne h (by decide), digit_ne h (by decide)⟩, digit_ne h (by decide)⟩, digit_ne h (by decide)⟩

theorem alpha_space {c : Char} (h : isAlpha c = true) : isSpace c = false := by
  cases hs : isSpace c with
  | false => rfl
  | true =>
    rcases space_cases hs with h' | h' | h' | h' | h' | h' <;> subst h' <;> revert h <;> decide

theorem alpha_paren {c : Char} (h : isAlpha c = true) : isParen c = false := by
  cases hs : isParen c with
  | false => rfl
  | true => rcases paren_cases hs with h' | h' | h' | h' <;> subst h' <;> revert h <;> decide

theorem lowerChar_alpha {c : Char} (h : isAlpha (lowerChar c) = true) : isAlpha c = true := by
  unfold lowerChar at h
  split at h
  · rename_i hr
    simp only [isAlpha, Bool.or_eq_true, decide_eq_true_eq]
    right; exact hr
  · exact h

/-- a word spelled like an all-letter keyword consists of letters -/
theorem kw_alpha (K kw : Str) (h : lower K = kw) (hkw : ∀ c ∈ kw, isAlpha c = true) :
    ∀ c ∈ K, isAlpha c = true := by
  intro c hc
  apply lowerChar_alpha
  apply hkw
  rw [← h]; exact List.mem_map_of_mem hc

theorem removeWs_lstrip (s : Str) : removeWs (lstrip s) = removeWs s := by
  induction s with
  | nil => rfl
  | cons c cs ih =>
    by_cases hc : isSpace c = true
    · simp only [lstrip, hc, if_true, ih]; simp [removeWs, hc]
    · simp [lstrip, hc]

theorem removeWs_reverse (s : Str) : removeWs s.reverse = (removeWs s).reverse := by
  simp [removeWs, List.filter_reverse]

theorem removeWs_strip (s : Str) : removeWs (strip s) = removeWs s := by
  simp only [strip, rstrip, removeWs_reverse, removeWs_lstrip]
  simp

theorem kindKw_alpha : ∀ c ∈ (chars! "kind"), isAlpha c = true := by decide

theorem kwArg_paren {w2 K wa wb k w3 : Str} (hK : ∀ c ∈ K, isAlpha c = true) (h2 : isBlank w2 = true)
    (ha : isBlank wa = true) (hb : isBlank wb = true) (h3 : isBlank w3 = true)
    (hk : ∀ c ∈ k, isParen c = false) : ∀ c ∈ w2 ++ K ++ wa ++ '=' :: (wb ++ k ++ w3), isParen c = false := by
  intro c hc
  rcases List.mem_append.mp hc with hc | hc
  · exact padded_paren h2 (fun c hc => alpha_paren (hK c hc)) ha c hc
  · rcases List.mem_cons.mp hc with rfl | hc
    · decide
    · exact padded_paren hb hk h3 c hc

/-- `t(kind = k)` -/
theorem finish_kw (ty : NumT) (w2 K wa wb k w3 rest : Str) (hK : lower K = (chars! "kind"))
    (h2 : isBlank w2 = true) (ha : isBlank wa = true) (hb : isBlank wb = true) (h3 : isBlank w3 = true)
    (hk : ∀ c ∈ k, kindCh c = true) (hne : k ≠ []) :
    finish ty.kw ('(' :: ((w2 ++ K ++ wa ++ '=' :: (wb ++ k ++ w3)) ++ [')'])) rest
      = .ok { vartype := ty.kw, rest, kind := some k } := by
  have hKa := kw_alpha K _ hK kindKw_alpha
  have hX : ∀ c ∈ w2 ++ K ++ wa ++ '=' :: (wb ++ k ++ w3), c ≠ ')' := fun c hc =>
    isParen_close (kwArg_paren hKa h2 ha hb h3 (fun c hc => kindCh_paren (hk c hc)) c hc)
  have hlen : ¬ (('(' :: ((w2 ++ K ++ wa ++ '=' :: (wb ++ k ++ w3)) ++ [')'])).length < 3) := by
    simp; omega
  have hXne : (w2 ++ K ++ wa ++ '=' :: (wb ++ k ++ w3)).isEmpty = false := by simp
  have hks : ∀ c ∈ k, isSpace c = false := fun c hc => kindCh_space (hk c hc)
  have hKs : ∀ c ∈ K, isSpace c = false := fun c hc => alpha_space (hKa c hc)
  have hargs : removeWs (strip (w2 ++ K ++ wa ++ '=' :: (wb ++ k ++ w3))) = K ++ '=' :: k := by
    rw [removeWs_strip, removeWs_append, removeWs_padded w2 K wa h2 ha hKs,
      show '=' :: (wb ++ k ++ w3) = ['='] ++ (wb ++ k ++ w3) from rfl, removeWs_append,
      removeWs_padded wb k w3 hb h3 hks]
    rfl
  unfold finish
  simp only [hlen, decide_false, Bool.false_and, vkSearch_paren _ hX, hXne, numT_notProto, numT_notChar]
  simp only [List.append_assoc] at hargs
  simp [hargs, kindMatch_kw K k hK hk hne]

/-- what `finish` computes from `*digits`: VARKIND_RE takes the digits as its second group, and stripping,
    the test for a parenthesis and the removal of blanks leave them alone -/
theorem star_digits (ds : Str) (hd : ∀ c ∈ ds, isDigit c = true) (hne : ds ≠ []) :
    vkSearch ('*' :: ds) = some (.g2 ds) ∧ strip ds = ds ∧ startsWith ds ['('] = false ∧ removeWs ds = ds := by
  have hs : ∀ c ∈ ds, isSpace c = false := fun c hc => digit_space (hd c hc)
  refine ⟨?_, strip_nospace ds hs, ?_, removeWs_nospace ds hs⟩
  · have hsk : skipWs ds = ds := by
      cases ds with
      | nil => rfl
      | cons c cs => exact skipWs_of_head _ _ (hs c (by simp))
    cases ds with
    | nil => exact absurd rfl hne
    | cons c cs =>
      simp only [vkSearch, vkAt, hsk, takeWhile_all _ hd]
      simp
  · cases ds with
    | nil => exact absurd rfl hne
    | cons c cs =>
      have : c ≠ '(' := digit_ne (hd c (by simp)) (by decide)
      simp [startsWith, this]

/-- `t*n` -/
theorem finish_star (ty : NumT) (ds rest : Str) (hd : ∀ c ∈ ds, isDigit c = true) (hne : ds ≠ []) :
    finish ty.kw ('*' :: ds) rest = .ok { vartype := ty.kw, rest, kind := some ds } := by
  obtain ⟨hvk, hst, hpar, hrw⟩ := star_digits ds hd hne
  unfold finish
  simp only [startsWith, beq_self_eq_true, Bool.true_and, Bool.not_true, Bool.and_false, hvk,
    numT_notProto, numT_notChar]
  simp [hst, hpar, hrw, kindMatch_no_eq ds (fun c hc => digit_ne (hd c hc) (by decide))]

theorem allNotNl (s : Str) (h : ∀ c ∈ s, c ≠ '\n') : s.all (fun c => c != '\n') = true := by
  simpa [List.all_eq_true] using h

theorem contains_nl_false (s : Str) (h : s.all (fun c => c != '\n') = true) : s.contains '\n' = false := by
  cases hc : s.contains '\n' with
  | false => rfl
  | true => simpa using List.all_eq_true.mp h '\n' (by simpa using hc)

theorem nospace_ne_nl {c : Char} (h : isSpace c = false) : c ≠ '\n' := by
  intro e; subst e; simp [isSpace] at h

/-- `t` is a spelling of the type keyword `kw` as `parse_type` reads it: `VAR_TYPE_STRING` matches `t` and no
    more, the match is normalised to `kw`, and `t` has no line feed.  What follows the keyword is then handled
    in the same way for every keyword. -/
structure Spells (kw t : Str) : Prop where
  rest : ∀ r, varTypeRest (t ++ r) = some r
  norm : normVartype t = kw
  nl : t.all (fun c => c != '\n') = true

theorem varTypeRest_num (ty : NumT) (t r : Str) (ht : lower t = ty.kw) :
    varTypeRest (t ++ r) = some r := by
  have hd : ∀ kw, diverge kw ty.kw = true → kwCI kw (t ++ r) = none :=
    fun kw h => kwCI_diverge kw t r (by rw [ht]; exact h)
  have hp := kwCI_of_lower _ t r ht
  cases ty <;> simp only [NumT.kw] at hd hp
  · simp only [varTypeRest, firstSome, hp]
  · simp only [varTypeRest, firstSome, hp, hd (chars! "integer") (by decide)]
  · simp only [varTypeRest, firstSome, kw2CI, hp, hd (chars! "integer") (by decide), hd (chars! "real") (by decide),
      hd (chars! "double") (by decide), hd (chars! "character") (by decide)]
  · simp only [varTypeRest, firstSome, kw2CI, hp, hd (chars! "integer") (by decide), hd (chars! "real") (by decide),
      hd (chars! "double") (by decide), hd (chars! "character") (by decide), hd (chars! "complex") (by decide)]

theorem numT_alpha (ty : NumT) : ∀ c ∈ ty.kw, isAlpha c = true := by cases ty <;> decide

theorem normVartype_num (ty : NumT) (t : Str) (ht : lower t = ty.kw) : normVartype t = ty.kw := by
  unfold normVartype
  simp only [ht]
  cases ty <;> decide

theorem alpha_nl {t : Str} (h : ∀ c ∈ t, isAlpha c = true) : t.all (fun c => c != '\n') = true :=
  allNotNl t (fun c hc => nospace_ne_nl (alpha_space (h c hc)))

theorem spells_num (ty : NumT) (t : Str) (ht : lower t = ty.kw) : Spells ty.kw t where
  rest r := varTypeRest_num ty t r ht
  norm := normVartype_num ty t ht
  nl := alpha_nl (kw_alpha t _ ht (numT_alpha ty))

theorem endsScan_rstrip (tail : Str) (h : EndsScan tail) : EndsScan (rstrip tail) := by
  rcases h with rfl | ⟨c, cs, rfl, hs, hp⟩
  · left; rfl
  · rw [rstrip_cons]
    split
    · left; rfl
    · right; exact ⟨c, rstrip cs, rfl, hs, hp⟩

/-- `parse_type` on `<type keyword> <after>`, where the stripped, asterisk-normalised `after` is
    `core ++ rstrip tail` and `get_parens` isolates `core` -/
theorem parseType_front {kw t : Str} (hs : Spells kw t) (after core tail : Str)
    (hnl : after.all (fun c => c != '\n') = true)
    (hnorm : starNorm (strip after) = core ++ rstrip tail)
    (hgp : getParens (core ++ rstrip tail) = .ok core) :
    parseType (t ++ after) = finish kw core (strip tail) := by
  have hcont : (t ++ after).contains '\n' = false :=
    contains_nl_false _ (by simp [List.all_append, hs.nl, hnl])
  have htake : (t ++ after).take ((t ++ after).length - after.length) = t := by simp
  unfold parseType
  simp only [hcont, Bool.false_eq_true, if_false, hs.rest, htake, hs.norm, hnorm, hgp]
  congr 1
  simp [strip_rstrip]

theorem strip_core (w1 : Str) (a : Char) (mid : Str) (e : Char) (tail : Str) (h1 : isBlank w1 = true)
    (ha : isSpace a = false) (he : isSpace e = false) :
    strip (w1 ++ ((a :: mid ++ [e]) ++ tail)) = (a :: mid ++ [e]) ++ rstrip tail := by
  simp only [strip, lstrip_blank_append _ _ h1]
  rw [show (a :: mid ++ [e]) ++ tail = a :: (mid ++ [e] ++ tail) by simp, lstrip_of_not_space _ _ ha]
  rw [show a :: (mid ++ [e] ++ tail) = ((a :: mid) ++ [e]) ++ tail by simp]
  rw [rstrip_append_of_last _ _ e he]

/-- `<type keyword> ( inner ) tail`: `get_parens` isolates the parenthesised part -/
theorem parseType_paren {kw t : Str} (hs : Spells kw t) (w1 inner tail : Str) (h1 : isBlank w1 = true)
    (hin : ∀ c ∈ inner, isParen c = false) (htail : EndsScan tail)
    (hnl : (w1 ++ inner ++ tail).all (fun c => c != '\n') = true) :
    parseType (t ++ (w1 ++ (('(' :: inner ++ [')']) ++ tail))) = finish kw ('(' :: inner ++ [')']) (strip tail) := by
  have hgp : getParens (('(' :: inner ++ [')']) ++ rstrip tail) = .ok ('(' :: inner ++ [')']) := by
    simpa using getParens_paren inner (rstrip tail) hin (endsScan_rstrip _ htail)
  have hnorm : starNorm (strip (w1 ++ (('(' :: inner ++ [')']) ++ tail))) = ('(' :: inner ++ [')']) ++ rstrip tail := by
    rw [strip_core w1 '(' _ ')' tail h1 (by decide) (by decide)]; rfl
  refine parseType_front hs _ _ tail ?_ hnorm hgp
  simpa [List.all_append] using hnl

/-- `<type keyword> * digits tail` (blanks allowed after the asterisk) -/
theorem parseType_star_digits {kw t : Str} (hs : Spells kw t) (w1 ws n tail : Str) (h1 : isBlank w1 = true)
    (hws : isBlank ws = true) (hn : ∀ c ∈ n, isDigit c = true) (hne : n ≠ []) (htail : EndsScan tail)
    (hnl : (w1 ++ ws ++ tail).all (fun c => c != '\n') = true) :
    parseType (t ++ (w1 ++ (('*' :: (ws ++ n)) ++ tail))) = finish kw ('*' :: n) (strip tail) := by
  have hsplit : n = n.dropLast ++ [n.getLast hne] := (List.dropLast_concat_getLast hne).symm
  have he : isSpace (n.getLast hne) = false := digit_space (hn _ (List.getLast_mem hne))
  have hflat : ∀ c ∈ '*' :: n, isParen c = false ∧ isStop c = false := by
    intro c hc
    rcases List.mem_cons.mp hc with rfl | hc
    · decide
    · exact ⟨digit_paren (hn c hc), digit_stop (hn c hc)⟩
  have hgp : getParens (('*' :: n) ++ rstrip tail) = .ok ('*' :: n) :=
    getParens_flat _ _ hflat (endsScan_rstrip _ htail)
  have hnorm : starNorm (strip (w1 ++ (('*' :: (ws ++ n)) ++ tail))) = ('*' :: n) ++ rstrip tail := by
    have h := strip_core w1 '*' (ws ++ n.dropLast) (n.getLast hne) tail h1 (by decide) he
    rw [show '*' :: (ws ++ n.dropLast) ++ [n.getLast hne] = '*' :: (ws ++ n) by
      rw [List.cons_append, List.append_assoc, ← hsplit]] at h
    rw [h]
    have hsk : skipWs ((ws ++ n) ++ rstrip tail) = n ++ rstrip tail := by
      rw [List.append_assoc, skipWs_blank_append _ _ hws]
      cases n with
      | nil => exact absurd rfl hne
      | cons c cs => exact skipWs_of_head _ _ (digit_space (hn c (by simp)))
    simp only [List.cons_append, starNorm, hsk]
  refine parseType_front hs _ _ tail ?_ hnorm hgp
  have hN := allNotNl n (fun c hc => nospace_ne_nl (digit_space (hn c hc)))
  simp only [List.all_append, Bool.and_eq_true] at hnl
  simp [List.all_append, hnl.1.1, hnl.1.2, hnl.2, hN]

theorem digit_word {c : Char} (h : isDigit c = true) : isWord c = true := by simp [isWord, h]

theorem word_paren {c : Char} (h : isWord c = true) : isParen c = false := by
  simp only [isWord, Bool.or_eq_true, beq_iff_eq] at h
  rcases h with (h | h) | h
  · exact alpha_paren h
  · exact digit_paren h
  · subst h; decide

theorem alpha_ne {c d : Char} (h : isAlpha c = true) (hd : isAlpha d = false) : c ≠ d := by
  intro e; subst e; simp [h] at hd

theorem word_kindCh {c : Char} (h : isWord c = true) : kindCh c = true := by
  have h1 := word_space h
  have h2 := word_paren h
  have h3 : c ≠ ',' := word_ne h (by decide)
  have h4 : c ≠ '=' := word_ne h (by decide)
  have h5 : isQuote c = false := by
    simp only [isQuote, Bool.or_eq_false_iff, beq_eq_false_iff_ne, ne_eq]
    exact ⟨word_ne h (by decide), word_ne h (by decide)⟩
  simp [kindCh, h1, h2, h3, h4, h5]

theorem digit_kindCh {c : Char} (h : isDigit c = true) : kindCh c = true :=
  word_kindCh (digit_word h)

theorem parseType_star (ty : NumT) (t w1 ws n tail : Str) (ht : lower t = ty.kw) (h1 : isBlank w1 = true)
    (hws : isBlank ws = true)
    (hn : ∀ c ∈ n, isDigit c = true) (hne : n ≠ []) (htail : EndsScan tail)
    (hnl : ∀ c ∈ w1 ++ ws ++ tail, c ≠ '\n') :
    parseType (t ++ (w1 ++ (('*' :: (ws ++ n)) ++ tail))) =
      .ok { vartype := ty.kw, rest := strip tail, kind := some n } := by
  rw [parseType_star_digits (spells_num ty t ht) w1 ws n tail h1 hws hn hne htail (allNotNl _ hnl),
    finish_star ty n _ hn hne]

theorem kind_paren_kw_agree (ty : NumT) (t w1 w2 w3 K wa wb k tail : Str)
    (ht : lower t = ty.kw) (hK : lower K = (chars! "kind"))
    (h1 : isBlank w1 = true) (h2 : isBlank w2 = true) (h3 : isBlank w3 = true)
    (ha : isBlank wa = true) (hb : isBlank wb = true)
    (hk : ∀ c ∈ k, kindCh c = true) (hne : k ≠ []) (htail : EndsScan tail)
    (hnl : ∀ c ∈ w1 ++ w2 ++ w3 ++ wa ++ wb ++ tail, c ≠ '\n') :
    parseType (t ++ (w1 ++ (('(' :: (w2 ++ k ++ w3) ++ [')']) ++ tail)))
      = .ok { vartype := ty.kw, rest := strip tail, kind := some k } ∧
    parseType (t ++ (w1 ++ (('(' :: (w2 ++ K ++ wa ++ '=' :: (wb ++ k ++ w3)) ++ [')']) ++ tail)))
      = .ok { vartype := ty.kw, rest := strip tail, kind := some k } := by
  have hKa := kw_alpha K _ hK kindKw_alpha
  have hW1 := allNotNl w1 (fun c hc => hnl c (by simp [hc]))
  have hW2 := allNotNl w2 (fun c hc => hnl c (by simp [hc]))
  have hW3 := allNotNl w3 (fun c hc => hnl c (by simp [hc]))
  have hWa := allNotNl wa (fun c hc => hnl c (by simp [hc]))
  have hWb := allNotNl wb (fun c hc => hnl c (by simp [hc]))
  have hTl := allNotNl tail (fun c hc => hnl c (by simp [hc]))
  have hKK := alpha_nl hKa
  have hKk := allNotNl k (fun c hc => nospace_ne_nl (kindCh_space (hk c hc)))
  have hkp : ∀ c ∈ k, isParen c = false := fun c hc => kindCh_paren (hk c hc)
  constructor
  · rw [parseType_paren (spells_num ty t ht) w1 _ tail h1 (padded_paren h2 hkp h3) htail
      (by simp [List.all_append, hW1, hW2, hW3, hKk, hTl])]
    exact finish_paren ty w2 k w3 _ h2 h3 hk hne
  · have hin := kwArg_paren hKa h2 ha hb h3 hkp
    rw [parseType_paren (spells_num ty t ht) w1 _ tail h1 hin htail
      (by simp [List.all_append, hW1, hW2, hW3, hWa, hWb, hKK, hKk, hTl])]
    exact finish_kw ty w2 K wa wb k w3 _ hK h2 ha hb h3 hk hne

end Ford.TypeSpec
