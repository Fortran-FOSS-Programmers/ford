/-
  Lemmas about the accessibility model (FordModel/ScopeAccess.lean).
-/
import FordModel.ScopeAccess
import FordModel.Lemmas.Scope
namespace Ford.ScopeAccess
open Ford Ford.Scope

/-- with at most one access statement per identifier, "the last keyword stays" is "the statement
    that names it" -/
theorem lastPerm_eq_firstPerm (st : List (Perm × Str)) (n : Str) (h : stmtsOnce st = true) :
    lastPerm st n = firstPerm st n := by
  induction st with
  | nil => rfl
  | cons s r ih =>
    obtain ⟨p, k⟩ := s
    simp only [stmtsOnce, Bool.and_eq_true, Option.isNone_iff_eq_none] at h
    by_cases hk : lower k = n
    · subst hk
      simp [lastPerm, firstPerm, ih h.2, h.1]
    · simp [lastPerm, firstPerm, hk, ih h.2]
      cases firstPerm r n <;> rfl

/-- the accessibility settled for a declaration is Fortran's for its identifier when its access
    attribute is that of the type of its name (none if there is no such type) -/
theorem declPerm_accOf (m : AModule) (hS : stmtsOnce m.stmts = true) (t : ADecl)
    (h : t.attr = (typeNamed m.decls (lower t.name)).bind (·.attr)) : declPerm m t = accOf m (lower t.name) := by
  unfold declPerm accOf
  rw [lastPerm_eq_firstPerm _ _ hS, ← h]
  cases firstPerm m.stmts (lower t.name) <;> rfl

theorem typeNamed_some (ds : List ADecl) (n : Str) (t : ADecl) (h : typeNamed ds n = some t) :
    t ∈ ds ∧ t.kind = .ty ∧ lower t.name = n := by
  induction ds with
  | nil => cases h
  | cons d r ih =>
    rw [typeNamed] at h
    cases hr : typeNamed r n with
    | some t' =>
      simp only [hr] at h
      cases h
      exact ⟨List.mem_cons_of_mem _ (ih hr).1, (ih hr).2⟩
    | none =>
      simp only [hr] at h
      split at h
      · cases h
        exact ⟨List.mem_cons_self, ‹_›⟩
      · cases h

/-- when the constructor interface is synchronised first, the accessibility that counts for a generic
    interface is that of the type of its name, if there is one -/
theorem finalPerm_asBuilt (m : AModule) (d : ADecl) :
    finalPerm asBuilt m d =
      declPerm m (if d.kind = .gi then (typeNamed m.decls (lower d.name)).getD d else d) := by
  unfold finalPerm
  split
  · rename_i h
    rw [if_pos h.2]
    cases typeNamed m.decls (lower d.name) <;> rfl
  · rename_i h
    rw [if_neg fun hg => h ⟨rfl, hg⟩]

theorem filterTable_get (f : Str → Bool) (tb : Table) (n : Str) :
    tget (filterTable f tb) n = if f n = true then tget tb n else none := by
  induction tb with
  | nil => simp [filterTable, tget]
  | cons ke r ih =>
    obtain ⟨k, e⟩ := ke
    by_cases hk : k = n
    · subst hk
      by_cases hf : f k = true <;> simp [filterTable, tget, hf, ih]
    · by_cases hf : f k = true <;> simp [filterTable, tget, hf, hk, ih]

theorem mem_localPubK (v : AVariant) (m : AModule) (k : DK) (ds : List ADecl) (x : Str × Ent) :
    x ∈ localPubK v m k ds ↔ ∃ d ∈ ds, (d.kind = k ∧ finalPerm v m d = .pub) ∧ x = (lower d.name, d.ent) := by
  induction ds with
  | nil => simp [localPubK]
  | cons d r ih =>
    simp only [localPubK, List.mem_cons, exists_eq_or_imp]
    split <;> rename_i hd
    · simp only [List.mem_append, List.mem_singleton, ih, hd, true_and, or_comm]
    · simp only [ih, hd, false_and, false_or]

theorem filterTable_append (f : Str → Bool) (a b : Table) :
    filterTable f (a ++ b) = filterTable f a ++ filterTable f b := by
  induction a with
  | nil => rfl
  | cons ke r ih =>
    obtain ⟨k, e⟩ := ke
    by_cases hf : f k = true <;> simp [filterTable, hf, ih]

theorem localPubK_filter (v : AVariant) (m : AModule) (k : DK) (ds : List ADecl)
    (h : ∀ d ∈ ds, finalPerm v m d = accOf m (lower d.name)) :
    localPubK v m k ds = filterTable (accessible m) (localAllK k ds) := by
  induction ds with
  | nil => rfl
  | cons d r ih =>
    have hr := ih (fun d' hd' => h d' (List.mem_cons_of_mem _ hd'))
    have hd := h d List.mem_cons_self
    by_cases hk : d.kind = k
    · by_cases hp : accOf m (lower d.name) = .pub <;>
        simp [localPubK, localAllK, hk, hd, hp, hr, filterTable_append, filterTable, accessible]
    · simp [localPubK, localAllK, hk, hr]

theorem firstPerm_spec (st : List (Perm × Str)) (n : Str) :
    match firstPerm st n with
    | some p => ∃ k, (p, k) ∈ st ∧ lower k = n
    | none => ∀ s ∈ st, lower s.2 ≠ n := by
  induction st with
  | nil => exact fun _ h => nomatch h
  | cons s r ih =>
    obtain ⟨q, k⟩ := s
    by_cases hk : lower k = n
    · rw [firstPerm, if_pos hk]
      exact ⟨k, List.mem_cons_self, hk⟩
    · rw [firstPerm, if_neg hk]
      cases hf : firstPerm r n with
      | some p =>
        rw [hf] at ih
        exact ih.imp fun k' h => ⟨List.mem_cons_of_mem _ h.1, h.2⟩
      | none =>
        rw [hf] at ih
        exact List.forall_mem_cons.2 ⟨hk, ih⟩
/-- for an identifier the module does not declare, FORD's re-export test is Fortran's accessibility -/
theorem shouldBePublic_undeclared (m : AModule) (n : Str) (hV : privatesDeclared m = true)
    (hn : declared m.decls n = false) : shouldBePublic m n = accessible m n := by
  simp only [declared, List.any_eq_false, beq_iff_eq] at hn
  -- of the public list only the names of PUBLIC statements matter: `n` is not declared
  have hl : n ∈ publicList m ↔ ∃ k, (Perm.pub, k) ∈ m.stmts ∧ lower k = n := by
    simp only [publicList, List.mem_append, List.mem_map, List.mem_filter, decide_eq_true_eq, Prod.exists]
    constructor
    · rintro (⟨d, ⟨hd, _⟩, hdn⟩ | ⟨p, k, ⟨hs, rfl, _⟩, hk⟩)
      · exact absurd hdn (hn d hd)
      · exact ⟨k, hs, hk⟩
    · rintro ⟨k, hs, rfl⟩
      exact Or.inr ⟨.pub, k, ⟨hs, rfl, by simpa [declared] using hn⟩, rfl⟩
  have ht : typeNamed m.decls n = none := by
    cases ht : typeNamed m.decls n with
    | none => rfl
    | some t => exact absurd (typeNamed_some _ _ _ ht).2.2 (hn t (typeNamed_some _ _ _ ht).1)
  have hs := firstPerm_spec m.stmts n
  cases hf : firstPerm m.stmts n with
  | none =>
    rw [hf] at hs
    have : ¬ ∃ k, (Perm.pub, k) ∈ m.stmts ∧ lower k = n := fun ⟨k, hm, hk⟩ => hs _ hm hk
    simp [shouldBePublic, accessible, accOf, ht, hf, hl, this]
  | some p =>
    rw [hf] at hs
    obtain ⟨k, hm, hk⟩ := hs
    -- a statement that names an undeclared identifier is a PUBLIC statement
    have hp : p = .pub := by
      have := List.all_eq_true.1 hV _ hm
      simp only [declared, hk, Bool.or_eq_true, decide_eq_true_eq, List.any_eq_true, beq_iff_eq] at this
      exact this.resolve_right fun ⟨d, hd, hdn⟩ => hn d hd hdn
    subst hp
    have : ∃ k, (Perm.pub, k) ∈ m.stmts ∧ lower k = n := ⟨k, hm, hk⟩
    simp [shouldBePublic, accessible, accOf, hf, hl, this]

/-- the public tables answer every lookup like the accessible part of the module's own tables -/
def SameF (m : AModule) (ex : Exports) (tb : Tabs) : Prop :=
  ∀ n, tget ex.p n = tget (filterTable (accessible m) tb.p) n ∧
    tget ex.a n = tget (filterTable (accessible m) tb.a) n ∧
    tget ex.t n = tget (filterTable (accessible m) tb.t) n

/-- one USE statement of a module whose PRIVATE statements name declared identifiers only and which
    imports nothing under a name it declares: what is imported is re-exported iff it is accessible -/
theorem reexport_step (m : AModule) (hV : privatesDeclared m = true) (i x t : Table)
    (hx : ∀ n, tget x n = tget (filterTable (accessible m) t) n)
    (hi : ∀ n, declared m.decls n = true → tget i n = none) (n : Str) :
    tget (filterTable (shouldBePublic m) i ++ x) n = tget (filterTable (accessible m) (i ++ t)) n := by
  rw [tget_append, filterTable_get, filterTable_get, tget_append, hx n, filterTable_get]
  cases hg : tget i n with
  | none => simp
  | some e =>
    have hd : declared m.decls n = false := by
      cases hd : declared m.decls n with
      | false => rfl
      | true => cases hg.symm.trans (hi n hd)
    rw [shouldBePublic_undeclared m n hV hd]
    by_cases ha : accessible m n = true <;> simp [ha]

theorem reexports_same (m : AModule) (hV : privatesDeclared m = true) (env : ModEnv) (us : List Use)
    (ex : Exports) (tb : Tabs) (h0 : SameF m ex tb)
    (hC : ∀ u ∈ us, ∀ x, findMod env (lower u.mod) = some x → ∀ n, declared m.decls n = true →
      tget (importTable x.p u) n = none ∧ tget (importTable x.a u) n = none ∧ tget (importTable x.t u) n = none) :
    SameF m (reexports m env us ex) (applyUses env us tb) := by
  induction us generalizing ex tb with
  | nil => exact h0
  | cons u us ih =>
    have hC' := fun u' hu' => hC u' (List.mem_cons_of_mem _ hu')
    simp only [reexports, applyUses]
    cases hf : findMod env (lower u.mod) with
    | none => exact ih ex tb h0 hC'
    | some x =>
      have hu := hC u List.mem_cons_self x hf
      exact ih _ _ (fun n =>
        ⟨reexport_step m hV _ _ _ (fun k => (h0 k).1) (fun k hd => (hu k hd).1) n,
         reexport_step m hV _ _ _ (fun k => (h0 k).2.1) (fun k hd => (hu k hd).2.1) n,
         reexport_step m hV _ _ _ (fun k => (h0 k).2.2) (fun k hd => (hu k hd).2.2) n⟩) hC'

end Ford.ScopeAccess
