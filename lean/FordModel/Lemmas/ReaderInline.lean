import FordModel.Reader
import FordModel.Lemmas.Reader
import FordModel.Lemmas.ReaderLayout
import FordModel.Lemmas.ReaderDoc
import FordModel.Attach
import FordModel.Lemmas.Attach
namespace Ford

/-! ### The reader on a statement line that ends in an inline doc comment: the line may hold several
    `;`-separated statements, and preceding doc lines may be buffered -/

/-- A line `<code>!<doc-marker><t>`: `code` lies outside comments (closed literals allowed), its
    stripped form `x :: r` neither continues nor is continued.  Read in a state between logical lines
    or at the end of a `!>` block (`docs` = the buffered preceding doc lines): all statements of the
    line are emitted first, then the buffered preceding docs, then the inline doc line - last. -/
theorem feed_stmt_inline (m : Marks) (docs : List Str) (pd rp : Bool) (p t : Str) (x : Char) (r : Str)
    (hp : Atoms p) (hne : m.doc ≠ [])
    (h0 : firstStripped (p ++ '!' :: (m.doc ++ t)) ≠ some '#')
    (h1 : startsWith (m.doc ++ t) m.pre = false) (h2 : startsWith (m.doc ++ t) m.preAlt = false)
    (h3 : startsWith (m.doc ++ t) m.alt = false)
    (hc : strip p = x :: r) (hx : x ≠ '&') (hl : (x :: r).getLast? ≠ some '&')
    (hJ : itemsOf (' ' :: x :: r) ≠ []) :
    feed m { docbuffer := docs, prevdoc := pd, readingPredoc := rp } (p ++ '!' :: (m.doc ++ t)) =
      .ok (fresh true, itemsOf (' ' :: x :: r) ++ docs ++ ['!' :: (m.doc ++ t)]) := by
  have h0' : (firstStripped (p ++ '!' :: (m.doc ++ t)) == some '#') = false := by simpa using h0
  have hx' : (x == '&') = false := by simp [hx]
  have hl' : ((x :: r).getLast? == some '&') = false := by simpa using hl
  have e1 := matchDocmark_comment m.pre p _ hp h1
  have e2 := matchDocmark_comment m.preAlt p _ hp h2
  have e3 := matchDocmark_comment m.alt p _ hp h3
  have e4 : matchDocmark m.doc (p ++ '!' :: (m.doc ++ t)) false = some p.length := by
    rw [matchDocmark_inline m.doc p _ hp hne, startsWith_append_self]; rfl
  have e5 := matchCom_atoms p hp
  obtain ⟨a, as, hI2⟩ : ∃ a as, itemsOf (' ' :: x :: r) = a :: as := by
    cases hh : itemsOf (' ' :: x :: r) with
    | nil => exact absurd hh hJ
    | cons a as => exact ⟨a, as, rfl⟩
  simp only [itemsOf] at hI2
  simp only [feed, unterminated_nil, h0', e1, e2, e3, e4, e5, drop_ind, take_ind, hc, Bool.false_eq_true,
    ↓reduceIte, ite_self]
  cases docs with
  | nil => simp [hx', hl', feedTail, itemsOf, hI2, flush, fresh, strip, rstrip, lstrip]
  | cons d ds => simp [hx', hl', feedTail, itemsOf, hI2, flush, fresh, strip, rstrip, lstrip]

/-- the same line after a preceding doc block: statement(s), the block, then the inline doc -/
theorem readFrom_predoc_block_inline (m : Marks) (pd : Bool) (ind0 t0 : Str) (blk : List DLine)
    (p t : Str) (x : Char) (r : Str) (rest : List Str)
    (hw0 : (DLine.pre ind0 t0).wf m) (hb : ∀ b ∈ blk, b.wf m)
    (hp : Atoms p) (hne : m.doc ≠ [])
    (h0 : firstStripped (p ++ '!' :: (m.doc ++ t)) ≠ some '#')
    (h1 : startsWith (m.doc ++ t) m.pre = false) (h2 : startsWith (m.doc ++ t) m.preAlt = false)
    (h3 : startsWith (m.doc ++ t) m.alt = false)
    (hc : strip p = x :: r) (hx : x ≠ '&') (hl : (x :: r).getLast? ≠ some '&')
    (hJ : itemsOf (' ' :: x :: r) ≠ []) :
    readFrom m (fresh pd) ((DLine.pre ind0 t0 :: blk).map (DLine.render m) ++ (p ++ '!' :: (m.doc ++ t)) :: rest) =
      match readFrom m (fresh true) rest with
      | .error e => .error e
      | .ok more =>
        .ok (itemsOf (' ' :: x :: r) ++ (DLine.pre ind0 t0 :: blk).flatMap (DLine.docs m)
              ++ ['!' :: (m.doc ++ t)] ++ more) := by
  have hf0 : feed m (fresh pd) ((DLine.pre ind0 t0).render m) = .ok (inPre ['!' :: (m.doc ++ t0)] pd, []) := by
    simpa [fresh, DLine.render] using feed_pre m [] pd false ind0 t0 hw0
  have hfs := feed_stmt_inline m (('!' :: (m.doc ++ t0)) :: ([] ++ blk.flatMap (DLine.docs m))) pd true p t x r
    hp hne h0 h1 h2 h3 hc hx hl hJ
  simp only [List.map_cons, List.cons_append, List.flatMap_cons]
  rw [readFrom_skip m _ _ _ _ hf0, readFrom_block m _ [] pd blk hb (_ :: rest),
    readFrom_step m _ _ _ rest _ (by simpa [inPre] using hfs)]
  cases readFrom m (fresh true) rest <;> simp [DLine.docs]

theorem attachFrom_append (mark : Str) (s : ASt) (A B : List Str) :
    attachFrom mark s (A ++ B) = attachFrom mark (attachFrom mark s A) B := by
  induction A generalizing s with
  | nil => rfl
  | cons a as ih => simp [attachFrom, ih]

end Ford
