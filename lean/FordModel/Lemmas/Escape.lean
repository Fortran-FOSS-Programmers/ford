/-
  Lemmas about `escape`, `decode` and the tokenizer (C18).
-/
import FordModel.Escape
namespace Ford.Html

/-- `escapeChar` replaces the five characters `& < > ' "` and copies every other one; the facts about it are
    checked on the five and read off `[c]` for the rest -/
theorem escapeChar_other (c : Char) (h : c ∉ ['&', '<', '>', '\'', '"']) :
    escapeChar c = [c] ∧ c ≠ '&' ∧ htmlSpecial c = false := by
  simp only [List.mem_cons, List.not_mem_nil, or_false, not_or] at h
  simp [escapeChar, htmlSpecial, h]

theorem decode_cons_ne (c : Char) (r : Str) (h : c ≠ '&') : decode (c :: r) = c :: decode r := by
  rw [decode.eq_def]
  split <;> rename_i e <;> cases e <;> first | rfl | exact absurd rfl h

theorem decode_escapeChar (c : Char) (r : Str) : decode (escapeChar c ++ r) = c :: decode r := by
  by_cases h : c ∈ ['&', '<', '>', '\'', '"']
  · simp only [List.mem_cons, List.not_mem_nil, or_false] at h
    rcases h with rfl | rfl | rfl | rfl | rfl <;> rfl
  · obtain ⟨e, hne, _⟩ := escapeChar_other c h
    rw [e]
    exact decode_cons_ne c r hne

theorem decode_escape_append (s r : Str) : decode (escape s ++ r) = s ++ decode r := by
  induction s with
  | nil => rfl
  | cons c cs ih =>
    simp only [escape, List.append_assoc, List.cons_append]
    rw [decode_escapeChar, ih]

theorem escapeChar_safe (c : Char) : ∀ d ∈ escapeChar c, htmlSpecial d = false := by
  by_cases h : c ∈ ['&', '<', '>', '\'', '"']
  · simp only [List.mem_cons, List.not_mem_nil, or_false] at h
    rcases h with rfl | rfl | rfl | rfl | rfl <;> decide
  · obtain ⟨e, _, hs⟩ := escapeChar_other c h
    rw [e]
    intro d hd
    rw [List.mem_singleton.mp hd]
    exact hs

theorem escape_safe (s : Str) : ∀ d ∈ escape s, htmlSpecial d = false := by
  induction s with
  | nil => simp [escape]
  | cons c cs ih =>
    intro d hd
    simp only [escape, List.mem_append] at hd
    rcases hd with h | h
    · exact escapeChar_safe c d h
    · exact ih d h

theorem evTags_append (a b : List Ev) : evTags (a ++ b) = evTags a ++ evTags b := by
  induction a with
  | nil => rfl
  | cons x xs ih => cases x <;> simp [evTags, ih]

theorem hstep_safe (st : HSt) (c : Char) (hst : st.stable = true) (hc : htmlSpecial c = false) :
    (hstep st c).1 = st ∧ evTags (hstep st c).2 = [] ∧ (st = .text → (hstep st c).2 = [.ch c]) := by
  simp only [htmlSpecial, Bool.or_eq_false_iff] at hc
  obtain ⟨⟨⟨h1, h2⟩, h3⟩, h4⟩ := hc
  cases st <;> simp_all [HSt.stable, hstep, textStep, evTags]

theorem hrun_safe (s : Str) (hs : ∀ d ∈ s, htmlSpecial d = false) (st : HSt) (hst : st.stable = true) :
    (hrun st s).1 = st ∧ evTags (hrun st s).2 = [] ∧ (st = .text → evChars (hrun st s).2 = s) := by
  induction s with
  | nil => simp [hrun, evTags, evChars]
  | cons c cs ih =>
    have hc := hs c (by simp)
    have hcs : ∀ d ∈ cs, htmlSpecial d = false := fun d hd => hs d (by simp [hd])
    obtain ⟨e1, e2, e3⟩ := hstep_safe st c hst hc
    obtain ⟨i1, i2, i3⟩ := ih hcs
    simp only [hrun, e1]
    refine ⟨i1, ?_, ?_⟩
    · rw [evTags_append, e2, i2]; rfl
    · intro ht
      rw [e3 ht]
      simp [evChars, i3 ht]

theorem evChars_append (a b : List Ev) : evChars (a ++ b) = evChars a ++ evChars b := by
  induction a with
  | nil => rfl
  | cons x xs ih => cases x <;> simp [evChars, ih]

theorem hrun_append (a b : Str) (st : HSt) :
    hrun st (a ++ b) = ((hrun (hrun st a).1 b).1, (hrun st a).2 ++ (hrun (hrun st a).1 b).2) := by
  induction a generalizing st with
  | nil => simp [hrun]
  | cons c cs ih => simp [hrun, ih]

/-- inserting escaped text in a stable state leaves the state and the tags alone -/
theorem hscanFrom_escape (st : HSt) (hst : st.stable = true) (s r : Str) :
    evTags (hscanFrom st (escape s ++ r)) = evTags (hscanFrom st r) ∧
    (st = .text → evChars (hscanFrom st (escape s ++ r)) = escape s ++ evChars (hscanFrom st r)) := by
  obtain ⟨h1, h2, h3⟩ := hrun_safe (escape s) (escape_safe s) st hst
  simp only [hscanFrom, hrun_append, h1]
  constructor
  · simp [evTags_append, h2]
  · intro ht
    simp [evChars_append, h3 ht]

end Ford.Html
