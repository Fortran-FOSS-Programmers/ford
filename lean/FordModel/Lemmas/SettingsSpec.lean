/-
  The specification side of C15: what `convert_setting` and `meta_preprocessor` make of the spellings the
  user guide describes (`SettingsSpec.lean`), by induction over the written value.
-/
import FordModel.SettingsSpec
import FordModel.Lemmas.Settings
namespace Ford.Settings

theorem splitOnce_sep (sep : Char) (k v : Str) (h : sep ∉ k) : splitOnce sep (k ++ sep :: v) = some (k, v) := by
  induction k with
  | nil => simp [splitOnce]
  | cons x r ih =>
    simp at h
    have hx : x ≠ sep := fun hh => h.1 hh.symm
    simp [splitOnce, hx, ih h.2]

theorem parseToDict_enc (sep : Char) (key : Str) (kvs : List (Str × Str)) (acc : List (Str × Atom))
    (hnd : (kvs.map (·.1)).Nodup) (hacc : ∀ kv ∈ kvs, kv.1 ∉ acc.map (·.1))
    (h : ∀ kv ∈ kvs, sep ∉ kv.1 ∧ strip kv.1 = kv.1 ∧ strip kv.2 = kv.2) :
    parseToDict sep key (kvs.map (fun kv => kv.1 ++ sep :: kv.2)) acc
      = .ok (acc ++ kvs.map (fun kv => (kv.1, Atom.str kv.2))) := by
  induction kvs generalizing acc with
  | nil => simp [parseToDict]
  | cons e r ih =>
    obtain ⟨k, v⟩ := e
    have he := h (k, v) (by simp)
    rw [List.map_cons, List.nodup_cons] at hnd
    simp only [List.map_cons, parseToDict, splitOnce_sep sep k v he.1, he.2.1, he.2.2]
    rw [aset_not_mem _ _ _ (hacc (k, v) (by simp))]
    rw [ih _ hnd.2 (keys_fresh_after_append (·.1) (k, v) r acc _ hnd.1 hacc) (fun kv hkv => h kv (by simp [hkv]))]
    simp

theorem splitWsAux_word (w rest cur : Str) (h : w.all (fun c => !isSpace c) = true) :
    splitWsAux (w ++ rest) cur = splitWsAux rest (w.reverse ++ cur) := by
  induction w generalizing cur with
  | nil => simp
  | cons x r ih =>
    simp at h
    simp [splitWsAux, h.1, ih _ (by simpa using h.2)]

theorem splitWsAux_word_space (w rest : Str) (h : noSpace w = true) :
    splitWsAux (w ++ ' ' :: rest) [] = w :: splitWsAux rest [] := by
  simp only [noSpace, Bool.and_eq_true] at h
  rw [splitWsAux_word w _ [] h.2]
  cases w with
  | nil => simp at h
  | cons x r => simp [splitWsAux, isSpace]

theorem splitWsAux_word_end (w : Str) (h : noSpace w = true) : splitWsAux w [] = [w] := by
  simp only [noSpace, Bool.and_eq_true] at h
  have := splitWsAux_word w [] [] h.2
  rw [List.append_nil] at this
  rw [this]
  cases w with
  | nil => simp at h
  | cons x r => simp [splitWsAux]

theorem splitWs_two (a b : Str) (ha : noSpace a = true) (hb : noSpace b = true) :
    splitWs (a ++ ' ' :: b) = [a, b] := by
  rw [splitWs, splitWsAux_word_space a b ha, splitWsAux_word_end b hb]

theorem splitWs_three (a b c : Str) (ha : noSpace a = true) (hb : noSpace b = true) (hc : noSpace c = true) :
    splitWs (a ++ ' ' :: b ++ ' ' :: c) = [a, b, c] := by
  rw [splitWs, List.append_assoc, List.cons_append, splitWsAux_word_space a _ ha,
    splitWsAux_word_space b c hb, splitWsAux_word_end c hc]


def encEft (ft : Eft) : Str :=
  ft.ext ++ ' ' :: ft.comment ++ (match ft.lexer with | some l => ' ' :: l | none => [])

def eftOk (ft : Eft) : Prop :=
  noSpace ft.ext = true ∧ noSpace ft.comment = true ∧ (∀ l, ft.lexer = some l → noSpace l = true)

theorem eftFromString_enc (ft : Eft) (h : eftOk ft) : eftFromString (encEft ft) = .ok ft := by
  obtain ⟨e, c, l⟩ := ft
  obtain ⟨h1, h2, h3⟩ := h
  cases l with
  | none => simp [encEft, eftFromString, splitWs_two e c h1 h2]
  | some l =>
    have h := splitWs_three e c l h1 h2 (h3 l rfl)
    simp only [List.append_assoc, List.cons_append] at h
    simp [encEft, eftFromString, h]

theorem eftDict_enc (fts : List Eft) (acc : List (Str × Atom))
    (hnd : (fts.map (·.ext)).Nodup) (hacc : ∀ ft ∈ fts, ft.ext ∉ acc.map (·.1))
    (h : ∀ ft ∈ fts, eftOk ft) :
    eftDict (fts.map encEft) acc = .ok (acc ++ fts.map (fun ft => (ft.ext, Atom.eft ft))) := by
  induction fts generalizing acc with
  | nil => simp [eftDict]
  | cons ft r ih =>
    rw [List.map_cons, List.nodup_cons] at hnd
    simp only [List.map_cons, eftDict, eftFromString_enc ft (h ft (by simp))]
    rw [aset_not_mem _ _ _ (hacc ft (by simp))]
    rw [ih _ hnd.2 (keys_fresh_after_append (·.ext) ft r acc _ hnd.1 hacc) (fun f hf => h f (by simp [hf]))]
    simp

theorem eftOfTbl_eftTable (ft : Eft) : eftOfTbl (eftTable ft) = some ft := by
  obtain ⟨e, c, l⟩ := ft
  cases l <;> simp [eftTable, eftOfTbl, aget]

theorem eftsOfList_enc (fts : List Eft) (acc : List (Str × Atom))
    (hnd : (fts.map (·.ext)).Nodup) (hacc : ∀ ft ∈ fts, ft.ext ∉ acc.map (·.1)) :
    eftsOfList (fts.map (fun ft => Atom.tbl (eftTable ft))) acc
      = some (acc ++ fts.map (fun ft => (ft.ext, Atom.eft ft))) := by
  induction fts generalizing acc with
  | nil => simp [eftsOfList]
  | cons ft r ih =>
    rw [List.map_cons, List.nodup_cons] at hnd
    simp only [List.map_cons, eftsOfList, eftOfTbl_eftTable]
    rw [aset_not_mem _ _ _ (hacc ft (by simp))]
    rw [ih _ hnd.2 (keys_fresh_after_append (·.ext) ft r acc _ hnd.1 hacc)]
    simp

/-- a list of tables is not a list of `ExtraFileType` objects: the `try` branch of `__post_init__` fails -/
theorem efts_tbl_none (ft : Eft) (r : List Eft) (acc : List (Str × Atom)) :
    efts ((ft :: r).map (fun ft => Atom.tbl (eftTable ft))) acc = none := by
  simp [efts]


theorem encMd_filetypes (sep : Char) (spell : Str) (fts : List Eft) :
    encMd sep spell (.filetypes fts) = fts.map encEft := rfl

theorem convertSetting_dict_md (seps : List (Str × Str)) (t : Tag) (key : Str) (xs : List Str)
    (ht : t = .dictStr ∨ t = .dictEft) :
    convertSetting seps t key (mdVal xs) = convertDict seps t key xs := by
  rcases ht with rfl | rfl <;> simp [convertSetting, sameType, mdVal, allStrs_map_str]

/-- `resvalue = [v for v in resvalue if v]` drops nothing from lines none of which is empty -/
theorem filter_nonempty_map {β : Type} (g : β → Str) (l : List β) (h : ∀ x ∈ l, g x ≠ []) :
    (l.map g).filter (fun s => !s.isEmpty) = l.map g := by
  rw [List.filter_eq_self]
  intro x hx
  obtain ⟨y, hy, rfl⟩ := List.mem_map.1 hx
  simpa using h y hy

theorem convert_md_eq_denote (seps : List (Str × Str)) (t : Tag) (key : Str) (sep : Char) (spell : Str) (a : AVal)
    (hsep : t = .dictStr → aget key seps = some [sep]) (hwf : wellFormed t sep spell a) :
    convertSetting seps t key (mdVal (encMd sep spell a)) = .ok (denote a) := by
  cases a with
  | bool b =>
    obtain ⟨rfl, hs⟩ := hwf
    simp [convertSetting, sameType, mdVal, encMd, convertToBool, hs, denote, encToml]
  | int i =>
    obtain ⟨rfl, hs⟩ := hwf
    simp [convertSetting, sameType, mdVal, encMd, hs, denote, encToml]
  | text lines =>
    obtain ⟨ht, _⟩ := hwf
    have := allStrs_map_str lines
    rcases ht with rfl | rfl | rfl | rfl <;>
      simp [convertSetting, sameType, mdVal, encMd, this, denote, encToml]
  | list xs =>
    obtain ⟨ht, _⟩ := hwf
    rcases ht with rfl | rfl | rfl <;>
      simp [convertSetting, sameType, mdVal, encMd, denote, encToml]
  | table kvs =>
    obtain ⟨rfl, _, hnd, hk⟩ := hwf
    have hf := filter_nonempty_map (fun kv : Str × Str => kv.1 ++ sep :: kv.2) kvs (by simp)
    have hp := parseToDict_enc sep key kvs [] hnd (by simp) hk
    rw [convertSetting_dict_md _ _ _ _ (Or.inl rfl)]
    simp [encMd, convertDict, convertDictF, hf, hsep rfl, hp, denote, encToml]
  | filetypes fts =>
    obtain ⟨rfl, _, hnd, hk⟩ := hwf
    have hf := filter_nonempty_map encEft fts (by simp [encEft])
    have hp := eftDict_enc fts [] hnd (by simp) hk
    rw [convertSetting_dict_md _ _ _ _ (Or.inr rfl)]
    simp [encMd_filetypes, convertDict, convertDictF, hf, hp, denote]


theorem appendVal_append (k v : Str) (pre tail : List (Str × List Str)) (h : k ∉ pre.map (·.1)) :
    appendVal k v (pre ++ tail) = pre ++ appendVal k v tail := by
  induction pre with
  | nil => rfl
  | cons e r ih =>
    obtain ⟨k2, v2⟩ := e
    simp only [List.map_cons, List.mem_cons, not_or] at h
    have h1 : k2 ≠ k := fun hh => h.1 hh.symm
    simpa [appendVal, h1] using ih h.2

theorem appendVal_new (k v : Str) (pre : List (Str × List Str)) (h : k ∉ pre.map (·.1)) :
    appendVal k v pre = pre ++ [(k, [v])] := by
  simpa [appendVal] using appendVal_append k v pre [] h

theorem appendVal_last (k v : Str) (vs : List Str) (pre : List (Str × List Str)) (h : k ∉ pre.map (·.1)) :
    appendVal k v (pre ++ [(k, vs)]) = pre ++ [(k, vs ++ [v])] := by
  simpa [appendVal] using appendVal_append k v pre [(k, vs)] h

theorem strip_space_cons (s : Str) : strip (' ' :: s) = strip s := by
  simp [strip, lstrip, isSpace]

theorem not_blank_of_goodCont (x : Str) (h : goodCont x = true) : isBlank x = false := by
  simp [goodCont] at h
  cases hb : isBlank x with
  | false => rfl
  | true =>
    have := lstrip_blank_nil x hb
    have h1 := h.1
    simp [strip, this, rstrip, lstrip] at h1
    exact absurd h1 h.2

theorem metaLoop_conts (k : Str) (xs : List Str) (rest : List Str) (pre : List (Str × List Str)) (vs : List Str)
    (hk : k ∉ pre.map (·.1)) (hx : ∀ x ∈ xs, goodCont x = true) :
    metaLoop (xs.map indent4 ++ rest) (some k) (pre ++ [(k, vs)])
      = metaLoop rest (some k) (pre ++ [(k, vs ++ xs)]) := by
  induction xs generalizing vs with
  | nil => simp
  | cons x r ih =>
    have hgx := hx x (by simp)
    have hb : isBlank (indent4 x) = false := by
      have := not_blank_of_goodCont x hgx
      simp [isBlank] at this ⊢
      obtain ⟨c, hc, hs⟩ := this
      exact ⟨c, by simp [indent4, hc], hs⟩
    have he : isEnd (indent4 x) = false := by
      simp [isEnd, indent4, startsWith]
    have hm : metaMatch (indent4 x) = none := by
      simp [metaMatch, indent4, leadingSpaces]
    have hl : leadingSpaces (indent4 x) ≥ 4 := by
      simp [indent4, leadingSpaces]
    have hs : strip (indent4 x) = x := by
      simp [goodCont] at hgx
      simp [indent4, strip_space_cons, hgx.1]
    simp only [List.map_cons, List.cons_append, metaLoop, hb, he, hm, hl, hs, Bool.or_self,
      Bool.false_eq_true, if_false, if_true]
    rw [appendVal_last _ _ _ _ hk, ih _ (fun y hy => hx y (by simp [hy]))]
    simp

theorem takeWhile_key (k r : Str) (h : k.all (fun c => isKeyChar c && !isSpace c) = true) :
    (k ++ ':' :: r).takeWhile isKeyChar = k ∧ (k ++ ':' :: r).dropWhile isKeyChar = ':' :: r := by
  induction k with
  | nil =>
    have hc : isKeyChar ':' = false := by decide
    exact ⟨by simp [hc], by simp [hc]⟩
  | cons c k' ih =>
    simp at h
    obtain ⟨i1, i2⟩ := ih (by simpa using h.2)
    exact ⟨by simp [h.1.1, i1], by simp [h.1.1, i2]⟩

theorem leadingSpaces_cons_ne (c : Char) (r : Str) (h : c ≠ ' ') : leadingSpaces (c :: r) = 0 := by
  unfold leadingSpaces
  split
  · rename_i heq
    simp at heq
    exact absurd heq.1 h
  · rfl

theorem metaLoop_keyline (k v : Str) (rest : List Str) (key0 : Option Str) (acc : List (Str × List Str))
    (hk : goodKey k = true) (hv : goodVal v = true) :
    metaLoop ((k ++ ':' :: ' ' :: v) :: rest) key0 acc = metaLoop rest (some k) (appendVal k v acc) := by
  cases k with
  | nil => simp [goodKey] at hk
  | cons c k' =>
    simp only [goodKey, Bool.and_eq_true, bne_iff_ne, ne_eq, beq_iff_eq] at hk
    obtain ⟨⟨⟨hc1, hc2⟩, hall⟩, hstrip⟩ := hk
    have hc : isKeyChar c = true ∧ isSpace c = false := by
      simp at hall; exact ⟨hall.1.1, hall.1.2⟩
    have hcs : c ≠ ' ' := by
      intro hh; subst hh; simp [isSpace] at hc
    have hb : isBlank ((c :: k') ++ ':' :: ' ' :: v) = false := by simp [isBlank, hc.2]
    have he : isEnd ((c :: k') ++ ':' :: ' ' :: v) = false := by simp [isEnd, startsWith, hc1, hc2]
    have hls : leadingSpaces ((c :: k') ++ ':' :: ' ' :: v) = 0 := leadingSpaces_cons_ne c _ hcs
    obtain ⟨t1, t2⟩ := takeWhile_key (c :: k') (' ' :: v) hall
    have hm : metaMatch ((c :: k') ++ ':' :: ' ' :: v) = some (c :: k', v) := by
      simp only [goodVal, beq_iff_eq] at hv
      simp only [metaMatch, hls, List.drop_zero, t1, t2, hstrip, strip_space_cons, hv]
      simp
    simp only [metaLoop, hb, he, hm, Bool.or_self, Bool.false_eq_true, if_false]

theorem metaLoop_encBlock (opts : List (Str × List Str)) (body : List Str) (acc : List (Str × List Str))
    (key0 : Option Str) (hg : ∀ o ∈ opts, goodOpt o = true) (hnd : (opts.map (·.1)).Nodup)
    (hacc : ∀ o ∈ opts, o.1 ∉ acc.map (·.1)) :
    metaLoop (encBlock opts ++ [] :: body) key0 acc = (acc ++ opts, body) := by
  induction opts generalizing acc key0 with
  | nil => simp [encBlock, metaLoop, isBlank]
  | cons o r ih =>
    obtain ⟨k, vs⟩ := o
    rw [List.map_cons, List.nodup_cons] at hnd
    have hgo := hg (k, vs) (by simp)
    simp only [goodOpt, Bool.and_eq_true] at hgo
    cases vs with
    | nil => simp at hgo
    | cons v xs =>
      simp only [Bool.and_eq_true, List.all_eq_true] at hgo
      obtain ⟨hk, hv, hx⟩ := hgo
      have hka : k ∉ acc.map (·.1) := hacc (k, v :: xs) (by simp)
      simp only [encBlock, encLines, List.cons_append, List.append_assoc]
      rw [metaLoop_keyline k v _ key0 acc hk hv, appendVal_new _ _ _ hka,
        metaLoop_conts k xs _ acc [v] hka hx]
      rw [ih (acc ++ [(k, [v] ++ xs)]) (some k) (fun o ho => hg o (by simp [ho])) hnd.2
        (keys_fresh_after_append (·.1) (k, v :: xs) r acc _ hnd.1 hacc)]
      simp

end Ford.Settings
