/-
  C06: FORD's single `permission` slot (last access keyword wins) against the standard's
  accessibility of a declared entity (PUBLIC / PRIVATE attribute, else the module default;
  PROTECTED is not an accessibility).
-/
import FordModel.Lemmas.UseSpec
namespace Ford.Use

theorem foldl_overwrite (l : List Perm) (init : Perm) :
    l.foldl (fun _ p => p) init = l.getLast?.getD init := by
  induction l generalizing init with
  | nil => rfl
  | cons a t ih =>
    rw [List.foldl_cons, ih]
    cases t with
    | nil => rfl
    | cons b t =>
      rw [List.getLast?_cons_cons]
      rw [List.getLast?_eq_some_getLast (List.cons_ne_nil b t)]
      rfl

/-- the slot holds the keyword met last, or the scope's default when there is none -/
theorem declPerm_eq_last (m : Scope) (d : Decl) :
    declPerm m d = d.accs.getLast?.getD (if m.defPub then .pub else .priv) := by
  unfold declPerm; exact foldl_overwrite _ _

theorem declExported_iff (m : Scope) (d : Decl) : declExported m d = true ↔ declPerm m d ≠ .priv := by
  simp [declExported]

/-- outside the defect class, what `_cleanup` exports is accessible by the standard -/
theorem accessible_of_exported (m : Scope) (d : Decl) (hq : ¬ ProtectedOverPrivate m d)
    (he : declPerm m d ≠ .priv) : declAccessible m d = true := by
  rw [declPerm_eq_last] at he
  cases hlast : d.accs.getLast? with
  | none =>
    have hnil : d.accs = [] := List.getLast?_eq_none_iff.1 hlast
    rw [hlast] at he
    unfold declAccessible
    cases hdp : m.defPub <;> simp_all
  | some p =>
    have hmem : p ∈ d.accs := List.mem_of_getLast? hlast
    rw [hlast] at he
    cases p with
    | pub => unfold declAccessible; simp [hmem]
    | priv => simp at he
    | prot =>
      cases ha : declAccessible m d with
      | true => rfl
      | false => exact absurd ⟨hlast, ha⟩ hq

/-- in a legal program (never both PUBLIC and PRIVATE) everything accessible passes the filter
    of `_cleanup`, whatever the order of the keywords -/
theorem exported_of_accessible (m : Scope) (d : Decl)
    (hl : ¬ (Perm.pub ∈ d.accs ∧ Perm.priv ∈ d.accs)) (ha : declAccessible m d = true) :
    declPerm m d ≠ .priv := by
  rw [declPerm_eq_last]
  cases hlast : d.accs.getLast? with
  | none =>
    have hnil : d.accs = [] := List.getLast?_eq_none_iff.1 hlast
    unfold declAccessible at ha
    cases hdp : m.defPub <;> simp_all
  | some p =>
    have hmem : p ∈ d.accs := List.mem_of_getLast? hlast
    cases p with
    | pub => simp
    | prot => simp
    | priv =>
      unfold declAccessible at ha
      by_cases hp : Perm.pub ∈ d.accs
      · exact absurd ⟨hp, hmem⟩ hl
      · simp [hp, hmem] at ha

end Ford.Use
