import FordModel.Graph
/-!
  `add_nodes` / `add_to_graph` as a hop expansion: what one accepted hop preserves (edge closure,
  node limit, no duplicate, no invented edge), soundness and completeness with respect to
  reachability within the depth bound, the refused first hop behind the table fall-back
  (`hop_nodes` / `hop_edges`), `__str__`, and the rows of the table.
-/
namespace Ford.Graph

theorem mem_dedup {a : Node} {l : List Node} : a ∈ dedup l ↔ a ∈ l := by
  induction l with
  | nil => simp [dedup]
  | cons b r ih =>
    by_cases h : b ∈ r
    · simp only [dedup, List.contains_eq_mem, h, decide_true, if_true, ih, List.mem_cons]
      exact ⟨Or.inr, fun h' => h'.elim (fun e => e ▸ h) id⟩
    · simp [dedup, h, ih]

theorem nodup_dedup (l : List Node) : (dedup l).Nodup := by
  induction l with
  | nil => simp [dedup]
  | cons b r ih =>
    by_cases h : b ∈ r
    · simp [dedup, h, ih]
    · simp [dedup, h, ih, mem_dedup]

theorem length_dedup_le (l : List Node) : (dedup l).length ≤ l.length := by
  induction l with
  | nil => exact Nat.le_refl 0
  | cons b r ih =>
    rw [dedup]
    split
    · exact Nat.le_succ_of_le ih
    · exact Nat.succ_le_succ ih

theorem mem_union {a : Node} {x y : List Node} : a ∈ union x y ↔ a ∈ x ∨ a ∈ y := by
  by_cases hx : a ∈ x <;> simp [union, hx]

theorem length_union_le (x y : List Node) : (union x y).length ≤ x.length + y.length := by
  simp only [union, List.length_append]
  have := List.length_filter_le (fun a => !x.contains a) y
  omega

theorem nodup_union {x y : List Node} (hx : x.Nodup) (hy : y.Nodup) : (union x y).Nodup := by
  simp only [union]
  rw [List.nodup_append]
  refine ⟨hx, hy.filter _, ?_⟩
  intro a ha b hb hab
  subst hab
  simp [List.mem_filter] at hb
  exact hb.2 ha

def WF (succ : Node → List (Node × Edge)) : Prop :=
  ∀ n c e, (c, e) ∈ succ n → (e.tail = n ∧ e.head = c) ∨ (e.tail = c ∧ e.head = n)

def succN (succ : Node → List (Node × Edge)) (n : Node) : List Node := (succ n).map Prod.fst

theorem mem_succN {s : Node → List (Node × Edge)} {n c : Node} : c ∈ succN s n ↔ ∃ e, (c, e) ∈ s n := by
  simp [succN]

theorem mem_hopEdges {cfg : Cfg} {nodes : List Node} {e : Edge} :
    e ∈ hopEdgesOf cfg nodes ↔ ∃ n ∈ nodes, ∃ c, (c, e) ∈ cfg.succ n := by
  simp only [hopEdgesOf, cands, List.mem_map, List.mem_flatMap, Prod.exists]
  constructor
  · rintro ⟨c, e', ⟨n, hn, h⟩, rfl⟩; exact ⟨n, hn, c, h⟩
  · rintro ⟨n, hn, c, h⟩; exact ⟨c, e, ⟨n, hn, h⟩, rfl⟩

theorem mem_hopOf {cfg : Cfg} {added nodes : List Node} {c : Node} :
    c ∈ hopOf cfg added nodes ↔
      (∃ n ∈ nodes, c ∈ succN cfg.succ n) ∧ (cfg.filterAdded = true → c ∉ added) := by
  simp only [hopOf, mem_dedup, List.mem_filter, cands, List.mem_map, List.mem_flatMap, succN,
    Prod.exists]
  constructor
  · rintro ⟨⟨c', e, ⟨n, hn, h⟩, rfl⟩, hf⟩
    refine ⟨⟨n, hn, c', e, h, rfl⟩, ?_⟩
    intro hfa; simpa [hfa] using hf
  · rintro ⟨⟨n, hn, c', e, h, rfl⟩, hf⟩
    refine ⟨⟨c', e, ⟨n, hn, h⟩, rfl⟩, ?_⟩
    by_cases hfa : cfg.filterAdded = true
    · simpa [hfa] using hf hfa
    · simp [hfa]

/-- a candidate of the hop ends up in the node set whether or not it passed the filter -/
theorem cand_mem_union {cfg : Cfg} {added nodes : List Node} {n c : Node}
    (hn : n ∈ nodes) (hc : c ∈ succN cfg.succ n) : c ∈ union added (hopOf cfg added nodes) := by
  rw [mem_union]
  by_cases h : c ∈ added
  · exact Or.inl h
  · exact Or.inr (mem_hopOf.2 ⟨⟨n, hn, hc⟩, fun _ => h⟩)

def accept (cfg : Cfg) (nodes : List Node) (st : GState) : GState :=
  { st with added := union st.added (hopOf cfg st.added nodes), edges := st.edges ++ hopEdgesOf cfg nodes }

def EdgesClosed (st : GState) : Prop := ∀ e ∈ st.edges, e.tail ∈ st.added ∧ e.head ∈ st.added

theorem closed_step {cfg : Cfg} (hwf : WF cfg.succ) {nodes : List Node} {st : GState}
    (h1 : EdgesClosed st) (h2 : ∀ n ∈ nodes, n ∈ st.added) :
    EdgesClosed (accept cfg nodes st) := by
  intro e he
  rcases List.mem_append.1 he with he | he
  · exact ⟨mem_union.2 (Or.inl (h1 e he).1), mem_union.2 (Or.inl (h1 e he).2)⟩
  · obtain ⟨n, hn, c, hc⟩ := mem_hopEdges.1 he
    have hcu := cand_mem_union (added := st.added) hn (mem_succN.2 ⟨e, hc⟩)
    have hnu : n ∈ union st.added (hopOf cfg st.added nodes) := mem_union.2 (Or.inl (h2 n hn))
    rcases hwf n c e hc with ⟨ht, hh⟩ | ⟨ht, hh⟩
    · rw [ht, hh]; exact ⟨hnu, hcu⟩
    · rw [ht, hh]; exact ⟨hcu, hnu⟩

theorem addNodes_closed (cfg : Cfg) (hwf : WF cfg.succ) (nodes : List Node) (nesting : Nat)
    (st : GState) (h1 : EdgesClosed st) (h2 : ∀ n ∈ nodes, n ∈ st.added) :
    EdgesClosed (addNodes cfg nodes nesting st) := by
  fun_induction addNodes cfg nodes nesting st
  case case1 => exact h1
  case case2 => exact closed_step hwf h1 h2
  case case3 ih => exact ih (closed_step hwf h1 h2) fun _ hn => mem_union.2 (Or.inr hn)
  case case4 => exact closed_step hwf h1 h2
  case case5 => exact closed_step hwf h1 h2

theorem addNodes_limit (cfg : Cfg) (nodes : List Node) (nesting : Nat) (st : GState) (B : Nat)
    (hB : cfg.maxNodes ≤ B) (h : st.added.length ≤ B) :
    (addNodes cfg nodes nesting st).added.length ≤ B := by
  have hfit : ∀ {st : GState} {hop : List Node}, ¬ hop.length + st.added.length > cfg.maxNodes →
      (union st.added hop).length ≤ B := fun {st hop} hle => by
    have := length_union_le st.added hop
    omega
  fun_induction addNodes cfg nodes nesting st
  case case1 => exact h
  case case2 hle _ _ _ => exact hfit hle
  case case3 hle _ _ _ _ ih => exact ih (hfit hle)
  case case4 hle _ _ _ _ => exact hfit hle
  case case5 hle _ _ => exact hfit hle

theorem addNodes_nodup (cfg : Cfg) (nodes : List Node) (nesting : Nat) (st : GState)
    (h : st.added.Nodup) : (addNodes cfg nodes nesting st).added.Nodup := by
  fun_induction addNodes cfg nodes nesting st
  case case1 => exact h
  case case2 => exact nodup_union h (nodup_dedup _)
  case case3 ih => exact ih (nodup_union h (nodup_dedup _))
  case case4 => exact nodup_union h (nodup_dedup _)
  case case5 => exact nodup_union h (nodup_dedup _)

/-- `Reach s roots k n`: there is a path of exactly `k` steps of `s` from a root to `n` -/
inductive Reach (s : Node → List Node) (roots : List Node) : Nat → Node → Prop
  | root {n : Node} : n ∈ roots → Reach s roots 0 n
  | step {k : Nat} {m c : Node} : Reach s roots k m → c ∈ s m → Reach s roots (k + 1) c

def ReachLe (s : Node → List Node) (roots : List Node) (d : Nat) (n : Node) : Prop :=
  ∃ k, k ≤ d ∧ Reach s roots k n

theorem ReachLe.root {s roots d n} (h : n ∈ roots) : ReachLe s roots d n := ⟨0, Nat.zero_le d, .root h⟩

theorem ReachLe.mono {s roots d d' n} (h : ReachLe s roots d n) (hd : d ≤ d') : ReachLe s roots d' n := by
  obtain ⟨k, hk, hr⟩ := h; exact ⟨k, by omega, hr⟩

theorem ReachLe.step {s roots d m c} (h : ReachLe s roots d m) (hc : c ∈ s m) :
    ReachLe s roots (d + 1) c := by
  obtain ⟨k, hk, hr⟩ := h; exact ⟨k + 1, by omega, .step hr hc⟩

theorem closed_contains_reach {s : Node → List Node} {roots : List Node} {A : List Node}
    (hr : ∀ n ∈ roots, n ∈ A) (hc : ∀ m ∈ A, ∀ c ∈ s m, c ∈ A) :
    ∀ k n, Reach s roots k n → n ∈ A := by
  intro k n h
  induction h with
  | root h => exact hr _ h
  | step _ hc' ih => exact hc _ ih _ hc'

/-- the depth within which `add_nodes`, entered at nesting level `j`, draws the relation -/
def depthBound (cfg : Cfg) (j : Nat) : Nat := if cfg.nested then max j cfg.maxNesting else j

theorem le_depthBound (cfg : Cfg) (j : Nat) : j ≤ depthBound cfg j := by
  unfold depthBound; split <;> omega

theorem depthBound_succ {cfg : Cfg} {j : Nat} (hn : cfg.nested = true) (hlt : j < cfg.maxNesting) :
    depthBound cfg (j + 1) = depthBound cfg j := by
  simp only [depthBound, hn, if_true]
  rw [Nat.max_eq_right (Nat.le_of_lt hlt), Nat.max_eq_right hlt]

theorem depthBound_last {cfg : Cfg} {j : Nat} (h : cfg.nested = true → ¬ j < cfg.maxNesting) :
    depthBound cfg j = j := by
  unfold depthBound; split
  · rename_i hn; have := h hn; omega
  · rfl

theorem union_sound {cfg : Cfg} {roots nodes : List Node} {j : Nat} {st : GState} (hj1 : 1 ≤ j)
    (hA : ∀ n ∈ st.added, ReachLe (succN cfg.succ) roots (j - 1) n)
    (hN : ∀ n ∈ nodes, ReachLe (succN cfg.succ) roots (j - 1) n) :
    ∀ n ∈ union st.added (hopOf cfg st.added nodes), ReachLe (succN cfg.succ) roots j n := by
  intro n hn
  rcases mem_union.1 hn with h | h
  · exact (hA n h).mono (Nat.sub_le j 1)
  · obtain ⟨⟨m, hm, hc⟩, _⟩ := mem_hopOf.1 h
    exact ((hN m hm).step hc).mono (Nat.le_of_eq (Nat.sub_add_cancel hj1))

theorem addNodes_sound (cfg : Cfg) (roots nodes : List Node) (j : Nat) (st : GState) (hj1 : 1 ≤ j)
    (hA : ∀ n ∈ st.added, ReachLe (succN cfg.succ) roots (j - 1) n)
    (hN : ∀ n ∈ nodes, ReachLe (succN cfg.succ) roots (j - 1) n) :
    ∀ n ∈ (addNodes cfg nodes j st).added, ReachLe (succN cfg.succ) roots (depthBound cfg j) n := by
  have hj := le_depthBound cfg j
  fun_induction addNodes cfg nodes j st
  case case1 => exact fun n hn => (hA n hn).mono (Nat.le_trans (Nat.sub_le _ 1) hj)
  case case2 => exact fun n hn => (union_sound hj1 hA hN n hn).mono hj
  case case3 hnest _ hlt ih =>
    rw [← depthBound_succ hnest hlt]
    exact ih (Nat.le_add_left 1 _) (union_sound hj1 hA hN) (fun n hn => union_sound hj1 hA hN n (mem_union.2 (Or.inr hn)))
      (le_depthBound ..)
  case case4 => exact fun n hn => (union_sound hj1 hA hN n hn).mono hj
  case case5 => exact fun n hn => (union_sound hj1 hA hN n hn).mono hj

/-- What holds when `add_nodes` is entered with the frontier `nodes` at nesting level `j`: everything
    less than `j` steps from a root is drawn, and every drawn node outside the frontier has been
    expanded: its candidates are drawn and its edges written. -/
structure Front (cfg : Cfg) (roots nodes : List Node) (j : Nat) (st : GState) : Prop where
  ball : ∀ n, ReachLe (succN cfg.succ) roots (j - 1) n → n ∈ st.added
  inner : ∀ m ∈ st.added, m ∉ nodes → ∀ c e, (c, e) ∈ cfg.succ m → c ∈ st.added ∧ e ∈ st.edges

theorem Front.initial (cfg : Cfg) (roots : List Node) : Front cfg roots roots 1 { added := dedup roots } where
  ball := by
    rintro n ⟨k, hk, hr⟩
    cases hr with
    | root h => exact mem_dedup.2 h
    | step => omega
  inner := fun m hm hmn => absurd (mem_dedup.1 hm) hmn

variable {cfg : Cfg} {roots nodes : List Node} {j : Nat} {st : GState}

/-- an accepted hop expands every node drawn before it, in the frontier or not -/
theorem Front.expanded (F : Front cfg roots nodes j st) {m c : Node} {e : Edge} (hm : m ∈ st.added)
    (h : (c, e) ∈ cfg.succ m) : c ∈ (accept cfg nodes st).added ∧ e ∈ (accept cfg nodes st).edges := by
  by_cases hmn : m ∈ nodes
  · exact ⟨cand_mem_union hmn (mem_succN.2 ⟨e, h⟩), List.mem_append.2 (Or.inr (mem_hopEdges.2 ⟨m, hmn, c, h⟩))⟩
  · exact ⟨mem_union.2 (Or.inl (F.inner m hm hmn c e h).1), List.mem_append.2 (Or.inl (F.inner m hm hmn c e h).2)⟩

theorem Front.step (F : Front cfg roots nodes j st) :
    Front cfg roots (hopOf cfg st.added nodes) (j + 1) (accept cfg nodes st) where
  ball := by
    rintro n ⟨k, hk, hr⟩
    cases hr with
    | root h => exact mem_union.2 (Or.inl (F.ball n (.root h)))
    | @step k' m _ hm hc =>
      obtain ⟨e, he⟩ := mem_succN.1 hc
      exact (F.expanded (F.ball m ⟨k', Nat.le_sub_one_of_lt hk, hm⟩) he).1
  inner := by
    intro m hm hmh c e he
    rcases mem_union.1 hm with h | h
    · exact F.expanded h he
    · exact absurd h hmh

/-- an accepted hop that is the last because of the depth -/
theorem Front.last (F : Front cfg roots nodes j st) {d : Nat} {n : Node}
    (hr : ReachLe (succN cfg.succ) roots d n) :
    (d ≤ j → n ∈ (accept cfg nodes st).added)
      ∧ (d + 1 ≤ j → ∀ c e, (c, e) ∈ cfg.succ n → e ∈ (accept cfg nodes st).edges) :=
  ⟨fun hd => F.step.ball n (hr.mono hd),
    fun hd _ _ he => (F.expanded (F.ball n (hr.mono (Nat.le_sub_one_of_lt hd))) he).2⟩

/-- `add_nodes` exhausts the relation up to the depth bound: unless `add_to_graph` refused a hop, everything
    within the bound is in the graph, **and no edge is lost**: every edge `add_node` produces for a node closer
    to the roots than the depth bound is written — *every* one: when two relations join the same
    ordered pair of nodes, `add_node` produces two edges and both are written. -/
theorem addNodes_exhausts (cfg : Cfg) (roots nodes : List Node) (j : Nat) (st : GState)
    (F : Front cfg roots nodes j st) (hcut : (addNodes cfg nodes j st).cutBySize = false)
    {d : Nat} {n : Node} (hr : ReachLe (succN cfg.succ) roots d n) :
    (d ≤ depthBound cfg j → n ∈ (addNodes cfg nodes j st).added)
      ∧ (d + 1 ≤ depthBound cfg j → ∀ c e, (c, e) ∈ cfg.succ n → e ∈ (addNodes cfg nodes j st).edges) := by
  fun_induction addNodes cfg nodes j st
  case case1 => cases hcut
  case case2 nodes j st _ _ _ _ hemp =>
    -- the frontier is empty: what is drawn is closed under the relation
    have hin := F.step.inner
    have hempty : hopOf cfg st.added nodes = [] := List.isEmpty_iff.1 hemp
    rw [hempty] at hin
    obtain ⟨k, _, hk⟩ := hr
    have hn : n ∈ (accept cfg nodes st).added :=
      closed_contains_reach (fun r hr' => F.step.ball r (.root hr'))
        (fun m hm c hc => by
          obtain ⟨e, he⟩ := mem_succN.1 hc
          exact (hin m hm List.not_mem_nil c e he).1) k n hk
    exact ⟨fun _ => hn, fun _ c e he => (hin n hn List.not_mem_nil c e he).2⟩
  case case3 hnest _ hlt ih =>
    rw [← depthBound_succ hnest hlt]
    exact ih F.step hcut
  case case4 hge =>
    rw [depthBound_last fun _ => hge]
    exact F.last hr
  case case5 hnn =>
    rw [depthBound_last fun h => absurd h hnn]
    exact F.last hr

def EdgesDrawn (cfg : Cfg) (st : GState) : Prop :=
  ∀ e ∈ st.edges, ∃ n ∈ st.added, ∃ c ∈ st.added, (c, e) ∈ cfg.succ n

theorem drawn_step {cfg : Cfg} {nodes : List Node} {st : GState} (h : EdgesDrawn cfg st)
    (h2 : ∀ n ∈ nodes, n ∈ st.added) : EdgesDrawn cfg (accept cfg nodes st) := by
  intro e he
  rcases List.mem_append.1 he with he | he
  · obtain ⟨n, hn, c, hc, hs⟩ := h e he
    exact ⟨n, mem_union.2 (Or.inl hn), c, mem_union.2 (Or.inl hc), hs⟩
  · obtain ⟨n, hn, c, hs⟩ := mem_hopEdges.1 he
    exact ⟨n, mem_union.2 (Or.inl (h2 n hn)), c, cand_mem_union hn (mem_succN.2 ⟨e, hs⟩), hs⟩

theorem addNodes_drawn (cfg : Cfg) (nodes : List Node) (nesting : Nat) (st : GState)
    (h : EdgesDrawn cfg st) (h2 : ∀ n ∈ nodes, n ∈ st.added) :
    EdgesDrawn cfg (addNodes cfg nodes nesting st) := by
  fun_induction addNodes cfg nodes nesting st
  case case1 => exact h
  case case2 => exact drawn_step h h2
  case case3 ih => exact ih (drawn_step h h2) fun _ hn => mem_union.2 (Or.inr hn)
  case case4 => exact drawn_step h h2
  case case5 => exact drawn_step h h2

theorem addNodes_refused (cfg : Cfg) (nodes : List Node) (nesting : Nat) (st : GState)
    (h : cfg.maxNodes < (hopOf cfg st.added nodes).length + st.added.length) :
    addNodes cfg nodes nesting st =
      { st with
        hopNodes := if nesting < 2 then hopOf cfg st.added nodes else st.hopNodes
        hopEdges := if nesting < 2 then hopEdgesOf cfg nodes else st.hopEdges
        truncated := some nesting
        cutBySize := true } := by
  rw [addNodes]
  exact if_pos h

/-- `hop_nodes` / `hop_edges` are written by the first hop only, and only when it is refused -/
theorem addNodes_hop_kept (cfg : Cfg) (nodes : List Node) (nesting : Nat) (st : GState) (h1 : 1 ≤ nesting)
    (hfit : nesting = 1 → (hopOf cfg st.added nodes).length + st.added.length ≤ cfg.maxNodes) :
    (addNodes cfg nodes nesting st).hopNodes = st.hopNodes
      ∧ (addNodes cfg nodes nesting st).hopEdges = st.hopEdges := by
  fun_induction addNodes cfg nodes nesting st
  case case1 nodes nesting st hop hgt =>
    have : ¬ nesting < 2 := fun h => absurd (hfit (by omega)) (Nat.not_le_of_gt hgt)
    simp [this]
  case case2 => exact ⟨rfl, rfl⟩
  case case3 ih => exact ih (by omega) (by omega)
  case case4 => exact ⟨rfl, rfl⟩
  case case5 => exact ⟨rfl, rfl⟩

/-- **what the table shows**: if a drawn graph has a non-empty `hop_nodes`, then its first hop was
    refused — nothing but the roots is drawn, no edge — and `hop_nodes` / `hop_edges` are exactly
    that first hop of the relation, which did not fit beside the roots -/
theorem runGraph_table (cfg : Cfg) (roots : List Node) (h : (runGraph cfg roots).hopNodes ≠ []) :
    (runGraph cfg roots).added = dedup roots ∧ (runGraph cfg roots).edges = []
      ∧ (runGraph cfg roots).truncated = some 1
      ∧ (runGraph cfg roots).hopNodes = hopOf cfg (dedup roots) roots
      ∧ (runGraph cfg roots).hopEdges = hopEdgesOf cfg roots
      ∧ cfg.maxNodes < (hopOf cfg (dedup roots) roots).length + (dedup roots).length := by
  rw [runGraph] at h ⊢
  by_cases hfit : (hopOf cfg (dedup roots) roots).length + (dedup roots).length ≤ cfg.maxNodes
  · rw [(addNodes_hop_kept cfg roots 1 { added := dedup roots } (Nat.le_refl 1) fun _ => hfit).1] at h
    exact absurd rfl h
  · have hgt := Nat.lt_of_not_le hfit
    rw [addNodes_refused cfg roots 1 { added := dedup roots } hgt]
    exact ⟨rfl, rfl, rfl, rfl, rfl, hgt⟩

theorem dedup_of_nodup {l : List Node} (h : l.Nodup) : dedup l = l := by
  induction l with
  | nil => simp [dedup]
  | cons a r ih =>
    rw [List.nodup_cons] at h
    simp [dedup, h.1, ih h.2]

/-- The root cell of the table spans rows counted on `hop_nodes`, the rows are written per `hop_edges`:
    the two counts agree when every candidate is new and occurs once. -/
theorem hop_lengths_eq {cfg : Cfg} {added nodes : List Node}
    (hd : ((cands cfg.succ nodes).map Prod.fst).Nodup)
    (hn : ∀ c ∈ (cands cfg.succ nodes).map Prod.fst, c ∉ added) :
    (hopOf cfg added nodes).length = (hopEdgesOf cfg nodes).length := by
  have hf : ((cands cfg.succ nodes).map Prod.fst).filter (fun c => !cfg.filterAdded || !added.contains c)
      = (cands cfg.succ nodes).map Prod.fst := by
    apply List.filter_eq_self.2
    intro c hc
    have := hn c hc
    simp [this]
  simp only [hopOf, hopEdgesOf, hf, dedup_of_nodup hd, List.length_map]

theorem hop_length_le {cfg : Cfg} {added nodes : List Node} :
    (hopOf cfg added nodes).length ≤ (hopEdgesOf cfg nodes).length := by
  simp only [hopOf, hopEdgesOf, List.length_map]
  refine Nat.le_trans (length_dedup_le _) ?_
  refine Nat.le_trans (List.length_filter_le _ _) ?_
  simp

/-- the test `hop_nodes and len(root) == 1` of `__str__` -/
theorem asTable_iff (n : Nat) (g : GState) :
    (!g.hopNodes.isEmpty && n == 1) = true ↔ g.hopNodes ≠ [] ∧ n = 1 := by
  simp

theorem shownAs_eq_table {n mx : Nat} {g : GState} :
    shownAs n mx g = .table ↔ (g.hopNodes ≠ [] ∧ n = 1) ∧ g.added.length ≤ mx ∧ n ≤ g.added.length := by
  rw [← asTable_iff, shownAs]
  grind

theorem shownAs_eq_svg {n mx : Nat} {g : GState} :
    shownAs n mx g = .svg ↔
      ¬ (g.hopNodes ≠ [] ∧ n = 1) ∧ 1 < g.added.length ∧ g.added.length ≤ mx ∧ n ≤ g.added.length := by
  rw [← asTable_iff, shownAs]
  grind

theorem shownAs_eq_nothing {n mx : Nat} {g : GState} :
    shownAs n mx g = .nothing ↔
      (g.added.length ≤ 1 ∧ ¬ (g.hopNodes ≠ [] ∧ n = 1)) ∨ mx < g.added.length ∨ g.added.length < n := by
  rw [← asTable_iff, shownAs]
  grind

theorem otherEnd_of_tail {root : Node} {e : Edge} (h : e.tail = root) : otherEnd root e = e.head := by
  simp [otherEnd, h]

theorem otherEnd_of_head {root : Node} {e : Edge} (h : e.head = root) : otherEnd root e = e.tail := by
  unfold otherEnd
  split
  · rename_i ht; rw [h]; exact (beq_iff_eq.1 ht).symm
  · rfl

/-- the side shown is decided once, by the edge `e0`: right when all edges are oriented alike and
    `e0` leaves the root only if all of them do -/
theorem rows_of_first {root : Node} {es : List Edge} {e0 : Edge} (h0 : e0 ∈ es)
    (ho : (∀ e ∈ es, e.tail = root) ∨ (∀ e ∈ es, e.head = root))
    (hs : e0.tail = root → ∀ e ∈ es, e.tail = root) :
    (if e0.tail == root then es.map fun e => (e.head, e.style) else es.map fun e => (e.tail, e.style))
      = es.map fun e => (otherEnd root e, e.style) := by
  by_cases ht : e0.tail = root
  · rw [if_pos (beq_iff_eq.2 ht)]
    exact List.map_congr_left fun e he => by rw [otherEnd_of_tail (hs ht e he)]
  · rw [if_neg (mt beq_iff_eq.1 ht)]
    rcases ho with ho | ho
    · exact absurd (ho e0 h0) ht
    · exact List.map_congr_left fun e he => by rw [otherEnd_of_head (ho e he)]

theorem find_first_spec (es : List Edge) (e0 : Edge)
    (h : ((es.find? fun e => e.tail != e.head).or es.head?) = some e0) :
    e0 ∈ es ∧ (e0.tail = e0.head → ∀ e ∈ es, e.tail = e.head) := by
  cases hf : es.find? (fun e => e.tail != e.head) with
  | some e1 =>
    rw [hf] at h
    have h : e1 = e0 := by simpa [Option.or] using h
    subst h
    have := List.find?_some hf
    exact ⟨List.mem_of_find?_eq_some hf, fun hl => by simp [hl] at this⟩
  | none =>
    rw [hf] at h
    have h : es.head? = some e0 := by simpa [Option.or] using h
    refine ⟨List.mem_of_mem_head? h, fun _ e he => ?_⟩
    have := List.find?_eq_none.1 hf e he
    simpa using this

end Ford.Graph
