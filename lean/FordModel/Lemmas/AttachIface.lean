import FordModel.AttachIface
namespace Ford

theorem wStep_a (mark : Str) (w : WSt) (it : Str) : (wStep mark w it).a = attachStep mark w.a it := by
  unfold wStep
  simp only
  repeat' split
  all_goals rfl

theorem wFrom_a (mark : Str) (w : WSt) (items : List Str) : (wFrom mark w items).a = attachFrom mark w.a items := by
  induction items generalizing w with
  | nil => rfl
  | cons it items ih => simp only [wFrom, attachFrom, ih, wStep_a]

/-- without interface blocks that get wrappers nothing is inserted, dropped or rewritten -/
theorem insertWrappers_nil (wfix tb : Bool) (fields : List Str) (base xs : List EntDoc) (i : Nat) :
    insertWrappers wfix tb fields [] base i xs = xs := by
  induction xs generalizing i with
  | nil => rfl
  | cons x xs ih => simp [insertWrappers, ih]

end Ford
