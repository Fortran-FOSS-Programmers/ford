/-
  Lemmas about the call-by-call model of the reader (FordModel/PassBack.lean): the queue emptied one
  `__next__` at a time against the batch model's `Include.drain`; whole files iterated call by call against the
  batch model `readFromI` (`readOn_yields_batch`); and the invariant that buffered doc lines carry the doc mark,
  from which a consumer that looks ahead receives the same list (`consume_of_yields`).
-/
import FordModel.PassBack
import FordModel.PassBackCfg
import FordModel.Include
import FordModel.Lemmas.Reader
namespace Ford.PassBack
open Ford Include

/-- a queued statement that `include()` leaves alone is popped as it is -/
theorem popPending_keep (c : Cfg) (resolve : Str → Res) (inc : Bool) (p : Str) (rest : List Str)
    (hp : look c.kwLoose resolve p = .keep) :
    popPending c resolve inc (p :: rest) = .ok (some (p, rest)) := by
  cases inc <;> simp [popPending, includeCall, hp]

/-- an include of a file without items, re-testing variant: the call goes on with the statement behind it -/
theorem popPending_skip (c : Cfg) (resolve : Str → Res) (hg : c.guarded = true) (p : Str) (rest : List Str)
    (hp : look c.kwLoose resolve p = .splice []) :
    popPending c resolve true (p :: rest) = popPending c resolve true rest := by
  cases rest <;> simp [popPending, includeCall, hp, hg]

/-- an include of a file with items: its first item is returned, the others stand in front of the queue -/
theorem popPending_splice (c : Cfg) (resolve : Str → Res) (p x : Str) (l rest : List Str)
    (hp : look c.kwLoose resolve p = .splice (x :: l)) :
    popPending c resolve true (p :: rest) = .ok (some (x, l ++ rest)) := by
  simp [popPending, includeCall, hp]

theorem drains_congr (c : Cfg) (resolve : Str → Res) (inc : Bool) (q q' out : List Str)
    (h : popPending c resolve inc q = popPending c resolve inc q') (d : Drains c resolve inc q' out) :
    Drains c resolve inc q out := by
  cases d with
  | done hd => exact .done (h ▸ hd)
  | step hs more => exact .step (h ▸ hs) more

theorem drains_keep_prefix (c : Cfg) (resolve : Str → Res) (inc : Bool) (rest r : List Str)
    (d : Drains c resolve inc rest r) :
    ∀ l : List Str, (∀ y ∈ l, look c.kwLoose resolve y = .keep) → Drains c resolve inc (l ++ rest) (l ++ r)
  | [], _ => d
  | y :: l, h =>
    .step (popPending_keep c resolve inc y (l ++ rest) (h y (by simp)))
      (drains_keep_prefix c resolve inc rest r d l (fun z hz => h z (by simp [hz])))

/-- The queue emptied call by call gives what the batch model's `drain` gives (re-testing variant,
    `include()` in front of the top pop, and every item an include file yields is left alone when
    `include()` sees it again at the head of the queue). -/
theorem drains_of_drain (c : Cfg) (resolve : Str → Res) (hg : c.guarded = true) (hi : c.incPrologue = true)
    (hs : ∀ p l, look c.kwLoose resolve p = .splice l → ∀ y ∈ l, look c.kwLoose resolve y = .keep) :
    ∀ (q out : List Str), drain c resolve .prologue q = .ok out → Drains c resolve true q out
  | [], out, h => by
    simp [drain] at h
    subst h
    exact .done (by simp [popPending])
  | p :: rest, out, h => by
    simp only [drain, hi, if_true] at h
    cases hl : look c.kwLoose resolve p with
    | keep =>
      simp only [hl] at h
      cases hd : drain c resolve .prologue rest with
      | error e => simp [hd, Except.map] at h
      | ok r =>
        simp [hd, Except.map] at h
        subst h
        exact .step (popPending_keep c resolve true p rest hl) (drains_of_drain c resolve hg hi hs rest r hd)
    | fail e => simp [hl] at h
    | splice l =>
      cases l with
      | nil =>
        simp only [hl, hg, if_true] at h
        exact drains_congr c resolve true _ _ _ (popPending_skip c resolve hg p rest hl)
          (drains_of_drain c resolve hg hi hs rest out h)
      | cons x l =>
        simp only [hl] at h
        cases hd : drain c resolve .prologue rest with
        | error e => simp [hd, Except.map] at h
        | ok r =>
          simp [hd, Except.map] at h
          subst h
          exact .step (popPending_splice c resolve p x l rest hl)
            (drains_keep_prefix c resolve true rest r (drains_of_drain c resolve hg hi hs rest r hd) l
              (fun y hy => hs p (x :: l) hl y (by simp [hy])))


/-! ### Iterating call by call gives the batch model's list -/

theorem drain_epilogue_eq_prologue (c : Cfg) (resolve : Str → Res) (hg : c.guarded = true)
    (hi : c.incPrologue = true) (he : c.incEpilogue = true) (q : List Str) :
    drain c resolve .epilogue q = drain c resolve .prologue q := by
  induction q with
  | nil => simp [drain]
  | cons p rest ih =>
    simp only [drain, hi, he, if_true]
    cases look c.kwLoose resolve p with
    | keep => rfl
    | fail e => rfl
    | splice l => cases l <;> simp [hg, ih]

theorem after_to_yields (c : Cfg) (resolve : Str → Res) (m : Marks) (order : List Slot) (st : St)
    (items : List Str) (h : After c resolve m order (next c resolve m order st) items) :
    Yields c resolve m order st items := by
  unfold After at h
  split at h
  · exact h.elim
  · next heq => subst h; exact .stop heq
  · next heq => obtain ⟨out, rfl, hy⟩ := h; exact .item heq hy

/-- the order of the chain at the top of `__next__` in the source: the value `readerOrder` evaluates to -/
def ord : List Slot := [.pending, .docbuffer]

theorem readerOrder_eq : readerOrder = ord := by decide +kernel

theorem readerFront_eq : readerFront = true := by decide

/-- the doc buffer emptied call by call, then on to the next physical lines -/
theorem yields_docs (c : Cfg) (resolve : Str → Res) (m : Marks) (ls more : List Str) :
    ∀ (docs : List Str) (rs : RS) (q : List Str), rs.docbuffer = docs →
      popPending c resolve c.incPrologue q = .ok none →
      After c resolve m ord
        (readOn c resolve m (resetLocals { rs with docbuffer := [], prevdoc := if docs.isEmpty then rs.prevdoc else true }) ls) more →
      Yields c resolve m ord { rs := rs, pending := q, lines := ls } (docs ++ more)
  | [], rs, q, hd, hq, h => by
    apply after_to_yields
    obtain ⟨db, pd, ra, co, rp, rpa, lb⟩ := rs
    simp only at hd
    subst hd
    simpa [next, serve, ord, hq, resetLocals] using h
  | d :: ds, rs, q, hd, hq, h => by
    have hn : next c resolve m ord { rs := rs, pending := q, lines := ls }
        = .ok (some (d, { rs := { rs with docbuffer := ds, prevdoc := true }, pending := [], lines := ls })) := by
      simp [next, serve, ord, hq, hd]
    refine .item hn ?_
    apply yields_docs c resolve m ls more ds _ [] rfl (by simp [popPending])
    cases ds <;> simpa using h

/-- the statement queue emptied call by call, then the doc buffer, then on to the next physical lines -/
theorem yields_queue (c : Cfg) (resolve : Str → Res) (m : Marks) (hi : c.incPrologue = true)
    (ls more : List Str) (q drained : List Str) (d : Drains c resolve true q drained) :
    ∀ (rs : RS), rs.prevdoc = false →
      After c resolve m ord
        (readOn c resolve m (resetLocals { rs with docbuffer := [], prevdoc := !rs.docbuffer.isEmpty }) ls) more →
      Yields c resolve m ord { rs := rs, pending := q, lines := ls } (drained ++ rs.docbuffer ++ more) := by
  induction d with
  | done hq =>
    intro rs hp h
    simp only [List.nil_append]
    apply yields_docs c resolve m ls more rs.docbuffer rs _ rfl (by simpa [hi] using hq)
    cases hdb : rs.docbuffer <;> simp_all
  | @step q x rest out hq _ ih =>
    intro rs hp h
    have hn : next c resolve m ord { rs := rs, pending := q, lines := ls }
        = .ok (some (x, { rs := rs, pending := rest, lines := ls })) := by
      obtain ⟨db, pd, ra, co, rp, rpa, lb⟩ := rs
      simp only at hp
      subst hp
      simp [next, serve, ord, hi, hq]
    simpa using Yields.item hn (ih rs hp h)

/-- what the loop body does with a physical line does not depend on the tail plugged in: it fails,
    skips the line, or hands a state and a piece of the logical line to the tail -/
theorem feedG_eq {β : Type} (skip : β) (tail : RS → Str → Except IErr (RS × β)) (m : Marks) (s : RS)
    (l : Str) :
    feedG skip tail m s l =
      match feedG none (fun s2 l2 => .ok (s2, some l2)) m s l with
      | .error e => .error e
      | .ok (s', none) => .ok (s', skip)
      | .ok (s2, some l2) => tail s2 l2 := by
  unfold feedG
  cases feedFront m s l with
  | error e => rfl
  | ok o =>
    cases o with
    | none => rfl
    | some sl =>
      obtain ⟨s1, ln⟩ := sl
      dsimp only
      cases feedBack m s1 ln <;> rfl

/-- Successive calls of `__next__` return, item by item, the list the batch model `readFromI`
    computes for the same lines (stated for the loop entered with any state `s`). -/
theorem readOn_yields_batch (c : Cfg) (resolve : Str → Res) (m : Marks) (hg : c.guarded = true)
    (hi : c.incPrologue = true) (he : c.incEpilogue = true)
    (hs : ∀ p l, look c.kwLoose resolve p = .splice l → ∀ y ∈ l, look c.kwLoose resolve y = .keep) :
    ∀ (lines : List Str) (s : RS) (items : List Str), readFromI c resolve m s lines = .ok items →
      After c resolve m ord (readOn c resolve m s lines) items
  | [], s, items, h => by
    simp [readFromI] at h
    simp [readOn, After, h]
  | l :: ls, s, items, h => by
    have ih := readOn_yields_batch c resolve m hg hi he hs ls
    simp only [readFromI, feedI] at h
    simp only [readOn]
    rw [feedG_eq] at h ⊢
    cases hG : feedG none (fun s2 l2 => .ok (s2, some l2)) m s l with
    | error e => simp [hG] at h
    | ok r =>
      obtain ⟨s2, o⟩ := r
      rw [hG] at h
      cases o with
      | none =>
        simp only at h ⊢
        cases hr : readFromI c resolve m s2 ls with
        | error e => simp [hr] at h
        | ok more => simp [hr] at h; subst h; exact ih s2 more hr
      | some l2 =>
        simp only [feedTailI, tailRaw] at h ⊢
        by_cases hd : tailDone (tailState s2 l2) = true
        · -- the logical line is complete
          simp only [hd, Bool.not_true, Bool.false_eq_true, if_false] at h ⊢
          generalize tailState s2 l2 = s3 at h hd ⊢
          by_cases hint : ((splitPending s3).isEmpty && s3.docbuffer.isEmpty) = true
          · simp [hint] at h
          · simp only [hint, Bool.false_eq_true, if_false] at h
            -- the batch model drains the bottom pop in mode `.epilogue`; `Drains` speaks of `.prologue`
            rw [drain_epilogue_eq_prologue c resolve hg hi he] at h
            cases hdr : drain c resolve .prologue (splitPending s3) with
            | error e => simp [hdr] at h
            | ok drained =>
              simp only [hdr] at h
              cases hr : readFromI c resolve m (afterLine s3 (flush m drained s3.docbuffer s3.prevdoc).2) ls with
              | error e => simp [hr] at h
              | ok more =>
                simp [hr] at h
                subst h
                have hcont := ih _ more hr
                have hD := drains_of_drain c resolve hg hi hs _ _ hdr
                obtain ⟨db, pd, ra, co, rp, rpa, lb⟩ := s3
                -- the three cases follow the `prevdoc` bookkeeping of `flush`: nothing queued and no docs,
                -- nothing queued but docs, a queued statement
                cases hD with
                | done hq =>
                  simp only [he, hq]
                  cases db with
                  | nil =>
                    simpa [flush, hg, afterLine, resetLocals] using hcont
                  | cons d0 ds =>
                    refine ⟨ds ++ more, by cases ds <;> simp [flush], ?_⟩
                    apply yields_docs c resolve m ls more ds _ [] rfl (by simp [popPending])
                    cases ds <;> simpa [flush, afterLine, resetLocals] using hcont
                | @step _ x rest out hq hrest =>
                  simp only [he, hq]
                  refine ⟨out ++ db ++ more, by cases db <;> simp [flush], ?_⟩
                  have := yields_queue c resolve m hi ls more rest out hrest
                    { docbuffer := db, prevdoc := false, readingAlt := ra, continued := co, readingPredoc := rp,
                      readingPredocAlt := rpa, linebuffer := lb } rfl
                  apply this
                  cases db <;> simpa [flush, afterLine, resetLocals] using hcont
        · -- the logical line goes on
          simp only [hd, Bool.not_false, if_true] at h ⊢
          cases hr : readFromI c resolve m (tailState s2 l2) ls with
          | error e => simp [hr] at h
          | ok more => simp [hr] at h; subst h; exact ih _ more hr


/-! ### Every buffered doc line starts with `!` + docmark; look-ahead over a whole file -/

theorem matchDocmark_drop (mark line : Str) (inq : Bool) (i : Nat) (h : matchDocmark mark line inq = some i) :
    startsWith (line.drop i) ('!' :: mark) = true := by
  unfold matchDocmark at h
  split at h
  · simp at h
  · split at h
    · simp at h
    · obtain ⟨p, s, rfl, -, rfl, hs⟩ := comScanAux_some mark line .out 0 i h
      simpa [startsWith] using hs

theorem startsWith_cons_take (l mark : Str) (h : startsWith l ('!' :: mark) = true) : l.take 1 = ['!'] := by
  cases l with
  | nil => simp [startsWith] at h
  | cons c cs => simp [startsWith] at h; simp [h.1]

def DocsMarked (m : Marks) (rs : RS) : Prop := ∀ d ∈ rs.docbuffer, startsWith d ('!' :: m.doc) = true

theorem DocsMarked.pop {m : Marks} {rs : RS} {d : Str} {ds : List Str} (hd : DocsMarked m rs)
    (hdb : rs.docbuffer = d :: ds) :
    startsWith d ('!' :: m.doc) = true ∧ ∀ d' ∈ ds, startsWith d' ('!' :: m.doc) = true := by
  rw [DocsMarked, hdb] at hd
  exact List.forall_mem_cons.1 hd

theorem DocsMarked.push {m : Marks} {s s' : RS} {x : Str} (hd : DocsMarked m s)
    (hs : s'.docbuffer = s.docbuffer ++ [x]) (hx : startsWith x ('!' :: m.doc) = true) : DocsMarked m s' := by
  intro d hdm
  rw [hs, List.mem_append, List.mem_singleton] at hdm
  rcases hdm with hdm | rfl
  · exact hd d hdm
  · exact hx

theorem markStage_docs (m : Marks) (mark : Str) (err : RErr) (upd : RS → RS)
    (inq : Bool) (line0 : Str) (s s' : RS) (h : markStage m.doc mark err upd inq line0 s = .ok s')
    (hd : DocsMarked m s) : DocsMarked m s' := by
  unfold markStage at h
  split at h
  · next i hm =>
    split at h
    · simp at h
    · simp at h; subst h
      refine hd.push rfl ?_
      -- the comment starts with `!`, which `substMark` keeps, and the doc mark is put behind it
      have := startsWith_cons_take _ _ (matchDocmark_drop mark line0 inq i hm)
      simp only [substMark, this]
      simpa using startsWith_append_self ('!' :: m.doc) _
  · simp at h; subst h; exact hd

theorem docStage_docs (m : Marks) (inq : Bool) (line0 : Str) (s : RS) (hd : DocsMarked m s) :
    DocsMarked m (docStage m inq line0 s).1 := by
  unfold docStage
  split
  · next i hm => exact hd.push rfl (matchDocmark_drop m.doc line0 inq i hm)
  · exact hd

theorem blockStage_docs (line : Str) (s : RS) : (blockStage line s).docbuffer = s.docbuffer := by
  unfold blockStage
  simp only [apply_ite RS.docbuffer, ite_self]

theorem comStage_docs (m : Marks) (inq : Bool) (line : Str) (s : RS) (hd : DocsMarked m s) :
    DocsMarked m (comStage m inq line s).1 := by
  unfold comStage
  split
  · simp only []
    split
    · exact hd.push rfl (by simpa using startsWith_append_self ('!' :: m.doc) _)
    · exact hd
  · exact hd

theorem feedFront_docs (m : Marks) (s s1 : RS) (l ln : Str) (h : feedFront m s l = .ok (some (s1, ln)))
    (hd : DocsMarked m s) : DocsMarked m s1 := by
  unfold feedFront at h
  simp only [] at h
  split at h
  · simp at h
  · split at h
    · simp at h
    · next sa h1 =>
      split at h
      · simp at h
      · next sb h2 =>
        split at h
        · simp at h
        · next sc h3 =>
          simp at h
          obtain ⟨rfl, _⟩ := h
          have ha := markStage_docs m _ _ _ _ _ _ _ h1 hd
          have hb := markStage_docs m _ _ _ _ _ _ _ h2 ha
          have hc := markStage_docs m _ _ _ _ _ _ _ h3 hb
          apply comStage_docs
          intro d hdm
          rw [blockStage_docs] at hdm
          exact docStage_docs m _ _ _ hc d hdm

theorem tailState_docs (s : RS) (l : Str) : (tailState s l).docbuffer = s.docbuffer := by
  unfold tailState
  simp only [apply_ite RS.docbuffer, ite_self]

/-- `P` holds of the state the if/else on the stripped line carries on, if any -/
def carriesOn (P : RS → Prop) : Back → Prop
  | .err _ => True
  | .skip s => P s
  | .tail s _ => P s

theorem carriesOn_ite (P : RS → Prop) (c : Prop) [Decidable c] (a b : Back)
    (ha : carriesOn P a) (hb : carriesOn P b) : carriesOn P (if c then a else b) := by
  by_cases h : c
  · rwa [if_pos h]
  · rwa [if_neg h]

theorem feedBack_docs (m : Marks) (s : RS) (ln : Str) (hd : DocsMarked m s) :
    carriesOn (DocsMarked m) (feedBack m s ln) := by
  cases ln with
  | nil =>
    simp only [feedBack, carriesOn]
    split
    · intro d hdm
      rw [List.mem_singleton.1 hdm]
      exact startsWith_self _
    · exact hd
  | cons ch rest =>
    -- every branch leaves the doc buffer as it is
    refine carriesOn_ite _ _ _ _ (carriesOn_ite _ _ _ _ (carriesOn_ite _ _ _ _ hd ?_)
      (carriesOn_ite _ _ _ _ hd trivial)) ?_
    · cases (rest.getLast? == some '&') <;> exact hd
    · cases ((ch :: rest).getLast? == some '&') <;> exact hd

/-- the loop body on one physical line keeps the invariant -/
theorem feedG_docs (m : Marks) (s s' : RS) (l : Str) (r : Option (List Str))
    (h : feedG none tailRaw m s l = .ok (s', r)) (hd : DocsMarked m s) : DocsMarked m s' := by
  unfold feedG at h
  cases hf : feedFront m s l with
  | error e => rw [hf] at h; cases h
  | ok o =>
    rw [hf] at h
    cases o with
    | none => cases h; exact hd
    | some sl =>
      obtain ⟨s1, ln⟩ := sl
      have hb := feedBack_docs m s1 ln (feedFront_docs m s s1 l ln hf hd)
      dsimp only at h
      cases hbk : feedBack m s1 ln with
      | err e => rw [hbk] at h; cases h
      | skip s2 => rw [hbk] at h hb; cases h; exact hb
      | tail s2 l2 =>
        rw [hbk] at h hb
        have e : s' = tailState s2 l2 := by
          simp only [tailRaw] at h
          split at h <;> cases h <;> rfl
        intro d hdm
        rw [e, tailState_docs] at hdm
        exact hb d hdm


theorem next_passBack (c : Cfg) (resolve : Str → Res) (m : Marks) (st : St) (x : Str)
    (hx : look c.kwLoose resolve x = .keep) (hp : st.rs.prevdoc = false) :
    next c resolve m ord (passBack true st x) = .ok (some (x, st)) := by
  obtain ⟨rs, pending, lines⟩ := st
  obtain ⟨db, pd, ra, co, rp, rpa, lb⟩ := rs
  simp only at hp
  subst hp
  simp [next, serve, ord, passBack, popPending_keep c resolve _ x pending hx]

/-- what a call returns from the loop: the invariant is kept, and an item that is not a doc line was
    popped from the statement queue (`prevdoc = false` afterwards) -/
theorem readOn_inv (c : Cfg) (resolve : Str → Res) (m : Marks) (x : Str) (st' : St) :
    ∀ (lines : List Str) (s : RS), DocsMarked m s →
      readOn c resolve m s lines = .ok (some (x, st')) →
      DocsMarked m st'.rs ∧ (startsWith x ('!' :: m.doc) = false → st'.rs.prevdoc = false)
  | [], s, _, h => by simp [readOn] at h
  | l :: ls, s, hd, h => by
    have ih := readOn_inv c resolve m x st' ls
    simp only [readOn] at h
    cases hg : feedG none tailRaw m s l with
    | error e => simp [hg] at h
    | ok sr =>
      obtain ⟨s3, r⟩ := sr
      have hd3 := feedG_docs m s s3 l r hg hd
      rw [hg] at h
      cases r with
      | none => exact ih s3 hd3 h
      | some pend =>
        dsimp only at h
        cases hq : popPending c resolve c.incEpilogue pend with
        | error e => simp [hq] at h
        | ok o =>
          cases o with
          | some xr =>
            obtain ⟨x0, rest⟩ := xr
            simp [hq] at h
            obtain ⟨rfl, rfl⟩ := h
            exact ⟨hd3, fun _ => rfl⟩
          | none =>
            simp only [hq] at h
            cases hdb : s3.docbuffer with
            | nil =>
              simp only [hdb] at h
              split at h
              · exact ih _ (by intro d hdm; simp [resetLocals, hdb] at hdm) h
              · simp at h
            | cons d ds =>
              simp [hdb] at h
              obtain ⟨rfl, rfl⟩ := h
              obtain ⟨h1, h2⟩ := hd3.pop hdb
              exact ⟨h2, fun hnd => by simp [h1] at hnd⟩

theorem next_inv (c : Cfg) (resolve : Str → Res) (m : Marks) (st st' : St) (x : Str)
    (hd : DocsMarked m st.rs) (h : next c resolve m ord st = .ok (some (x, st'))) :
    DocsMarked m st'.rs ∧ (startsWith x ('!' :: m.doc) = false → st'.rs.prevdoc = false) := by
  simp only [next, serve, ord] at h
  cases hq : popPending c resolve c.incPrologue st.pending with
  | error e => simp [hq] at h
  | ok o =>
    cases o with
    | some xr =>
      obtain ⟨x0, rest⟩ := xr
      simp [hq] at h
      obtain ⟨rfl, rfl⟩ := h
      exact ⟨hd, fun _ => rfl⟩
    | none =>
      simp only [hq] at h
      cases hdb : st.rs.docbuffer with
      | nil =>
        simp only [hdb] at h
        exact readOn_inv c resolve m x st' st.lines _ (by intro d hdm; simp [resetLocals, hdb] at hdm) h
      | cons d ds =>
        simp [hdb] at h
        obtain ⟨rfl, rfl⟩ := h
        obtain ⟨h1, h2⟩ := hd.pop hdb
        exact ⟨h2, fun hnd => by simp [h1] at hnd⟩

/-- a consumer that looks ahead (only) at items that are not doc lines receives what plain iteration gives -/
theorem consume_of_yields (c : Cfg) (resolve : Str → Res) (m : Marks) (st : St) (out : List Str)
    (hy : Yields c resolve m ord st out) :
    DocsMarked m st.rs →
    (∀ x ∈ out, startsWith x ('!' :: m.doc) = false → look c.kwLoose resolve x = .keep) →
    ∀ peeks : List Bool, peeks.length = out.length →
      (∀ p ∈ peeks.zip out, p.1 = true → startsWith p.2 ('!' :: m.doc) = false) →
      consume c resolve m ord true peeks st = .ok out := by
  induction hy with
  | stop hn =>
    intro _ _ peeks hl _
    cases peeks <;> simp_all [consume]
  | @item st st' x out hn _ ih =>
    intro hd hk peeks hl hz
    cases peeks with
    | nil => simp at hl
    | cons pk more =>
      obtain ⟨hd', hpd⟩ := next_inv c resolve m st st' x hd hn
      have hl' : more.length = out.length := by simpa using hl
      have hrec := ih hd' (fun y hy => hk y (by simp [hy])) more hl'
        (fun p hp => hz p (by simp [List.zip_cons_cons, hp]))
      rw [consume, hn]
      cases pk with
      | false => simp [hrec, Except.map]
      | true =>
        have hnd := hz (true, x) (by simp [List.zip_cons_cons]) rfl
        have hb := next_passBack c resolve m st' x (hk x (by simp) hnd) (hpd hnd)
        simp [hb, hrec, Except.map]

end Ford.PassBack
