import FordModel.SettingsSource
import FordModel.Lemmas.Settings
namespace Ford.Settings

/-- when every attempt is on the project directory, the selection is `load_toml_settings` of the
    manifest next to the project file, whatever the number of attempts -/
theorem selectToml_projectDir_only (fs : FileSys) (cwd dir : Str) (lookups : List LookupDir)
    (hne : lookups ≠ []) (hall : ∀ l ∈ lookups, l = LookupDir.projectDir) :
    selectToml fs cwd dir lookups = loadToml (manifestAt fs (normPath cwd dir)) := by
  induction lookups with
  | nil => exact absurd rfl hne
  | cons l rest ih =>
    obtain rfl := hall l (by simp)
    simp only [selectToml, lookupDir]
    cases hm : loadToml (manifestAt fs (normPath cwd dir)) with
    | error e => rfl
    | ok o =>
      cases o with
      | some kw => rfl
      | none =>
        -- a further attempt looks at the same manifest again
        cases rest with
        | nil => rfl
        | cons l' rest' => rw [ih (by simp) (fun l hl => hall l (by simp [hl])), hm]

theorem manifestAt_aset_ne (fs : FileSys) (d d' : Str) (m : Manifest) (h : d' ≠ d) :
    manifestAt (aset d m fs) d' = manifestAt fs d' := by
  simp [manifestAt, aget_aset_ne d d' m fs h]

theorem includeStep_id (env : IncEnv) (kw cur : Settings) (h : opensInclude kw = false) :
    includeStep env kw cur = .ok cur := by
  fun_induction includeStep env kw cur <;> simp_all [opensInclude]

theorem loadMd_env_irrelevant (schema : List (Str × Tag × PyVal)) (seps : List (Str × Str)) (intrinsic : List (Str × Str))
    (md : List Str) (uw : Bool) (env env' : IncEnv)
    (h : (match convertMeta schema seps (mdRaw (metaPre md).1) with
          | .ok (kw, _) => opensInclude kw | .error _ => false) = false) :
    loadMd schema seps intrinsic md uw env = loadMd schema seps intrinsic md uw env' := by
  unfold loadMd
  cases hc : convertMeta schema seps (mdRaw (metaPre md).1) with
  | error e => rfl
  | ok r =>
    obtain ⟨kw, w⟩ := r
    simp only [hc] at h
    simp only [includeStep_id env kw kw h, includeStep_id env' kw kw h]

theorem effective_env_irrelevant (T : Tables) (dir pkg : Str) (toml : Option Settings) (md : List Str)
    (config : Option Settings) (cli : Settings) (env env' : IncEnv)
    (h : toml.isSome = true ∨ mdIncludes T md = false) :
    effective T dir pkg toml md config cli env = effective T dir pkg toml md config cli env' := by
  unfold effective loadSettings
  cases toml with
  | some kw => rfl
  | none =>
    have h' : mdIncludes T md = false := by simpa using h
    simp only [loadMd_env_irrelevant T.schema T.seps T.intrinsic md T.modsUserWins env env' h']

theorem headPart_no_slash (p : Str) (h : p.contains '/' = false) : headPart p = [] := by
  cases p with
  | nil => rfl
  | cons c r =>
    simp only [List.contains_cons, Bool.or_eq_false_iff] at h
    have h1 : (c == '/') = false := by rw [BEq.comm]; exact h.1
    simpa [headPart, h1] using h.2

theorem dirname_no_slash (p : Str) (h : p.contains '/' = false) : dirname p = [] := by
  simp [dirname, headPart_no_slash p h]

theorem dirname_absolute (r : Str) : startsWith (dirname ('/' :: r)) ['/'] = true := by
  simp only [dirname, headPart, beq_self_eq_true, Bool.true_or, if_true]
  split
  · simp [startsWith]
  · rename_i hn
    rw [rstripSlash, if_neg hn]
    simp [startsWith]

/-- `effective` / `effectiveAt` run on the regenerated schema and tables for six concrete inputs, evaluated
    by the kernel once; the witnesses of C15 (`--config` not normalised, fpm.toml not type-checked, the include
    base directory read from the working directory) read their parts off it.  The literals are rewritten to
    character lists first, which spares the kernel their decoding. -/
theorem generated_pipeline_runs :
    (effField "display" (effective generatedTables "/p".toList "/pkg".toList none ["display: PUBLIC".toList] none [])
        = some (.list [.str "public".toList])
      ∧ effField "display" (effective generatedTables "/p".toList "/pkg".toList none []
          (some [("display".toList, .list [.str "PUBLIC".toList])]) [])
        = some (.list [.str "PUBLIC".toList]))
    ∧ effField "graph_maxdepth" (effective generatedTables "/p".toList "/pkg".toList
          (some [("graph_maxdepth".toList, .atom (.str "x".toList))]) [] none [])
        = some (.atom (.str "x".toList))
    ∧ (effFieldAt "summary" (effectiveAt generatedTables Generated.tomlLookups [] "/w/proj".toList "p.md".toList
          "/pkg".toList ["---".toList, "md_base_dir: sub".toList, "summary: {!inc.md!}".toList, "---".toList] none []
          [("/w/proj/sub/inc.md".toList, ["Included".toList])] false)
        = some (.atom (.str "Included".toList))
      ∧ effFieldAt "summary" (effectiveAt generatedTables Generated.tomlLookups [] "/w".toList "proj/p.md".toList
          "/pkg".toList ["---".toList, "md_base_dir: sub".toList, "summary: {!inc.md!}".toList, "---".toList] none []
          [("/w/proj/sub/inc.md".toList, ["Included".toList])] false)
        = some (.atom (.str []))
      ∧ effFieldAt "summary" (effectiveAt generatedTables Generated.tomlLookups [] "/w".toList "proj/p.md".toList
          "/pkg".toList ["---".toList, "md_base_dir: sub".toList, "summary: {!inc.md!}".toList, "---".toList] none []
          [("/w/proj/sub/inc.md".toList, ["Included".toList])] true)
        = some (.atom (.str "Included".toList))) := by
  simp -index only [generatedTables, Generated.settingsSchema, Generated.optionSeparators, Generated.intrinsicMods,
    Generated.licenses, Generated.sentinelTests, Generated.cliTable, String.toList_ofList]
  decide +kernel

end Ford.Settings
