/-
  Lemmas about the tables of FordModel/ExternalAssoc.lean (Python dicts as association lists) and
  about `Project.find` on the collections after `load_external_modules`.
-/
import FordModel.ExternalAssoc
import FordModel.Lemmas.External
namespace Ford.Ext
open Ford

/-- every key once - what a Python dict is -/
def Tbl.wf (t : Tbl) : Prop := (t.map (·.1)).Nodup

theorem lookup_dset (d : Tbl) (k k' : Str) (v : Item) :
    (dset d k v).lookup k' = if k' == k then some v else d.lookup k' := by
  fun_induction dset d k v with
  | case1 k v => rw [List.lookup_cons]; cases k' == k <;> rfl
  | case2 a b r k v h =>
    cases eq_of_beq h
    rw [List.lookup_cons, List.lookup_cons]
    cases k' == a <;> rfl
  | case3 a b r k v h ih =>
    rw [List.lookup_cons, List.lookup_cons, ih]
    cases h2 : k' == a with
    | false => rfl
    | true =>
      cases eq_of_beq h2
      exact (if_neg h).symm

theorem keys_dset (d : Tbl) (k : Str) (v : Item) :
    (dset d k v).map (·.1) = if k ∈ d.map (·.1) then d.map (·.1) else d.map (·.1) ++ [k] := by
  fun_induction dset d k v with
  | case1 k v => rfl
  | case2 a b r k v h =>
    cases eq_of_beq h
    exact (if_pos List.mem_cons_self).symm
  | case3 a b r k v h ih =>
    have hk : k ≠ a := fun e => h (beq_iff_eq.mpr e.symm)
    simp only [List.map_cons, ih, List.mem_cons, hk, false_or]
    split <;> rfl

theorem wf_dset (d : Tbl) (k : Str) (v : Item) (h : d.wf) : (dset d k v).wf := by
  unfold Tbl.wf at *
  rw [keys_dset]
  split
  · exact h
  · rename_i hk
    exact List.nodup_append.mpr ⟨h, List.nodup_cons.mpr ⟨List.not_mem_nil, List.nodup_nil⟩, fun a ha b hb => by
      rw [List.mem_singleton.mp hb]
      exact fun e => hk (e ▸ ha)⟩

theorem wf_dupdate (d e : Tbl) (h : d.wf) : (dupdate d e).wf := by
  unfold dupdate
  induction e generalizing d with
  | nil => exact h
  | cons x r ih => exact ih _ (wf_dset d x.1 x.2 h)

theorem lookup_dupdate (d e : Tbl) (k : Str) (he : e.wf) :
    (dupdate d e).lookup k = (e.lookup k).or (d.lookup k) := by
  induction e generalizing d with
  | nil => rfl
  | cons x r ih =>
    obtain ⟨a, b⟩ := x
    obtain ⟨hna, hwf⟩ := List.nodup_cons.mp he
    -- one step of the fold that `dupdate` is
    show (dupdate (dset d a b) r).lookup k = _
    rw [ih _ hwf, lookup_dset, List.lookup_cons]
    cases hk : k == a with
    | false => rfl
    | true =>
      cases eq_of_beq hk
      rw [List.lookup_eq_none_iff.mpr fun p hp => bne_iff_ne.mpr fun e => hna (List.mem_map.mpr ⟨p, hp, e.symm⟩)]
      rfl

theorem wf_filterWith (keep : Str → Item → Bool) (t : Tbl) (h : t.wf) : (filterWith keep t).wf :=
  List.Nodup.sublist (List.Sublist.map _ List.filter_sublist) h

theorem lookup_filterWith (keep : Str → Item → Bool) (t : Tbl) (k : Str) (v : Item)
    (h : t.lookup k = some v) (hk : keep k v = true) : (filterWith keep t).lookup k = some v := by
  obtain ⟨l₁, l₂, rfl, hl⟩ := List.lookup_eq_some_iff.mp h
  rw [filterWith, List.filter_append, List.filter_cons_of_pos (a := (k, v)) hk]
  exact List.lookup_eq_some_iff.mpr ⟨_, _, rfl, fun p hp => hl p (List.mem_filter.mp hp).1⟩

theorem get_update (p q : Pub) (f : Fld) : (p.update q).get f = dupdate (p.get f) (q.get f) := by
  cases f <;> rfl

theorem get_map (g : Tbl → Tbl) (p : Pub) (f : Fld) : (p.map g).get f = g (p.get f) := by
  cases f <;> rfl

theorem findMod_append_fresh (name : Str) (env : List (Str × Pub)) (p : Pub)
    (h : findMod name env = none) : findMod name (env ++ [(name, p)]) = some p := by
  fun_induction findMod name env with
  | case1 => simp [findMod]
  | case2 n q r hn => cases h
  | case3 n q r hn ih =>
    rw [List.cons_append, findMod, if_neg hn]
    exact ih h

/-- one USE statement without ONLY / renames: the tables after `correlate` -/
theorem correlateModWith_single_all (keep : BMod → Str → Item → Bool) (m : BMod) (env ext : List (Str × Pub))
    (t : Str) (p : Pub) (hu : m.uses = [(t, .all)]) (hl : lookupMod env ext t = some p) :
    correlateModWith keep m env ext = (m.ownPub.update (p.map (filterWith (keep m))), m.ownAll.update p) := by
  simp only [correlateModWith, hu, applyUsesWith, hl, usedEntities]

/-- A module whose one USE statement names `t` without ONLY / renames, `t` offering `e` under `k` in table `f`:
    its own declarations see `e` under `k`, it passes `e` on when `k` is public in it, and its `pub_*` table
    stays a dict. -/
theorem correlateMod_single_all (m : BMod) (env ext : List (Str × Pub)) (t : Str) (p : Pub)
    (hu : m.uses = [(t, .all)]) (hl : lookupMod env ext t = some p) (f : Fld) (k : Str) (e : Item)
    (hk : (p.get f).lookup k = some e) (hw : (p.get f).wf) :
    (((correlateMod m env ext).2).get f).lookup k = some e ∧
    (shouldBePublic m k = true → (((correlateMod m env ext).1).get f).lookup k = some e) ∧
    ((m.ownPub.get f).wf → (((correlateMod m env ext).1).get f).wf) := by
  simp only [correlateMod, correlateModWith_single_all _ m env ext t p hu hl, get_update, get_map]
  refine ⟨?_, fun hpub => ?_, wf_dupdate _ _⟩
  · rw [lookup_dupdate _ _ k hw, hk]
    rfl
  · rw [lookup_dupdate _ _ k (wf_filterWith _ _ hw), lookup_filterWith _ _ k e hk hpub]
    rfl

theorem findIn_eq_find? (name : Str) (l : List Named) :
    findIn name l = l.find? (fun x => lower x.name == lower name) := by
  induction l with
  | nil => rfl
  | cons a r ih =>
    simp only [findIn, List.find?_cons, ih]
    cases lower a.name == lower name <;> rfl

theorem findIn_append (name : Str) (xs ys : List Named) :
    findIn name (xs ++ ys) = (findIn name xs).or (findIn name ys) := by
  simp only [findIn_eq_find?, List.find?_append]

theorem findIn_eq_none (name : Str) (l : List Named) (h : ∀ x ∈ l, lower x.name ≠ lower name) :
    findIn name l = none := by
  rw [findIn_eq_find?, List.find?_eq_none]
  exact fun x hx => by simpa using h x hx

theorem findIn_some (name : Str) (l : List Named) (x : Named) (h : findIn name l = some x) :
    x ∈ l ∧ lower x.name = lower name := by
  rw [findIn_eq_find?] at h
  have hp := List.find?_some h
  exact ⟨List.mem_of_find?_eq_some h, beq_iff_eq.mp hp⟩

theorem findIn_of_mem (name : Str) (l : List Named) (h : ∃ y ∈ l, lower y.name = lower name) :
    ∃ x ∈ l, findIn name l = some x ∧ lower x.name = lower name := by
  obtain ⟨y, hy, hn⟩ := h
  cases hf : findIn name l with
  | none =>
    rw [findIn_eq_find?, List.find?_eq_none] at hf
    exact absurd (beq_iff_eq.mpr hn) (hf y hy)
  | some x => exact ⟨x, (findIn_some name l x hf).1, rfl, (findIn_some name l x hf).2⟩

theorem loadedIn_mem (c : Str) (es : List Entry) (x : Entry) (s : Str) (hx : x ∈ es)
    (hn : x.name = .str s) (hl : x.list = c) : ({ name := s, ext := true } : Named) ∈ loadedIn c es := by
  induction es with
  | nil => cases hx
  | cons e r ih =>
    rcases List.mem_cons.mp hx with h | h
    · subst h
      simp only [loadedIn, hn, hl, beq_self_eq_true, if_true, List.mem_cons_self]
    · have := ih h
      unfold loadedIn
      split
      · split
        · exact List.mem_cons_of_mem _ this
        · exact this
      · exact this

theorem loadedIn_ext (c : Str) (es : List Entry) (y : Named) (hy : y ∈ loadedIn c es) : y.ext = true := by
  fun_induction loadedIn c es with
  | case1 => cases hy
  | case2 e r s hs hc ih =>
    rcases List.mem_cons.mp hy with h | h
    · rw [h]
    · exact ih h
  | case3 e r s hs hc ih => exact ih hy
  | case4 e r hne ih => exact ih hy

theorem findIn_loadedIn (name c : Str) (es : List Entry) (y : Named)
    (h : findIn name (loadedIn c es) = some y) : y.ext = true ∧ lower y.name = lower name :=
  ⟨loadedIn_ext c es y (findIn_some name _ y h).1, (findIn_some name _ y h).2⟩

theorem collection_withLoaded (own : Colls) (es : List Entry) (c : Str) (hc : c ∈ Gen.linkTypes.map (·.2)) :
    collection (withLoaded own es) c = collection own c ++ loadedIn c es := by
  unfold withLoaded
  generalize Gen.linkTypes = L at hc ⊢
  induction L with
  | nil => cases hc
  | cons x r ih =>
    rw [List.map_cons, collection, List.lookup_cons]
    cases h : c == x.2 with
    | true => rw [eq_of_beq h]; rfl
    | false => exact ih ((List.mem_cons.mp hc).resolve_left (ne_of_beq_false h))

theorem findIn_collection_withLoaded (own : Colls) (es : List Entry) (name c : Str)
    (hc : c ∈ Gen.linkTypes.map (·.2)) (h : findIn name (collection own c) = none) :
    findIn name (collection (withLoaded own es) c) = findIn name (loadedIn c es) := by
  rw [collection_withLoaded own es c hc, findIn_append, h, Option.none_or]

end Ford.Ext
