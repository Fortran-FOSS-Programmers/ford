/-
  The loop of `load_external_modules` over several external projects
  (`loadAllWith` / `loadAll` of FordModel/External.lean).
-/
import FordModel.ExternalSpec
import FordModel.Lemmas.External
namespace Ford.Ext
open Ford

theorem catches_fetchErrors : ∀ kv ∈ Gen.fetchErrors, catches kv.1 = kv.2 := by
  decide +kernel

/-- when every handler in the generated table falls through or continues, so does the handler of any
    way of failing (an unlisted one has no handler at all: `catches` is false for it) -/
theorem handlerFlow_goes_on
    (h : ∀ kv ∈ Gen.handlerExits, flowOfText kv.2 = .proceed ∨ flowOfText kv.2 = .next) (exc : Str) :
    handlerFlow exc = .proceed ∨ handlerFlow exc = .next := by
  unfold handlerFlow
  cases hl : Gen.handlerExits.lookup exc with
  | none => exact .inl rfl
  | some v => exact h (exc, v) (lookup_mem hl)

theorem importDoc_empty (b : Base) : importDoc b (.arr []) = .ok [] := rfl

theorem loadAllWith_failed_skip (flow : Str → Flow) (b : Base) (exc : Str) (r : List (Base × Fetch))
    (acc : List XObj) (hc : catches exc = true) (hf : flow exc = .proceed ∨ flow exc = .next) :
    loadAllWith flow ((b, .failed exc) :: r) acc = loadAllWith flow r acc := by
  rcases hf with hf | hf <;> simp [loadAllWith, hc, hf, importDoc_empty]

theorem loadAllWith_drop_failed (flow : Str → Flow) (b : Base) (exc : Str)
    (hc : catches exc = true) (hf : flow exc = .proceed ∨ flow exc = .next)
    (pre post : List (Base × Fetch)) (acc : List XObj) :
    loadAllWith flow (pre ++ (b, .failed exc) :: post) acc = loadAllWith flow (pre ++ post) acc := by
  induction pre generalizing acc with
  | nil => exact loadAllWith_failed_skip flow b exc post acc hc hf
  | cons p r ih =>
    -- whatever the project in front does, it does the same to both lists
    obtain ⟨b', f'⟩ := p
    cases f' with
    | got doc =>
      simp only [List.cons_append, loadAllWith]
      cases importDoc b' doc with
      | ok os => exact ih _
      | error e => rfl
    | failed exc' =>
      simp only [List.cons_append, loadAllWith, ih]

theorem loadAllWith_harmless (flow : Str → Flow)
    (hflow : ∀ exc, flow exc = .proceed ∨ flow exc = .next)
    (ps : List (Base × Fetch)) (acc : List XObj) (h : ∀ p ∈ ps, harmless p = true) :
    loadAllWith flow ps acc = .loaded (acc ++ (ps.map objsOf).flatten) := by
  induction ps generalizing acc with
  | nil => simp [loadAllWith]
  | cons p r ih =>
    have hp := h p List.mem_cons_self
    have hr : ∀ q ∈ r, harmless q = true := fun q hq => h q (List.mem_cons_of_mem _ hq)
    obtain ⟨b, f⟩ := p
    cases f with
    | got doc =>
      simp only [harmless] at hp
      cases hd : importDoc b doc with
      | ok os => simp [loadAllWith, hd, ih _ hr, objsOf]
      | error e => simp [hd, isOk] at hp
    | failed exc =>
      rw [loadAllWith_failed_skip flow b exc r acc hp (hflow exc), ih _ hr]
      simp [objsOf]

theorem loadAllWith_got_among_harmless (flow : Str → Flow)
    (hflow : ∀ exc, flow exc = .proceed ∨ flow exc = .next) (pre post : List (Base × Fetch))
    (hpre : ∀ p ∈ pre, harmless p = true) (hpost : ∀ p ∈ post, harmless p = true)
    (b : Base) (doc : Json) (os : List XObj) (hd : importDoc b doc = .ok os) (acc : List XObj) :
    loadAllWith flow (pre ++ (b, .got doc) :: post) acc
      = .loaded (acc ++ ((pre.map objsOf).flatten ++ (os ++ (post.map objsOf).flatten))) := by
  have hall : ∀ p ∈ pre ++ (b, Fetch.got doc) :: post, harmless p = true :=
    List.forall_mem_append.mpr ⟨hpre, List.forall_mem_cons.mpr ⟨by simp only [harmless, hd, isOk], hpost⟩⟩
  rw [loadAllWith_harmless flow hflow _ acc hall]
  simp only [List.map_append, List.map_cons, List.flatten_append, List.flatten_cons, objsOf, hd]

end Ford.Ext
