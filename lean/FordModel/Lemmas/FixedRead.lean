/-
  The fixed-to-free converter composed with the free-form reader on one continued statement
  (`Props/C14.lean: fixed_statement_reads_as_one_logical_line`).
-/
import FordModel.Fixed
import FordModel.FixedSpec
import FordModel.Reader
import FordModel.Lemmas.Fixed
import FordModel.Lemmas.ReaderLayout
namespace Ford.Fixed
open Ford

/-- a line that may stand behind the initial line of a statement and before its last
    continuation line: anything but another initial line -/
def Item.midOk (it : Item) : Bool := !it.isRegular || it.isCont

/-- the free-form equivalent of such a line: a continuation line in the middle is itself
    continued (` &`), the other lines are as they are -/
def midFree (v : Variant) (lim : Bool) (it : Item) : Str := freeLine v lim it it.isRegular

theorem nextIsCont_mid (mid : List Item) (c6 : Char) (body : Str) (rest : List Item)
    (h : ∀ it ∈ mid, it.midOk = true) : nextIsCont (mid ++ .cont c6 body :: rest) = true := by
  induction mid with
  | nil => simp [nextIsCont, Item.isRegular, Item.isCont]
  | cons it its ih =>
    have h1 := h it (by simp)
    have h2 := ih (fun g hg => h g (by simp [hg]))
    simp only [List.cons_append, nextIsCont]
    by_cases hr : it.isRegular = true
    · simp only [hr, ↓reduceIte]
      simpa [Item.midOk, hr] using h1
    · simp only [hr, Bool.false_eq_true, ↓reduceIte]
      exact h2

theorem renderFree_mid (v : Variant) (lim : Bool) (mid : List Item) (c6 : Char) (body : Str)
    (rest : List Item) (h : ∀ it ∈ mid, it.midOk = true) :
    renderFree v lim (mid ++ .cont c6 body :: rest) =
      mid.map (midFree v lim) ++ renderFree v lim (.cont c6 body :: rest) := by
  induction mid with
  | nil => rfl
  | cons it its ih =>
    have h2 : ∀ g ∈ its, g.midOk = true := fun g hg => h g (by simp [hg])
    simp only [List.cons_append, renderFree, List.map_cons, midFree]
    rw [nextIsCont_mid its c6 body rest h2, ih h2, Bool.and_true]
    rfl

theorem comment_line_no_code (m : Marks) (t : Str)
    (h1 : startsWith t m.pre = false) (h2 : startsWith t m.preAlt = false)
    (h3 : startsWith t m.alt = false) (h4 : startsWith t m.doc = false) :
    NoDoc m false ('!' :: t) ∧ codeOf false ('!' :: t) = [] := by
  have hf : firstStripped ('!' :: t) ≠ some '#' := by
    simp [firstStripped, lstrip, isSpace]
  refine ⟨?_, ?_⟩
  · exact ⟨hf, matchDocmark_comment _ [] t .nil h1, matchDocmark_comment _ [] t .nil h2,
      matchDocmark_comment _ [] t .nil h3, matchDocmark_comment _ [] t .nil h4⟩
  · have := codeOf_outside_comment [] t .nil
    simpa [strip, rstrip, lstrip] using this

theorem lstrip_append_of_not_blank (s t : Str) (h : isBlank s = false) : lstrip (s ++ t) = lstrip s ++ t := by
  rw [lstrip_append, h]; rfl

theorem lstrip_ne_nil_of_not_blank (s : Str) (h : isBlank s = false) : ∃ y r, lstrip s = y :: r := by
  induction s with
  | nil => simp [isBlank] at h
  | cons a s' ih =>
    by_cases ha : isSpace a = true
    · have h' : isBlank s' = false := by simpa [isBlank, ha] using h
      simp only [lstrip, ha, ↓reduceIte]
      exact ih h'
    · exact ⟨a, s', by simp [lstrip, ha]⟩

theorem codeOf_continued (s : Str) (hs : Atoms (s ++ [' ', '&'])) (hne : isBlank s = false) :
    codeOf false (s ++ [' ', '&']) = (lstrip s ++ [' ']) ++ ['&'] := by
  rw [codeOf_outside_plain _ hs]
  simp only [strip]
  rw [lstrip_append_of_not_blank s _ hne, rstrip_cont_mark, List.append_assoc]
  rfl

end Ford.Fixed
