/-
  Specification side of C06: what the Fortran standard makes accessible by USE
  association (F2018 14.2.2, 8.5.2, 8.6.1), written as inductive relations over
  the abstract project, without reference to FORD's tables or iteration order; then the side
  conditions of the property theorems (those about the correlation order and `SameKindHiding` do
  speak of the order and of a table).
-/
import FordModel.Use
namespace Ford.Use

/-- remote name of an only/rename item -/
def UItem.remote : UItem → Str
  | .plain n => n
  | .ren _ r => r

/-- `Admits u r l`: through USE statement `u`, the entity the module exports as
    `r` is accessible under the local name `l`.
    * with ONLY: exactly the listed names / renames;
    * without ONLY: every public entity, under the local name of each rename
      that mentions it, and under its own name only when no rename mentions it. -/
def Admits (u : UseA) (r l : Str) : Prop :=
  UItem.ren l r ∈ u.items ∨
    (l = r ∧ (if u.only then UItem.plain r ∈ u.items else ∀ l', UItem.ren l' r ∉ u.items))

/-- The standard's accessibility of a declared entity (F2018 8.5.2, 8.6.1): the PUBLIC or PRIVATE
    attribute it is given (in its declaration or by an access statement, in whatever order),
    otherwise the default accessibility of the module.  PROTECTED (8.5.15) restricts where the
    entity may be *defined* and says nothing about whether it is accessible. -/
def declAccessible (m : Scope) (d : Decl) : Bool :=
  if Perm.pub ∈ d.accs then true else if Perm.priv ∈ d.accs then false else m.defPub

/-- `Exports g k m l e`: module `m` of project `g` makes entity `e` (of kind `k`)
    accessible to its users under the identifier `l`. -/
inductive Exports (g : List Scope) (k : Nat) : Scope → Str → Ent → Prop
  /-- a declaration whose accessibility is public -/
  | decl {m : Scope} {d : Decl} : m ∈ g → m.isMod = true → d ∈ m.decls → d.kind = k →
      declAccessible m d = true → Exports g k m d.name (m.name, d.name)
  /-- a use-associated entity is re-exported unless the identifier is private:
      declared private by a statement, or default-private and not declared public -/
  | reexp {m n : Scope} {u : UseA} {r l : Str} {e : Ent} : m ∈ g → m.isMod = true → u ∈ m.uses →
      n ∈ g → n.isMod = true → n.name = u.mod → Exports g k n r e → Admits u r l →
      l ∉ m.privNames → (m.defPub = true ∨ l ∈ m.pubNames) → Exports g k m l e

/-- `Imports g k s l e`: scope `s` obtains `e` under `l` from one of its USE statements. -/
inductive Imports (g : List Scope) (k : Nat) : Scope → Str → Ent → Prop
  | mk {s n : Scope} {u : UseA} {r l : Str} {e : Ent} : s ∈ g → u ∈ s.uses →
      n ∈ g → n.isMod = true → n.name = u.mod → Exports g k n r e → Admits u r l → Imports g k s l e

/-- `Sees g k s l e`: the identifier `l` denotes `e` in scope `s`. -/
inductive Sees (g : List Scope) (k : Nat) : Scope → Str → Ent → Prop
  | decl {s : Scope} {d : Decl} : s ∈ g → d ∈ s.decls → d.kind = k → Sees g k s d.name (s.name, d.name)
  | imp {s : Scope} {l : Str} {e : Ent} : Imports g k s l e → Sees g k s l e

/-! ### Host association (F2018 19.5.1.4) for contained procedures -/

/-- `ImportsU g k us l e`: the USE statements `us` (of some scope) make `e` accessible under `l` -/
inductive ImportsU (g : List Scope) (k : Nat) (us : List UseA) : Str → Ent → Prop
  | mk {n : Scope} {u : UseA} {r l : Str} {e : Ent} : u ∈ us → n ∈ g → n.isMod = true →
      n.name = u.mod → Exports g k n r e → Admits u r l → ImportsU g k us l e

/-- `SeesIn g k hostSees p l e`: in the contained procedure `p`, whose host sees `hostSees`, the
    identifier `l` denotes the kind-`k` entity `e`.  A host entity is accessible by host
    association only if its identifier is neither declared in `p` nor obtained by `p` through
    USE - as an entity of *any* kind: a use-associated identifier hides the host's. -/
inductive SeesIn (g : List Scope) (k : Nat) (hostSees : Str → Ent → Prop) (p : Scope) : Str → Ent → Prop
  | decl {d : Decl} : d ∈ p.decls → d.kind = k → SeesIn g k hostSees p d.name (p.name, d.name)
  | imp {l : Str} {e : Ent} : ImportsU g k p.uses l e → SeesIn g k hostSees p l e
  | host {l : Str} {e : Ent} : hostSees l e → (∀ d ∈ p.decls, d.name ≠ l) →
      (∀ k' e', ¬ ImportsU g k' p.uses l e') → SeesIn g k hostSees p l e

/-- FORD keeps one table per kind, so an identifier of the host's kind-`k` table can only be hidden
    by a kind-`k` entity of the procedure: the class of programs in which a procedure hides a host
    identifier by an entity of another kind is excluded from the exactness theorem. -/
def SameKindHiding (g : List Scope) (k : Nat) (hostAll : Table) (p : Scope) : Prop :=
  ∀ l, (aget hostAll l).isSome = true →
    (∀ d ∈ p.decls, d.name = l → d.kind = k) ∧
    (∀ k' e', ImportsU g k' p.uses l e' → ∃ e'', ImportsU g k p.uses l e'')

/-! ### Side conditions used by the property theorems -/

/-- scope names are unique in the project -/
def UniqueNames (g : List Scope) : Prop := ∀ m ∈ g, ∀ m' ∈ g, m.name = m'.name → m = m'

/-- defect class `C06-rename-without-only` is absent: a USE without ONLY has no rename list -/
def NoBareRename (g : List Scope) : Prop := ∀ m ∈ g, ∀ u ∈ m.uses, u.only = false → u.items = []

/-- defect class `C06-only-remote-listed-twice` is absent -/
def NoRepeatedRemote (g : List Scope) : Prop :=
  ∀ m ∈ g, ∀ u ∈ m.uses, u.only = true → (u.items.map UItem.remote).Nodup

/-- defect class `C06-private-imported-reexported` is absent: a `private ::` statement about a
    name the module does not declare occurs only where FORD's filter agrees with it
    (default-private module, name not also declared public) -/
def NoEffectivePrivate (g : List Scope) : Prop :=
  ∀ m ∈ g, ∀ l ∈ m.privNames, m.defPub = false ∧ l ∉ m.pubNames

/-- Fortran's constraint that an entity is not given both PUBLIC and PRIVATE -/
def LegalAccess (g : List Scope) : Prop :=
  ∀ m ∈ g, ∀ d ∈ m.decls, ¬ (Perm.pub ∈ d.accs ∧ Perm.priv ∈ d.accs)

/-- defect class `C06-protected-private-exported`: PROTECTED is the access keyword FORD meets last
    for an entity whose accessibility is private (`integer, protected :: x` under a bare `private`
    statement, `integer, private, protected :: x`): the one permission slot then reads
    "protected", which `_cleanup` exports -/
def ProtectedOverPrivate (m : Scope) (d : Decl) : Prop :=
  d.accs.getLast? = some Perm.prot ∧ declAccessible m d = false

instance (m : Scope) (d : Decl) : Decidable (ProtectedOverPrivate m d) := by
  unfold ProtectedOverPrivate; infer_instance

/-- the defect class is absent from the project -/
def NoProtectedOverPrivate (g : List Scope) : Prop :=
  ∀ m ∈ g, ∀ d ∈ m.decls, ¬ ProtectedOverPrivate m d

/-- Fortran's rule that a use-associated identifier is not redeclared locally -/
def NoShadow (g : List Scope) (k : Nat) : Prop :=
  ∀ m ∈ g, ∀ l e, Imports g k m l e → ∀ d ∈ m.decls, d.name ≠ l

/-- the project modules `m` uses are all in `done` -/
def usesDone (g : List Scope) (done : List Str) (m : Scope) : Bool :=
  m.uses.all (fun u => match findMod g u.mod with
    | none => true
    | some n => done.contains n.name)

/-- every scope once, after the project modules it uses (what `toposort_flatten` +
    the appended programs give) -/
def isTopo (g : List Scope) : List Str → List Str → Bool
  | _, [] => true
  | done, nm :: rest =>
    (match findScope g nm with
      | none => true
      | some m => usesDone g done m && !done.contains nm) && isTopo g (nm :: done) rest

/-- the contained procedures of root `nm` use only modules in `done` -/
def nestedDone (g : List Scope) (ns : List Nested) (done : List Str) (nm : Str) : Bool :=
  ns.all (fun x => x.root != nm || usesDone g done x.scope)

/-- `isTopo`, counting the USE statements of contained procedures as dependencies of their root
    (what `get_deps`' recursion is for) -/
def isTopoN (g : List Scope) (ns : List Nested) : List Str → List Str → Bool
  | _, [] => true
  | done, nm :: rest =>
    (match findScope g nm with
      | none => true
      | some m => usesDone g done m && !done.contains nm && nestedDone g ns done nm) && isTopoN g ns (nm :: done) rest

/-- a contained procedure is listed after its host (`seen`: the root and the procedures so far) -/
def hostsFirst : List Str → List Nested → Prop
  | _, [] => True
  | seen, x :: xs => x.host ∈ seen ∧ hostsFirst (x.scope.name :: seen) xs

/-- `l in t` -/
def hasKey {α : Type} (t : AList α) (l : Str) : Prop := (aget t l).isSome = true

end Ford.Use
