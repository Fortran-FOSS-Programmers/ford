/-
  Lemmas about FordModel/EnumValues.lean (the loop of `FortranEnum._cleanup`).
-/
import FordModel.EnumValues
namespace Ford.EnumValues
open Ford

theorem valueOf_isNone (prev : Int) (e : Enumerator) : (valueOf prev e).isNone = badEnumerator e := by
  unfold valueOf badEnumerator
  cases e.initial with
  | none => rfl
  | some s => cases hs : s.isEmpty <;> simp [hs]

/-- The loop comes through exactly when no enumerator is a bad one, and then with one value per
    enumerator; a bad enumerator makes it raise whatever precedes it. -/
theorem cleanupFrom_spec (es : List Enumerator) : ∀ prev : Int,
    match cleanupFrom prev es with
    | .ok vs => vs.length = es.length ∧ es.any badEnumerator = false
    | .error _ => es.any badEnumerator = true := by
  induction es with
  | nil => intro _; exact ⟨rfl, rfl⟩
  | cons e es ih =>
    intro prev
    have hb := valueOf_isNone prev e
    unfold cleanupFrom
    cases hv : valueOf prev e with
    | none =>
      rw [hv] at hb
      simp only [List.any_cons, ← hb]
      rfl
    | some v =>
      rw [hv] at hb
      have := ih v
      simp only [List.any_cons, ← hb, Option.isNone_some, Bool.false_or]
      cases hr : cleanupFrom v es with
      | ok vs => rw [hr] at this; exact ⟨congrArg (· + 1) this.1, this.2⟩
      | error n => rw [hr] at this; exact this

theorem cleanupFrom_ok (es : List Enumerator) (prev : Int) (vs : List Int) (h : cleanupFrom prev es = .ok vs) :
    vs.length = es.length ∧ ∀ e ∈ es, badEnumerator e = false := by
  have := cleanupFrom_spec es prev
  rw [h] at this
  exact ⟨this.1, fun e he => Bool.eq_false_iff.mpr (List.any_eq_false.mp this.2 e he)⟩

theorem enumOk_eq (es : List Enumerator) : enumOk es = !es.any badEnumerator := by
  have := cleanupFrom_spec es (-1)
  unfold enumOk enumCleanup
  cases h : cleanupFrom (-1) es with
  | ok vs => rw [h] at this; rw [this.2]; rfl
  | error n => rw [h] at this; rw [this]; rfl

theorem enumOk_false_of_bad (es : List Enumerator) (h : es.any badEnumerator = true) : enumOk es = false := by
  rw [enumOk_eq, h]
  rfl

theorem fileWithEnums_skipped (o : Outcome) (enums : List (List Enumerator))
    (h : enums.any (fun es => es.any badEnumerator) = true) :
    ∃ e r, fileWithEnums o enums = .skipped e r := by
  cases o with
  | skipped e r => exact ⟨e, r, rfl⟩
  | registered p r =>
    obtain ⟨es, hes, hbad⟩ := List.any_eq_true.mp h
    have : enums.all enumOk = false :=
      List.all_eq_false.mpr ⟨es, hes, by rw [enumOk_false_of_bad es hbad]; decide⟩
    exact ⟨.enumValue, r, by simp [fileWithEnums, this]⟩

end Ford.EnumValues
