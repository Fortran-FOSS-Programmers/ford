import FordModel.Display
import FordModel.DisplaySpec
namespace Ford.Display
open Ford.Display.Spec Ford.Generated

def allKinds : List Kind :=
  [.file, .module, .submodule, .program, .blockdata, .subroutine, .function, .modproc, .type, .variable,
   .boundproc, .finalproc, .generic, .iface, .absint, .enum, .common, .namelist, .arg, .retvar]

theorem mem_allKinds (k : Kind) : k ∈ allKinds := by
  cases k <;> decide

/-- A statement about all kinds is decided by going through `allKinds`: each table below (`tbl_*`) is one
    evaluation over every kind, or pair of parent and child kind.  Those that mention `filteredIn`, `emptiedIn`,
    `recurseIn`, `visibleOnlyIn`, `inContainers`, `inChain`, `nmlSection` or a `C05.` list depend on the regenerated
    tables of `Generated/C05.lean`; the others on the hand-written kind functions alone. -/
instance (p : Kind → Prop) [DecidablePred p] : Decidable (∀ k, p k) :=
  decidable_of_iff (∀ k ∈ allKinds, p k) ⟨fun h k => h k (mem_allKinds k), fun h k _ => h k⟩

/-- a display list and a display set agree on the three permission words -/
def Agree (d : List Word) (D : Word → Bool) : Prop := ∀ p, isPerm p = true → d.contains p = D p

theorem agree_setDisplay (f : Bool) (d : List Word) (D : Word → Bool) (md : List Word) (h : Agree d D) :
    Agree (setDisplay f d md) (inForce f D md) := by
  intro p hp
  unfold setDisplay inForce saysSomething denotes
  generalize (if f = true then md.filter (fun w => w != Word.none) else md) = tmp
  cases he : tmp.isEmpty
  · simp only [he, Bool.false_eq_true, if_false]
    cases tmp.contains Word.none
    · cases tmp.contains Word.pub <;> cases tmp.contains Word.priv <;> cases tmp.contains Word.prot <;>
        simp [← h p hp]
    · simp
  · rw [List.isEmpty_iff.mp he]
    simpa using h p hp

theorem agree_project (cfg : Cfg) (h : cfgOk cfg = true) : Agree cfg.display (denotes cfg.display) := by
  intro p hp
  unfold cfgOk at h
  unfold denotes
  cases hn : cfg.display.contains Word.none
  · simp
  · simp only [hn, Bool.not_true, Bool.false_or, Bool.and_eq_true, Bool.not_eq_true'] at h
    cases p <;> simp_all [isPerm]

theorem tbl_filtered : ∀ pk ck : Kind, kidOk pk ck = true → gapKind ck = false → classOf pk ≠ .none →
    filteredIn (classOf pk) (listOf ck) = !ownDescr pk ck := by
  decide +kernel

theorem tbl_emptied : ∀ pk ck : Kind, kidOk pk ck = true → gapKind ck = false → isProc pk = true →
    emptiedIn (classOf pk) (listOf ck) = !ownDescr pk ck := by
  decide +kernel

theorem tbl_recurse : ∀ pk ck : Kind, kidOk pk ck = true → gapKind ck = false → classOf pk ≠ .none →
    recurseIn (classOf pk) (listOf ck) = (classOf ck != .none) := by
  decide +kernel

theorem tbl_gap_untouched : ∀ pk ck : Kind, kidOk pk ck = true → gapKind ck = true →
    filteredIn (classOf pk) (listOf ck) = false ∧ emptiedIn (classOf pk) (listOf ck) = false
    ∧ recurseIn (classOf pk) (listOf ck) = false ∧ visibleOnlyIn (classOf pk) (listOf ck) = false := by
  decide +kernel

theorem tbl_unfiltered_scope : ∀ pk ck : Kind, classOf pk ≠ .none → unfiltered pk ck = gapKind ck := by
  decide +kernel

/-- Parents without a `prune()` that have children: generic interfaces, interface blocks, enumerations, common
    blocks.  The four facts are what `leaf_kids` needs of a child there. -/
theorem tbl_leaf_kids : ∀ pk ck : Kind, kidOk pk ck = true → classOf pk = .none → pk ≠ .file →
    (unfiltered pk ck = false → ownDescr pk ck = true)
    ∧ ck ≠ .namelist ∧ (isProc ck = true → summarised pk = true)
    ∧ (isProc ck = false → (ck = .arg ∨ ck = .retvar ∨ ck = .variable)) := by
  decide +kernel

theorem tbl_no_kids : ∀ ck k : Kind, (ck = .arg ∨ ck = .retvar ∨ ck = .variable) → kidOk ck k = false := by
  decide +kernel

theorem tbl_nml_section : ∀ pk : Kind, kidOk pk .namelist = true → nmlSection pk = namelistDescribed pk := by
  decide +kernel

theorem tbl_summary : ∀ pk : Kind, summaryIn pk = summarised pk := by
  decide +kernel

theorem tbl_arg_no_kids : ∀ ck : Kind, kidOk .arg ck = false := by
  decide +kernel

theorem tbl_proc_class : ∀ k : Kind, isProc k = true → classOf k ≠ .none := by
  decide +kernel

theorem tbl_class_not_nml : ∀ k : Kind, classOf k ≠ .none → (k == .namelist) = false := by
  decide +kernel

theorem tbl_gap_leaf : ∀ k : Kind, gapKind k = true → classOf k = .none := by
  decide +kernel

theorem tbl_own_leaf : ∀ pk ck : Kind, kidOk pk ck = true → classOf pk ≠ .none → ownDescr pk ck = true →
    classOf ck = .none := by
  decide +kernel

theorem tbl_arglike_kept (cl : PClass) : ∀ k : Kind, isArgLike k = true →
    emptiedIn cl (listOf k) = false ∧ filteredIn cl (listOf k) = false
    ∧ recurseIn cl (listOf k) = false ∧ visibleOnlyIn cl (listOf k) = false := by
  cases cl <;> decide +kernel

theorem tbl_kid_not_file : ∀ pk ck : Kind, kidOk pk ck = true → pk ≠ .file → ck ≠ .file := by
  decide +kernel

theorem tbl_kid_not_nml : ∀ ck : Kind, gapKind ck = false → (ck == .namelist) = false := by
  decide +kernel

theorem setVisible_info_kind (e : Ent) : e.setVisible.info.kind = e.info.kind := by
  cases e; rfl

theorem setVisible_info_id' (e : Ent) : e.setVisible.info.id = e.info.id := by
  cases e; rfl

theorem setVisible_kids (e : Ent) : e.setVisible.kids = e.kids := by
  cases e; rfl

theorem setVisible_rendered (e : Ent) (pk : Kind) : e.setVisible.rendered pk = e.rendered pk := by
  cases e with
  | mk i cs => simp [Ent.setVisible, Ent.rendered]

theorem prune_info (cfg : Cfg) (d : List Word) (e : Ent) : (prune cfg d e).info = e.info := by
  cases e; simp [prune, Ent.info]

theorem wfKids_nil_of_no_kids (k : Kind) (h : ∀ ck, kidOk k ck = false) : (cs : Ents) → wfKids k cs = true → cs = .nil
  | .nil, _ => rfl
  | .cons e rest, hw => by
    simp [wfKids, h] at hw

theorem leaf_kids (cfg : Cfg) (D : Word → Bool) (pk : Kind)
    (hc : classOf pk = .none) (hf : pk ≠ .file) :
    (cs : Ents) → wfKids pk cs = true → outsideKids cfg pk false D cs = true →
    cs.rendered pk = selKids cfg pk false D cs
  | .nil, _, _ => by simp [Ents.rendered, selKids]
  | .cons (.mk i ks) rest, h, ho => by
    simp only [wfKids, Bool.and_eq_true, Ent.info] at h
    obtain ⟨⟨hk, hw⟩, hr⟩ := h
    simp only [outsideKids, Bool.and_eq_true, Ent.info] at ho
    obtain ⟨⟨ho1, _⟩, ho3⟩ := ho
    obtain ⟨hown, hnn, hsum, hnp⟩ := tbl_leaf_kids pk i.kind hk hc hf
    have ih := leaf_kids cfg D pk hc hf rest hr ho3
    have hsel : selects cfg pk false D i = true := by
      cases hu : unfiltered pk i.kind
      · simp [selects, hown hu]
      · have hn : (i.kind != Kind.namelist) = true := by simpa using hnn
        simpa [hu, hn] using ho1
    simp only [wf, Bool.and_eq_true] at hw
    have hnml : (i.kind == Kind.namelist) = false := by simpa using hnn
    cases hp : isProc i.kind
    · have hnk := fun k => tbl_no_kids i.kind k (hnp hp)
      have hnil := wfKids_nil_of_no_kids i.kind hnk ks hw.2
      subst hnil
      simp [Ents.rendered, selKids, Ent.rendered, sel, Ent.info, hsel, hp, hnml, ih]
    · have hs := hsum hp
      simp [Ents.rendered, selKids, Ent.rendered, sel, Ent.info, hsel, hp, hs, tbl_summary, hnml, ih]

/-- an entity of a kind that has no `prune` (variable, binding, interface, common block, enumeration,
    namelist, dummy argument ...) is rendered with everything below it, and all of that is selected -/
theorem leaf_ent (cfg : Cfg) (pk : Kind) (D : Word → Bool) (e : Ent) (hw : wf e = true)
    (hc : classOf e.info.kind = .none) (hf : e.info.kind ≠ .file)
    (hn : e.info.kind = .namelist → nmlSection pk = true)
    (ho : outside cfg pk D e = true) :
    e.rendered pk = sel cfg pk D e := by
  cases e with
  | mk i cs =>
    simp only [Ent.info] at hc hf hn
    have hp : isProc i.kind = false := by
      cases h : isProc i.kind
      · rfl
      · exact absurd hc (tbl_proc_class _ h)
    simp only [wf, Bool.and_eq_true] at hw
    simp only [outside, hp, Bool.false_and, Bool.false_eq_true, if_false, procOff] at ho
    have hk := leaf_kids cfg D i.kind hc hf cs hw.2 ho
    have hnm : (i.kind == Kind.namelist && !nmlSection pk) = false := by
      cases h : (i.kind == Kind.namelist)
      · simp
      · have := hn (by simpa using h)
        simp [this]
    simp [Ent.rendered, sel, hp, procOff, hk, hnm]

theorem argIds_pruneKids (cfg : Cfg) (cl : PClass) (off : Bool) (d : List Word) :
    (cs : Ents) → (pruneKids cfg cl off d cs).argIds = cs.argIds
  | .nil => by simp [pruneKids]
  | .cons e rest => by
    have ih := argIds_pruneKids cfg cl off d rest
    cases ha : isArgLike e.info.kind
    · simp only [pruneKids]
      split
      · split <;> simp [Ents.argIds, ha, ih]
      · split
        · exact ih.trans (by simp [Ents.argIds, ha])
        · split
          · simp [Ents.argIds, ha, ih, setVisible_info_kind, prune_info]
          · split <;> simp [Ents.argIds, ha, ih, setVisible_info_kind]
    · obtain ⟨h1, h2, h3, h4⟩ := tbl_arglike_kept cl e.info.kind ha
      simp [pruneKids, ha, h1, h2, h3, h4, Ents.argIds, ih]

theorem shouldDisplay_agree (cfg : Cfg) (d : List Word) (D : Word → Bool) (i : Info)
    (h : Agree d D) (hp : isPerm i.perm = true) :
    shouldDisplay cfg d i = (D i.perm && (!cfg.hideUndoc || i.doc)) := by
  unfold shouldDisplay
  rw [h _ hp]
  cases cfg.hideUndoc <;> cases i.doc <;> simp

theorem wf_perm (e : Ent) (h : wf e = true) : isPerm e.info.perm = true := by
  cases e with
  | mk i cs =>
    simp only [wf, Bool.and_eq_true] at h
    exact h.1

theorem wf_kids (e : Ent) (h : wf e = true) : wfKids e.info.kind e.kids = true := by
  cases e with
  | mk i cs =>
    simp only [wf, Bool.and_eq_true] at h
    exact h.2

theorem tbl_noAccess_gap : ∀ k : Kind, gapKind k = false → noAccess k = false := by
  decide +kernel

/-- the guard of `FortranCodeUnit.prune` in the model and the switch of the specification are one function -/
theorem internalsOff_eq_procOff (cfg : Cfg) (i : Info) : internalsOff cfg i = procOff cfg i := rfl

/-- the units whose procedures have pages (model) are the units with page children (specification) -/
theorem unitLike_eq (k : Kind) : unitLike k = isUnitWithKids k := by
  cases k <;> rfl

/-- What a `prune()` does with one member, in the specification's terms: a member of a never-filtered kind stays;
    any other stays iff it is selected; what stays is pruned in turn iff its kind has a `prune()`. -/
theorem rendered_pruneKids_cons (cfg : Cfg) (d : List Word) (D : Word → Bool) (hA : Agree d D)
    (pk : Kind) (off : Bool) (hc : classOf pk ≠ .none) (hoff : off = true → isProc pk = true)
    (e : Ent) (rest : Ents) (hk : kidOk pk e.info.kind = true) (hperm : isPerm e.info.perm = true) :
    (pruneKids cfg (classOf pk) off d (.cons e rest)).rendered pk =
      (if (gapKind e.info.kind || selects cfg pk off D e.info) = true then
         (if classOf e.info.kind = .none then e.rendered pk
          else (prune cfg (setDisplay false d e.info.disp) e).rendered pk)
       else []) ++ (pruneKids cfg (classOf pk) off d rest).rendered pk := by
  cases hg : gapKind e.info.kind
  · -- a kind the `prune()` methods know
    have hsd := shouldDisplay_agree cfg d D e.info hA hperm
    have hfil := tbl_filtered pk e.info.kind hk hg hc
    have hrec := tbl_recurse pk e.info.kind hk hg hc
    have hna := tbl_noAccess_gap _ hg
    simp only [pruneKids, selects, hna, Bool.false_or]
    cases off
    · -- internals shown: filtered unless part of the parent's own description
      simp only [Bool.false_eq_true, if_false, hfil, hsd, hrec, Bool.not_false, Bool.true_and]
      by_cases hcn : classOf e.info.kind = .none
      · -- a kind without a `prune()`: kept as it is, at most marked `visible`
        cases ownDescr pk e.info.kind <;> cases (D e.info.perm && (!cfg.hideUndoc || e.info.doc)) <;>
          simp [hcn, Ents.rendered, setVisible_rendered, apply_ite]
      · -- a kind with a `prune()` is never part of the parent's own description; kept, it is pruned in turn
        have hown : ownDescr pk e.info.kind = false := by
          cases hown : ownDescr pk e.info.kind
          · rfl
          · exact absurd (tbl_own_leaf pk e.info.kind hk hc hown) hcn
        cases (D e.info.perm && (!cfg.hideUndoc || e.info.doc)) <;>
          simp [hcn, hown, Ents.rendered, setVisible_rendered]
    · -- internals off (the parent is a procedure): emptied unless part of the parent's own description
      have hemp := tbl_emptied pk e.info.kind hk hg (hoff rfl)
      simp only [if_true, hemp]
      cases hown : ownDescr pk e.info.kind
      · simp
      · simp [Ents.rendered, tbl_own_leaf pk e.info.kind hk hc hown]
  · -- enumeration / namelist / common block: no `prune()` touches the list
    obtain ⟨h1, h2, h3, h4⟩ := tbl_gap_untouched pk e.info.kind hk hg
    cases off <;> simp [pruneKids, h1, h2, h3, h4, Ents.rendered, tbl_gap_leaf _ hg]

mutual
/-- The simulation: what the pages render of a pruned entity is what the specification selects at and below it,
    in the same order; by mutual induction with the statement for a child list. -/
theorem rendered_prune (cfg : Cfg) (d : List Word) (D : Word → Bool) (pk : Kind) (hA : Agree d D) :
    (e : Ent) → wf e = true → outside cfg pk D e = true → classOf e.info.kind ≠ .none →
    (prune cfg d e).rendered pk = sel cfg pk D e
  | .mk i cs, hw, ho, hc => by
    simp only [wf, Bool.and_eq_true] at hw
    simp only [Ent.info] at hc
    have hoff : internalsOff cfg i = true → isProc i.kind = true := by
      intro h; simp [internalsOff] at h; exact h.1
    have hnml := tbl_class_not_nml i.kind hc
    simp only [prune, Ent.rendered, sel, hnml, Bool.false_and, Bool.false_eq_true, if_false, tbl_summary]
    by_cases hb : (isProc i.kind && summarised pk) = true
    · simp [hb, argIds_pruneKids]
    · simp only [outside, hb, if_false, Bool.false_eq_true] at ho
      have ih := rendered_pruneKids cfg d D hA i.kind (internalsOff cfg i) hc hoff cs hw.2 ho
      simp only [hb, Bool.false_eq_true, if_false]
      rw [ih, internalsOff_eq_procOff]
theorem rendered_pruneKids (cfg : Cfg) (d : List Word) (D : Word → Bool) (hA : Agree d D)
    (pk : Kind) (off : Bool) (hc : classOf pk ≠ .none) (hoff : off = true → isProc pk = true) :
    (cs : Ents) → wfKids pk cs = true → outsideKids cfg pk off D cs = true →
    (pruneKids cfg (classOf pk) off d cs).rendered pk = selKids cfg pk off D cs
  | .nil, _, _ => by simp [pruneKids, Ents.rendered, selKids]
  | .cons e rest, hw, ho => by
    simp only [wfKids, Bool.and_eq_true] at hw
    obtain ⟨⟨hk, hwe⟩, hwr⟩ := hw
    simp only [outsideKids, Bool.and_eq_true] at ho
    obtain ⟨⟨ho1, ho2⟩, ho3⟩ := ho
    rw [rendered_pruneKids_cons cfg d D hA pk off hc hoff e rest hk (wf_perm e hwe),
      rendered_pruneKids cfg d D hA pk off hc hoff rest hwr ho3, selKids]
    congr 1
    rw [tbl_unfiltered_scope pk e.info.kind hc] at ho1
    cases hsel : selects cfg pk off D e.info
    · -- not selected: it stays only in a never-filtered list, and is then a namelist that no template of the
      -- parent renders
      cases hg : gapKind e.info.kind
      · simp
      · simp only [hg, hsel, if_true, beq_iff_eq] at ho1
        have hx : (e.info.kind != Kind.namelist || namelistDescribed pk) = false := ho1.symm
        simp only [Bool.or_eq_false_iff, bne_eq_false_iff_eq] at hx
        have hns : nmlSection pk = false := by rw [tbl_nml_section pk (hx.1 ▸ hk)]; exact hx.2
        cases e with
        | mk i ks =>
          simp only [Ent.info] at hx
          simp [Ent.rendered, tbl_gap_leaf _ hg, hx.1, hns]
    · -- selected: rendered whole if its kind has no `prune()`, else by induction
      have hoe : outside cfg pk (inForce false D e.info.disp) e = true := by simpa [hsel] using ho2
      simp only [Bool.or_true, if_true]
      by_cases hcn : classOf e.info.kind = .none
      · have hnf : e.info.kind ≠ .file := tbl_kid_not_file pk e.info.kind hk (fun h => hc (h ▸ rfl))
        have hnn : e.info.kind = .namelist → nmlSection pk = true := by
          intro h
          rw [tbl_nml_section pk (h ▸ hk)]
          simpa [h, gapKind, hsel] using ho1
        simp only [hcn, if_true]
        exact leaf_ent cfg pk _ e hwe hcn hnf hnn hoe
      · simp only [hcn, if_false]
        exact rendered_prune cfg _ _ pk (agree_setDisplay false d D e.info.disp hA) e hwe hoe hcn
end

theorem tbl_unit_class : ∀ k : Kind, kidOk .file k = true → classOf k ≠ .none := by
  decide +kernel

theorem wfProject_cons {i : Info} {cs : Ents} {fs : List Ent} (h : wfProject (.mk i cs :: fs) = true) :
    i.kind = .file ∧ wfKids .file cs = true ∧ wfProject fs = true := by
  simpa [wfProject, wfFile, and_assoc] using h

theorem rendered_pruneUnits (cfg : Cfg) (d : List Word) (D : Word → Bool) (hA : Agree d D) :
    (cs : Ents) → wfKids .file cs = true → outsideUnits cfg D cs = true →
    (pruneUnits cfg d cs).rendered .file = selUnits cfg D cs
  | .nil, _, _ => by simp [pruneUnits, Ents.rendered, selUnits]
  | .cons u rest, hw, ho => by
    simp only [wfKids, Bool.and_eq_true] at hw
    obtain ⟨⟨hk, hwu⟩, hwr⟩ := hw
    simp only [outsideUnits, Bool.and_eq_true] at ho
    have ih := rendered_pruneUnits cfg d D hA rest hwr ho.2
    have hr := rendered_prune cfg (setDisplay false d u.info.disp) (inForce false D u.info.disp) .file
      (agree_setDisplay false d D u.info.disp hA) u hwu ho.1 (tbl_unit_class _ hk)
    simp [pruneUnits, Ents.rendered, selUnits, setVisible_rendered, hr, ih]

theorem inForce_file_nothing (D : Word → Bool) (md : List Word)
    (h : saysSomething (md.filter (fun w => w != Word.none)) = false) : inForce true D md = D := by
  simp [inForce, h]

theorem agree_fileChild (cfg : Cfg) (i : Info) (hc : cfgOk cfg = true)
    (h : cfg.fileInherits = true ∨ saysSomething (i.disp.filter (fun w => w != Word.none)) = false) :
    Agree (fileChildDisplay cfg i) (inForce true (denotes cfg.display) i.disp) := by
  unfold fileChildDisplay
  by_cases hf : cfg.fileInherits = true
  · simp only [hf, if_true]
    exact agree_setDisplay true _ _ _ (agree_project cfg hc)
  · have hs : saysSomething (i.disp.filter (fun w => w != Word.none)) = false := by
      cases h with
      | inl h => exact absurd h hf
      | inr h => exact h
    simp only [hf]
    rw [inForce_file_nothing _ _ hs]
    exact agree_project cfg hc

theorem rendered_pruneFile (cfg : Cfg) (hc : cfgOk cfg = true) (f : Ent) (hw : wfFile f = true)
    (ho : outsideFile cfg f = true)
    (h : cfg.fileInherits = true ∨ saysSomething (f.info.disp.filter (fun w => w != Word.none)) = false) :
    (pruneFile cfg f).rendered .file = selFile cfg f := by
  cases f with
  | mk i cs =>
    simp only [wfFile, Bool.and_eq_true, beq_iff_eq] at hw
    obtain ⟨hk, hwk⟩ := hw
    have hA := agree_fileChild cfg i hc h
    have hu := rendered_pruneUnits cfg _ _ hA cs hwk ho
    simp [pruneFile, Ent.rendered, selFile, hk, isProc, hu]

theorem noFileDisplay_cons {c : Prop} {f : Ent} {fs : List Ent} (h : c ∨ noFileDisplay (f :: fs) = true) :
    (c ∨ saysSomething (f.info.disp.filter (fun w => w != Word.none)) = false) ∧ (c ∨ noFileDisplay fs = true) := by
  simp only [noFileDisplay, Bool.and_eq_true, Bool.not_eq_true'] at h
  exact ⟨h.imp_right And.left, h.imp_right And.right⟩

theorem rendered_pruneProject (cfg : Cfg) (hc : cfgOk cfg = true) :
    (p : List Ent) → wfProject p = true → outsideFindings cfg p = true →
    (cfg.fileInherits = true ∨ noFileDisplay p = true) →
    renderedOf (pruneProject cfg p) = selProject cfg p
  | [], _, _, _ => by simp [pruneProject, renderedOf, selProject]
  | f :: fs, hw, ho, h => by
    simp only [wfProject, Bool.and_eq_true] at hw
    simp only [outsideFindings, Bool.and_eq_true] at ho
    obtain ⟨h1, h2⟩ := noFileDisplay_cons h
    simp [pruneProject, renderedOf, selProject, rendered_pruneFile cfg hc f hw.1 ho.1 h1,
      rendered_pruneProject cfg hc fs hw.2 ho.2 h2]

theorem tbl_unfiltered_noGap : ∀ pk ck : Kind, gapKind pk = false → gapKind ck = false → unfiltered pk ck = false := by
  decide +kernel

mutual
theorem outside_of_noGap (cfg : Cfg) (pk : Kind) (D : Word → Bool) :
    (e : Ent) → noGap e = true → outside cfg pk D e = true
  | .mk i cs, h => by
    simp only [noGap, Bool.and_eq_true, Bool.not_eq_true'] at h
    simp only [outside]
    split
    · rfl
    · exact outsideKids_of_noGap cfg i.kind (procOff cfg i) D h.1 cs h.2
theorem outsideKids_of_noGap (cfg : Cfg) (pk : Kind) (off : Bool) (D : Word → Bool) (hp : gapKind pk = false) :
    (cs : Ents) → noGapKids cs = true → outsideKids cfg pk off D cs = true
  | .nil, _ => by simp [outsideKids]
  | .cons (.mk i ks) rest, h => by
    simp only [noGapKids, Bool.and_eq_true] at h
    have hi := h.1
    simp only [noGap, Bool.and_eq_true, Bool.not_eq_true'] at hi
    have h1 := outside_of_noGap cfg pk (inForce false D i.disp) (.mk i ks) h.1
    have h2 := outsideKids_of_noGap cfg pk off D hp rest h.2
    have hu := tbl_unfiltered_noGap pk i.kind hp hi.1
    simp only [outsideKids, Ent.info, hu, Bool.false_eq_true, if_false, Bool.true_and, h2, Bool.and_true, h1]
    simp
end

theorem outsideUnits_of_noGap (cfg : Cfg) (D : Word → Bool) :
    (us : Ents) → noGapKids us = true → outsideUnits cfg D us = true
  | .nil, _ => rfl
  | .cons u rest, hu => by
    simp only [noGapKids, Bool.and_eq_true] at hu
    simp [outsideUnits, outside_of_noGap cfg .file _ u hu.1, outsideUnits_of_noGap cfg D rest hu.2]

theorem outsideFindings_of_noGapKinds (cfg : Cfg) :
    (p : List Ent) → noGapKinds p = true → outsideFindings cfg p = true
  | [], _ => rfl
  | (.mk i cs) :: fs, h => by
    simp only [noGapKinds, Bool.and_eq_true] at h
    have ih := outsideFindings_of_noGapKinds cfg fs h.2
    have hf := h.1
    simp only [noGap, Bool.and_eq_true, Bool.not_eq_true'] at hf
    simp only [outsideFindings, outsideFile, ih, Bool.and_true]
    exact outsideUnits_of_noGap cfg _ cs hf.2

theorem tbl_containers : ∀ pk ck : Kind, kidOk .file pk = true → isUnitWithKids pk = true → kidOk pk ck = true →
    inContainers (listOf ck) = pageKind ck := by
  decide +kernel

theorem tbl_chain : ∀ pk : Kind, kidOk .file pk = true → inChain (listOf pk) = isUnitWithKids pk := by
  decide +kernel

theorem tbl_page_filterable : ∀ pk ck : Kind, pageKind ck = true → isUnitWithKids pk = true →
    ownDescr pk ck = false ∧ gapKind ck = false := by
  decide +kernel

theorem tbl_unit_kind : ∀ k : Kind, isUnitWithKids k = true →
    isProc k = false ∧ (k == .namelist) = false ∧ classOf k ≠ .none := by
  decide +kernel

theorem prune_kids (cfg : Cfg) (d : List Word) (e : Ent) :
    (prune cfg d e).kids = pruneKids cfg (classOf e.info.kind) (internalsOff cfg e.info) d e.kids := by
  cases e; simp [prune, Ent.kids, Ent.info]

theorem pageKids_pruneKids (cfg : Cfg) (d : List Word) (D : Word → Bool) (hA : Agree d D) (pk : Kind)
    (hu : kidOk .file pk = true) (hk : isUnitWithKids pk = true) :
    (cs : Ents) → wfKids pk cs = true →
    (pruneKids cfg (classOf pk) false d cs).pageKids = selPageKids cfg D cs
  | .nil, _ => by simp [pruneKids, Ents.pageKids, selPageKids]
  | .cons e rest, hw => by
    simp only [wfKids, Bool.and_eq_true] at hw
    obtain ⟨⟨hke, hwe⟩, hwr⟩ := hw
    have ih := pageKids_pruneKids cfg d D hA pk hu hk rest hwr
    have hc := (tbl_unit_kind pk hk).2.2
    have hsd := shouldDisplay_agree cfg d D e.info hA (wf_perm e hwe)
    have hcont := tbl_containers pk e.info.kind hu hk hke
    simp only [pruneKids, selPageKids, Bool.false_eq_true, if_false, hsd]
    cases hpg : pageKind e.info.kind
    · -- not a page kind: contributes nothing whichever branch is taken
      simp only [Bool.false_and, Bool.false_eq_true, if_false, List.nil_append]
      split
      · exact ih
      · split
        · simp [Ents.pageKids, setVisible_info_kind, prune_info, hcont, hpg, ih]
        · split <;> simp [Ents.pageKids, setVisible_info_kind, hcont, hpg, ih]
    · obtain ⟨hown, hg⟩ := tbl_page_filterable pk _ hpg hk
      have hfil := tbl_filtered pk e.info.kind hke hg hc
      simp only [hfil, hown, Bool.not_false, Bool.true_and]
      cases hshow : (D e.info.perm && (!cfg.hideUndoc || e.info.doc))
      · simp [ih]
      · simp only [Bool.not_true, Bool.false_eq_true, if_false, if_true]
        split
        · simp [Ents.pageKids, setVisible_info_kind, setVisible_info_id', prune_info, hcont, hpg, ih]
        · split <;> simp [Ents.pageKids, setVisible_info_kind, setVisible_info_id', hcont, hpg, ih]

theorem unitPages_pruneUnits (cfg : Cfg) (d : List Word) (D : Word → Bool) (hA : Agree d D) :
    (cs : Ents) → wfKids .file cs = true →
    (pruneUnits cfg d cs).unitPages = selUnitPages cfg D cs
  | .nil, _ => by simp [pruneUnits, Ents.unitPages, selUnitPages]
  | .cons u rest, hw => by
    simp only [wfKids, Bool.and_eq_true] at hw
    obtain ⟨⟨hk, hwu⟩, hwr⟩ := hw
    have ih := unitPages_pruneUnits cfg d D hA rest hwr
    have hch := tbl_chain u.info.kind hk
    simp only [pruneUnits, Ents.unitPages, selUnitPages, setVisible_info_kind, setVisible_info_id', prune_info,
      setVisible_kids, prune_kids, hch, ih]
    cases hun : isUnitWithKids u.info.kind
    · simp
    · have hnp := (tbl_unit_kind _ hun).1
      have hoff : internalsOff cfg u.info = false := by simp [internalsOff, hnp]
      have hp := pageKids_pruneKids cfg (setDisplay false d u.info.disp) (inForce false D u.info.disp)
        (agree_setDisplay false d D u.info.disp hA) u.info.kind hk hun u.kids (wf_kids u hwu)
      simp [hoff, hp]

theorem tbl_page_lists_marked : ∀ pk ck : Kind, kidOk .file pk = true → isUnitWithKids pk = true → kidOk pk ck = true →
    inContainers (listOf ck) = true →
    (recurseIn (classOf pk) (listOf ck) || visibleOnlyIn (classOf pk) (listOf ck)) = true := by
  decide +kernel

theorem mem_visibleIds_setVisible (e : Ent) : e.setVisible.info.id ∈ e.setVisible.visibleIds := by
  cases e with
  | mk i cs => simp [Ent.setVisible, Ent.visibleIds, Ent.info]

theorem mem_visibleIds_of_kids {x : Nat} {e : Ent} (h : x ∈ e.kids.visibleIds) : x ∈ e.visibleIds := by
  cases e with
  | mk i cs => exact List.mem_append_right _ h

theorem pageKids_cons_visible {x : Nat} {e : Ent} {rest : Ents}
    (hv : inContainers (listOf e.info.kind) = true → e.info.id ∈ e.visibleIds)
    (ih : x ∈ rest.pageKids → x ∈ rest.visibleIds) (hx : x ∈ (Ents.cons e rest).pageKids) :
    x ∈ (Ents.cons e rest).visibleIds := by
  simp only [Ents.pageKids, List.mem_append] at hx
  simp only [Ents.visibleIds, List.mem_append]
  rcases hx with hx | hx
  · split at hx
    · rename_i hc
      rw [List.mem_singleton.mp hx]
      exact Or.inl (hv hc)
    · simp at hx
  · exact Or.inr (ih hx)

/-- Whatever `prune()` keeps in a list that `CONTAINERS` copies into a page list, it marks `visible`: the kept
    members of the lists it recurses into or only marks, and a list it does neither to is not a page list. -/
theorem pageKids_visible (cfg : Cfg) (d : List Word) (pk : Kind)
    (hu : kidOk .file pk = true) (hk : isUnitWithKids pk = true) (x : Nat) :
    (cs : Ents) → wfKids pk cs = true →
    x ∈ (pruneKids cfg (classOf pk) false d cs).pageKids → x ∈ (pruneKids cfg (classOf pk) false d cs).visibleIds
  | .nil, _ => by simp [pruneKids, Ents.pageKids]
  | .cons e rest, hw => by
    simp only [wfKids, Bool.and_eq_true] at hw
    have ih := pageKids_visible cfg d pk hu hk x rest hw.2
    have hm := tbl_page_lists_marked pk e.info.kind hu hk hw.1.1
    simp only [pruneKids, Bool.false_eq_true, if_false]
    split
    · exact ih
    · split
      · exact pageKids_cons_visible (fun _ => mem_visibleIds_setVisible _) ih
      · split
        · exact pageKids_cons_visible (fun _ => mem_visibleIds_setVisible _) ih
        · rename_i hr hv
          exact pageKids_cons_visible (fun hc => absurd (hm hc) (by simp [hr, hv])) ih

theorem unitPages_visible (cfg : Cfg) (d : List Word) (x : Nat) :
    (cs : Ents) → wfKids .file cs = true →
    x ∈ (pruneUnits cfg d cs).unitPages → x ∈ (pruneUnits cfg d cs).visibleIds
  | .nil, _ => by simp [pruneUnits, Ents.unitPages]
  | .cons u rest, hw => by
    simp only [wfKids, Bool.and_eq_true] at hw
    obtain ⟨⟨hk, hwu⟩, hwr⟩ := hw
    have ih := unitPages_visible cfg d x rest hwr
    have hch := tbl_chain u.info.kind hk
    intro hx
    simp only [pruneUnits, Ents.unitPages, setVisible_info_kind, setVisible_info_id', prune_info,
      setVisible_kids, prune_kids, hch, List.mem_append, List.mem_cons] at hx
    simp only [pruneUnits, Ents.visibleIds, List.mem_append]
    rcases hx with (hx | hx) | hx
    · left
      have hv := mem_visibleIds_setVisible (prune cfg (setDisplay false d u.info.disp) u)
      rw [setVisible_info_id', prune_info] at hv
      rw [hx]; exact hv
    · left
      cases hun : isUnitWithKids u.info.kind
      · simp [hun] at hx
      · simp only [hun, if_true] at hx
        have hoff : internalsOff cfg u.info = false := by simp [internalsOff, (tbl_unit_kind _ hun).1]
        rw [hoff] at hx
        apply mem_visibleIds_of_kids
        rw [setVisible_kids, prune_kids, hoff]
        exact pageKids_visible cfg _ u.info.kind hk hun x u.kids (wf_kids u hwu) hx
    · exact Or.inr (ih hx)

theorem tbl_routines : ∀ k : Kind, isProc k = true → C05.routinesLists.contains (listOf k) = true := by
  decide +kernel

theorem tbl_collect : ∀ k : Kind, kidOk .file k = true →
    (isProc k = true → C05.namelistCollect.lookup (listOf k) = some (true, false))
    ∧ (k = .program → C05.namelistCollect.lookup (listOf k) = some (true, true))
    ∧ ((k = .module ∨ k = .submodule) → C05.namelistCollect.lookup (listOf k) = some (false, true)) := by
  decide +kernel

theorem mem_selNmlKids (cfg : Cfg) (pk : Kind) (off : Bool) (D : Word → Bool) (x : Nat) :
    (cs : Ents) → x ∈ selNmlKids cfg pk off D cs → x ∈ cs.nmlKids.map (·.info.id)
  | .nil => by simp [selNmlKids]
  | .cons c rest => by
    have ih := mem_selNmlKids cfg pk off D x rest
    intro hx
    simp only [selNmlKids, List.mem_append] at hx
    simp only [Ents.nmlKids, List.map_append, List.mem_append]
    rcases hx with hx | hx
    · left
      split at hx
      · rename_i h
        simp only [Bool.and_eq_true, beq_iff_eq] at h
        simp only [List.mem_singleton] at hx
        simp [h.1, hx]
      · simp at hx
    · exact Or.inr (ih hx)

theorem mem_selRoutineNmls (cfg : Cfg) (pk : Kind) (D : Word → Bool) (x : Nat) :
    (cs : Ents) → x ∈ selRoutineNmls cfg pk D cs → x ∈ cs.routineNmls.map (·.info.id)
  | .nil => by simp [selRoutineNmls]
  | .cons c rest => by
    have ih := mem_selRoutineNmls cfg pk D x rest
    intro hx
    simp only [selRoutineNmls, List.mem_append] at hx
    simp only [Ents.routineNmls, List.map_append, List.mem_append]
    rcases hx with hx | hx
    · left
      split at hx
      · rename_i h
        simp only [Bool.and_eq_true] at h
        simp only [tbl_routines _ h.1, if_true]
        exact mem_selNmlKids cfg _ _ _ x _ hx
      · simp at hx
    · exact Or.inr (ih hx)

theorem mem_selUnitNmls (cfg : Cfg) (D : Word → Bool) (x : Nat) :
    (us : Ents) → wfKids .file us = true → x ∈ selUnitNmls cfg D us → x ∈ us.unitNmls.map (·.info.id)
  | .nil, _ => by simp [selUnitNmls]
  | .cons u rest, hw => by
    simp only [wfKids, Bool.and_eq_true] at hw
    obtain ⟨⟨hk, _⟩, hwr⟩ := hw
    have ih := mem_selUnitNmls cfg D x rest hwr
    obtain ⟨t1, t2, t3⟩ := tbl_collect u.info.kind hk
    intro hx
    simp only [selUnitNmls, List.mem_append] at hx
    simp only [Ents.unitNmls, List.map_append, List.mem_append]
    rcases hx with hx | hx
    · left
      split at hx
      · rename_i h
        rw [t1 h]
        simp only [if_true, Bool.false_eq_true, if_false, List.append_nil]
        exact mem_selNmlKids cfg _ _ _ x _ hx
      · split at hx
        · rename_i h
          simp only [beq_iff_eq] at h
          rw [t2 h]
          simp only [if_true, List.map_append, List.mem_append]
          simp only [List.mem_append] at hx
          exact hx.imp (mem_selNmlKids cfg _ _ _ x _) (mem_selRoutineNmls cfg _ _ x _)
        · split at hx
          · rename_i h
            simp only [Bool.or_eq_true, beq_iff_eq] at h
            rw [t3 h]
            simp only [Bool.false_eq_true, if_false, if_true, List.nil_append]
            exact mem_selRoutineNmls cfg _ _ x _ hx
          · simp at hx
    · exact Or.inr (ih hx)

theorem wfKids_append (pk : Kind) : (a b : Ents) → wfKids pk (a.append b) = (wfKids pk a && wfKids pk b)
  | .nil, b => by simp [Ents.append, wfKids]
  | .cons e r, b => by simp [Ents.append, wfKids, wfKids_append pk r b, Bool.and_assoc]

theorem inheritable_append : (a b : Ents) → (a.append b).inheritable = a.inheritable.append b.inheritable
  | .nil, b => by simp [Ents.append, Ents.inheritable]
  | .cons e r, b => by
    simp only [Ents.append, Ents.inheritable, inheritable_append r b]
    split <;> simp [Ents.append]

theorem tbl_inheritable_kid : ∀ k : Kind, (k == .variable || k == .boundproc) = true → kidOk .type k = true := by
  decide +kernel

theorem inheritable_kind (i : Info) (h : inheritable i = true) : (i.kind == .variable || i.kind == .boundproc) = true := by
  simp only [inheritable, Bool.or_eq_true, Bool.and_eq_true] at h
  rcases h with h | h
  · simp [h.1]
  · simp [h.1]

theorem wfKids_type_inheritable (pk : Kind) : (cs : Ents) → wfKids pk cs = true → wfKids .type cs.inheritable = true
  | .nil, _ => by simp [Ents.inheritable, wfKids]
  | .cons e rest, h => by
    simp only [wfKids, Bool.and_eq_true] at h
    have ih := wfKids_type_inheritable pk rest h.2
    simp only [Ents.inheritable]
    split
    · rename_i hi
      simp [wfKids, tbl_inheritable_kid _ (inheritable_kind _ hi), h.1.2, ih]
    · exact ih

mutual
theorem wfKids_find (n : Nat) : (e : Ent) → wf e = true → (r : Ent) → e.find n = some r → wfKids r.info.kind r.kids = true
  | .mk i cs, hw, r, hf => by
    simp only [wf, Bool.and_eq_true] at hw
    simp only [Ent.find] at hf
    split at hf
    · cases hf; exact hw.2
    · exact wfKids_finds n i.kind cs hw.2 r hf
theorem wfKids_finds (n : Nat) (pk : Kind) : (es : Ents) → wfKids pk es = true → (r : Ent) → es.find n = some r →
    wfKids r.info.kind r.kids = true
  | .nil, _, r, hf => by simp [Ents.find] at hf
  | .cons e rest, hw, r, hf => by
    simp only [wfKids, Bool.and_eq_true] at hw
    simp only [Ents.find] at hf
    split at hf
    · rename_i r' h
      cases hf
      exact wfKids_find n e hw.1.2 r h
    · exact wfKids_finds n pk rest hw.2 r hf
end

theorem wfKids_findIn (n : Nat) : (p : List Ent) → wfProject p = true → (r : Ent) → findIn n p = some r →
    wfKids r.info.kind r.kids = true
  | [], _, r, hf => by simp [findIn] at hf
  | (.mk i cs) :: fs, hw, r, hf => by
    obtain ⟨hfk, hfw, hfs⟩ := wfProject_cons hw
    simp only [findIn] at hf
    split at hf
    · rename_i r' h
      cases hf
      simp only [Ent.find] at h
      split at h
      · cases h; simp only [Ent.info, Ent.kids]; rw [hfk]; exact hfw
      · exact wfKids_finds n .file cs hfw r h
    · exact wfKids_findIn n fs hfs r hf

theorem wfKids_membersOf (p : List Ent) (hp : wfProject p = true) :
    (fuel n : Nat) → wfKids .type (membersOf p fuel n).inheritable = true
  | 0, _ => by simp [membersOf, Ents.inheritable, wfKids]
  | fuel + 1, n => by
    simp only [membersOf]
    split
    · rename_i i cs hf
      have hcs := wfKids_findIn n p hp _ hf
      simp only [Ent.info, Ent.kids] at hcs
      rw [inheritable_append, wfKids_append, Bool.and_eq_true]
      refine ⟨?_, wfKids_type_inheritable _ cs hcs⟩
      split
      · exact wfKids_type_inheritable _ _ (wfKids_membersOf p hp fuel _)
      · simp [Ents.inheritable, wfKids]
    · simp [Ents.inheritable, wfKids]

theorem inherit_info (p : List Ent) (fuel : Nat) (e : Ent) : (e.inherit p fuel).info = e.info := by
  cases e; simp [Ent.inherit, Ent.info]

mutual
theorem wf_inherit (p : List Ent) (hp : wfProject p = true) (fuel : Nat) :
    (e : Ent) → wf e = true → wf (e.inherit p fuel) = true
  | .mk i cs, hw => by
    simp only [wf, Bool.and_eq_true] at hw
    have ih := wfKids_inherit p hp fuel i.kind cs hw.2
    simp only [Ent.inherit, wf, hw.1, Bool.true_and]
    split
    · rename_i m hk _
      rw [wfKids_append, hk, Bool.and_eq_true]
      exact ⟨wfKids_membersOf p hp fuel m, by rw [← hk]; exact ih⟩
    · exact ih
theorem wfKids_inherit (p : List Ent) (hp : wfProject p = true) (fuel : Nat) (pk : Kind) :
    (es : Ents) → wfKids pk es = true → wfKids pk (es.inherit p fuel) = true
  | .nil, _ => by simp [Ents.inherit, wfKids]
  | .cons e rest, hw => by
    simp only [wfKids, Bool.and_eq_true] at hw
    simp [Ents.inherit, wfKids, inherit_info, hw.1.1, wf_inherit p hp fuel e hw.1.2,
      wfKids_inherit p hp fuel pk rest hw.2]
end

theorem wfProject_inheritList (p : List Ent) (hp : wfProject p = true) (fuel : Nat) :
    (fs : List Ent) → wfProject fs = true → wfProject (inheritList p fuel fs) = true
  | [], _ => rfl
  | (.mk i cs) :: fs, hw => by
    obtain ⟨hfk, hfw, hfs⟩ := wfProject_cons hw
    have hk := wfKids_inherit p hp fuel .file cs hfw
    simp [inheritList, wfProject, wfFile, Ent.inherit, hfk, hk, wfProject_inheritList p hp fuel fs hfs]

/-- the project as `correlate` leaves it (every extending type carries the members it inherits) is a
    well-formed project -/
theorem wfProject_inheritProject (p : List Ent) (hp : wfProject p = true) (fuel : Nat) :
    wfProject (inheritProject p fuel) = true :=
  wfProject_inheritList p hp fuel p hp

theorem noFileDisplay_inheritList (p : List Ent) (fuel : Nat) :
    (fs : List Ent) → noFileDisplay (inheritList p fuel fs) = noFileDisplay fs
  | [] => rfl
  | f :: fs => by simp [inheritList, noFileDisplay, inherit_info, noFileDisplay_inheritList p fuel fs]

theorem tbl_dtype_members : ∀ k : Kind, (k == .variable || k == .boundproc) = true →
    filteredIn .dtype (listOf k) = true ∧ recurseIn .dtype (listOf k) = false
    ∧ visibleOnlyIn .dtype (listOf k) = true := by
  decide +kernel

mutual
theorem inherit_noExt (p : List Ent) (fuel : Nat) : (e : Ent) → e.hasExt = false → e.inherit p fuel = e
  | .mk i cs, h => by
    simp only [Ent.hasExt, Bool.or_eq_false_iff] at h
    have hn : i.ext = none := by
      cases hx : i.ext
      · rfl
      · simp [hx] at h
    simp only [Ent.inherit, hn, inherits_noExt p fuel cs h.2]
    cases i.kind <;> rfl
theorem inherits_noExt (p : List Ent) (fuel : Nat) : (es : Ents) → es.hasExt = false → es.inherit p fuel = es
  | .nil, _ => rfl
  | .cons e rest, h => by
    simp only [Ents.hasExt, Bool.or_eq_false_iff] at h
    simp [Ents.inherit, inherit_noExt p fuel e h.1, inherits_noExt p fuel rest h.2]
end

theorem inheritList_noExtension (p : List Ent) (fuel : Nat) :
    (fs : List Ent) → noExtension fs = true → inheritList p fuel fs = fs
  | [], _ => rfl
  | f :: fs, h => by
    simp only [noExtension, Bool.and_eq_true, Bool.not_eq_true'] at h
    simp [inheritList, inherit_noExt p fuel f h.1, inheritList_noExtension p fuel fs h.2]

theorem tbl_arglike_not_nml : ∀ k : Kind, isArgLike k = true → (k == .namelist) = false ∧ isProc k = false := by
  decide +kernel

theorem mem_argIds_rendered (pk : Kind) (x : Nat) : (cs : Ents) → x ∈ cs.argIds → x ∈ cs.rendered pk
  | .nil => by simp [Ents.argIds]
  | .cons (.mk i ks) rest => by
    intro h
    simp only [Ents.argIds, Ent.info, List.mem_append] at h
    simp only [Ents.rendered, List.mem_append]
    rcases h with h | h
    · left
      cases ha : isArgLike i.kind
      · simp [ha] at h
      · obtain ⟨h1, h2⟩ := tbl_arglike_not_nml _ ha
        simp only [ha, if_true, List.mem_singleton] at h
        simp [Ent.rendered, h1, h]
    · exact Or.inr (mem_argIds_rendered pk x rest h)

theorem tbl_unit_not_summary : ∀ k : Kind, isUnitWithKids k = true → summaryIn k = false := by
  decide +kernel

theorem tbl_proc_not_nml : ∀ k : Kind, isProc k = true → (k == .namelist) = false := by
  decide +kernel

theorem mem_onUnitPage_rendered (uk : Kind) (hu : isUnitWithKids uk = true) (x : Nat) :
    (cs : Ents) → x ∈ cs.onUnitPage uk → x ∈ cs.rendered uk
  | .nil => by simp [Ents.onUnitPage]
  | .cons (.mk i ks) rest => by
    intro h
    simp only [Ents.onUnitPage, Ent.info, Ent.kids, List.mem_append] at h
    simp only [Ents.rendered, List.mem_append]
    rcases h with h | h
    · left
      cases hp : isProc i.kind
      · simpa [hp] using h
      · simp only [hp, if_true] at h
        simp only [Ent.rendered, tbl_proc_not_nml _ hp, hp, tbl_unit_not_summary _ hu, Bool.false_and,
          Bool.and_false, Bool.false_eq_true, if_false]
        simp only [List.mem_cons] at h ⊢
        exact h.imp id (mem_argIds_rendered _ x ks)
    · exact Or.inr (mem_onUnitPage_rendered uk hu x rest h)

mutual
theorem mem_pageRefs_renderedRefs (b : Bool) (pk : Kind) (x : Nat) :
    (e : Ent) → x ∈ e.pageRefs b pk → x ∈ e.renderedRefs pk
  | .mk i cs => by
    intro h
    simp only [Ent.pageRefs] at h
    simp only [Ent.renderedRefs]
    split
    · rename_i hn; simp [hn] at h
    · rename_i hn
      simp only [hn, if_false, List.mem_append, Bool.false_eq_true] at h
      simp only [List.mem_append]
      rcases h with h | h
      · left
        split at h
        · simp at h
        · exact h
      · right
        split at h
        · simp at h
        · rename_i hs
          simp only [hs, if_false, Bool.false_eq_true]
          exact mems_pageRefs_renderedRefs b i.kind x cs h
theorem mems_pageRefs_renderedRefs (b : Bool) (pk : Kind) (x : Nat) :
    (es : Ents) → x ∈ es.pageRefs b pk → x ∈ es.renderedRefs pk
  | .nil => by simp [Ents.pageRefs]
  | .cons e rest => by
    intro h
    simp only [Ents.pageRefs, List.mem_append] at h
    simp only [Ents.renderedRefs, List.mem_append]
    exact h.imp (mem_pageRefs_renderedRefs b pk x e) (mems_pageRefs_renderedRefs b pk x rest)
end

theorem mem_refsShown_iff (orig : List Ent) (x : Nat) :
    (l : List Nat) → (x ∈ refsShown orig l ↔ ∃ r, r ∈ l ∧ x ∈ refShown orig r)
  | [] => by simp [refsShown]
  | r :: rs => by simp [refsShown, mem_refsShown_iff orig x rs]

theorem refsShown_mono (orig : List Ent) (x : Nat) (l l' : List Nat) (h : ∀ r, r ∈ l → r ∈ l')
    (hx : x ∈ refsShown orig l) : x ∈ refsShown orig l' := by
  obtain ⟨r, hr, hxr⟩ := (mem_refsShown_iff orig x l).mp hx
  exact (mem_refsShown_iff orig x l').mpr ⟨r, h r hr, hxr⟩

theorem refsShown_append (orig : List Ent) :
    (a b : List Nat) → refsShown orig (a ++ b) = refsShown orig a ++ refsShown orig b
  | [], _ => rfl
  | r :: rs, b => by simp [refsShown, refsShown_append orig rs b]

theorem mem_unitPageRefs (uk : Kind) (x : Nat) :
    (cs : Ents) → x ∈ cs.unitPageRefs uk → x ∈ cs.renderedRefs uk
  | .nil => by simp [Ents.unitPageRefs]
  | .cons c rest => by
    intro h
    simp only [Ents.unitPageRefs, List.mem_append] at h
    simp only [Ents.renderedRefs, List.mem_append]
    rcases h with h | h
    · left
      cases hp : isProc c.info.kind
      · simp only [hp, Bool.false_eq_true, if_false] at h
        exact mem_pageRefs_renderedRefs false uk x c h
      · simp [hp] at h
    · exact Or.inr (mem_unitPageRefs uk x rest h)

theorem mem_pageShows (orig : List Ent) (pk : Kind) (x : Nat) :
    (e : Ent) → x ∈ e.pageShows orig pk →
    x ∈ e.rendered pk ∨ x ∈ refsShown orig (e.renderedRefs pk)
  | .mk i cs => by
    intro h
    simp only [Ent.pageShows, Ent.info, Ent.kids] at h
    cases hu : unitLike i.kind
    · simp only [hu, Bool.false_eq_true, if_false, List.mem_append] at h
      exact h.imp id (refsShown_mono orig x _ _ (fun r hr => mem_pageRefs_renderedRefs _ pk r _ hr))
    · simp only [hu, if_true, List.mem_append] at h
      rw [unitLike_eq] at hu
      obtain ⟨hnp, hnn, _⟩ := tbl_unit_kind _ hu
      rcases h with h | h
      · left
        simp only [Ent.rendered, hnn, hnp, Bool.false_and, Bool.false_eq_true, if_false]
        simp only [List.mem_cons] at h ⊢
        exact h.imp id (mem_onUnitPage_rendered i.kind hu x cs)
      · right
        refine refsShown_mono orig x _ _ ?_ h
        intro r hr
        simp only [Ent.renderedRefs, hnn, hnp, Bool.false_and, Bool.false_eq_true, if_false, List.mem_append]
        exact Or.inr (mem_unitPageRefs i.kind r cs hr)

theorem mem_memberPages (orig : List Ent) (uk : Kind) (pg : Nat) (ids : List Nat) (x : Nat) (hx : x ∈ ids) :
    (cs : Ents) → (pg, ids) ∈ cs.memberPages orig uk →
    x ∈ cs.rendered uk ∨ x ∈ refsShown orig (cs.renderedRefs uk)
  | .nil => by simp [Ents.memberPages]
  | .cons c rest => by
    intro h
    simp only [Ents.memberPages, List.mem_append] at h
    simp only [Ents.rendered, Ents.renderedRefs, refsShown_append, List.mem_append]
    rcases h with h | h
    · cases hc : inContainers (listOf c.info.kind)
      · simp [hc] at h
      · simp only [hc, if_true, List.mem_singleton, Prod.mk.injEq] at h
        rw [h.2] at hx
        exact (mem_pageShows orig uk x c hx).imp Or.inl Or.inl
    · exact (mem_memberPages orig uk pg ids x hx rest h).imp Or.inr Or.inr

theorem tbl_chain_kind : ∀ k : Kind, inChain (listOf k) = true → isProc k = false ∧ (k == .namelist) = false := by
  decide +kernel

theorem mem_unitPagesShown (orig : List Ent) (pg : Nat) (ids : List Nat) (x : Nat) (hx : x ∈ ids) :
    (us : Ents) → (pg, ids) ∈ us.unitPagesShown orig →
    x ∈ us.rendered .file ∨ x ∈ refsShown orig (us.renderedRefs .file)
  | .nil => by simp [Ents.unitPagesShown]
  | .cons (.mk i cs) rest => by
    intro h
    simp only [Ents.unitPagesShown, Ent.info, Ent.kids, List.mem_append, List.mem_cons] at h
    simp only [Ents.rendered, Ents.renderedRefs, refsShown_append, List.mem_append]
    rcases h with (h | h) | h
    · simp only [Prod.mk.injEq] at h
      rw [h.2] at hx
      exact (mem_pageShows orig .file x _ hx).imp Or.inl Or.inl
    · cases hc : inChain (listOf i.kind)
      · simp [hc] at h
      · simp only [hc, if_true] at h
        obtain ⟨hnp, hnn⟩ := tbl_chain_kind _ hc
        simp only [Ent.rendered, Ent.renderedRefs, hnn, hnp, Bool.false_and, Bool.false_eq_true, if_false,
          List.mem_cons, refsShown_append, List.mem_append]
        exact (mem_memberPages orig i.kind pg ids x hx cs h).imp (fun h1 => Or.inl (Or.inr h1))
          (fun h1 => Or.inl (Or.inr h1))
    · exact (mem_unitPagesShown orig pg ids x hx rest h).imp Or.inr Or.inr

theorem mem_filePagesShown (cfg : Cfg) (orig : List Ent) (pg : Nat) (ids : List Nat) (x : Nat) (hx : x ∈ ids) :
    (p : List Ent) → wfProject p = true → (pg, ids) ∈ filePagesShown orig (pruneProject cfg p) →
    x ∈ renderedOf (pruneProject cfg p) ∨ x ∈ refsShown orig (renderedRefsOf (pruneProject cfg p))
  | [], _ => by simp [pruneProject, filePagesShown]
  | (.mk i cs) :: fs, hw => by
    obtain ⟨hfk, hfw, hfs⟩ := wfProject_cons hw
    intro h
    simp only [pruneProject, pruneFile, filePagesShown, Ent.info, Ent.kids, List.mem_append, List.mem_cons] at h
    simp only [pruneProject, pruneFile, renderedOf, renderedRefsOf, Ent.rendered, Ent.renderedRefs, hfk, isProc,
      show (Kind.file == Kind.namelist) = false from rfl, Bool.false_and, Bool.false_eq_true, if_false,
      refsShown_append, List.mem_append, List.mem_cons]
    rcases h with (h | h) | h
    · simp only [Prod.mk.injEq] at h
      rw [h.2] at hx
      simp [List.mem_singleton.mp hx]
    · exact (mem_unitPagesShown orig pg ids x hx _ h).imp (fun h1 => Or.inl (Or.inr h1))
        (fun h1 => Or.inl (Or.inr h1))
    · exact (mem_filePagesShown cfg orig pg ids x hx fs hfs h).imp Or.inr Or.inr

theorem mem_nmlPagesShown (pg : Nat) (ids : List Nat) (x : Nat) (hx : x ∈ ids) :
    (ns : List Ent) → (pg, ids) ∈ nmlPagesShown ns → x ∈ nmlShown ns
  | [] => by simp [nmlPagesShown]
  | n :: ns => by
    intro h
    simp only [nmlPagesShown, List.mem_cons] at h
    simp only [nmlShown, List.mem_append]
    rcases h with h | h
    · simp only [Prod.mk.injEq] at h
      rw [h.2] at hx
      exact Or.inl hx
    · exact Or.inr (mem_nmlPagesShown pg ids x hx ns h)

mutual
theorem noBlockData_find (n : Nat) : (e : Ent) → e.noBlockData = true → (r : Ent) → e.find n = some r →
    r.info.kind ≠ .blockdata
  | .mk i cs, h, r, hf => by
    simp only [Ent.noBlockData, Bool.and_eq_true, bne_iff_ne] at h
    simp only [Ent.find] at hf
    split at hf
    · cases hf; exact h.1
    · exact noBlockData_finds n cs h.2 r hf
theorem noBlockData_finds (n : Nat) : (es : Ents) → es.noBlockData = true → (r : Ent) → es.find n = some r →
    r.info.kind ≠ .blockdata
  | .nil, _, r, hf => by simp [Ents.find] at hf
  | .cons e rest, h, r, hf => by
    simp only [Ents.noBlockData, Bool.and_eq_true] at h
    simp only [Ents.find] at hf
    split at hf
    · rename_i r' hr
      cases hf
      exact noBlockData_find n e h.1 r hr
    · exact noBlockData_finds n rest h.2 r hf
end

theorem noBlockData_findIn (n : Nat) : (p : List Ent) → noBlockDataIn p = true → (r : Ent) → findIn n p = some r →
    r.info.kind ≠ .blockdata
  | [], _, r, hf => by simp [findIn] at hf
  | e :: es, h, r, hf => by
    simp only [noBlockDataIn, Bool.and_eq_true] at h
    simp only [findIn] at hf
    split at hf
    · rename_i r' hr
      cases hf
      exact noBlockData_find n e h.1 r hr
    · exact noBlockData_findIn n es h.2 r hf

theorem visibleBeforePrune_of_ne {pk : Kind} (h : pk ≠ .blockdata) (ck : Kind) : visibleBeforePrune pk ck = false := by
  simp [visibleBeforePrune, h]

theorem extLinked_visible (orig q : List Ent) (hn : noBlockDataIn orig = true) (m : Nat)
    (h : extLinked orig q m = true) : m ∈ visibleIdsOf q := by
  simp only [extLinked, Bool.or_eq_true, List.contains_iff_mem] at h
  rcases h with h | h
  · exact h
  · simp only [parentKindIn] at h
    split at h
    · rename_i pk hpk
      split at hpk
      · rename_i par _
        cases hf : findIn par orig with
        | none => simp [hf] at hpk
        | some r =>
          simp only [hf, Option.map_some, Option.some.injEq] at hpk
          have := noBlockData_findIn par orig hn r hf
          rw [hpk] at this
          rw [visibleBeforePrune_of_ne this] at h
          exact absurd h (by decide)
      · simp at hpk
    · exact absurd h (by decide)

mutual
theorem mem_extLinks (orig q : List Ent) (hn : noBlockDataIn orig = true) (t m : Nat) :
    (e : Ent) → (t, m) ∈ e.extLinks orig q → m ∈ visibleIdsOf q
  | .mk i cs => by
    intro h
    simp only [Ent.extLinks, List.mem_append] at h
    rcases h with h | h
    · split at h
      · rename_i m' _ _
        by_cases hl : extLinked orig q m' = true
        · simp only [hl, if_true, List.mem_singleton, Prod.mk.injEq] at h
          rw [h.2]; exact extLinked_visible orig q hn m' hl
        · simp [hl] at h
      · simp at h
    · exact mems_extLinks orig q hn t m cs h
theorem mems_extLinks (orig q : List Ent) (hn : noBlockDataIn orig = true) (t m : Nat) :
    (es : Ents) → (t, m) ∈ es.extLinks orig q → m ∈ visibleIdsOf q
  | .nil => by simp [Ents.extLinks]
  | .cons e rest => by
    intro h
    simp only [Ents.extLinks, List.mem_append] at h
    exact h.elim (mem_extLinks orig q hn t m e) (mems_extLinks orig q hn t m rest)
end

theorem mem_extLinksOf (orig q : List Ent) (hn : noBlockDataIn orig = true) (t m : Nat) :
    (es : List Ent) → (t, m) ∈ extLinksOf orig q es → m ∈ visibleIdsOf q
  | [] => by simp [extLinksOf]
  | e :: es => by
    intro h
    simp only [extLinksOf, List.mem_append] at h
    exact h.elim (mem_extLinks orig q hn t m e) (mem_extLinksOf orig q hn t m es)

theorem pruneKids_off_display (cfg : Cfg) (cl : PClass) (d d' : List Word) :
    (cs : Ents) → pruneKids cfg cl true d cs = pruneKids cfg cl true d' cs
  | .nil => by simp [pruneKids]
  | .cons e rest => by
    simp only [pruneKids, if_true]
    rw [pruneKids_off_display cfg cl d d' rest]

theorem bindLinked_page (orig q : List Ent) (b : Bool) (d : Nat) (h : bindLinked true orig q b d = true) :
    d ∈ pageIds q ∧ d ∈ visibleIdsOf q := by
  simp only [bindLinked, bindNameLink, Bool.and_eq_true, Bool.true_and, Bool.not_true, Bool.false_or, if_true,
    List.contains_iff_mem] at h
  exact ⟨h.2, h.1.2⟩

theorem mem_bindLinksIn (orig q : List Ent) (t t' b d : Nat) :
    (es : Ents) → (t', b, d) ∈ es.bindLinksIn true orig q t → d ∈ pageIds q ∧ d ∈ visibleIdsOf q
  | .nil => by simp [Ents.bindLinksIn]
  | .cons e rest => by
    intro h
    simp only [Ents.bindLinksIn, List.mem_append] at h
    rcases h with h | h
    · split at h
      · split at h
        · rename_i d' _
          by_cases hl : bindLinked true orig q e.info.visible d' = true
          · simp only [hl, if_true, List.mem_singleton, Prod.mk.injEq] at h
            rw [h.2.2]; exact bindLinked_page orig q _ d' hl
          · simp [hl] at h
        · simp at h
      · simp at h
    · exact mem_bindLinksIn orig q t t' b d rest h

mutual
theorem mem_bindLinks (orig q : List Ent) (t b d : Nat) :
    (e : Ent) → (t, b, d) ∈ e.bindLinks true orig q → d ∈ pageIds q ∧ d ∈ visibleIdsOf q
  | .mk i cs => by
    intro h
    simp only [Ent.bindLinks, List.mem_append] at h
    rcases h with h | h
    · split at h
      · exact mem_bindLinksIn orig q i.id t b d cs h
      · simp at h
    · exact mems_bindLinks orig q t b d cs h
theorem mems_bindLinks (orig q : List Ent) (t b d : Nat) :
    (es : Ents) → (t, b, d) ∈ es.bindLinks true orig q → d ∈ pageIds q ∧ d ∈ visibleIdsOf q
  | .nil => by simp [Ents.bindLinks]
  | .cons e rest => by
    intro h
    simp only [Ents.bindLinks, List.mem_append] at h
    exact h.elim (mem_bindLinks orig q t b d e) (mems_bindLinks orig q t b d rest)
end

theorem mem_bindLinksOf (orig q : List Ent) (t b d : Nat) :
    (es : List Ent) → (t, b, d) ∈ bindLinksOf true orig q es → d ∈ pageIds q ∧ d ∈ visibleIdsOf q
  | [] => by simp [bindLinksOf]
  | e :: es => by
    intro h
    simp only [bindLinksOf, List.mem_append] at h
    exact h.elim (mem_bindLinks orig q t b d e) (mem_bindLinksOf orig q t b d es)

theorem nodeUrl_page (orig q : List Ent) (i : Info) (pg : Nat) (h : nodeUrl orig q i = some pg) :
    pg ∈ pageIds q := by
  have key : ∀ {d : Nat} {b : Bool} {v pv : String},
      nodeLinked ((pageIds q).contains d) b v pv = true → d ∈ pageIds q := by
    intro d b v pv hl
    simp only [nodeLinked, Bool.and_eq_true, List.contains_iff_mem] at hl
    exact hl.1.1
  simp only [nodeUrl] at h
  split at h
  · split at h
    · split at h
      · cases h; exact key ‹_›
      · cases h
    · cases h
  · split at h
    · cases h; exact key ‹_›
    · split at h
      · split at h
        · split at h
          · cases h; exact key ‹_›
          · cases h
        · cases h
      · cases h

mutual
theorem mem_nodeUrls (orig q : List Ent) (x pg : Nat) :
    (e : Ent) → (x, pg) ∈ e.nodeUrls orig q → pg ∈ pageIds q
  | .mk i cs => by
    intro h
    simp only [Ent.nodeUrls, List.mem_append] at h
    rcases h with h | h
    · split at h
      · split at h
        · rename_i pg' hn
          simp only [List.mem_singleton, Prod.mk.injEq] at h
          rw [h.2]; exact nodeUrl_page orig q i pg' hn
        · simp at h
      · simp at h
    · exact mems_nodeUrls orig q x pg cs h
theorem mems_nodeUrls (orig q : List Ent) (x pg : Nat) :
    (es : Ents) → (x, pg) ∈ es.nodeUrls orig q → pg ∈ pageIds q
  | .nil => by simp [Ents.nodeUrls]
  | .cons e rest => by
    intro h
    simp only [Ents.nodeUrls, List.mem_append] at h
    exact h.elim (mem_nodeUrls orig q x pg e) (mems_nodeUrls orig q x pg rest)
end

mutual
theorem mem_visibleIds_ids (x : Nat) : (e : Ent) → x ∈ e.visibleIds → x ∈ e.ids
  | .mk i cs => by
    intro h
    simp only [Ent.visibleIds, List.mem_append] at h
    simp only [Ent.ids, List.mem_cons]
    rcases h with h | h
    · left
      by_cases hv : i.visible = true
      · simpa [hv] using h
      · simp [hv] at h
    · exact Or.inr (mems_visibleIds_ids x cs h)
theorem mems_visibleIds_ids (x : Nat) : (es : Ents) → x ∈ es.visibleIds → x ∈ es.ids
  | .nil => by simp [Ents.visibleIds]
  | .cons e rest => by
    intro h
    simp only [Ents.visibleIds, List.mem_append] at h
    simp only [Ents.ids, List.mem_append]
    exact h.imp (mem_visibleIds_ids x e) (mems_visibleIds_ids x rest)
end

theorem mem_visibleIdsOf_idsOf (x : Nat) : (q : List Ent) → x ∈ visibleIdsOf q → x ∈ idsOf q
  | [] => by simp [visibleIdsOf]
  | e :: es => by
    intro h
    simp only [visibleIdsOf, List.mem_append] at h
    simp only [idsOf, List.mem_append]
    exact h.imp (mem_visibleIds_ids x e) (mem_visibleIdsOf_idsOf x es)

end Ford.Display
