/-
  Text without quote characters needs no cutting into literals: a run of such characters may stand in
  front of any `Lits` text, and without `!` it is `Atoms`.  This is how the hypotheses `Lits P` / `Atoms p`
  of the reader theorems are discharged for a concrete line.
-/
import FordModel.Lemmas.ReaderQuote
namespace Ford

theorem lits_plain_append (a r : Str) (ha : a.all (fun c => !isQuote c) = true) (hr : Lits r) :
    Lits (a ++ r) := by
  induction a with
  | nil => exact hr
  | cons c cs ih =>
    simp only [List.all_cons, Bool.and_eq_true, Bool.not_eq_true'] at ha
    exact .plain c _ ha.1 (ih ha.2)

theorem lits_of_plain (a : Str) (ha : a.all (fun c => !isQuote c) = true) : Lits a :=
  List.append_nil a ▸ lits_plain_append a [] ha .nil

theorem atoms_of_plain (p : Str) (h : p.all (fun c => !isQuote c && c != '!') = true) : Atoms p := by
  induction p with
  | nil => exact .nil
  | cons c cs ih =>
    simp only [List.all_cons, Bool.and_eq_true, Bool.not_eq_true', bne_iff_ne] at h
    exact .plain c cs h.1.1 h.1.2 (ih h.2)

end Ford
