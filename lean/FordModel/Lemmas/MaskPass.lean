/-
  Lemmas for C02: the parser's literal-masking pass (`cutLits`, the loop at the top of
  `FortranContainer._initialize`) on a statement made of code pieces and well-formed character
  literals: the k-th literal goes to `strings[k]`, the k-th placeholder takes its place -
  whatever the literals contain - and the re-insertion loop brings every literal back to its own
  place.
-/
import FordModel.InitialValue
import FordModel.Lemmas.Show
import FordModel.Lemmas.InitialValue
namespace Ford.MaskPass
open Ford.Show Ford.InitialValue

/-- a statement as the lexer sees it: text without quotes and character literals `q body`
    (`body` includes the closing quote) -/
inductive SrcPiece where
  | code (t : Str)
  | lit (q : Char) (body : Str)
  deriving Repr

def srcText : List SrcPiece → Str
  | [] => []
  | .code t :: r => t ++ srcText r
  | .lit q body :: r => q :: body ++ srcText r

def srcLits : List SrcPiece → List Str
  | [] => []
  | .code _ :: r => srcLits r
  | .lit q body :: r => (q :: body) :: srcLits r

/-- the statement with its literals replaced by the placeholders `"k"`, `"k+1"`, ... -/
def srcMasked : List SrcPiece → Nat → Str
  | [], _ => []
  | .code t :: r, k => t ++ srcMasked r k
  | .lit _ _ :: r, k => maskOf k ++ srcMasked r (k + 1)

/-- the statement as FORD shows it after re-insertion: code untouched, every literal whole at its
    own place (NBSP substitution only) -/
def srcShown : List SrcPiece → Str
  | [] => []
  | .code t :: r => t ++ srcShown r
  | .lit q body :: r => nbsp (q :: body) ++ srcShown r

def srcSegs : List SrcPiece → List Seg
  | [] => []
  | .code t :: r => t.map Seg.txt ++ srcSegs r
  | .lit q body :: r => Seg.lit (q :: body) :: srcSegs r

/-- what may follow a literal: the end of the statement or a non-empty code piece -/
def startsCode : List SrcPiece → Prop
  | [] => True
  | .code (_ :: _) :: _ => True
  | _ => False

/-- code pieces contain no quote, literals are well formed (any contents: characters other than
    the quote, doubled quotes, then the closing quote), two literals are never adjacent -/
def WellFormed : List SrcPiece → Prop
  | [] => True
  | .code t :: r => (∀ c ∈ t, isQuote c = false) ∧ WellFormed r
  | .lit q body :: r => isQuote q = true ∧ litTail q body = true ∧ startsCode r ∧ WellFormed r

theorem head_srcText (r : List SrcPiece) (q : Char) (hq : isQuote q = true)
    (hs : startsCode r) (hw : WellFormed r) : (srcText r).head? ≠ some q := by
  cases r with
  | nil => simp [srcText]
  | cons p r' =>
    cases p with
    | lit _ _ => simp [startsCode] at hs
    | code t =>
      cases t with
      | nil => simp [startsCode] at hs
      | cons c cs =>
        have := hw.1 c (by simp)
        simp only [srcText, List.cons_append, List.head?_cons]
        intro h
        have : c = q := by simpa using h
        subst this
        simp_all

theorem natStr_isDigit (k : Nat) : ∀ c ∈ natStr k, c.isDigit = true := by
  intro c hc
  simp only [natStr, toString, Nat.repr, String.toList_ofList] at hc
  exact Nat.isDigit_of_mem_toDigits (by decide) (by decide) hc

theorem natStr_noquote (k : Nat) : ∀ c ∈ natStr k, c ≠ '"' := by
  intro c hc e
  subst e
  have := natStr_isDigit k _ hc
  simp [Char.isDigit] at this

theorem isDigit_of_charIsDigit (c : Char) (h : c.isDigit = true) : isDigit c = true := by
  simp only [Char.isDigit, Bool.and_eq_true, decide_eq_true_eq] at h
  simp only [isDigit, Bool.decide_and, Bool.and_eq_true, decide_eq_true_eq, Char.le_def]
  exact h

theorem natStr_toDigits (k : Nat) : natStr k = Nat.toDigits 10 k := by
  simp [natStr, toString, Nat.repr]

/-- `int()` reads the placeholder number back -/
theorem parseNat?_natStr (k : Nat) : parseNat? (natStr k) = some k := by
  have hne : natStr k ≠ [] := by rw [natStr_toDigits]; exact Nat.toDigits_ne_nil
  have hall : (natStr k).all isDigit = true :=
    List.all_eq_true.mpr fun c hc => isDigit_of_charIsDigit c (natStr_isDigit k c hc)
  have hfold : (natStr k).foldl (fun n c => 10 * n + (c.toNat - '0'.toNat)) 0 = k := by
    rw [natStr_toDigits, ← Nat.ofDigitChars_eq_foldl]
    exact Nat.ofDigitChars_ten_toDigits
  unfold parseNat?
  have he : (natStr k).isEmpty = false := by
    cases h : natStr k with
    | nil => exact absurd h hne
    | cons _ _ => rfl
  simp only [he, hall, Bool.false_or, Bool.not_true, Bool.false_eq_true, if_false]
  exact congrArg some hfold

/-- text without quotes is copied character by character -/
theorem cutGo_code (t rest : Str) (k : Nat) (ht : ∀ c ∈ t, isQuote c = false) :
    cutGo (t ++ rest) k .scan = t.map Seg.txt ++ cutGo rest k .scan := by
  induction t with
  | nil => rfl
  | cons c cs ih =>
    have hc := ht c (by simp)
    have := ih (fun c' h => ht c' (by simp [h]))
    simp [cutGo, hc, this]

/-- inside a literal: the remaining `body` is collected, then one literal segment is emitted -/
theorem cutGo_lit (body : Str) : ∀ (cur rest : Str) (k : Nat), body ≠ [] →
    cutGo (body ++ rest) k (.lit body.length cur) =
      .lit (cur.reverse ++ body) ::
        cutGo rest (k + 1) (if verbExtra k rest == 0 then .scan else .verb (verbExtra k rest)) := by
  induction body with
  | nil => intro _ _ _ h; exact absurd rfl h
  | cons c cs ih =>
    intro cur rest k _
    cases cs with
    | nil => simp [cutGo]
    | cons d r =>
      have := ih (c :: cur) rest k (by simp)
      have h2 : ¬ (c :: d :: r).length ≤ 1 := by simp
      have e : (c :: d :: r).length - 1 = (d :: r).length := by simp
      rw [List.cons_append, cutGo, if_neg h2, e, this]
      simp

/-- after a placeholder that is not followed by `"` nothing is skipped -/
theorem verbExtra_zero (k : Nat) (rest : Str) (hr : rest.head? ≠ some '"') : verbExtra k rest = 0 := by
  have h := litEnd_of_litTail '"' (natStr k ++ ['"']) rest
    (litTail_noquote '"' (natStr k) (natStr_noquote k)) hr
  have e : natStr k ++ '"' :: rest = (natStr k ++ ['"']) ++ rest := by simp
  unfold verbExtra
  rw [e, h]
  simp

/-- **the masking pass cuts a well-formed statement exactly at its literals** -/
theorem cutGo_pieces (ps : List SrcPiece) : ∀ k, WellFormed ps →
    cutGo (srcText ps) k .scan = srcSegs ps := by
  induction ps with
  | nil => intro k _; rfl
  | cons p r ih =>
    intro k hw
    cases p with
    | code t =>
      simp only [srcText, srcSegs]
      rw [cutGo_code t _ k hw.1, ih k hw.2]
    | lit q body =>
      obtain ⟨hq, hb, hc, hw'⟩ := hw
      have hne := litTail_ne_nil q body hb
      have hend := litEnd_of_litTail q body (srcText r) hb (head_srcText r q hq hc hw')
      have hv := verbExtra_zero k (srcText r) (head_srcText r '"' (by decide) hc hw')
      simp only [srcText, srcSegs, List.cons_append]
      rw [cutGo]
      simp only [hq, if_true, hend]
      rw [cutGo_lit body [q] (srcText r) k hne, hv]
      simp [ih (k + 1) hw']

theorem segStrings_srcSegs (ps : List SrcPiece) : segStrings (srcSegs ps) = srcLits ps := by
  induction ps with
  | nil => rfl
  | cons p r ih =>
    cases p with
    | code t =>
      simp only [srcSegs, srcLits]
      induction t with
      | nil => simpa using ih
      | cons c cs iht => simpa [segStrings] using iht
    | lit q body => simp [srcSegs, srcLits, segStrings, ih]

theorem segMasked_srcSegs (ps : List SrcPiece) : ∀ k, segMasked (srcSegs ps) k = srcMasked ps k := by
  induction ps with
  | nil => intro k; rfl
  | cons p r ih =>
    intro k
    cases p with
    | code t =>
      simp only [srcSegs, srcMasked]
      induction t with
      | nil => simpa using ih k
      | cons c cs iht => simpa [segMasked] using iht
    | lit q body => simp [srcSegs, srcMasked, segMasked, ih]

/-! ### ... and the re-insertion loop brings every literal back to its own place -/

/-- the masked statement as a list of `Piece`s (placeholders numbered from `k`) -/
def toPieces : List SrcPiece → Nat → List Piece
  | [], _ => []
  | .code t :: r, k => .code t :: toPieces r k
  | .lit _ _ :: r, k => .ph (natStr k) :: toPieces r (k + 1)

theorem maskedText_toPieces (ps : List SrcPiece) : ∀ k, maskedText (toPieces ps k) = srcMasked ps k := by
  induction ps with
  | nil => intro k; rfl
  | cons p r ih =>
    intro k
    cases p with
    | code t => simp [toPieces, maskedText, Piece.masked, srcMasked, ih]
    | lit q body => simp [toPieces, maskedText, Piece.masked, srcMasked, maskOf, ih]

theorem startsClean_toPieces (r : List SrcPiece) (k : Nat) (h : startsCode r) : startsClean (toPieces r k) := by
  cases r with
  | nil => simp [toPieces, startsClean]
  | cons p r' =>
    cases p with
    | lit _ _ => simp [startsCode] at h
    | code t =>
      cases t with
      | nil => simp [startsCode] at h
      | cons c cs => simp [toPieces, startsClean]

theorem wellMasked_toPieces (ps : List SrcPiece) : ∀ (pre : List Str), WellFormed ps →
    WellMasked (pre ++ srcLits ps) (toPieces ps pre.length) := by
  induction ps with
  | nil => intro pre _; simp [toPieces, WellMasked]
  | cons p r ih =>
    intro pre hw
    cases p with
    | code t => exact ⟨hw.1, ih pre hw.2⟩
    | lit q body =>
      obtain ⟨hq, hb, hc, hw'⟩ := hw
      have hrec := ih (pre ++ [q :: body]) hw'
      simp only [List.append_assoc, List.singleton_append, List.length_append, List.length_cons,
        List.length_nil, Nat.zero_add] at hrec
      refine ⟨⟨pre.length, q, body, parseNat?_natStr _, ?_, hq, hb⟩, startsClean_toPieces r _ hc, hrec⟩
      simp [srcLits]

theorem restoredText_toPieces (ps : List SrcPiece) : ∀ (pre : List Str),
    restoredText (pre ++ srcLits ps) (toPieces ps pre.length) = srcShown ps := by
  induction ps with
  | nil => intro pre; rfl
  | cons p r ih =>
    intro pre
    cases p with
    | code t => simp [toPieces, restoredText, srcShown, srcLits, ih pre]
    | lit q body =>
      have hrec := ih (pre ++ [q :: body])
      simp only [List.append_assoc, List.singleton_append, List.length_append, List.length_cons,
        List.length_nil, Nat.zero_add] at hrec
      simp only [toPieces, restoredText, srcShown, srcLits, litOf, parseNat?_natStr]
      rw [hrec]
      simp

/-! ### what a non-positional replacement would do -/

/-- `s.replace(pat, rep, 1)`: the first occurrence of `pat` anywhere in `s` (`pat` non-empty) -/
def replaceFirst (pat rep : Str) : Str → Str
  | [] => []
  | c :: cs =>
    if startsWith (c :: cs) pat then rep ++ (c :: cs).drop pat.length
    else c :: replaceFirst pat rep cs

end Ford.MaskPass
