/-
  C09 — `pageCond` is the condition of `pageWritten`; a list that passes `listOk` has its pages written whenever
  a member prints its link.
-/
import FordModel.StrLink
import FordModel.Lemmas.Nav
namespace Ford.StrLink
open Ford.Nav Ford.Url

theorem pageWritten_eq (N : Nav.Tables) (sh : Shape) (l : Str) :
    pageWritten N sh l = eval sh (pageCond N l) := by
  rw [pageWritten, pageCond, eval_disj, List.any_map, List.any_filter]
  rfl

theorem listOk_sound (N : Nav.Tables) (T : Tables) (e : Str × Str) (h : listOk N T e = true) (sh : Shape)
    (hpre : eval sh N.mainPre = true) (hv : eval sh (visCond T e.2) = true) :
    pageWritten N sh e.1 = true := by
  rw [pageWritten_eq]
  exact valid_imp h sh (Bool.and_eq_true_iff.2 ⟨hpre, hv⟩)

theorem strEmitsLink_visCond (U : Url.Tables) (T : Tables) (sh : Shape) (n : Node) (rest : List Node)
    (flag : Option Bool) (h : strEmitsLink U T sh (n :: rest) flag = true) :
    (getUrl U (n :: rest)).isSome = true ∧ eval sh (visCond T n.cls) = true := by
  rw [strEmitsLink, Bool.and_eq_true, visible] at h
  refine ⟨h.1, ?_⟩
  rw [visCond]
  cases hl : lookup n.cls T.visInit with
  | none => rfl
  | some c =>
    rw [hl] at h
    exact h.2

theorem not_visible_no_link (U : Url.Tables) (T : Tables) (sh : Shape) (n : Node) (rest : List Node)
    (flag : Option Bool) (h : visible T sh n flag = false) : strEmitsLink U T sh (n :: rest) flag = false := by
  simp [strEmitsLink, h]

end Ford.StrLink
