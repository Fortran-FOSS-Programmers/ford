import FordModel.Admonition
import FordModel.MdState
import FordModel.Lemmas.Chars
namespace Ford

/-- white-space separated words (`str.split()`); `cur` is the current word, reversed -/
def wordsAux : Str → Str → List Str
  | [], cur => if cur.isEmpty then [] else [cur.reverse]
  | c :: cs, cur =>
    if isSpace c then (if cur.isEmpty then wordsAux cs [] else cur.reverse :: wordsAux cs [])
    else wordsAux cs (c :: cur)

def words (s : Str) : List Str := wordsAux s []

/-- the same function as the Markdown model's `splitWords` -/
theorem words_eq_splitWords : words = splitWords := by
  have aux : ∀ s cur, wordsAux s cur = splitWordsAux s cur := by
    intro s
    induction s with
    | nil => intro cur; rfl
    | cons c cs ih => intro cur; simp only [wordsAux, splitWordsAux, ih]
  funext s
  exact aux s []

/-- the word sequence of a text given as lines -/
def W (ls : List Str) : List Str := ls.flatMap words

theorem W_append (a b : List Str) : W (a ++ b) = W a ++ W b := by simp [W]

theorem W_cons (x : Str) (b : List Str) : W (x :: b) = words x ++ W b := by simp [W]

theorem W_map (f : Str → Str) (ls : List Str) (h : ∀ l ∈ ls, words (f l) = words l) : W (ls.map f) = W ls := by
  induction ls with
  | nil => rfl
  | cons l ls ih => rw [List.map_cons, W_cons, W_cons, h l (by simp), ih fun l' hl' => h l' (by simp [hl'])]

theorem W_nil : W [] = [] := rfl

theorem words_nil : words [] = [] := rfl

theorem words_blank_append (ws l : Str) (h : isBlank ws = true) : words (ws ++ l) = words l := by
  induction ws with
  | nil => rfl
  | cons c cs ih =>
    simp [isBlank] at h
    have := ih (by simp [isBlank]; exact h.2)
    simp [words, wordsAux, h.1] at this ⊢
    exact this

theorem words_blank (ws : Str) (h : isBlank ws = true) : words ws = [] := by
  have := words_blank_append ws [] h
  rw [List.append_nil] at this
  exact this.trans words_nil

theorem words_indent (l : Str) : words (indentStr ++ l) = words l :=
  words_blank_append _ _ (isBlank_replicate _)

theorem getD_mid {α : Type} (A : List α) (x d : α) (B : List α) : (A ++ x :: B).getD A.length d = x := by
  simp [List.getD]

theorem insertAt_after (A : List Str) (x y : Str) (B : List Str) :
    insertAt (A ++ x :: B) (A.length + 1) y = A ++ x :: y :: B := by
  have h : A.length + 1 = (A ++ [x]).length := by simp
  have e : A ++ x :: B = (A ++ [x]) ++ B := by simp
  rw [insertAt, e, h, List.take_left, List.drop_left]
  simp

theorem insertAt_after2 (A : List Str) (x y z : Str) (B : List Str) :
    insertAt (A ++ x :: y :: B) (A.length + 2) z = A ++ x :: y :: z :: B := by
  simpa using insertAt_after (A ++ [x]) y z B

theorem set_mid {α : Type} (A : List α) (x y : α) (B : List α) :
    (A ++ x :: B).set A.length y = A ++ y :: B := by
  simp

theorem eraseIdx_mid {α : Type} (A : List α) (x : α) (B : List α) :
    (A ++ x :: B).eraseIdx A.length = A ++ B := by
  simp [List.eraseIdx_append_of_length_le]

theorem split_at (ls : List Str) (i : Nat) (h : i < ls.length) :
    ls = ls.take i ++ ls[i] :: ls.drop (i + 1) ∧ (ls.take i).length = i := by
  constructor
  · simp
  · simp; omega

theorem ciPrefix_spec (p s m r : Str) (h : ciPrefix p s = some (m, r)) : s = m ++ r ∧ lower m = p := by
  fun_induction ciPrefix p s generalizing m r
  case case1 s => simp at h; obtain ⟨rfl, rfl⟩ := h; simp [lower]
  case case2 => simp at h
  case case3 p ps c cs hc m' r' hm ih =>
    simp at h; obtain ⟨rfl, rfl⟩ := h
    obtain ⟨h1, h2⟩ := ih m' r' hm
    simp at hc
    simp [h1, lower, hc] at h2 ⊢
    exact h2
  case case4 => simp at h
  case case5 => simp at h

theorem matchType_spec (types : List Str) (s ty post : Str) (h : matchType types s = some (ty, post)) :
    s = ty ++ post ∧ lower ty ∈ types := by
  fun_induction matchType types s
  case case1 => simp at h
  case case2 t ts s r hr =>
    simp at h; subst h
    obtain ⟨h1, h2⟩ := ciPrefix_spec _ _ _ _ hr
    exact ⟨h1, by simp [h2]⟩
  case case3 t ts s hr ih =>
    obtain ⟨h1, h2⟩ := ih h
    exact ⟨h1, by simp [h2]⟩

theorem admScan_spec (types : List Str) (l acc ws : Str) (m : AdmMatch)
    (h : admScan types l acc ws = some m) (hws : isBlank ws = true) :
    acc.reverse ++ ws.reverse ++ l = m.pre ++ m.indent ++ '@' :: (m.ty ++ m.post)
      ∧ isBlank m.indent = true ∧ lower m.ty ∈ types := by
  fun_induction admScan types l acc ws generalizing m
  case case1 => simp at h
  case case2 c cs acc ws hc ty post hm =>
    simp at h hc; subst h; subst hc
    obtain ⟨h1, h2⟩ := matchType_spec _ _ _ _ hm
    refine ⟨by simp [h1], ?_, h2⟩
    simpa [isBlank] using hws
  case case3 c cs acc ws hc hm ih =>
    obtain ⟨h1, h2, h3⟩ := ih m h (by rfl)
    exact ⟨by simpa using h1, h2, h3⟩
  case case4 c cs acc ws hc hsp ih =>
    obtain ⟨h1, h2, h3⟩ := ih m h (by simp [isBlank] at hws ⊢; exact ⟨hsp, hws⟩)
    exact ⟨by simpa using h1, h2, h3⟩
  case case5 c cs acc ws hc hsp ih =>
    obtain ⟨h1, h2, h3⟩ := ih m h (by rfl)
    exact ⟨by simpa using h1, h2, h3⟩

/-- `ADMONITION_RE.search(line)`: the line is `pre ++ indent ++ "@" ++ type ++ posttxt`, the
    indent is white space and the type is (case-insensitively) one of the table -/
theorem admRe_spec (types : List Str) (l : Str) (m : AdmMatch) (h : admRe types l = some m) :
    l = m.pre ++ m.indent ++ '@' :: (m.ty ++ m.post) ∧ isBlank m.indent = true ∧ lower m.ty ∈ types := by
  have := admScan_spec types l [] [] m h (by rfl)
  simpa using this

theorem admScan_no_at (types : List Str) (l acc ws : Str) (h : '@' ∉ l) : admScan types l acc ws = none := by
  fun_induction admScan types l acc ws <;> simp_all

theorem endScan_no_at (types : List Str) (l acc ws : Str) (h : '@' ∉ l) : endScan types l acc ws = none := by
  fun_induction endScan types l acc ws <;> simp_all

theorem lstrip_spec (s : Str) : ∃ ws, s = ws ++ lstrip s ∧ isBlank ws = true := by
  induction s with
  | nil => exact ⟨[], rfl, rfl⟩
  | cons c cs ih =>
    by_cases hc : isSpace c = true
    · obtain ⟨ws, h1, h2⟩ := ih
      refine ⟨c :: ws, ?_, ?_⟩
      · simp [lstrip, hc]; exact h1
      · simp [isBlank, hc] at h2 ⊢; exact h2
    · exact ⟨[], by simp [lstrip, hc], rfl⟩

/-- the scan behind `END_RE.search(line)`, from any position: what was read (`acc`, then the blanks `ws`) followed by
    `"@" ++ END ++ type ++ ws' ++ posttxt` -/
theorem endScan_spec (types : List Str) (l acc ws : Str) (e : EndMatch)
    (h : endScan types l acc ws = some e) (hws : isBlank ws = true) :
    ∃ w1 kw w2, acc.reverse ++ ws.reverse ++ l = e.pre ++ w1 ++ '@' :: (kw ++ e.ty ++ w2 ++ e.post)
      ∧ isBlank w1 = true ∧ isBlank w2 = true ∧ lower kw = ['e', 'n', 'd'] ∧ lower e.ty ∈ types := by
  fun_induction endScan types l acc ws generalizing e
  case case1 => simp at h
  case case2 c cs acc ws hc ty post hm =>
    simp at h hc; subst h; subst hc
    simp only [endAt] at hm
    split at hm
    · rename_i kw r hk
      split at hm
      · rename_i ty' post' ht
        simp at hm; obtain ⟨rfl, rfl⟩ := hm
        obtain ⟨k1, k2⟩ := ciPrefix_spec _ _ _ _ hk
        obtain ⟨t1, t2⟩ := matchType_spec _ _ _ _ ht
        obtain ⟨w2, p1, p2⟩ := lstrip_spec post'
        refine ⟨ws.reverse, kw, w2, ?_, by simpa [isBlank] using hws, p2, k2, t2⟩
        simp [k1, t1]; exact p1
      · simp at hm
    · simp at hm
  case case3 c cs acc ws hc hm ih =>
    obtain ⟨w1, kw, w2, h1, r⟩ := ih e h (by rfl)
    exact ⟨w1, kw, w2, by simpa using h1, r⟩
  case case4 c cs acc ws hc hsp ih =>
    obtain ⟨w1, kw, w2, h1, r⟩ := ih e h (by simp [isBlank] at hws ⊢; exact ⟨hsp, hws⟩)
    exact ⟨w1, kw, w2, by simpa using h1, r⟩
  case case5 c cs acc ws hc hsp ih =>
    obtain ⟨w1, kw, w2, h1, r⟩ := ih e h (by rfl)
    exact ⟨w1, kw, w2, by simpa using h1, r⟩

theorem indentFrom_words (ls : List Str) (i lo hi : Nat) : W (indentFrom ls i lo hi) = W ls := by
  fun_induction indentFrom ls i lo hi
  case case1 => rfl
  case case2 l ls i lo hi ih =>
    rw [W_cons, W_cons, ih]
    split
    · rw [words_indent]
    · rfl

theorem indentFrom_length (ls : List Str) (i lo hi : Nat) : (indentFrom ls i lo hi).length = ls.length := by
  fun_induction indentFrom ls i lo hi <;> simp_all

theorem endStep_shape (types : List Str) (A : List Str) (x : Str) (B : List Str) (e : EndMatch)
    (h : endRe types x = some e) :
    ∃ R, (endStep types (A ++ x :: B) A.length).1 = A ++ R ∧
      W R = words e.pre ++ words e.post ++ W B := by
  unfold endStep
  rw [getD_mid, h]
  by_cases hp : e.post.isEmpty = true <;> by_cases hb : isBlank e.pre = true
  · have : e.post = [] := by simpa using hp
    exact ⟨B, by simp [hb, eraseIdx_mid, this], by simp [words_blank _ hb, this, words_nil]⟩
  · have : e.post = [] := by simpa using hp
    exact ⟨e.pre :: B, by simp [hb, this], by simp [W_cons, this, words_nil]⟩
  · refine ⟨[] :: e.post :: B, ?_, by simp [W_cons, words_nil, words_blank _ hb]⟩
    simp only [hp, hb, Bool.not_false, ↓reduceIte, insertAt_after, insertAt_after2]
    rw [set_mid, eraseIdx_mid]
  · refine ⟨e.pre :: [] :: e.post :: B, ?_, by simp [W_cons, words_nil]⟩
    simp only [hp, hb, Bool.not_false, ↓reduceIte, insertAt_after, insertAt_after2]
    rw [set_mid]
    simp

theorem endStep_mid (types : List Str) (A : List Str) (x : Str) (B : List Str) (e : EndMatch)
    (h : endRe types x = some e) :
    W (endStep types (A ++ x :: B) A.length).1 = W A ++ words e.pre ++ words e.post ++ W B := by
  obtain ⟨R, hR, hW⟩ := endStep_shape types A x B e h
  rw [hR, W_append, hW]
  simp only [List.append_assoc]

theorem endStep_none (types : List Str) (ls : List Str) (idx : Nat)
    (h : endRe types (ls.getD idx []) = none) : endStep types ls idx = (ls, idx) := by
  unfold endStep
  rw [h]

theorem startStep_mid (types : List Str) (A : List Str) (x : Str) (B : List Str) (ty : Str) (m : AdmMatch)
    (h : admRe types x = some m) :
    ∃ ls', startStep types (A ++ x :: B) ty A.length = .ok ls' ∧
      W ls' = W A ++ words (['@', 'n', 'o', 't', 'e', ' '] ++ capitalize ty) ++ words m.post ++ W B := by
  obtain ⟨_, hb, _⟩ := admRe_spec types x m h
  unfold startStep
  rw [getD_mid, h]
  by_cases hp : m.post.isEmpty = true
  · have : m.post = [] := by simpa using hp
    refine ⟨_, rfl, ?_⟩
    simp only [hp, Bool.not_true, Bool.false_eq_true, ↓reduceIte, set_mid]
    simp [W_append, W_cons, this, words_nil, words_blank_append _ _ hb]
  · refine ⟨_, rfl, ?_⟩
    simp only [hp, Bool.not_false, ↓reduceIte, set_mid, insertAt_after]
    rw [W_append, W_cons, W_cons, List.append_assoc indentStr, words_indent,
      words_blank_append _ _ hb, List.append_assoc m.indent, words_blank_append _ _ hb]
    simp

theorem indentFrom_prefix (A R : List Str) (i lo hi : Nat) (h : i + A.length ≤ lo) :
    indentFrom (A ++ R) i lo hi = A ++ indentFrom R (i + A.length) lo hi := by
  induction A generalizing i with
  | nil => simp
  | cons a A ih =>
    simp at h
    have hlt : ¬ (lo ≤ i) := by omega
    simp [indentFrom, hlt]
    rw [ih (i + 1) (by omega)]
    have : i + 1 + A.length = i + (A.length + 1) := by omega
    rw [this]

theorem indentFrom_head (x : Str) (R : List Str) (i lo hi : Nat) (h : i < lo) :
    indentFrom (x :: R) i lo hi = x :: indentFrom R (i + 1) lo hi := by
  have hlt : ¬ (lo ≤ i) := by omega
  simp [indentFrom, hlt]

/-- the second half of one iteration, for any text `R` after the start line `s` and any end of the
    indented range: `R` is indented, `s` becomes the header (and its rest a line of its own) -/
theorem indent_startStep (types : List Str) (A : List Str) (s : Str) (R : List Str) (ty : Str) (m : AdmMatch)
    (hi : Nat) (hs : admRe types s = some m) :
    ∃ ls', startStep types (indentFrom (A ++ s :: R) 0 (A.length + 1) hi) ty A.length = .ok ls' ∧
      W ls' = W A ++ words (['@', 'n', 'o', 't', 'e', ' '] ++ capitalize ty) ++ words m.post ++ W R := by
  rw [indentFrom_prefix A _ 0 _ _ (by omega), Nat.zero_add, indentFrom_head _ _ _ _ _ (by omega)]
  obtain ⟨ls', h1, h2⟩ := startStep_mid types A s (indentFrom R (A.length + 1) (A.length + 1) hi) ty m hs
  exact ⟨ls', h1, by rw [h2, indentFrom_words]⟩

theorem findFrom_no_at (types : List Str) (ls : List Str) (i : Nat) (h : ∀ l ∈ ls, '@' ∉ l) :
    findFrom types ls i ([], none) = .ok ([], none) := by
  induction ls generalizing i with
  | nil => rfl
  | cons l ls ih =>
    have hl : '@' ∉ l := h l (by simp)
    have h1 : admRe types l = none := admScan_no_at types l [] [] hl
    have h2 : endRe types l = none := endScan_no_at types l [] [] hl
    simp [findFrom, findStep, h1, h2]
    exact ih (i + 1) (fun l' hl' => h l' (by simp [hl']))

end Ford
