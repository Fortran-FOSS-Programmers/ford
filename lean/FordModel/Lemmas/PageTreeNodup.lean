/-
  C17 - multiplicity: the pages the statement expects, and the pages `get_page_tree` builds,
  are pairwise distinct ("every titled Markdown file becomes EXACTLY ONE page").
  Helper lemmas for the `*_distinct*` / `pages_bijection_partial` theorems of Props/C17.lean.
-/
import FordModel.PageTree
import FordModel.PageTreeSpec
import FordModel.Lemmas.PageTree
namespace Ford.PT
open Ford Ford.Gen.C17

theorem suffixLen_le (s : Str) : suffixLen s ≤ s.length := by
  unfold suffixLen
  split
  · split
    · exact Nat.sub_le _ _
    · exact Nat.zero_le _
  · exact Nat.zero_le _

theorem isMd_split (n : Str) (h : isMd n = true) :
    n = n.take (n.length - mdSuffix.length) ++ mdSuffix := by
  have hd : n.drop (n.length - suffixLen n) = mdSuffix := eq_of_beq h
  have hl : mdSuffix.length = suffixLen n := by
    rw [← hd, List.length_drop, Nat.sub_sub_self (suffixLen_le n)]
  rw [hl]
  conv => rhs; rw [← hd]
  exact (List.take_append_drop _ _).symm

theorem specHtml_inj (a b : Str) (ha : isMd a = true) (hb : isMd b = true)
    (h : specHtml a = specHtml b) : a = b := by
  unfold specHtml at h
  have ht := List.append_inj_left' h rfl
  calc a = a.take (a.length - mdSuffix.length) ++ mdSuffix := isMd_split a ha
    _ = b.take (b.length - mdSuffix.length) ++ mdSuffix := by rw [ht]
    _ = b := (isMd_split b hb).symm

theorem isMd_index : isMd indexName = true := by decide +kernel

/-- what the paths of the pages of entry `e` look like below the location of its directory:
    a page file gives the single segment `<stem>.html`; everything from a sub-directory `n` starts
    with `n` and goes on (so it can never be the page of a file, and never a page of another
    sub-directory) -/
def Shape : Entry → PathS → Prop
  | .file n _, r => isMd n = true ∧ r = [specHtml n]
  | .dir n _, r => ∃ r', r' ≠ [] ∧ r = n :: r'

theorem shape_ne_nil {e : Entry} {r : PathS} (h : Shape e r) : r ≠ [] := by
  cases e with
  | file n m => rw [h.2]; simp
  | dir n cs => obtain ⟨r', _, h⟩ := h; rw [h]; simp

/-- entries with different names never produce the same path: `loc ++ [x.html]` is not below
    `loc ++ [n, ...]`, two sub-directories differ in the segment after `loc`, and two Markdown files
    differ by `specHtml_inj` -/
theorem shape_disjoint {e₁ e₂ : Entry} {r : PathS} (hne : e₁.name ≠ e₂.name)
    (h₁ : Shape e₁ r) (h₂ : Shape e₂ r) : False := by
  cases e₁ with
  | file n₁ m₁ =>
    obtain ⟨md₁, rfl⟩ := h₁
    cases e₂ with
    | file n₂ m₂ => exact hne (specHtml_inj n₁ n₂ md₁ h₂.1 (List.head_eq_of_cons_eq h₂.2))
    | dir n₂ cs₂ =>
      obtain ⟨r', hr', h⟩ := h₂
      exact hr' (List.tail_eq_of_cons_eq h).symm
  | dir n₁ cs₁ =>
    obtain ⟨r₁, hr₁, rfl⟩ := h₁
    cases e₂ with
    | file n₂ m₂ => exact hr₁ (List.tail_eq_of_cons_eq h₂.2)
    | dir n₂ cs₂ =>
      obtain ⟨r₂, _, h⟩ := h₂
      exact hne (List.head_eq_of_cons_eq h)

theorem shape_index {e : Entry} (hne : e.name ≠ indexName) (h : Shape e [specHtml indexName]) : False :=
  shape_disjoint (e₂ := .file indexName ⟨none, [], [], []⟩) hne h ⟨isMd_index, rfl⟩

theorem expEntry_shape (e : Entry) :
    ∀ loc p, p ∈ expEntry loc e → ∃ r, p = loc ++ r ∧ Shape e r := by
  induction e using entry_ind_aux with
  | hf n m =>
    intro loc p hp
    simp only [expEntry] at hp
    split at hp
    · rename_i h
      simp only [Bool.and_eq_true] at h
      simp only [List.mem_singleton] at hp
      exact ⟨[specHtml n], hp, h.1, rfl⟩
    · cases hp
  | hd n cs ih =>
    intro loc p hp
    simp only [expEntry] at hp
    split at hp
    · rcases List.mem_cons.mp hp with h | h
      · exact ⟨[n, specHtml indexName], h, [specHtml indexName], by simp, rfl⟩
      · rw [mem_expEntries] at h
        obtain ⟨c, hc, _, _, hpc⟩ := h
        obtain ⟨r, hr, hs⟩ := ih c hc _ _ hpc
        exact ⟨n :: r, by rw [hr]; simp, r, shape_ne_nil hs, rfl⟩
    · cases hp

theorem index_notin_expEntries (loc : PathS) (cs : List Entry) :
    loc ++ [specHtml indexName] ∉ expEntries loc cs := by
  intro h
  rw [mem_expEntries] at h
  obtain ⟨c, _, _, hni, hp⟩ := h
  obtain ⟨r, e, s⟩ := expEntry_shape c loc _ hp
  have hr := List.append_cancel_left e
  subst hr
  exact shape_index hni s

/-- a concatenation of lists is duplicate-free when each list is and no two of them share a member -/
theorem nodup_flatMap {α β : Type} {f : α → List β} {l : List α} (h1 : ∀ a ∈ l, (f a).Nodup)
    (h2 : l.Pairwise (fun a b => ∀ x ∈ f a, x ∉ f b)) : (l.flatMap f).Nodup := by
  induction l with
  | nil => exact List.nodup_nil
  | cons a l ih =>
    rw [List.pairwise_cons] at h2
    rw [List.flatMap_cons, List.nodup_append]
    refine ⟨h1 a List.mem_cons_self, ih (fun b hb => h1 b (List.mem_cons_of_mem _ hb)) h2.2, ?_⟩
    intro x hx y hy hxy
    obtain ⟨b, hb, hyb⟩ := List.mem_flatMap.mp hy
    exact h2.1 b hb x hx (hxy ▸ hyb)

theorem expEntries_nodup (loc : PathS) (cs : List Entry) (hn : (names cs).Nodup)
    (h : ∀ c ∈ cs, (expEntry loc c).Nodup) : (expEntries loc cs).Nodup := by
  rw [expEntries_eq_flatMap]
  apply nodup_flatMap
  · intro c hc
    split
    · exact List.nodup_nil
    · exact h c hc
  · refine (List.pairwise_map.mp hn).imp ?_
    intro c d hne p hc hd
    split at hc
    · cases hc
    · split at hd
      · cases hd
      · obtain ⟨r₁, e₁, s₁⟩ := expEntry_shape c loc p hc
        obtain ⟨r₂, e₂, s₂⟩ := expEntry_shape d loc p hd
        cases List.append_cancel_left (e₁.symm.trans e₂)
        exact shape_disjoint hne s₁ s₂

theorem expDir_nodup (loc : PathS) (cs : List Entry) (hn : (names cs).Nodup)
    (h : ∀ c ∈ cs, (expEntry loc c).Nodup) : (expDir loc cs).Nodup := by
  unfold expDir
  split
  · exact List.nodup_cons.mpr ⟨index_notin_expEntries loc cs, expEntries_nodup loc cs hn h⟩
  · exact List.nodup_nil

theorem expEntry_nodup (e : Entry) : ∀ loc, wfEntry e = true → (expEntry loc e).Nodup := by
  induction e using entry_ind_aux with
  | hf n m =>
    intro loc _
    simp only [expEntry]
    split <;> simp
  | hd n cs ih =>
    intro loc hwf
    simp only [wfEntry, Bool.and_eq_true, decide_eq_true_eq] at hwf
    rw [expEntry_dir]
    exact expDir_nodup _ cs hwf.1 (fun c hc => ih c hc _ (wfEntries_iff.mp hwf.2 c hc))

theorem resPaths_dirRes (v : Variant) (pc : Option (List Str)) (loc : PathS) (src : Str)
    (hier : List (PathS × Str)) (cs : List Entry) :
    resPaths (dirRes v pc loc src hier cs) = [] ∨
    ∃ ord o hier', resPaths (dirRes v pc loc src hier cs) =
      (loc ++ [htmlName indexName]) ::
        (preorder.preorderL ((mergedList ord (names cs)).filterMap
          (pageAt v pc (entriesRes v o hier' loc cs cs)))).map Node.path := by
  unfold dirRes
  cases indexMeta cs with
  | none => exact Or.inl rfl
  | some mt =>
    simp only [walk_eq]
    cases List.findSome? _ _ with
    | some q => exact Or.inl rfl
    | none => exact Or.inr ⟨_, _, _, rfl⟩

/-- with plain stems the pages of an entry have the same shape as the expected ones - whatever the
    variant, `ordered_subpage`, `copy_subdir`, and whether or not something below aborts -/
theorem resPaths_shape (v : Variant) (e : Entry) :
    ∀ own hier loc sibs p, plainStems e = true → p ∈ resPaths (entryRes v own hier loc sibs e) →
      ∃ r, p = loc ++ r ∧ Shape e r := by
  induction e using entry_ind_aux with
  | hf n m =>
    intro own hier loc sibs p hpl hp
    rw [resPaths_file] at hp
    split at hp
    · rename_i h
      simp only [Bool.and_eq_true] at h
      simp only [plainStems, h.1, Bool.not_true, Bool.false_or, beq_iff_eq] at hpl
      rw [hpl, List.mem_singleton] at hp
      exact ⟨[specHtml n], hp, h.1, rfl⟩
    · cases hp
  | hd n cs ih =>
    intro own hier loc sibs p hpl hp
    simp only [plainStems] at hpl
    rw [entryRes_dir] at hp
    rcases resPaths_dirRes v (some own) (loc ++ [n]) n hier cs with h | ⟨ord, o, hier', h⟩
    · rw [h] at hp
      cases hp
    · rw [h, List.mem_cons, mem_preorderL_paths] at hp
      rcases hp with h | ⟨s, hs, hps⟩
      · exact ⟨[n, htmlName indexName], by rw [h]; simp, [htmlName indexName], by simp, rfl⟩
      · obtain ⟨x, _, hpa⟩ := List.mem_filterMap.mp hs
        obtain ⟨c, hc, _, hr⟩ := pageAt_some hpa
        obtain ⟨r, er, sr⟩ := ih c hc _ _ _ _ p (plainStemsL_iff.mp hpl c hc) (by rw [hr]; exact hps)
        exact ⟨n :: r, by rw [er]; simp, r, shape_ne_nil sr, rfl⟩

section Directory
variable {v : Variant} {pc : Option (List Str)} {o : List Str} {hier : List (PathS × Str)} {loc : PathS}
  {src : Str} {cs : List Entry} {l : List Str}

/-- the sub-pages collected by the loop over a list of *distinct* names (which `mergedfilelist` is,
    `mergedList_nodup`: a name requested twice, or requested and also listed, is visited once) -/
theorem body_nodup (hl : l.Nodup)
    (hp : ∀ c ∈ cs, plainStems c = true)
    (ih : ∀ c ∈ cs, ∀ o hier, (resPaths (entryRes v o hier loc cs c)).Nodup) :
    ((preorder.preorderL (l.filterMap (pageAt v pc (entriesRes v o hier loc cs cs)))).map Node.path).Nodup := by
  rw [preorderL_eq_flatMap, List.map_flatMap]
  apply nodup_flatMap
  · intro s hs
    obtain ⟨x, _, hpa⟩ := List.mem_filterMap.mp hs
    obtain ⟨c, hc, _, hr⟩ := pageAt_some hpa
    have h := ih c hc o hier
    rw [hr] at h
    exact h
  · rw [List.pairwise_filterMap]
    refine List.Pairwise.imp ?_ hl
    intro x y hxy s hs s' hs' p hps hps'
    obtain ⟨c, hc, hcn, hr⟩ := pageAt_some hs
    obtain ⟨c', hc', hcn', hr'⟩ := pageAt_some hs'
    obtain ⟨r₁, e₁, s₁⟩ := resPaths_shape v c _ _ _ _ p (hp c hc) (by rw [hr]; exact hps)
    obtain ⟨r₂, e₂, s₂⟩ := resPaths_shape v c' _ _ _ _ p (hp c' hc') (by rw [hr']; exact hps')
    have hr : r₁ = r₂ := List.append_cancel_left (e₁.symm.trans e₂)
    subst hr
    exact shape_disjoint (by rw [hcn, hcn']; exact hxy) s₁ s₂

theorem index_notin_body (hl : indexName ∉ l)
    (hp : ∀ c ∈ cs, plainStems c = true) :
    loc ++ [htmlName indexName] ∉
      (preorder.preorderL (l.filterMap (pageAt v pc (entriesRes v o hier loc cs cs)))).map Node.path := by
  intro h
  obtain ⟨s, hs, hps⟩ := (mem_preorderL_paths _ _).mp h
  obtain ⟨x, hx, hpa⟩ := List.mem_filterMap.mp hs
  obtain ⟨c, hc, hcn, hr⟩ := pageAt_some hpa
  obtain ⟨r, er, sr⟩ := resPaths_shape v c _ _ _ _ _ (hp c hc) (by rw [hr]; exact hps)
  have hr' := List.append_cancel_left er
  subst hr'
  rw [htmlName_index] at sr
  exact shape_index (fun heq => hl (by rw [← heq, hcn]; exact hx)) sr

theorem dirRes_nodup (hn : (names cs).Nodup)
    (hp : ∀ c ∈ cs, plainStems c = true)
    (ih : ∀ c ∈ cs, ∀ o hier, (resPaths (entryRes v o hier loc cs c)).Nodup) :
    (resPaths (dirRes v pc loc src hier cs)).Nodup := by
  rcases resPaths_dirRes v pc loc src hier cs with h | ⟨ord, o, hier', h⟩
  · rw [h]
    exact List.nodup_nil
  · rw [h]
    exact List.nodup_cons.mpr
      ⟨index_notin_body (fun h => ((mem_mergedList _ _ _ hn).mp h).1 rfl) hp,
       body_nodup (mergedList_nodup _ _ hn) hp ih⟩

end Directory

theorem entryRes_nodup (v : Variant) (e : Entry) :
    ∀ own hier loc sibs, wfEntry e = true → plainStems e = true →
      (resPaths (entryRes v own hier loc sibs e)).Nodup := by
  induction e using entry_ind_aux with
  | hf n m =>
    intro own hier loc sibs _ _
    rw [resPaths_file]
    split <;> simp
  | hd n cs ih =>
    intro own hier loc sibs hwf hpl
    simp only [wfEntry, Bool.and_eq_true, decide_eq_true_eq] at hwf
    simp only [plainStems] at hpl
    rw [entryRes_dir]
    exact dirRes_nodup hwf.1 (plainStemsL_iff.mp hpl) (fun c hc o hier =>
      ih c hc o hier _ _ (wfEntries_iff.mp hwf.2 c hc) (plainStemsL_iff.mp hpl c hc))

theorem pageOf_concat (loc : PathS) (n : Str) : pageOf (loc ++ [n]) = loc ++ [specHtml n] := by
  simp [pageOf]

mutual
theorem expEntry_eq_map (loc : PathS) : (e : Entry) → expEntry loc e = (srcEntry loc e).map pageOf
  | .file n m => by
    simp only [expEntry, srcEntry]
    split
    · rw [List.map_cons, pageOf_concat]
      rfl
    · rfl
  | .dir n cs => by
    simp only [expEntry, srcEntry]
    split
    · have h : loc ++ [n, indexName] = (loc ++ [n]) ++ [indexName] := (List.append_assoc loc [n] [indexName]).symm
      rw [List.map_cons, h, pageOf_concat, expEntries_eq_map (loc ++ [n]) cs, List.append_assoc]
      rfl
    · rfl
theorem expEntries_eq_map (loc : PathS) : (l : List Entry) → expEntries loc l = (srcEntries loc l).map pageOf
  | [] => rfl
  | e :: es => by
    simp only [expEntries, srcEntries, List.map_append, expEntries_eq_map loc es]
    split
    · rfl
    · rw [expEntry_eq_map loc e]
end

theorem expPages_eq_map (cs : List Entry) : expPages cs = (titledFiles cs).map pageOf := by
  unfold expPages titledFiles
  split
  · have h : ([indexName] : PathS) = [] ++ [indexName] := rfl
    rw [List.map_cons, h, pageOf_concat, expEntries_eq_map]
    rfl
  · rfl

theorem inj_of_nodup_map {α β : Type} (f : α → β) (l : List α) (h : (l.map f).Nodup) :
    ∀ a ∈ l, ∀ b ∈ l, f a = f b → a = b := by
  induction l with
  | nil => intro a ha; cases ha
  | cons x xs ih =>
    simp only [List.map_cons, List.nodup_cons, List.mem_map, not_exists, not_and] at h
    intro a ha b hb hab
    rcases List.mem_cons.mp ha with rfl | ha'
    · rcases List.mem_cons.mp hb with rfl | hb'
      · rfl
      · exact absurd hab.symm (h.1 b hb')
    · rcases List.mem_cons.mp hb with rfl | hb'
      · exact absurd hab (h.1 a ha')
      · exact ih h.2 a ha' b hb' hab

theorem nodup_of_nodup_map {α β : Type} (f : α → β) (l : List α) (h : (l.map f).Nodup) : l.Nodup :=
  List.Pairwise.of_map f (fun _ _ hne e => hne (congrArg f e)) h

end Ford.PT
