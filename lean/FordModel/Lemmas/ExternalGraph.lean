/-
  Lemmas about the graph-node part of the external-project model (FordModel/ExternalGraph.lean):
  `str(obj)` of an External* object read back by `parseLink` (HYPERLINK_RE).
-/
import FordModel.ExternalGraph
namespace Ford.Ext
open Ford

theorem dropPrefix_append (p s : Str) : dropPrefix (p ++ s) p = some s := by
  induction p with
  | nil => cases s <;> rfl
  | cons c cs ih => simp only [List.cons_append, dropPrefix, beq_self_eq_true, if_true, ih]

theorem dropLinkClose_append (n : Str) : dropLinkClose (n ++ linkClose) = some n := by
  simp [dropLinkClose, linkClose]

/-- HYPERLINK_RE takes out of `<a href='U'>N</a>` exactly `U` and `N` (no quote in `U`) -/
theorem parseLink_link (u n : Str) (hu : u.isEmpty = false) (hq : ∀ c ∈ u, (c != '\'') = true) :
    parseLink (linkOpen ++ u ++ ['\'', '>'] ++ n ++ linkClose) = some (u, n) := by
  have e : linkOpen ++ u ++ ['\'', '>'] ++ n ++ linkClose = linkOpen ++ (u ++ '\'' :: ('>' :: (n ++ linkClose))) := by
    simp only [List.append_assoc, List.cons_append, List.nil_append]
  rw [e, parseLink, dropPrefix_append]
  simp [List.takeWhile_append_of_pos hq, List.dropWhile_append_of_pos hq, dropLinkClose_append, hu]

theorem plainLink_spec (u n : Str) (h : plainLink u n = true) :
    u.isEmpty = false ∧ (∀ c ∈ u, (c != '\'') = true) ∧ n.isEmpty = false := by
  simp only [plainLink, Bool.and_eq_true, Bool.not_eq_true', List.all_eq_true] at h
  exact ⟨h.1.1.1, fun c hc => (h.1.1.2 c hc).1.1, h.1.2⟩

/-- what `__str__` writes for an External* object with a URL, HYPERLINK_RE reads back -/
theorem parseLink_strOfExternal (u n : Str) (h : plainLink u n = true) :
    parseLink (strOfExternal n (some u)) = some (u, n) := by
  obtain ⟨hu, hq, hn⟩ := plainLink_spec u n h
  simp only [strOfExternal, hu, hn, Bool.false_eq_true, if_false]
  exact parseLink_link u n hu hq

/-- The node of an imported entity keeps its URL under every test that lets pass both a string made from an
    object and an object with `external_url` - whichever of the two the class list makes of the entity. -/
theorem nodeUrlWith_external (cond : NodeCond) (stringified : List Str) (parentDir cls name url : Str)
    (h : plainLink url name = true)
    (hcond : ∀ v, evalCond { fromstr := v, hasExt := !v, url := url } cond = true) :
    nodeUrlWith cond stringified parentDir
      { external := true, cls := cls, name := name, url := some url, visible := true } = some url := by
  obtain ⟨hu, _, _⟩ := plainLink_spec url name h
  unfold nodeUrlWith
  have h0 : evalCond { fromstr := false, hasExt := true, url := url } cond = true := hcond false
  have h1 : evalCond { fromstr := true, hasExt := false, url := url } cond = true := hcond true
  cases stringified.contains cls
  · simp [hu, h0]
  · simp [hu, parseLink_strOfExternal url name h, h1]

end Ford.Ext
