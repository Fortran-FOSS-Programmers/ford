import FordModel.Graph
import FordModel.Lemmas.Graph
/-!
  Node creation (`create`): the inverse sets mirror the forward sets, and the forward sets hold
  exactly what `targets` declares; the direction of the edges of the per-class `add_node`; the
  work list of `get_call_nodes` against `Nearest`; the rows of the interface decision table.
  (`WF`, the shape of an edge of `add_node`, is from Lemmas/Graph, where `add_nodes` needs it.)
-/
namespace Ford.Graph

def Consistent (nd : NodeData) : Prop :=
  ∀ a r t, (⟨a, r, t⟩ : Link) ∈ nd.fwd ↔ (⟨t, r, a⟩ : Link) ∈ nd.inv

theorem mem_insertLink {x l : Link} {ls : List Link} : x ∈ insertLink l ls ↔ x = l ∨ x ∈ ls := by
  unfold insertLink
  by_cases h : l ∈ ls
  · simp only [List.contains_eq_mem, h, decide_true, if_true]
    constructor
    · exact Or.inr
    · rintro (rfl | h') <;> assumption
  · simp [h, or_comm]

theorem link_consistent {nd : NodeData} (h : Consistent nd) (a : Node) (rt : Rel × Node) :
    Consistent (link nd a rt) := by
  intro x r t
  simp only [link, mem_insertLink, Link.mk.injEq]
  rw [h x r t]
  constructor
  · rintro (⟨rfl, rfl, rfl⟩ | h') <;> simp_all
  · rintro (⟨rfl, rfl, rfl⟩ | h') <;> simp_all

theorem foldl_link_consistent (ts : List (Rel × Node)) (e : Node) (nd : NodeData) (h : Consistent nd) :
    Consistent (ts.foldl (fun nd rt => link nd e rt) nd) := by
  induction ts generalizing nd with
  | nil => exact h
  | cons t r ih => exact ih _ (link_consistent h e t)

theorem foldl_link_created (ts : List (Rel × Node)) (e : Node) (nd : NodeData) :
    (ts.foldl (fun nd rt => link nd e rt) nd).created = nd.created := by
  induction ts generalizing nd with
  | nil => rfl
  | cons t r ih => rw [List.foldl_cons, ih]; rfl

theorem create_consistent (tab : Table) (fuel : Nat) (stack : List Node) (nd nd' : NodeData)
    (h : Consistent nd) (hc : create tab fuel stack nd = some nd') : Consistent nd' := by
  fun_induction create tab fuel stack nd
  case case1 => simp at hc; exact hc ▸ h
  case case2 => simp at hc
  case case3 ih => exact ih h hc
  case case4 ih =>
    apply ih _ hc
    apply foldl_link_consistent
    intro a r t; exact h a r t

theorem consistent_empty : Consistent {} := by intro a r t; simp

/-- `fwdOf` and `invOf` read the two link lists in the same way -/
theorem mem_linksOf {ls : List Link} {a t : Node} {r : Rel} :
    t ∈ (ls.filter fun l => l.src == a && l.rel == r).map Link.dst ↔ (⟨a, r, t⟩ : Link) ∈ ls := by
  simp only [List.mem_map, List.mem_filter, Bool.and_eq_true, beq_iff_eq]
  constructor
  · rintro ⟨⟨s, r', d⟩, ⟨hm, rfl, rfl⟩, rfl⟩
    exact hm
  · intro h; exact ⟨⟨a, r, t⟩, ⟨h, rfl, rfl⟩, rfl⟩

theorem mem_fwdOf {nd : NodeData} {a t : Node} {r : Rel} : t ∈ fwdOf nd a r ↔ (⟨a, r, t⟩ : Link) ∈ nd.fwd :=
  mem_linksOf

theorem mem_invOf {nd : NodeData} {a t : Node} {r : Rel} : a ∈ invOf nd t r ↔ (⟨t, r, a⟩ : Link) ∈ nd.inv :=
  mem_linksOf

theorem inv_iff_fwd {nd : NodeData} (h : Consistent nd) (a t : Node) (r : Rel) :
    a ∈ invOf nd t r ↔ t ∈ fwdOf nd a r := by
  rw [mem_invOf, mem_fwdOf, h a r t]

theorem mem_map_pair {l : List Node} {f : Node → Edge} {c : Node} {e : Edge} :
    (c, e) ∈ l.map (fun u => (u, f u)) ↔ c ∈ l ∧ e = f c := by
  simp only [List.mem_map, Prod.mk.injEq]
  constructor
  · rintro ⟨y, hy, rfl, rfl⟩; exact ⟨hy, rfl⟩
  · rintro ⟨h, rfl⟩; exact ⟨c, h, rfl, rfl⟩

/-- the edges `add_node` of the class yields leave the node (else: they enter it) -/
def GClass.outward : GClass → Bool
  | .usedBy | .file | .afferent | .inheritedBy | .calledBy => false
  | _ => true

theorem succOf_edge {tab : Table} {nd : NodeData} {c : GClass} {n x : Node} {e : Edge}
    (h : (x, e) ∈ succOf tab nd c n) :
    e.tail = (if c.outward then n else x) ∧ e.head = (if c.outward then x else n) := by
  cases c
  case calledBy =>
    simp only [succOf] at h
    split at h
    · cases h
    · simp only [List.mem_append, mem_map_pair] at h
      obtain ⟨_, rfl⟩ | ⟨_, rfl⟩ := h <;> exact ⟨rfl, rfl⟩
  all_goals
    simp only [succOf, List.mem_append, mem_map_pair] at h
    first
      | (obtain ⟨_, rfl⟩ | ⟨_, rfl⟩ := h <;> exact ⟨rfl, rfl⟩)
      | (obtain ⟨_, rfl⟩ := h; exact ⟨rfl, rfl⟩)

theorem succOf_wf (tab : Table) (nd : NodeData) (c : GClass) : WF (succOf tab nd c) := by
  intro n x e h
  have he := succOf_edge h
  cases ho : c.outward
  · right; simpa [ho] using he
  · left; simpa [ho] using he

/-- all the edges one `add_node` call yields are oriented the same way: they all leave the node
    (forward classes) or all enter it ("by" classes, project-wide file graph) -/
theorem succOf_oriented (tab : Table) (nd : NodeData) (c : GClass) (n : Node) :
    (∀ p ∈ succOf tab nd c n, p.2.tail = n) ∨ (∀ p ∈ succOf tab nd c n, p.2.head = n) := by
  cases ho : c.outward
  · right; intro p hp; simpa [ho] using (succOf_edge hp).2
  · left; intro p hp; simpa [ho] using (succOf_edge hp).1

/-- `Nearest tab c x`: `x` is shown for the call `c`: `c` itself when it is kept, otherwise
    what is shown for the calls / bindings of `c`. -/
inductive Nearest (tab : Table) : Node → Node → Prop
  | here {c : Node} : keep tab c = true → Nearest tab c c
  | skip {c d x : Node} : keep tab c = false → d ∈ callChildren tab c → Nearest tab d x → Nearest tab c x

theorem callNodesAux_sound (tab : Table) (P : Node → Prop) (fuel : Nat) (stack vis res r : List Node)
    (hres : ∀ x ∈ res, P x) (hst : ∀ c ∈ stack, ∀ x, Nearest tab c x → P x)
    (h : callNodesAux tab fuel stack vis res = some r) : ∀ x ∈ r, P x := by
  fun_induction callNodesAux tab fuel stack vis res
  case case1 => simp at h; exact h ▸ hres
  case case2 => simp at h
  case case3 ih => exact ih hres (fun c hc => hst c (List.mem_cons_of_mem _ hc)) h
  case case4 f c rest vis res hv hk ih =>
    refine ih ?_ (fun d hd => hst d (List.mem_cons_of_mem _ hd)) h
    intro x hx
    rcases List.mem_append.1 hx with hx | hx
    · exact hres x hx
    · simp at hx; subst hx; exact hst x (List.mem_cons_self ..) x (.here hk)
  case case5 f c rest vis res hv hk ih =>
    refine ih hres ?_ h
    intro d hd x hn
    rcases List.mem_append.1 hd with hd | hd
    · exact hst c (List.mem_cons_self ..) x (.skip (by simpa using hk) hd hn)
    · exact hst d (List.mem_cons_of_mem _ hd) x hn

/-- What the work list keeps true: a visited call that is kept is in the result (`kept`); the calls and
    bindings of a visited call that is skipped are visited or still waiting (`closed`). -/
structure CallInv (tab : Table) (stack vis res : List Node) : Prop where
  kept : ∀ v ∈ vis, keep tab v = true → v ∈ res
  closed : ∀ v ∈ vis, keep tab v = false → ∀ d ∈ callChildren tab v, d ∈ vis ∨ d ∈ stack

/-- a step of the work list loses nothing of what was visited or is waiting: the popped call is
    (or gets) visited, the rest keeps waiting -/
theorem seen_mono {vis vis' rest stack' : List Node} {c : Node} (hv : ∀ d ∈ vis, d ∈ vis') (hc : c ∈ vis')
    (hr : ∀ d ∈ rest, d ∈ stack') : ∀ d, d ∈ vis ∨ d ∈ c :: rest → d ∈ vis' ∨ d ∈ stack'
  | d, .inl h => .inl (hv d h)
  | d, .inr h => (List.mem_cons.1 h).elim (fun e => .inl (e ▸ hc)) fun h => .inr (hr d h)

theorem callNodesAux_complete (tab : Table) (fuel : Nat) (stack vis res r : List Node)
    (inv : CallInv tab stack vis res)
    (h : callNodesAux tab fuel stack vis res = some r) :
    ∀ c x, (c ∈ vis ∨ c ∈ stack) → Nearest tab c x → x ∈ r := by
  fun_induction callNodesAux tab fuel stack vis res
  case case1 vis res =>
    cases h
    intro c x hc hn
    have hcv : c ∈ vis := by simpa using hc
    clear hc
    induction hn with
    | here hk => exact inv.kept _ hcv hk
    | skip hk hd _ ih => exact ih (by simpa using inv.closed _ hcv hk _ hd)
  case case2 => cases h
  case case3 f c rest vis res hv ih =>
    -- `c` was visited before: it is only popped
    have mono := seen_mono (fun _ h => h) (List.contains_iff_mem.1 hv) (fun _ h => h) (rest := rest)
    exact fun c' x hc' => ih ⟨inv.kept, fun v hv hk d hd => mono d (inv.closed v hv hk d hd)⟩ h c' x (mono c' hc')
  case case4 f c rest vis res hv hk ih =>
    -- `c` is kept: it goes into the result and counts as visited
    have mono := seen_mono (fun _ => List.mem_cons_of_mem c) (List.mem_cons_self ..) (fun _ h => h)
      (vis := vis) (rest := rest)
    refine fun c' x hc' => ih ⟨fun v hvv hkv => ?_, fun v hvv hkv d hd => ?_⟩ h c' x (mono c' hc')
    · rcases List.mem_cons.1 hvv with rfl | h'
      · exact List.mem_append_right _ (List.mem_singleton_self v)
      · exact List.mem_append_left _ (inv.kept v h' hkv)
    · rcases List.mem_cons.1 hvv with rfl | h'
      · exact absurd hk (by simp [hkv])
      · exact mono d (inv.closed v h' hkv d hd)
  case case5 f c rest vis res hv hk ih =>
    -- `c` is skipped: its calls and bindings wait in its place
    have mono := seen_mono (fun _ => List.mem_cons_of_mem c) (List.mem_cons_self ..)
      (fun _ => List.mem_append_right (callChildren tab c)) (vis := vis) (rest := rest)
    refine fun c' x hc' => ih ⟨fun v hvv hkv => ?_, fun v hvv hkv d hd => ?_⟩ h c' x (mono c' hc')
    · rcases List.mem_cons.1 hvv with rfl | h'
      · exact absurd hkv hk
      · exact inv.kept v h' hkv
    · rcases List.mem_cons.1 hvv with rfl | h'
      · exact Or.inr (List.mem_append_left _ hd)
      · exact mono d (inv.closed v h' hkv d hd)

theorem callNodesAux_nearest {tab : Table} {fuel : Nat} {calls r : List Node}
    (h : callNodesAux tab fuel calls [] [] = some r) (x : Node) :
    x ∈ r ↔ ∃ c ∈ calls, Nearest tab c x :=
  ⟨callNodesAux_sound tab (fun x => ∃ c ∈ calls, Nearest tab c x) fuel calls [] [] r
      (fun _ hx => nomatch hx) (fun c hc _ hx => ⟨c, hc, hx⟩) h x,
    fun ⟨c, hc, hn⟩ => callNodesAux_complete tab fuel calls [] [] r
      ⟨fun _ hv => (nomatch hv), fun _ hv => (nomatch hv)⟩ h c x (Or.inr hc) hn⟩

def LinksExact (tab : Table) (nd : NodeData) : Prop :=
  ∀ a r t, (⟨a, r, t⟩ : Link) ∈ nd.fwd ↔ a ∈ nd.created ∧ (r, t) ∈ targets tab a

theorem linksExact_empty (tab : Table) : LinksExact tab {} := by intro a r t; simp

theorem foldl_link_fwd (ts : List (Rel × Node)) (e : Node) (nd : NodeData) (x : Link) :
    x ∈ (ts.foldl (fun nd rt => link nd e rt) nd).fwd ↔ x ∈ nd.fwd ∨ ∃ rt ∈ ts, x = ⟨e, rt.1, rt.2⟩ := by
  induction ts generalizing nd with
  | nil => simp
  | cons t r ih =>
    rw [List.foldl_cons, ih]
    simp only [link, mem_insertLink, List.mem_cons]
    constructor
    · rintro ((rfl | h) | ⟨rt, hrt, rfl⟩)
      · exact Or.inr ⟨t, Or.inl rfl, rfl⟩
      · exact Or.inl h
      · exact Or.inr ⟨rt, Or.inr hrt, rfl⟩
    · rintro (h | ⟨rt, (rfl | hrt), rfl⟩)
      · exact Or.inl (Or.inr h)
      · exact Or.inl (Or.inl rfl)
      · exact Or.inr ⟨rt, hrt, rfl⟩

theorem create_exact (tab : Table) (fuel : Nat) (stack : List Node) (nd nd' : NodeData)
    (h : LinksExact tab nd) (hc : create tab fuel stack nd = some nd') : LinksExact tab nd' := by
  fun_induction create tab fuel stack nd
  case case1 => simp at hc; exact hc ▸ h
  case case2 => simp at hc
  case case3 ih => exact ih h hc
  case case4 f e rest nd hnot ts ih =>
    apply ih _ hc
    intro a r t
    rw [foldl_link_fwd, foldl_link_created]
    simp only [List.mem_append, List.mem_singleton]
    rw [h a r t]
    constructor
    · rintro (⟨ha, ht⟩ | ⟨rt, hrt, heq⟩)
      · exact ⟨Or.inl ha, ht⟩
      · simp only [Link.mk.injEq] at heq
        obtain ⟨rfl, rfl, rfl⟩ := heq
        exact ⟨Or.inr rfl, hrt⟩
    · rintro ⟨ha | rfl, ht⟩
      · exact Or.inl ⟨ha, ht⟩
      · exact Or.inr ⟨(r, t), ht, rfl⟩

/-- every entity handed to `register` / `get_node` has a node afterwards (and nodes are never removed) -/
theorem create_created (tab : Table) (fuel : Nat) (stack : List Node) (nd nd' : NodeData)
    (hc : create tab fuel stack nd = some nd') :
    (∀ x ∈ nd.created, x ∈ nd'.created) ∧ ∀ x ∈ stack, x ∈ nd'.created := by
  fun_induction create tab fuel stack nd
  case case1 => simp at hc; subst hc; simp
  case case2 => simp at hc
  case case3 f e rest nd hin ih =>
    obtain ⟨h1, h2⟩ := ih hc
    refine ⟨h1, fun x hx => ?_⟩
    rcases List.mem_cons.1 hx with rfl | hx
    · exact h1 _ (by simpa using hin)
    · exact h2 x hx
  case case4 f e rest nd hnot ts ih =>
    obtain ⟨h1, h2⟩ := ih hc
    rw [foldl_link_created] at h1
    refine ⟨fun x hx => h1 x (List.mem_append.2 (Or.inl hx)), fun x hx => ?_⟩
    rcases List.mem_cons.1 hx with rfl | hx
    · exact h1 _ (by simp)
    · exact h2 x (List.mem_append.2 (Or.inr hx))

theorem ruleOfIn_all {rules : List C13Gen.IfaceRule} {P : C13Gen.IfaceRule → Prop}
    (hall : ∀ r ∈ rules, P r) (hdef : P { name := "" }) (c : Nat) : P (ruleOfIn rules c) := by
  rw [ruleOfIn, List.getD_eq_getElem?_getD]
  cases h : rules[c]? with
  | none => exact hdef
  | some r => exact hall r (List.mem_of_getElem? h)

end Ford.Graph
