/-
  C11 - lemmas about the warnings of `convert_link` (FordModel/LinkWarn.lean).
-/
import FordModel.LinkWarn
import FordModel.Lemmas.Links
import FordModel.Lemmas.LinkSyntax
namespace Ford.Links
open Ford

/-- without a context both cascades are the project-wide part -/
theorem lookupW_fst_none (P : Project) (r : Ref) : (lookupW P none r).1 = lookup P none r := by
  unfold lookupW lookup
  simp only [Option.bind_none]
  split <;> rename_i h <;> simp only [h]
  cases r.child with
  | none => rfl
  | some ch =>
    -- `simp only []` reduces the `match` on the constructor just substituted
    simp only []
    split <;> rename_i h <;> simp only [h]

theorem lookupW_fst (P : Project) (ctx : Option Nat) (r : Ref) : (lookupW P ctx r).1 = lookup P ctx r := by
  unfold lookupW lookup
  cases ctx.bind P.get with
  | none => exact lookupW_fst_none P r
  | some c =>
    simp only []
    cases localLookup P c r with
    | error e => rfl
    | ok v =>
      cases v with
      | some i => rfl
      -- nothing near the context: both go on as if there were no context
      | none => exact lookupW_fst_none P r

theorem outOf_lookup (env : Env) (P : Project) (ctx : Option Nat) (path : Option Path) (r : Ref) :
    outOf env P ctx path r (lookup P ctx r) = convertLink env P ctx path r := by
  unfold outOf convertLink
  cases lookup P ctx r with
  | error e => rfl
  | ok v =>
    cases v with
    | none => rfl
    | some id =>
      simp only []
      cases P.get id with
      | none => rfl
      | some e =>
        simp only []
        cases hrefOf env (currentPath env P ctx path) e <;> rfl

theorem convertLinkW_fst (env : Env) (P : Project) (ctx : Option Nat) (path : Option Path) (r : Ref) :
    (convertLinkW env P ctx path r).1 = convertLink env P ctx path r := by
  simp [convertLinkW, lookupW_fst, outOf_lookup]

/-- the possible shapes of what one reference prints -/
theorem lookupW_cases (P : Project) (ctx : Option Nat) (r : Ref) :
    ((lookupW P ctx r).2 = [] ∧ lookup P ctx r ≠ .ok none) ∨
    ((lookupW P ctx r).2 = [.notFound r.render r.name] ∧ r.child = none ∧ lookup P ctx r = .ok none) ∨
    (∃ ch, r.child = some ch ∧
      (((lookupW P ctx r).2 = [.childNotFound r.render ch r.name] ∧ lookup P ctx r ≠ .ok none) ∨
       ((lookupW P ctx r).2 = [.childNotFound r.render ch r.name, .notFound r.render r.name] ∧
          lookup P ctx r = .ok none))) := by
  rw [← lookupW_fst]
  unfold lookupW
  simp only []
  -- near the context: an exception, a hit, or nothing
  split
  · exact Or.inl ⟨rfl, nofun⟩
  · exact Or.inl ⟨rfl, nofun⟩
  · -- project-wide, with the item part: an exception, a hit, or nothing
    split
    · exact Or.inl ⟨rfl, nofun⟩
    · exact Or.inl ⟨rfl, nofun⟩
    · cases hch : r.child with
      | none => exact Or.inr (Or.inl ⟨rfl, rfl, rfl⟩)
      | some ch =>
        refine Or.inr (Or.inr ⟨ch, rfl, ?_⟩)
        simp only []
        -- the fall-back to the component alone
        cases hpf : projectFind P r.name r.kind none none with
        | error e => exact Or.inl ⟨rfl, nofun⟩
        | ok v =>
          cases v with
          | none => exact Or.inr ⟨rfl, rfl⟩
          | some i => exact Or.inl ⟨rfl, nofun⟩

theorem lookup_get (P : Project) (ctx : Option Nat) (r : Ref) (id : Nat) (h : lookup P ctx r = .ok (some id)) :
    ∃ e, P.get id = some e := by
  rcases (lookup_listed P ctx r id h).2 with hn | ⟨_, _, hn⟩ <;>
    exact (nameMatches_get P _ id hn).imp fun _ he => he.1

theorem convertLink_text_iff (env : Env) (P : Project) (ctx : Option Nat) (path : Option Path) (r : Ref) :
    (∃ t, convertLink env P ctx path r = .text t) ↔ lookup P ctx r = .ok none := by
  constructor
  · rintro ⟨t, h⟩
    unfold convertLink at h
    split at h
    · cases h
    · assumption
    · rename_i id hl
      obtain ⟨e, he⟩ := lookup_get P ctx r id hl
      simp only [he] at h
      split at h <;> cases h
  · intro h
    exact ⟨r.name, by simp [convertLink, h]⟩

theorem warnSegs_append_plain (env : Env) (P : Project) (ctx : Option Nat) (path : Option Path) (s : Str) (l : List Seg) :
    warnSegs env P ctx path (flush s ++ l) = warnSegs env P ctx path l := by
  unfold flush
  split <;> simp [warnSegs]

theorem warnSegs_parts (env : Env) (P : Project) (ctx : Option Nat) (path : Option Path)
    (parts : List (Str × Ref)) (post : Str)
    (hok : ∀ p ∈ parts, ∀ e, convertLink env P ctx path p.2 ≠ .err e) :
    warnSegs env P ctx path (partsSegs parts post) =
      parts.flatMap (fun p => (convertLinkW env P ctx path p.2).2) := by
  induction parts with
  | nil => simpa [partsSegs, warnSegs] using warnSegs_append_plain env P ctx path post.reverse []
  | cons p rest ih =>
    obtain ⟨pre, r⟩ := p
    have h1 := hok (pre, r) (by simp)
    have ih' := ih (fun q hq => hok q (by simp [hq]))
    simp only [partsSegs, warnSegs_append_plain, warnSegs, List.flatMap_cons]
    rw [convertLinkW_fst]
    cases hc : convertLink env P ctx path r with
    | err e => exact absurd hc (h1 e)
    | link t h => simp [ih']
    | text t => simp [ih']

end Ford.Links
