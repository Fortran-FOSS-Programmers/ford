/-
  Lemmas about the console-markup model (FordModel/Markup.lean): `rich.markup.escape` followed by
  `rich.markup.render` shows the text it was given.
-/
import FordModel.Markup
namespace Ford.Markup
open Ford

theorem bs_succ (n : Nat) : bs (n + 1) = '\\' :: bs n := rfl

theorem bs_zero : bs 0 = [] := rfl

theorem bs_add (a b : Nat) : bs a ++ bs b = bs (a + b) := by
  simp [bs, List.replicate_append_replicate]

theorem bs_snoc (n : Nat) (x : Str) : bs n ++ '\\' :: x = bs (n + 1) ++ x := by
  induction n with
  | zero => rfl
  | succ m ih => simp [bs_succ, ih]

theorem find_bs (n : Nat) : (bs n).find? isBr = none := by
  induction n with
  | zero => rfl
  | succ m ih => simp [bs_succ, isBr, ih]

theorem isTagStart_ne_bs {d : Char} (h : isTagStart d = true) : d ≠ '\\' := by
  intro e; subst e; revert h; decide

theorem isTagStart_ne_lb {d : Char} (h : isTagStart d = true) : d ≠ '[' := by
  intro e; subst e; revert h; decide

theorem isTagStart_ne_rb {d : Char} (h : isTagStart d = true) : d ≠ ']' := by
  intro e; subst e; revert h; decide

theorem tagBody_isSome (s : Str) : (tagBody s).isSome = (s.find? isBr == some ']') := by
  induction s with
  | nil => rfl
  | cons c cs ih =>
    by_cases h1 : c = ']'
    · subst h1; simp [tagBody, List.find?, isBr]
    · by_cases h2 : c = '['
      · subst h2; simp [tagBody, List.find?, isBr]
      · have : isBr c = false := by simp [isBr, h1, h2]
        simp only [tagBody, h1, h2, if_false, List.find?, this]
        rw [← ih]
        cases tagBody cs <;> simp

theorem tagBody_spec {s b r : Str} (h : tagBody s = some (b, r)) :
    s = b ++ ']' :: r ∧ b.find? isBr = none := by
  induction s generalizing b with
  | nil => simp [tagBody] at h
  | cons c cs ih =>
    by_cases h1 : c = ']'
    · subst h1; simp [tagBody] at h; obtain ⟨rfl, rfl⟩ := h; simp
    · by_cases h2 : c = '['
      · subst h2; simp [tagBody] at h
      · simp only [tagBody, h1, h2, if_false] at h
        split at h
        · rename_i b' r' hb
          cases h
          obtain ⟨e, f⟩ := ih hb
          have hbr : isBr c = false := by simp [isBr, h1, h2]
          refine ⟨by simp [e], ?_⟩
          simp [List.find?_cons, hbr, f]
        · cases h

theorem tagBody_append {b : Str} (r : Str) (h : b.find? isBr = none) : tagBody (b ++ ']' :: r) = some (b, r) := by
  induction b with
  | nil => simp [tagBody]
  | cons c cs ih =>
    simp only [List.find?] at h
    split at h
    · cases h
    · rename_i hc
      simp [isBr] at hc
      simp [tagBody, hc.1, hc.2, ih h]

theorem startsTag_cons (d : Char) (ds : Str) : startsTag (d :: ds) = (isTagStart d && (tagBody ds).isSome) := rfl

/-- `esc`, `go` and `lostBs` read a text in the same way: behind `k` backslashes comes another one, a
    `[` that opens no tag, a complete tag, or an ordinary character; after each of the last three
    the count starts again.  Induction along that reading. -/
theorem scan_induction {motive : Nat → Str → Prop}
    (nil : ∀ k, motive k [])
    (bsl : ∀ k cs, motive (k + 1) cs → motive k ('\\' :: cs))
    (bracket : ∀ k x, startsTag x = false → motive 0 x → motive k ('[' :: x))
    (tag : ∀ k d b r, isTagStart d = true → b.find? isBr = none → motive 0 r →
      motive k ('[' :: d :: (b ++ ']' :: r)))
    (plain : ∀ k c cs, c ≠ '\\' → c ≠ '[' → motive 0 cs → motive k (c :: cs))
    (k : Nat) (s : Str) : motive k s := by
  -- the branches of `esc` as written: 1 end, 2 backslash, 3 `[` at the end, 4 tag, 5 and 6 `[` before
  -- something that is no tag (no body / no tag start), 7 ordinary character
  fun_induction esc k s with
  | case1 k => exact nil k
  | case2 k cs ih => exact bsl k cs ih
  | case3 k => exact bracket k [] rfl (nil 0)
  | case4 k d ds hd b r hb _ ih =>
    obtain ⟨rfl, hf⟩ := tagBody_spec hb
    exact tag k d b r hd hf ih
  | case5 k d ds hd hb _ ih => exact bracket k _ (by rw [startsTag_cons, hb, Bool.and_comm]; rfl) ih
  | case6 k d ds hd _ ih => exact bracket k _ (by rw [startsTag_cons, (Bool.not_eq_true _).mp hd]; rfl) ih
  | case7 k c cs h1 h2 ih => exact plain k c cs h1 h2 ih

theorem go_nil (cfg : Cfg) (st : RSt) (k : Nat) : go cfg st k [] = finish cfg { st with pend := st.pend ++ bs k } := by
  rw [go.eq_def]

theorem go_bsl (cfg : Cfg) (st : RSt) (k : Nat) (cs : Str) : go cfg st k ('\\' :: cs) = go cfg st (k + 1) cs := by
  rw [go.eq_def]; simp

theorem go_plain (cfg : Cfg) (st : RSt) (k : Nat) (c : Char) (cs : Str) (h1 : c ≠ '\\') (h2 : c ≠ '[') :
    go cfg st k (c :: cs) = go cfg { st with pend := st.pend ++ bs k ++ [c] } 0 cs := by
  rw [go.eq_def]; simp [h1, h2]

theorem go_bracket_plain (cfg : Cfg) (st : RSt) (k : Nat) (x : Str) (h : startsTag x = false) :
    go cfg st k ('[' :: x) = go cfg { st with pend := st.pend ++ bs (k - 1) ++ ['['] } 0 x := by
  rw [go.eq_def]
  cases x with
  | nil => simp [go_nil, bs_zero]
  | cons d ds =>
    simp only [startsTag, Bool.and_eq_false_iff] at h
    rcases h with h | h
    · simp [h]
    · have : tagBody ds = none := by cases hb : tagBody ds <;> simp_all
      simp
      split
      · rename_i heq; rw [this] at heq; cases heq
      · intro _; rfl

/-- the tag case of `go`, as one equation -/
def tagStep (cfg : Cfg) (st : RSt) (k : Nat) (d : Char) (b r : Str) : Obs :=
  match flush cfg st with
  | none => .unknown
  | some st1 =>
    match emit cfg st1 (bs (k / 2)) with
    | none => .unknown
    | some st2 =>
      if k % 2 = 1 then
        match emit cfg st2 ('[' :: d :: b ++ [']']) with
        | none => .unknown
        | some st3 => go cfg st3 0 r
      else
        match applyTag st2.stack (d :: b) with
        | .ok stack' => go cfg { st2 with stack := stack' } 0 r
        | .raised => .raised
        | .unknown => .unknown

theorem go_tag (cfg : Cfg) (st : RSt) (k : Nat) (d : Char) (b r : Str) (hd : isTagStart d = true)
    (hf : b.find? isBr = none) : go cfg st k ('[' :: d :: (b ++ ']' :: r)) = tagStep cfg st k d b r := by
  have hb := tagBody_append r hf
  rw [go.eq_def]
  simp only [hd, if_true]
  simp
  split
  · rename_i b' r' heq
    rw [hb] at heq
    cases heq
    rfl
  · rename_i heq; rw [hb] at heq; cases heq

theorem go_bs_prefix (cfg : Cfg) (st : RSt) (k m : Nat) (x : Str) : go cfg st k (bs m ++ x) = go cfg st (k + m) x := by
  induction m generalizing k with
  | zero => simp [bs_zero]
  | succ n ih => rw [bs_succ, List.cons_append, go_bsl, ih]; congr 1; omega


theorem esc_nil (k : Nat) : esc k [] = bs k := by rw [esc.eq_def]

theorem esc_bsl (k : Nat) (cs : Str) : esc k ('\\' :: cs) = esc (k + 1) cs := by
  rw [esc.eq_def]; simp

theorem esc_plain (k : Nat) (c : Char) (cs : Str) (h1 : c ≠ '\\') (h2 : c ≠ '[') :
    esc k (c :: cs) = bs k ++ c :: esc 0 cs := by
  rw [esc.eq_def]; simp [h1, h2]

theorem esc_bracket_plain (k : Nat) (x : Str) (h : startsTag x = false) :
    esc k ('[' :: x) = bs k ++ '[' :: esc 0 x := by
  rw [esc.eq_def]
  cases x with
  | nil => simp [esc_nil, bs_zero]
  | cons d ds =>
    simp only [startsTag, Bool.and_eq_false_iff] at h
    rcases h with h | h
    · simp [h]
    · have : tagBody ds = none := by cases hb : tagBody ds <;> simp_all
      simp
      split
      · rename_i heq; rw [this] at heq; cases heq
      · intro _; rfl

theorem esc_tag (k : Nat) (d : Char) (b r : Str) (hd : isTagStart d = true) (hf : b.find? isBr = none) :
    esc k ('[' :: d :: (b ++ ']' :: r)) = bs (2 * k + 1) ++ '[' :: d :: b ++ ']' :: esc 0 r := by
  have hb := tagBody_append r hf
  rw [esc.eq_def]
  simp only [hd, if_true]
  simp
  split
  · rename_i b' r' heq
    rw [hb] at heq
    cases heq
    rfl
  · rename_i heq; rw [hb] at heq; cases heq

/-- `escape` only ever adds backslashes: the brackets stay where they are -/
theorem find_esc (k : Nat) (s : Str) : (esc k s).find? isBr = s.find? isBr := by
  induction k, s using scan_induction with
  | nil k => rw [esc_nil, find_bs]; rfl
  | bsl k cs ih => rw [esc_bsl, ih]; rfl
  | bracket k x hx _ => rw [esc_bracket_plain k x hx, List.find?_append, find_bs]; rfl
  | tag k d b r hd hf _ => rw [esc_tag k d b r hd hf, List.append_assoc, List.find?_append, find_bs]; rfl
  | plain k c cs h1 h2 ih =>
    simp only [esc_plain k c cs h1 h2, List.find?_append, find_bs, Option.none_or, List.find?_cons, ih]

theorem tagBody_isSome_esc (s : Str) (n : Nat) : (tagBody (esc 0 s ++ bs n)).isSome = (tagBody s).isSome := by
  rw [tagBody_isSome, tagBody_isSome, List.find?_append, find_esc, find_bs]
  simp

theorem esc_bs_prefix (k : Nat) (s : Str) : ∃ rest, esc k s = bs k ++ rest := by
  induction k, s using scan_induction with
  | nil k => exact ⟨[], by rw [esc_nil, List.append_nil]⟩
  | bsl k cs ih =>
    obtain ⟨rest, e⟩ := ih
    exact ⟨'\\' :: rest, by rw [esc_bsl, e, bs_snoc]⟩
  | bracket k x hx _ => exact ⟨_, esc_bracket_plain k x hx⟩
  | tag k d b r hd hf _ =>
    exact ⟨_, by rw [esc_tag k d b r hd hf, show 2 * k + 1 = k + (k + 1) by omega, ← bs_add, List.append_assoc,
      List.append_assoc]⟩
  | plain k c cs h1 h2 _ => exact ⟨_, esc_plain k c cs h1 h2⟩

theorem startsTag_bs (n : Nat) : startsTag (bs n) = false := by
  cases n with
  | zero => rfl
  | succ m => simp [bs_succ, startsTag]; intro h; exact absurd rfl (isTagStart_ne_bs h)

theorem startsTag_esc (x : Str) (n : Nat) : startsTag (esc 0 x ++ bs n) = startsTag x := by
  cases x with
  | nil => simp [esc_nil, bs_zero, startsTag_bs]; rfl
  | cons d ds =>
    by_cases h1 : d = '\\'
    · subst h1
      obtain ⟨rest, e⟩ := esc_bs_prefix 1 ds
      rw [esc_bsl, e]
      have : isTagStart '\\' = false := by decide
      simp [startsTag, bs_succ, bs_zero, this]
    · by_cases h2 : d = '['
      · subst h2
        have hl : startsTag ('[' :: ds) = false := by simp [startsTag]; intro h; exact absurd rfl (isTagStart_ne_lb h)
        rw [hl]
        by_cases hs : startsTag ds = false
        · rw [esc_bracket_plain 0 ds hs]; simp [bs_zero, startsTag]; intro h; exact absurd rfl (isTagStart_ne_lb h)
        · cases ds with
          | nil => simp [startsTag] at hs
          | cons e es =>
            simp [startsTag] at hs
            cases hb : tagBody es with
            | none => simp [hb] at hs
            | some br =>
              obtain ⟨b, r⟩ := br
              obtain ⟨rfl, hf⟩ := tagBody_spec hb
              rw [esc_tag 0 e b r hs.1 hf]
              simp [bs_succ, bs_zero, startsTag]
              intro h; exact absurd rfl (isTagStart_ne_bs h)
      · rw [esc_plain 0 d ds h1 h2]
        simp only [bs_zero, List.nil_append, List.cons_append, startsTag, tagBody_isSome_esc]


theorem emojiName_append_some {a n r : Str} (b : Str) (h : emojiName a = some (n, r)) :
    emojiName (a ++ b) = some (n, r ++ b) := by
  induction a generalizing n with
  | nil => simp [emojiName] at h
  | cons c cs ih =>
    by_cases h1 : c = ':'
    · subst h1; simp [emojiName] at h ⊢; obtain ⟨rfl, rfl⟩ := h; simp
    · by_cases h2 : isSpace c = true
      · simp [emojiName, h1, h2] at h
      · cases hb : emojiName cs with
        | none => simp [emojiName, h1, h2, hb] at h
        | some nr =>
          obtain ⟨n', r'⟩ := nr
          simp [emojiName, h1, h2, hb] at h
          obtain ⟨rfl, rfl⟩ := h
          simp [emojiName, h1, h2, ih hb]

theorem emojiCandidate_append {a b : Str} (h : emojiCandidate (a ++ b) = false) :
    emojiCandidate a = false ∧ emojiCandidate b = false := by
  induction a with
  | nil => exact ⟨rfl, h⟩
  | cons c cs ih =>
    simp only [List.cons_append, emojiCandidate, Bool.or_eq_false_iff] at h ⊢
    obtain ⟨h1, h2⟩ := h
    obtain ⟨i1, i2⟩ := ih h2
    refine ⟨⟨?_, i1⟩, i2⟩
    cases hn : emojiName cs with
    | none => simp
    | some nr =>
      obtain ⟨n, r⟩ := nr
      rw [emojiName_append_some b hn] at h1
      simpa using h1

theorem emojiReplace_id (tbl : EmojiTbl) (s : Str) (h : emojiCandidate s = false) : emojiReplace tbl s = some s := by
  induction s with
  | nil => rw [emojiReplace.eq_def]
  | cons c cs ih =>
    simp only [emojiCandidate, Bool.or_eq_false_iff] at h
    obtain ⟨h1, h2⟩ := h
    rw [emojiReplace.eq_def]
    simp only [ih h2]
    by_cases hc : c = ':'
    · subst hc
      have hn : emojiName cs = none := by
        cases hn : emojiName cs with
        | none => rfl
        | some x => simp [hn] at h1
      simp
      split
      · rename_i heq; rw [hn] at heq; cases heq
      · rfl
    · simp [hc]

theorem emojiName_bs (n : Nat) : emojiName (bs n) = none := by
  induction n with
  | zero => rfl
  | succ m ih =>
    have h2 : isSpace '\\' = false := by decide
    simp [bs_succ, emojiName, h2, ih]

theorem emojiName_isSome_bs_tail (s : Str) (n : Nat) : (emojiName (s ++ bs n)).isSome = (emojiName s).isSome := by
  induction s with
  | nil => simp [emojiName_bs, emojiName]
  | cons c cs ih =>
    by_cases h1 : c = ':'
    · subst h1; simp [emojiName]
    · by_cases h2 : isSpace c = true
      · simp [emojiName, h1, h2]
      · simp only [emojiName, h1, h2, if_false, List.cons_append]
        revert ih
        cases emojiName (cs ++ bs n) <;> cases emojiName cs <;> simp

theorem emojiCandidate_bs (n : Nat) : emojiCandidate (bs n) = false := by
  induction n with
  | zero => rfl
  | succ m ih => simp [bs_succ, emojiCandidate, ih]

theorem emojiCandidate_bs_tail (s : Str) (n : Nat) : emojiCandidate (s ++ bs n) = emojiCandidate s := by
  induction s with
  | nil => simp [emojiCandidate_bs, emojiCandidate]
  | cons c cs ih => simp [emojiCandidate, ih, emojiName_isSome_bs_tail]

theorem emojiCandidate_prefix (p s : Str) (h : p.all (· != ':') = true) : emojiCandidate (p ++ s) = emojiCandidate s := by
  induction p with
  | nil => rfl
  | cons c cs ih =>
    simp only [List.all_cons, Bool.and_eq_true] at h
    have hc : (c == ':') = false := by simpa using h.1
    simp [emojiCandidate, hc, ih h.2]

/-- emoji replacement is off, or there is nothing it could match -/
def E (cfg : Cfg) (x : Str) : Prop := cfg.emoji = false ∨ emojiCandidate x = false

theorem emo_of_E {cfg : Cfg} {x : Str} (h : E cfg x) : emo cfg x = some x := by
  unfold emo
  rcases h with h | h
  · simp [h]
  · simp [emojiReplace_id _ _ h]

theorem E_left {cfg : Cfg} {a b : Str} (h : E cfg (a ++ b)) : E cfg a := by
  rcases h with h | h
  · exact .inl h
  · exact .inr (emojiCandidate_append h).1

theorem E_right {cfg : Cfg} {a b : Str} (h : E cfg (a ++ b)) : E cfg b := by
  rcases h with h | h
  · exact .inl h
  · exact .inr (emojiCandidate_append h).2

theorem lostBs_body {b : Str} (r : Str) (j : Nat) (h : b.find? isBr = none) : lostBs j (b ++ ']' :: r) = lostBs 0 r := by
  induction b generalizing j with
  | nil => simp [lostBs]
  | cons c cs ih =>
    simp only [List.find?_cons] at h
    split at h
    · cases h
    · rename_i hc
      simp [isBr] at hc
      by_cases h1 : c = '\\'
      · subst h1; simp [lostBs, ih _ h]
      · simp [lostBs, h1, hc.1, ih _ h]


theorem finish_of_E {cfg : Cfg} {st : RSt} (h : E cfg st.pend) : finish cfg st = .shown (st.out ++ st.pend) := by
  simp [finish, flush, emo_of_E h]

theorem flush_of_E {cfg : Cfg} {st : RSt} (h : E cfg st.pend) :
    flush cfg st = some { st with out := st.out ++ st.pend, pend := [] } := by
  simp [flush, emo_of_E h]

theorem emit_of_E {cfg : Cfg} {st : RSt} {x : Str} (h : E cfg x) :
    emit cfg st x = some { st with out := st.out ++ x } := by
  simp [emit, emo_of_E h]

theorem lostBs_lb (k : Nat) (cs : Str) :
    lostBs k ('[' :: cs) = ((decide (k > 0) && !startsTag cs) || lostBs 0 cs) := by
  rw [lostBs]; simp

theorem lostBs_tag (k : Nat) (d : Char) (b r : Str) (hd : isTagStart d = true) (hf : b.find? isBr = none) :
    lostBs k ('[' :: d :: (b ++ ']' :: r)) = lostBs 0 r := by
  have hst : startsTag (d :: (b ++ ']' :: r)) = true := by simp [startsTag, hd, tagBody_append r hf]
  rw [lostBs_lb, hst, lostBs]
  simp [isTagStart_ne_bs hd, isTagStart_ne_lb hd, lostBs_body r 0 hf]

theorem go_bs_end (cfg : Cfg) (st : RSt) (j m : Nat) :
    go cfg st j (bs m) = finish cfg { st with pend := st.pend ++ bs (j + m) } := by
  have := go_bs_prefix cfg st j m []
  rw [List.append_nil] at this
  rw [this, go_nil]

/-- **escaped text is inert.**  Scanning `esc k s` (followed by any number of backslashes) from any
    state appends exactly the text `\^k s` to what is shown: no tag is interpreted, nothing raises. -/
theorem go_esc (cfg : Cfg) (k : Nat) (s : Str) : ∀ (st : RSt) (n : Nat),
    lostBs k s = false → E cfg (st.pend ++ (bs k ++ (s ++ bs n))) →
    go cfg st 0 (esc k s ++ bs n) = .shown (st.out ++ (st.pend ++ (bs k ++ (s ++ bs n)))) := by
  induction k, s using scan_induction with
  | nil k =>
    intro st n _ hE
    rw [esc_nil, bs_add, go_bs_end, finish_of_E]
    · simp [bs_add]
    · simpa [bs_add] using hE
  | bsl k cs ih =>
    intro st n hl hE
    have hl' : lostBs (k + 1) cs = false := by simpa [lostBs] using hl
    have := ih st n hl' (by simpa [bs_snoc] using hE)
    simpa [esc_bsl, bs_snoc] using this
  | bracket k x hx ih =>
    intro st n hl hE
    -- a backslash in front of this bracket would be lost
    have hk : k = 0 ∧ lostBs 0 x = false := by
      rw [lostBs_lb, hx] at hl
      simp at hl
      exact ⟨by omega, hl.2⟩
    obtain ⟨rfl, hl'⟩ := hk
    have hx' : startsTag (esc 0 x ++ bs n) = false := by rw [startsTag_esc]; exact hx
    rw [esc_bracket_plain 0 x hx, bs_zero, List.nil_append, List.cons_append, go_bracket_plain _ _ _ _ hx',
      ih _ n hl' (by simpa [bs_zero] using hE)]
    simp [bs_zero]
  | tag k d b r hd hf ih =>
    intro st n hl hE
    have hl' : lostBs 0 r = false := lostBs_tag k d b r hd hf ▸ hl
    have e1 : bs (2 * k + 1) ++ '[' :: d :: b ++ ']' :: esc 0 r ++ bs n
        = bs (2 * k + 1) ++ ('[' :: d :: (b ++ ']' :: (esc 0 r ++ bs n))) := by simp
    rw [esc_tag k d b r hd hf, e1, go_bs_prefix, go_tag cfg st _ d b _ hd hf]
    have hE' : E cfg (('[' :: d :: b ++ [']']) ++ (r ++ bs n)) := by simpa using E_right (E_right hE)
    have hodd : (0 + (2 * k + 1)) % 2 = 1 := by omega
    have hhalf : (0 + (2 * k + 1)) / 2 = k := by omega
    -- the 2k+1 backslashes are k literal ones and an escaped tag
    simp only [tagStep, flush_of_E (E_left hE), emit_of_E (.inr (emojiCandidate_bs _)), hodd, if_true, emit_of_E (E_left hE'), hhalf]
    rw [ih _ n hl' (by simpa [bs_zero] using E_right hE')]
    simp [bs_zero]
  | plain k c cs h1 h2 ih =>
    intro st n hl hE
    have hl' : lostBs 0 cs = false := by simpa [lostBs, h1, h2] using hl
    have e1 : bs k ++ c :: esc 0 cs ++ bs n = bs k ++ (c :: (esc 0 cs ++ bs n)) := by simp
    rw [esc_plain k c cs h1 h2, e1, go_bs_prefix, go_plain _ _ _ _ _ h1 h2, ih _ n hl' (by simpa [bs_zero] using hE)]
    simp [bs_zero]


/-- `escape` adds at most one backslash, in the form in which `go_escape` passes it on -/
theorem escape_eq (s : Str) : ∃ n, (bs n = [] ∨ bs n = ['\\']) ∧ escape s = esc 0 s ++ bs n := by
  unfold escape
  split
  · exact ⟨1, .inr rfl, rfl⟩
  · exact ⟨0, .inl rfl, (List.append_nil _).symm⟩

theorem go_escape (cfg : Cfg) (st : RSt) (msg : Str) (hp : st.pend.all (· != ':') = true)
    (hl : lostBackslash msg = false) (he : cfg.emoji = false ∨ emojiCandidate msg = false) :
    ∃ t, (t = [] ∨ t = ['\\']) ∧ go cfg st 0 (escape msg) = .shown (st.out ++ (st.pend ++ (msg ++ t))) := by
  obtain ⟨n, hn, e⟩ := escape_eq msg
  refine ⟨bs n, hn, ?_⟩
  rw [e, go_esc cfg 0 msg st n hl]
  · simp [bs_zero]
  · rcases he with he | he
    · exact .inl he
    · refine .inr ?_
      rw [bs_zero, List.nil_append, emojiCandidate_prefix _ _ hp, emojiCandidate_bs_tail]
      exact he

theorem segsOf_spec (s : Str) : ∀ sg, segsOf s = some sg → flatSegs sg = s ∧ ∀ x ∈ sg, x.valid = true := by
  -- the branches of `segsOf` as written; all but 1 (end), 4 and 8 give `none`
  fun_induction segsOf s with
  | case1 => intro sg h; cases h; simp [flatSegs]
  | case4 d ds hd b r hb sg' hs _ ih =>  -- a complete tag, the rest parses
    intro sg h; cases h
    obtain ⟨e, f⟩ := tagBody_spec hb
    obtain ⟨i1, i2⟩ := ih sg' hs
    refine ⟨by simp [flatSegs, Seg.flat, i1, e], ?_⟩
    intro x hx
    simp at hx
    rcases hx with rfl | hx
    · simp [Seg.valid, hd, f]
    · exact i2 x hx
  | case8 c cs h1 h2 sg' hs ih =>  -- an ordinary character, the rest parses
    intro sg h; cases h
    obtain ⟨i1, i2⟩ := ih sg' hs
    refine ⟨by simp [flatSegs, Seg.flat, i1], ?_⟩
    intro x hx
    simp at hx
    rcases hx with rfl | hx
    · simp [Seg.valid, h1, h2]
    · exact i2 x hx
  | case2 | case3 | case5 | case6 | case7 | case9 => intro sg h; cases h


theorem go_segs (cfg : Cfg) (sg : List Seg) : ∀ (st st' : RSt) (x : Str), (∀ s ∈ sg, s.valid = true) →
    runSegs cfg st sg = some st' → go cfg st 0 (flatSegs sg ++ x) = go cfg st' 0 x := by
  induction sg with
  | nil => intro st st' x _ h; simp [runSegs] at h; subst h; simp [flatSegs]
  | cons s r ih =>
    intro st st' x hv h
    have hvr : ∀ s ∈ r, s.valid = true := fun s hs => hv s (by simp [hs])
    have hvs := hv s (by simp)
    cases s with
    | plain c =>
      simp [Seg.valid] at hvs
      simp only [runSegs] at h
      simp only [flatSegs, Seg.flat, List.cons_append, List.nil_append]
      rw [go_plain _ _ _ _ _ hvs.1 hvs.2]
      simpa [bs_zero] using ih _ st' x hvr h
    | tag d b =>
      simp only [Seg.valid, Bool.and_eq_true, Option.isNone_iff_eq_none] at hvs
      simp only [runSegs] at h
      have e1 : flatSegs (Seg.tag d b :: r) ++ x = '[' :: d :: (b ++ ']' :: (flatSegs r ++ x)) := by
        simp [flatSegs, Seg.flat]
      rw [e1, go_tag cfg st 0 d b _ hvs.1 hvs.2]
      cases hf : flush cfg st with
      | none => simp [hf] at h
      | some st1 =>
        simp only [hf] at h
        cases ha : applyTag st1.stack (d :: b) with
        | ok stack' =>
          simp only [ha] at h
          have hz : bs (0 / 2) = [] := rfl
          simp [tagStep, hf, emit, hz, emo_of_E (x := []) (.inr rfl), ha]
          exact ih _ st' x hvr h
        | raised => simp [ha] at h
        | unknown => simp [ha] at h


theorem warn_escaped (tbl : EmojiTbl) (spec : WarnSpec) (lit : Str) (sg : List Seg) (st : RSt) (msg : Str)
    (ha : spec.args = [.markup [.lit lit, .msgEscaped]]) (hm : spec.markup = true)
    (hs : segsOf lit = some sg) (hr : runSegs { emoji := spec.emoji, tbl := tbl } {} sg = some st)
    (hp : st.pend.all (· != ':') = true)
    (hl : lostBackslash msg = false) (he : spec.emoji = false ∨ emojiCandidate msg = false) :
    ∃ t, (t = [] ∨ t = ['\\']) ∧ warnShown tbl spec msg = .shown (st.out ++ st.pend ++ msg ++ t) := by
  obtain ⟨e1, e2⟩ := segsOf_spec lit sg hs
  obtain ⟨t, ht, e⟩ := go_escape { emoji := spec.emoji, tbl := tbl } st msg hp hl he
  refine ⟨t, ht, ?_⟩
  simp only [warnShown, ha, joinObs, argObs, renderStr, hm, if_true, build, List.append_nil, render]
  rw [← e1, go_segs _ sg {} st _ e2 hr, e]
  simp

theorem warn_text (tbl : EmojiTbl) (spec : WarnSpec) (lit t : Str) (msg : Str)
    (ha : spec.args = [.markup [.lit lit], .text [.msg]]) (hr : renderStr tbl spec lit = .shown t) :
    warnShown tbl spec msg = .shown (t ++ spec.sep ++ msg) := by
  simp [warnShown, ha, joinObs, argObs, build, hr]

/-- **What `warn` shows.**  If the message is handed over in one of the two inert ways, the
    terminal shows the literal prefix and then the message, character by character (a single
    trailing backslash of an escaped message is doubled). -/
theorem warn_inert (tbl : EmojiTbl) (spec : WarnSpec) (i : Inert) (msg : Str)
    (hi : inertShape tbl spec = some i) (hs : safeMsg spec i msg = true) :
    ∃ t, (t = [] ∨ t = ['\\']) ∧ warnShown tbl spec msg = .shown (i.pre ++ msg ++ t) := by
  unfold inertShape at hi
  split at hi
  · rename_i lit ha
    split at hi
    · rename_i hm
      split at hi
      · rename_i sg hsg
        split at hi
        · rename_i st hr
          split at hi
          · rename_i hp
            cases hi
            simp only [safeMsg, Bool.and_eq_true, Bool.not_eq_true', Bool.or_eq_true] at hs
            exact warn_escaped tbl spec lit sg st msg ha hm hsg hr hp hs.1 hs.2
          · cases hi
        · cases hi
      · cases hi
    · cases hi
  · rename_i lit ha
    split at hi
    · rename_i t hr
      cases hi
      exact ⟨[], .inl rfl, by simpa [Inert.pre] using warn_text tbl spec lit t msg ha hr⟩
    · cases hi
  · cases hi

theorem go_notag (cfg : Cfg) (s : Str) : ∀ (st : RSt) (k : Nat), hasTag s = false → go cfg st k s ≠ .raised := by
  induction s with
  | nil =>
    intro st k _
    rw [go_nil]; unfold finish; split <;> simp
  | cons c cs ih =>
    intro st k h
    simp only [hasTag, Bool.or_eq_false_iff] at h
    by_cases h1 : c = '\\'
    · subst h1; rw [go_bsl]; exact ih _ _ h.2
    · by_cases h2 : c = '['
      · subst h2
        have : startsTag cs = false := by simpa using h.1
        rw [go_bracket_plain _ _ _ _ this]; exact ih _ _ h.2
      · rw [go_plain _ _ _ _ _ h1 h2]; exact ih _ _ h.2

theorem progress_survives (tbl : EmojiTbl) (spec : ProgSpec) (path : Str)
    (h : spec.markup = false ∨ (spec.escaped = false ∧ hasTag path = false)) :
    progressObs tbl spec path ≠ .raised := by
  unfold progressObs
  rcases h with h | ⟨h1, h2⟩
  · simp [h]
  · split
    · simp only [h1, render]; exact go_notag _ _ _ _ h2
    · simp

theorem rejectionMsg_names (ps : List MsgPiece) (path err : Str) (h : MsgPiece.path ∈ ps) :
    ∃ a b, rejectionMsg ps path err = a ++ path ++ b := by
  induction ps with
  | nil => cases h
  | cons p r ih =>
    cases p with
    | path => exact ⟨[], rejectionMsg r path err, by simp [rejectionMsg]⟩
    | lit s =>
      obtain ⟨a, b, e⟩ := ih (by simpa using h)
      exact ⟨s ++ a, b, by simp [rejectionMsg, e]⟩
    | err =>
      obtain ⟨a, b, e⟩ := ih (by simpa using h)
      exact ⟨err ++ a, b, by simp [rejectionMsg, e]⟩

theorem rejectionText_names (rules : List (ErrGuard × List MsgPiece)) (path err : Str)
    (h : rulesNameFile rules = true) :
    ∃ a b, rejectionText rules path err = a ++ path ++ b := by
  simp only [rulesNameFile, Bool.and_eq_true] at h
  obtain ⟨hall, hany⟩ := h
  induction rules with
  | nil => simp at hany
  | cons r rs ih =>
    obtain ⟨g, ps⟩ := r
    simp only [rejectionText]
    split
    · apply rejectionMsg_names
      simp only [List.all_cons, Bool.and_eq_true] at hall
      simpa using hall.1
    · rename_i hg
      simp only [List.all_cons, Bool.and_eq_true] at hall
      simp only [List.any_cons, Bool.or_eq_true] at hany
      rcases hany with hany | hany
      · simp only [beq_iff_eq] at hany
        subst hany
        simp [ErrGuard.holds] at hg
      · exact ih hall.2 hany

end Ford.Markup
