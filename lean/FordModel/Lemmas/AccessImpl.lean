/-
  C04 - lemmas for the theorems about one name in the attribute statements (`applyAttrs` on one entry and on a
  dictionary with one access word for the name, `fortranAccess` for such a name) and about the implementations of
  separate module procedures (`implsFrom`, `attrsOf`).
-/
import FordModel.AccessImpl
import FordModel.Lemmas.Access
namespace Ford.Access

/-- one attribute-statement entry naming the entity: a recognised access word overwrites the permission the
    entity has, whatever that is; any other word leaves it -/
theorem applyAttrs_single (words : List Perm) (n : Str) (p w : Perm) :
    applyAttrs words n p [(n, .acc w)] = if w ∈ words then w else p := by
  by_cases h : w ∈ words <;> simp [applyAttrs, h]

theorem permAfter_not_bare (p : Perm) (s : Stmt) (h : ∀ q, s ≠ .bare q) : permAfter p s = p := by
  cases s with
  | bare q => exact absurd rfl (h q)
  | _ => rfl

/-- without a bare access statement every short-form implementation is constructed with the unit's initial
    permission -/
theorem implsFrom_const (g : Bool) (p : Perm) : ∀ xs : List XStmt,
    (∀ r, XStmt.stmt r ∈ xs → ∀ q, keyed g r ≠ .bare q) → ∀ k ∈ implsFrom g p xs, k.perm = p := by
  intro xs
  induction xs with
  | nil => intro _ k hk; cases hk
  | cons x t ih =>
    intro h k hk
    have ht : ∀ r, XStmt.stmt r ∈ t → ∀ q, keyed g r ≠ .bare q := fun r hr => h r (List.mem_cons_of_mem _ hr)
    cases x with
    | impl n =>
      simp only [implsFrom, List.mem_cons] at hk
      rcases hk with hk | hk
      · rw [hk]
      · exact ih ht k hk
    | stmt r =>
      simp only [implsFrom] at hk
      rw [permAfter_not_bare p (keyed g r) (h r (List.mem_cons_self ..))] at hk
      exact ih ht k hk

/-- every short-form body of the unit is in `modprocedures` under its name -/
theorem implsFrom_mem (g : Bool) (n : Str) : ∀ (xs : List XStmt) (p : Perm),
    XStmt.impl n ∈ xs → ∃ k ∈ implsFrom g p xs, k.name = n := by
  intro xs
  induction xs with
  | nil => intro _ h; cases h
  | cons x t ih =>
    intro p h
    cases x with
    | impl m =>
      simp only [List.mem_cons, XStmt.impl.injEq] at h
      rcases h with h | h
      · exact ⟨⟨m, p⟩, by simp [implsFrom], h.symm⟩
      · obtain ⟨k, hk, hn⟩ := ih p h
        exact ⟨k, by simp [implsFrom, hk], hn⟩
    | stmt r =>
      simp only [List.mem_cons, reduceCtorEq, false_or] at h
      obtain ⟨k, hk, hn⟩ := ih (permAfter p (keyed g r)) h
      exact ⟨k, by simpa [implsFrom] using hk, hn⟩

/-- one access word for `n` among the attribute statements: the application step ends on it, whatever the entity had -/
theorem applyAttrs_one (n : Str) (a : List (Str × Attr)) (p q : Perm)
    (hstmt : (entriesFor n a).filterMap accessWord = [q]) (hprot : Attr.acc .prot ∉ entriesFor n a) :
    applyAttrs applyWords n p a = q := by
  rw [applyAttrs_eq_declPerm]
  exact declPerm_one applyWords (by decide) (by decide) _ _ q hstmt hprot

/-- what Fortran says about an entity without attributes of its own that one access statement names -/
theorem fortranAccess_one (stmts : List Stmt) (n : Str) (q : Perm)
    (hstmt : (entriesFor n (stmtEntries stmts)).filterMap accessWord = [q])
    (hprot : Attr.acc .prot ∉ entriesFor n (stmtEntries stmts)) :
    fortranAccess stmts [] n = q := by
  have h1 : stmtAccess stmts n = some q := by
    rw [stmtAccess_eq, explicitOf_eq_head, hstmt]; rfl
  have h2 : hasProtected stmts [] n = false := hasProtected_false.2 ⟨List.not_mem_nil, hprot⟩
  rw [fortranAccess_plain stmts [] n h2]
  show (stmtAccess stmts n).getD _ = q
  rw [h1]
  rfl

theorem attrsOf_eq (g sub : Bool) (xs : List XStmt) :
    attrsOf g sub xs = stmtEntries ((xstmts xs).map (keyed g)) := by
  unfold attrsOf
  rw [unit_state]

theorem xstmts_map_stmt (rs : List RStmt) : xstmts (rs.map XStmt.stmt) = rs := by
  induction rs with
  | nil => rfl
  | cons r t ih => simp [xstmts, ih]

theorem map_keyed_plain (g : Bool) (ss : List Stmt) : (ss.map RStmt.plain).map (keyed g) = ss := by
  induction ss with
  | nil => rfl
  | cons s t ih => simp [keyed, ih]

end Ford.Access
