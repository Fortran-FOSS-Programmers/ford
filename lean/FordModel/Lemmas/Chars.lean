/-
  Facts about lists of characters that belong to no one model: the functions of `FordModel/Basic/Chars.lean`
  (`lstrip`, `rstrip`, `strip`, `isBlank`, `lower`, `startsWith` ...) and the few general list facts (`takeWhile_all`,
  `lookup_mem`, `eq_of_nodup_map`) that more than one lemma file needs.  A lemma goes here when its statement
  mentions nothing but these and core `List`; anything about a model's own scanner stays with that model's lemmas.
-/
import FordModel.Basic.Chars
namespace Ford

theorem takeWhile_all {p : Char → Bool} (k : Str) (h : ∀ c ∈ k, p c = true) : k.takeWhile p = k := by
  induction k with
  | nil => rfl
  | cons c cs ih => simp [List.takeWhile, h c (by simp), ih (fun d hd => h d (by simp [hd]))]

theorem lookup_mem {α β} [BEq α] [LawfulBEq α] {l : List (α × β)} {k : α} {v : β}
    (h : l.lookup k = some v) : (k, v) ∈ l := by
  obtain ⟨l₁, l₂, rfl, _⟩ := List.lookup_eq_some_iff.1 h
  exact List.mem_append_right _ List.mem_cons_self

theorem eq_of_nodup_map {α β} (f : α → β) {l : List α} (nd : (l.map f).Nodup) {x y : α}
    (hx : x ∈ l) (hy : y ∈ l) (h : f x = f y) : x = y :=
  List.Pairwise.forall_of_forall_of_flip (R := fun a b => f a = f b → a = b) (fun _ _ _ => rfl)
    ((List.pairwise_map.mp nd).imp fun hn hs => absurd hs hn)
    ((List.pairwise_map.mp nd).imp fun hn hs => absurd hs.symm hn) hx hy h

theorem isBlank_append (a b : Str) : isBlank (a ++ b) = (isBlank a && isBlank b) := List.all_append

theorem isBlank_reverse (a : Str) : isBlank a.reverse = isBlank a := List.all_reverse

theorem isBlank_replicate (n : Nat) : isBlank (List.replicate n ' ') = true := by
  simp [isBlank, isSpace]

theorem lstrip_append (x y : Str) :
    lstrip (x ++ y) = if isBlank x then lstrip y else lstrip x ++ y := by
  induction x with
  | nil => simp [isBlank]
  | cons c cs ih =>
    by_cases hc : isSpace c = true
    · simp only [List.cons_append, lstrip, hc, if_true, ih]
      simp [isBlank, hc]
    · simp [lstrip, hc, isBlank]

theorem lstrip_blank_append (w r : Str) (hw : isBlank w = true) : lstrip (w ++ r) = lstrip r := by
  rw [lstrip_append, hw]; rfl

theorem lstrip_nospace (k : Str) (hk : ∀ c ∈ k, isSpace c = false) : lstrip k = k := by
  cases k with
  | nil => rfl
  | cons c cs => exact lstrip_of_not_space c cs (hk c (by simp))

theorem rstrip_blank (w : Str) (hw : isBlank w = true) : rstrip w = [] := by
  simp [rstrip, lstrip_blank_nil _ (by rw [isBlank_reverse]; exact hw)]

theorem strip_blank (w : Str) (hw : isBlank w = true) : strip w = [] := by
  rw [strip, lstrip_blank_nil w hw]; rfl

theorem rstrip_idem (t : Str) : rstrip (rstrip t) = rstrip t := by
  simp [rstrip, lstrip_idem]

theorem rstrip_nospace (k : Str) (hk : ∀ c ∈ k, isSpace c = false) : rstrip k = k := by
  simp [rstrip, lstrip_nospace k.reverse (fun c hc => hk c (by simpa using hc))]

theorem rstrip_snoc (s : Str) (c : Char) (hc : isSpace c = false) : rstrip (s ++ [c]) = s ++ [c] := by
  simp [rstrip, lstrip, hc]

theorem strip_nospace (k : Str) (hk : ∀ c ∈ k, isSpace c = false) : strip k = k := by
  rw [strip, lstrip_nospace k hk, rstrip_nospace k hk]

theorem strip_pad (w2 k w3 : Str) (h2 : isBlank w2 = true) (h3 : isBlank w3 = true)
    (hk : ∀ c ∈ k, isSpace c = false) : strip (w2 ++ k ++ w3) = k := by
  simp only [strip, List.append_assoc, lstrip_blank_append _ _ h2]
  cases k with
  | nil => simp [lstrip_blank_nil w3 h3, rstrip, lstrip]
  | cons c cs =>
    rw [List.cons_append, lstrip_of_not_space _ _ (hk c (by simp))]
    have : rstrip ((c :: cs) ++ w3) = (c :: cs) := by
      simp only [rstrip, List.reverse_append, lstrip_blank_append _ _ (by rw [isBlank_reverse]; exact h3)]
      rw [lstrip_nospace _ (fun d hd => hk d (by simpa [or_comm] using hd))]
      simp
    simpa using this

theorem word_ne {c d : Char} (h : isWord c = true) (hd : isWord d = false) : c ≠ d := by
  rintro rfl; simp [h] at hd

theorem word_space {c : Char} (h : isWord c = true) : isSpace c = false := by
  cases hs : isSpace c with
  | false => rfl
  | true =>
    exfalso
    simp only [isSpace, Bool.or_eq_true, beq_iff_eq] at hs
    rcases hs with ((((h1 | h1) | h1) | h1) | h1) | h1 <;> subst h1 <;> revert h <;> decide

/-- `lowerChar` moves the 26 upper-case letters and nothing else -/
theorem lowerChar_cases (c : Char) : lowerChar c = c ∨ ∃ m, m < 26 ∧ c = Char.ofNat (65 + m) := by
  unfold lowerChar
  by_cases h : 'A' ≤ c ∧ c ≤ 'Z'
  · right
    have h1 : ('A' : Char).val.toNat ≤ c.val.toNat := UInt32.le_iff_toNat_le.1 (Char.le_def.1 h.1)
    have h2 : c.val.toNat ≤ ('Z' : Char).val.toNat := UInt32.le_iff_toNat_le.1 (Char.le_def.1 h.2)
    have hA : ('A' : Char).val.toNat = 65 := rfl
    have hZ : ('Z' : Char).val.toNat = 90 := rfl
    have hc : c.toNat = c.val.toNat := rfl
    refine ⟨c.toNat - 65, by omega, ?_⟩
    rw [show 65 + (c.toNat - 65) = c.toNat by omega, Char.ofNat_toNat]
  · left; rw [if_neg h]

theorem lowerChar_upper : ∀ m, m < 26 →
    isWord (lowerChar (Char.ofNat (65 + m))) = true ∧
    isSpace (lowerChar (Char.ofNat (65 + m))) = isSpace (Char.ofNat (65 + m)) ∧
    lowerChar (lowerChar (Char.ofNat (65 + m))) = lowerChar (Char.ofNat (65 + m)) ∧
    isAlpha (lowerChar (Char.ofNat (65 + m))) = true ∧ isAlpha (Char.ofNat (65 + m)) = true := by
  decide +kernel

/-- a character that is not a letter is matched by `c` and by `lowerChar c` alike -/
theorem lowerChar_beq (c d : Char) (hd : isAlpha d = false) : (lowerChar c == d) = (c == d) := by
  rcases lowerChar_cases c with hc | ⟨m, hm, rfl⟩
  · rw [hc]
  · have ne : ∀ x, isAlpha x = true → (x == d) = false := fun x hx =>
      beq_eq_false_iff_ne.2 (fun e => by rw [e, hd] at hx; cases hx)
    obtain ⟨-, -, -, h1, h2⟩ := lowerChar_upper m hm
    rw [ne _ h1, ne _ h2]

theorem lowerChar_idem (c : Char) : lowerChar (lowerChar c) = lowerChar c := by
  rcases lowerChar_cases c with hc | ⟨m, hm, rfl⟩
  · rw [hc, hc]
  · exact (lowerChar_upper m hm).2.2.1

theorem isWord_lowerChar (c : Char) (h : isWord c = true) : isWord (lowerChar c) = true := by
  rcases lowerChar_cases c with hc | ⟨m, hm, rfl⟩
  · rw [hc]; exact h
  · exact (lowerChar_upper m hm).1

theorem isSpace_lowerChar (c : Char) : isSpace (lowerChar c) = isSpace c := by
  rcases lowerChar_cases c with hc | ⟨m, hm, rfl⟩
  · rw [hc]
  · exact (lowerChar_upper m hm).2.1

theorem lower_append (a b : Str) : lower (a ++ b) = lower a ++ lower b := List.map_append

theorem startsWith_append_self : ∀ p r : Str, startsWith (p ++ r) p = true
  | [], r => by cases r <;> rfl
  | c :: p, r => by simp [startsWith, startsWith_append_self p r]

theorem startsWith_self (k : Str) : startsWith k k = true := by
  simpa using startsWith_append_self k []

theorem startsWith_length : ∀ (s k : Str), startsWith s k = true → k.length ≤ s.length
  | _, [], _ => by simp
  | [], _ :: _, h => by simp [startsWith] at h
  | c :: cs, p :: ps, h => by
    simp only [startsWith, Bool.and_eq_true] at h
    have := startsWith_length cs ps h.2
    simp; omega

theorem lower_joinSep : ∀ ws : List Str, lower (joinSep ' ' ws) = joinSep ' ' (ws.map lower)
  | [] => rfl
  | [x] => by simp [joinSep]
  | x :: y :: r => by
    have ih := lower_joinSep (y :: r)
    simp only [lower] at ih
    simp only [joinSep, lower, List.map_append, List.map_cons, ih]
    congr 1

theorem mem_joinSep (c : Char) : ∀ ws : List Str, c ∈ joinSep ' ' ws → c = ' ' ∨ ∃ w ∈ ws, c ∈ w
  | [], h => by simp [joinSep] at h
  | [x], h => by simp only [joinSep] at h; exact Or.inr ⟨x, by simp, h⟩
  | x :: y :: r, h => by
    simp only [joinSep, List.mem_append, List.mem_cons] at h
    rcases h with h | h | h
    · exact Or.inr ⟨x, by simp, h⟩
    · exact Or.inl h
    · rcases mem_joinSep c (y :: r) h with h | ⟨w, hw, hc⟩
      · exact Or.inl h
      · exact Or.inr ⟨w, List.mem_cons_of_mem _ hw, hc⟩

theorem flatten_map_ite (p : Str → Bool) (f : Str → Str) : ∀ ws : List Str,
    (ws.map (fun w => if p w = true then [] else f w)).flatten = ((ws.filter (fun w => !p w)).map f).flatten
  | [] => rfl
  | w :: ws => by
    by_cases h : p w = true
    · simp [h, flatten_map_ite p f ws]
    · simp [h, flatten_map_ite p f ws]

/-- a text whose first and last character are not white space is its own `strip` -/
theorem strip_of_ends (s : Str) (h1 : ∀ c, s.head? = some c → isSpace c = false)
    (h2 : ∀ c, s.getLast? = some c → isSpace c = false) : strip s = s := by
  have hl : ∀ t : Str, (∀ c, t.head? = some c → isSpace c = false) → lstrip t = t := by
    intro t ht
    cases t with
    | nil => rfl
    | cons c cs => exact lstrip_of_not_space c cs (ht c rfl)
  rw [strip, hl s h1, rstrip, hl s.reverse (by simpa [List.head?_reverse] using h2), List.reverse_reverse]
end Ford
