/-
  C09 — a cache in front of a per-page computation is invisible when its key determines the page's directory.
-/
import FordModel.Memo
namespace Ford.Memo
open Ford.Path

theorem lookup_some_mem {β : Type} (c : Cache β) (k : List Seg × Str) (v : β) (h : lookup c k = some v) : (k, v) ∈ c := by
  induction c with
  | nil => cases h
  | cons e rest ih =>
    obtain ⟨k', v'⟩ := e
    rw [lookup] at h
    split at h
    · rename_i hk
      cases h
      exact hk ▸ List.mem_cons_self
    · exact List.mem_cons_of_mem _ (ih h)

/-- A cache is invisible when its key determines the directory of the page.  Invariant: every entry is
    what the computation gives for any page that has the entry's key. -/
theorem runCached_of_key_determines_dir {β : Type} (k : Key)
    (hk : ∀ p q kv, keyOf k p = some kv → keyOf k q = some kv → dirOf q = dirOf p)
    (f : Str → List Seg → β) (calls : List (Str × List Seg)) :
    ∀ c : Cache β, (∀ kv t v, ((kv, t), v) ∈ c → ∀ p, keyOf k p = some kv → v = f t (dirOf p)) →
      runCached k f c calls = calls.map (fun x => f x.1 (dirOf x.2)) := by
  induction calls with
  | nil => intro c _; rfl
  | cons x rest ih =>
    intro c hc
    obtain ⟨t, p⟩ := x
    rw [runCached, List.map_cons]
    cases hkp : keyOf k p with
    | none => exact congrArg _ (ih c hc)
    | some kv =>
      -- `simp only []` here and below reduces the `match` on the constructor that `cases` has put in
      simp only []
      cases hl : lookup c (kv, t) with
      | some v =>
        simp only []
        rw [ih c hc, hc _ _ _ (lookup_some_mem c _ v hl) p hkp]
      | none =>
        simp only []
        rw [ih]
        intro kv' t' v hv q hq
        rcases List.mem_cons.1 hv with he | hv
        · cases he
          rw [hk p q kv hkp hq]
        · exact hc kv' t' v hv q hq

/-- the keys that `faithful` accepts are of that kind: every call of the filter returns what the computation
    gives for that page -/
theorem cached_eq_direct {β : Type} (k : Key) (h : faithful k = true) (f : Str → List Seg → β)
    (calls : List (Str × List Seg)) :
    runCached k f [] calls = calls.map (fun x => f x.1 (dirOf x.2)) := by
  refine runCached_of_key_determines_dir k (fun p q kv hp hq => ?_) f calls [] (fun _ _ _ hv => by cases hv)
  cases k with
  | none => cases hp
  | pageDir => exact (Option.some.inj hq).trans (Option.some.inj hp).symm
  | dirName => cases h
  | fileName => cases h
  | textOnly => cases h

end Ford.Memo
