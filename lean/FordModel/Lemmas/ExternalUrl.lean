/-
  Lemmas about the remote-location part of the external-project model:
  `stripHttp`, `normRemote`, `keepDir`, `urlDir`, `urljoinSimple`.
-/
import FordModel.External
namespace Ford.Ext
open Ford

theorem endsWithSlash_iff (u : Str) : endsWithSlash u = true ↔ ∃ s, u = s ++ ['/'] := by
  simp [endsWithSlash, List.getLast?_eq_some_iff]

theorem keepDir_append_slash (s : Str) : keepDir (s ++ ['/']) = s ++ ['/'] := by
  simp [keepDir]

/-- `re.match("https?://", u)` splits `u` into the matched prefix and the rest, and does not look at the rest -/
theorem stripHttp_some (u pre rest : Str) (h : stripHttp u = some (pre, rest)) :
    u = pre ++ rest ∧ ∀ s, stripHttp (pre ++ s) = some (pre, s) := by
  unfold stripHttp at h
  split at h
  · cases h; exact ⟨rfl, fun _ => rfl⟩
  · cases h; exact ⟨rfl, fun _ => rfl⟩
  · cases h

theorem contains_append_slash (s : Str) : (s ++ ['/']).contains '/' = true := by
  simp

theorem endsWithSlash_append (pre rest : Str) (hr : rest ≠ []) :
    endsWithSlash (pre ++ rest) = endsWithSlash rest := by
  simp [endsWithSlash, List.getLast?_append, List.getLast?_eq_some_getLast hr]

theorem urlDir_slash (pre r : Str) (hpre : ∀ s, stripHttp (pre ++ s) = some (pre, s)) :
    urlDir (pre ++ (r ++ ['/'])) = pre ++ (r ++ ['/']) := by
  simp only [urlDir, hpre, contains_append_slash, keepDir_append_slash, if_true]

/-- after the normalisation the base is its own directory: joining is concatenation -/
theorem urlDir_normRemote (u pre rest : Str) (h : stripHttp u = some (pre, rest)) (hr : rest ≠ []) :
    urlDir (normRemote u) = normRemote u := by
  obtain ⟨rfl, hpre⟩ := stripHttp_some u pre rest h
  unfold normRemote
  cases hs : endsWithSlash (pre ++ rest) with
  | true =>
    rw [endsWithSlash_append pre rest hr] at hs
    obtain ⟨r, rfl⟩ := (endsWithSlash_iff rest).mp hs
    exact urlDir_slash pre r hpre
  | false =>
    rw [if_neg Bool.false_ne_true, List.append_assoc]
    exact urlDir_slash pre rest hpre

theorem urljoinSimple_normRemote (u pre rest rel : Str) (h : stripHttp u = some (pre, rest)) (hr : rest ≠ []) :
    urljoinSimple (normRemote u) rel = normRemote u ++ rel := by
  rw [urljoinSimple, urlDir_normRemote u pre rest h hr]

theorem normRemote_append_slash (u : Str) (hs : endsWithSlash u = false) :
    normRemote (u ++ ['/']) = normRemote u := by
  simp [normRemote, (endsWithSlash_iff _).mpr ⟨u, rfl⟩, hs]

end Ford.Ext
