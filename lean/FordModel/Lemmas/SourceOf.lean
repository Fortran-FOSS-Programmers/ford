/-
  Lemmas about the source-file model (FordModel/SourceOf.lean): the entity the parent chain ends in
  is the last one the climb visits, hence the first entry of `hierarchy`.
-/
import FordModel.SourceOf
namespace Ford.SourceOf
open Ford Ford.Names

theorem rootOf_eq_last (ps : Parents) (fuel : Nat) : ∀ e : Nat,
    rootOf ps fuel e = (climb ps fuel e).getLast?.getD e := by
  induction fuel with
  | zero => intro e; rfl
  | succ n ih =>
    intro e
    unfold rootOf climb
    cases parentOf ps e with
    | none => rfl
    | some p => simp [ih p, List.getLast?_cons]

end Ford.SourceOf
