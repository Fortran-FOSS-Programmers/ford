/-
  C09 — `get_dir`: the table check `dirCheck` under which every directory `get_dir` answers with is one
  `writeout` makes.
-/
import FordModel.Url
import FordModel.Lemmas.Path
namespace Ford.Url
open Ford.Path

theorem lookup_mem {β} (k : Str) (l : List (Str × β)) (v : β) (h : lookup k l = some v) : (k, v) ∈ l := by
  induction l with
  | nil => cases h
  | cons a r ih =>
    obtain ⟨a1, a2⟩ := a
    rw [lookup] at h
    split at h
    · rename_i hk
      cases h
      exact hk ▸ List.mem_cons_self
    · exact List.mem_cons_of_mem _ (ih h)

/-- node agrees with the regenerated class -> `obj` table -/
def WfNode (T : Tables) (n : Node) : Prop := lookup n.cls T.objOf = some n.obj

/-- table check: `writeout` makes a directory for the `obj` of a class, unless the class cannot own a
    page (neither it nor a base class is in a tuple of `get_dir`) or an override answers for it with
    a constant.  The test on `obj` comes first: for most classes it settles the matter without a walk
    through the MRO. -/
def clsDirOk (T : Tables) (e : Str × Str) : Bool :=
  T.outDirs.contains e.2
    || !((mroOf T e.1).any (T.dirSelf.contains ·) || (mroOf T e.1).any (T.dirChild.contains ·))
    || (match overrideOf T e.1 with | some (.const _) => true | _ => false)

def overrideOk (T : Tables) (e : Str × Override) : Bool :=
  match e.2 with
  | .const d => T.outDirs.contains d
  | .ifIfaceProc d => T.outDirs.contains d
  | .ifNamed => true

def dirCheck (T : Tables) : Bool := T.objOf.all (clsDirOk T) && T.overrides.all (overrideOk T)

/-- `FortranBase.get_dir` answers with `self.obj`, and only for a class in one of its tuples -/
theorem baseDir_some (T : Tables) (n : Node) (rest : List Node) (d : Str)
    (hd : baseDir T (n :: rest) = some d) :
    d = n.obj ∧ (isinst T n T.dirSelf || isinst T n T.dirChild) = true := by
  rw [baseDir] at hd
  split at hd
  · rename_i hc
    cases hd
    rw [Bool.or_eq_true_iff, Bool.and_eq_true_iff] at hc
    exact ⟨rfl, Bool.or_eq_true_iff.2 (hc.imp_right And.left)⟩
  · cases hd

theorem baseDir_in (T : Tables) (h : dirCheck T = true) (n : Node) (rest : List Node) (hwf : WfNode T n) (d : Str)
    (hno : ∀ c, overrideOf T n.cls ≠ some (.const c))
    (hd : baseDir T (n :: rest) = some d) : d ∈ T.outDirs := by
  simp only [dirCheck, Bool.and_eq_true, List.all_eq_true] at h
  obtain ⟨rfl, hc⟩ := baseDir_some T n rest d hd
  have hk := h.1 _ (lookup_mem _ _ _ hwf)
  rw [clsDirOk] at hk
  split at hk
  · exact absurd ‹_› (hno _)
  · simp only [Bool.or_false, Bool.or_eq_true, Bool.not_eq_true'] at hk
    rcases hk with hk | hk
    · exact List.contains_iff_mem.1 hk
    · rw [isinst, isinst, hk] at hc
      cases hc

theorem override_in (T : Tables) (h : dirCheck T = true) (cls : Str) (o : Override) (ho : overrideOf T cls = some o) :
    overrideOk T (cls, o) = true := by
  simp only [dirCheck, Bool.and_eq_true, List.all_eq_true] at h
  obtain ⟨c, _, hc⟩ := List.exists_of_findSome?_eq_some ho
  exact h.2 (c, o) (lookup_mem _ _ _ hc)

theorem getDir_in (T : Tables) (h : dirCheck T = true) (n : Node) (rest : List Node) (hwf : WfNode T n) (d : Str)
    (hd : getDir T (n :: rest) = some d) : d ∈ T.outDirs := by
  have hbase := baseDir_in T h n rest hwf d
  have hover := override_in T h n.cls
  simp only [getDir] at hd
  split at hd
  · -- no override: `FortranBase.get_dir`
    rename_i ho
    exact hbase (by simp [ho]) hd
  · -- `return "<d>"`
    rename_i d' ho
    cases hd
    exact List.contains_iff_mem.1 (hover _ ho)
  · -- `<d>` for an interface procedure, else super
    rename_i d' ho
    split at hd
    · cases hd
      exact List.contains_iff_mem.1 (hover _ ho)
    · exact hbase (by simp [ho]) hd
  · -- super when named, else `None`
    rename_i ho
    split at hd
    · exact hbase (by simp [ho]) hd
    · cases hd

theorem virtualDir_normalSeg : NormalSeg virtualDir := by decide

end Ford.Url
