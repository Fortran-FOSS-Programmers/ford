/-
  Lemmas about `FordModel/CallsScope.lean` (which names are variables of a scope and what
  `correlate` removes), used by `Props/C08.lean`.
-/
import FordModel.CallsScope
import FordModel.CallsTable
import FordModel.Lemmas.Chars
namespace Ford.Calls.Scope
open Ford Ford.Calls

theorem lowerChar_blank (c : Char) : (lowerChar c != ' ') = (c != ' ') :=
  congrArg not (lowerChar_beq c ' ' (by decide))

theorem lower_lower (s : Str) : lower (lower s) = lower s := by
  induction s with
  | nil => rfl
  | cons c cs ih =>
    simp only [lower, List.map_cons, List.cons.injEq] at ih ⊢
    exact ⟨lowerChar_idem c, ih⟩

theorem lower_dropBlanks (s : Str) : lower (dropBlanks s) = dropBlanks (lower s) := by
  induction s with
  | nil => rfl
  | cons c cs ih =>
    simp only [lower, dropBlanks, List.map_cons, List.filter_cons] at ih ⊢
    rw [lowerChar_blank c]
    split
    · simp only [List.map_cons, List.cons.injEq, true_and]; exact ih
    · exact ih

/-- the key the ATTRIB_RE branch stores is already in lower case -/
theorem lower_attrKey (kw : Str) : lower (attrKey kw) = attrKey kw := by
  simp only [attrKey, lower_dropBlanks, lower_lower]

theorem mem_declVars {stmts : List SpecStmt} {v : Var} :
    v ∈ declVars stmts ↔
      ∃ attrs ents, SpecStmt.tdecl attrs ents ∈ stmts ∧ v.name ∈ ents ∧ v.attribs = attrs.filter keptByDecl := by
  induction stmts with
  | nil => simp [declVars]
  | cons s rest ih =>
    cases s with
    | tdecl attrs ents =>
      simp only [declVars, List.mem_append, List.mem_map, ih, List.mem_cons, SpecStmt.tdecl.injEq]
      constructor
      · rintro (⟨e, he, rfl⟩ | ⟨a, e, h⟩)
        · exact ⟨attrs, ents, .inl ⟨rfl, rfl⟩, he, rfl⟩
        · exact ⟨a, e, .inr h.1, h.2⟩
      · rintro ⟨a, e, ⟨rfl, rfl⟩ | h, h2, h3⟩
        · exact .inl ⟨v.name, h2, by cases v; simp_all⟩
        · exact .inr ⟨a, e, h, h2, h3⟩
    | astmt kw names => simp [declVars, ih]

theorem mem_attrDict {stmts : List SpecStmt} {k n : Str} :
    k ∈ attrDict stmts n ↔ ∃ kw names, SpecStmt.astmt kw names ∈ stmts ∧ k = attrKey kw ∧ attrKey kw ≠ chars! "data" ∧
      n ∈ names.map (fun x => lower (strip x)) := by
  induction stmts with
  | nil => simp [attrDict]
  | cons s rest ih =>
    cases s with
    | tdecl a b => simp [attrDict, ih]
    | astmt kw names =>
      simp only [attrDict, List.mem_append, ih, List.mem_cons, SpecStmt.astmt.injEq]
      constructor
      · rintro (h | ⟨kw', names', h⟩)
        · split at h
          · rename_i hc
            simp only [bne_iff_ne, Bool.and_eq_true, List.contains_eq_mem, decide_eq_true_eq] at hc
            exact ⟨kw, names, .inl ⟨rfl, rfl⟩, List.mem_singleton.1 h, hc⟩
          · simp at h
        · exact ⟨kw', names', .inr h.1, h.2⟩
      · rintro ⟨kw', names', ⟨rfl, rfl⟩ | h, h2, h3, h4⟩
        · exact .inl (by simp [h3, h4, h2])
        · exact .inr ⟨kw', names', h, h2, h3, h4⟩

/-- every processed variable comes from a declared one of the same name; it keeps the declared
    attributes, and the others are entries of `attr_dict` -/
theorem declared_of_mem_processVars {stmts : List SpecStmt} {vs : List Var} {seen : List Str} {v : Var}
    (h : v ∈ processVars stmts vs seen) :
    ∃ v0 ∈ vs, v.name = v0.name ∧ (∀ a ∈ v0.attribs, a ∈ v.attribs) ∧
      ∀ a ∈ v.attribs, a ∈ v0.attribs ∨ a ∈ attrDict stmts (lower v0.name) := by
  induction vs generalizing seen with
  | nil => simp [processVars] at h
  | cons w ws ih =>
    simp only [processVars, List.mem_cons] at h
    rcases h with h | h
    · subst h
      refine ⟨w, by simp, rfl, fun a ha => by simp [ha], fun a ha => ?_⟩
      rcases List.mem_append.1 ha with ha | ha
      · exact Or.inl ha
      · split at ha
        · simp at ha
        · exact Or.inr (List.mem_filter.1 ha).1
    · obtain ⟨v0, h0, h1⟩ := ih h
      exact ⟨v0, by simp [h0], h1⟩

theorem mem_processVars_of_declared {stmts : List SpecStmt} {vs : List Var} {seen : List Str} {v0 : Var}
    (h : v0 ∈ vs) : ∃ v ∈ processVars stmts vs seen, v.name = v0.name := by
  induction vs generalizing seen with
  | nil => simp at h
  | cons w ws ih =>
    simp only [List.mem_cons] at h
    rcases h with h | h
    · subst h
      simp only [processVars]
      exact ⟨_, List.mem_cons_self, rfl⟩
    · obtain ⟨v, hv, hn⟩ := ih (seen := lower w.name :: seen) h
      exact ⟨v, by simp [processVars, hv], hn⟩

/-- when every name is declared once, each variable receives all entries of `attr_dict` under
    its name that `process_attribs` appends -/
theorem processVars_attribs {stmts : List SpecStmt} {vs : List Var} {seen : List Str}
    (hnd : (vs.map (fun v => lower v.name)).Nodup) (hdis : ∀ v ∈ vs, lower v.name ∉ seen) :
    ∀ v ∈ processVars stmts vs seen, ∀ k ∈ attrDict stmts (lower v.name), appendedKey k = true → k ∈ v.attribs := by
  induction vs generalizing seen with
  | nil => simp [processVars]
  | cons w ws ih =>
    intro v hv k hk hak
    simp only [processVars, List.mem_cons] at hv
    simp only [List.map_cons, List.nodup_cons] at hnd
    rcases hv with hv | hv
    · subst hv
      have hs : lower w.name ∉ seen := hdis w (by simp)
      simp only at hk
      simp [hs, hk, hak]
    · refine ih hnd.2 ?_ v hv k hk hak
      intro x hx
      simp only [List.mem_cons, not_or]
      refine ⟨?_, hdis x (by simp [hx])⟩
      intro heq
      exact hnd.1 (by simp only [List.mem_map]; exact ⟨x, hx, heq⟩)

theorem takeArgs_subset (args : List Str) (vs : List Var) : ∀ v ∈ takeArgs args vs, v ∈ vs := by
  induction args generalizing vs with
  | nil => simp [takeArgs]
  | cons a as ih =>
    intro v hv
    simp only [takeArgs, List.foldl_cons] at hv
    have := ih (vs.eraseP (named a)) v (by simpa [takeArgs] using hv)
    exact (List.eraseP_sublist).subset this

theorem mem_takeArgs_of_not_named {args : List Str} {vs : List Var} {v : Var}
    (hv : v ∈ vs) (h : ∀ a ∈ args, named a v = false) : v ∈ takeArgs args vs := by
  induction args generalizing vs with
  | nil => simpa [takeArgs] using hv
  | cons a as ih =>
    simp only [takeArgs, List.foldl_cons]
    have h1 : v ∈ vs.eraseP (named a) :=
      (List.mem_eraseP_of_neg (by simp [h a (by simp)])).2 hv
    exact ih h1 (fun b hb => h b (by simp [hb]))

theorem scopeVars_subset (f : List Char × List String) (u : Unit) :
    ∀ v ∈ scopeVars f u, v ∈ cleanupVars f (processVars u.stmts (declVars u.stmts) []) := by
  intro v hv
  unfold scopeVars at hv
  simp only at hv
  split at hv
  · split at hv
    · exact takeArgs_subset _ _ v hv
    · exact takeArgs_subset _ _ v ((List.eraseP_sublist).subset hv)
  · exact takeArgs_subset _ _ v hv

theorem lower_external_kept {a : Str} (h : lower a = chars! "external") : keptByDecl a = true := by
  simp only [keptByDecl, h]
  decide

/-- **EXTERNAL attribute.**  If every type declaration statement that declares `n` carries an
    attribute that the filter's normalisation maps to the filter's keyword, `n` is no variable of
    the scope. -/
theorem not_scopeVar_of_attr (f : List Char × List String) (u : Unit) (n : Str) (p : Str → Prop)
    (hf : ∀ a, p a → normAttr f.2 a = f.1 ∧ keptByDecl a = true)
    (h : ∀ attrs ents, SpecStmt.tdecl attrs ents ∈ u.stmts → (∃ e ∈ ents, lower e = n) → ∃ a ∈ attrs, p a) :
    n ∉ scopeVarNames f u := by
  intro hmem
  simp only [scopeVarNames, List.mem_map] at hmem
  obtain ⟨v, hv, hvn⟩ := hmem
  have hc := scopeVars_subset f u v hv
  simp only [cleanupVars, List.mem_filter] at hc
  obtain ⟨hp, hk⟩ := hc
  obtain ⟨v0, hv0, hname, hattrs, _⟩ := declared_of_mem_processVars hp
  obtain ⟨attrs, ents, hst, hent, hat⟩ := mem_declVars.1 hv0
  obtain ⟨a, ha, hpa⟩ := h attrs ents hst ⟨v0.name, hent, by rw [← hname]; exact hvn⟩
  obtain ⟨hn, hkept⟩ := hf a hpa
  have ha0 : a ∈ v0.attribs := by rw [hat]; simp [ha, hkept]
  have : hasKw f v = true := by
    simp only [hasKw, List.contains_eq_mem, List.mem_map, decide_eq_true_eq]
    exact ⟨a, hattrs a ha0, hn⟩
  simp [this] at hk

/-- **EXTERNAL statement.**  If an attribute statement whose keyword the filter recognises names
    `n` (and no name is declared twice), `n` is no variable of the scope. -/
theorem not_scopeVar_of_stmt (f : List Char × List String) (u : Unit) (n : Str)
    (hnd : ((declVars u.stmts).map (fun v => lower v.name)).Nodup)
    (kw : Str) (names : List Str) (hst : SpecStmt.astmt kw names ∈ u.stmts)
    (hn : n ∈ names.map (fun x => lower (strip x)))
    (hd : attrKey kw ≠ chars! "data") (hap : appendedKey (attrKey kw) = true)
    (hf : normAttr f.2 (attrKey kw) = f.1) :
    n ∉ scopeVarNames f u := by
  intro hmem
  simp only [scopeVarNames, List.mem_map] at hmem
  obtain ⟨v, hv, hvn⟩ := hmem
  have hc := scopeVars_subset f u v hv
  simp only [cleanupVars, List.mem_filter] at hc
  obtain ⟨hp, hk⟩ := hc
  have hk' := processVars_attribs (stmts := u.stmts) (seen := []) hnd (by simp) v hp (attrKey kw)
    (by rw [hvn]; exact mem_attrDict.2 ⟨kw, names, hst, rfl, hd, hn⟩) hap
  have : hasKw f v = true := by
    simp only [hasKw, List.contains_eq_mem, List.mem_map, decide_eq_true_eq]
    exact ⟨attrKey kw, hk', hf⟩
  simp [this] at hk

/-- **A declared variable stays a variable.**  An entity of a type declaration statement that is
    neither a dummy argument nor the result variable, none of whose attributes (declared or given
    by attribute statements) the filter recognises, is a variable of the scope. -/
theorem scopeVar_of_declared (f : List Char × List String) (u : Unit) (attrs ents : List Str) (e : Str)
    (hst : SpecStmt.tdecl attrs ents ∈ u.stmts) (he : e ∈ ents)
    (hargs : ∀ a ∈ u.args, lower a ≠ lower e) (hret : ∀ r, u.ret = some r → lower r ≠ lower e)
    (hno : ∀ v ∈ processVars u.stmts (declVars u.stmts) [], v.name = e → hasKw f v = false) :
    lower e ∈ scopeVarNames f u := by
  obtain ⟨v, hv, hvn⟩ := mem_processVars_of_declared (stmts := u.stmts) (seen := []) (mem_declVars (v := ⟨e, attrs.filter keptByDecl⟩) |>.2 ⟨attrs, ents, hst, he, rfl⟩)
  simp only at hvn
  have hclean : v ∈ cleanupVars f (processVars u.stmts (declVars u.stmts) []) := by
    simp only [cleanupVars, List.mem_filter]
    exact ⟨hv, by simp [hno v hv hvn]⟩
  have hta : v ∈ takeArgs u.args (cleanupVars f (processVars u.stmts (declVars u.stmts) [])) :=
    mem_takeArgs_of_not_named hclean (fun a ha => by
      have := hargs a ha
      simp only [named, hvn, beq_eq_false_iff_ne, ne_eq]
      exact fun h => this h.symm)
  simp only [scopeVarNames, List.mem_map]
  refine ⟨v, ?_, by rw [hvn]⟩
  unfold scopeVars
  simp only
  split
  · rename_i r hr
    split
    · exact hta
    · refine (List.mem_eraseP_of_neg ?_).2 hta
      have := hret r hr
      simp only [named, hvn, beq_iff_eq]
      exact fun h => this h.symm
  · exact hta

theorem removed_var : isRemoved Generated.C08.removedKinds .var = true := by decide +kernel
theorem removed_type : isRemoved Generated.C08.removedKinds .type = true := by decide +kernel
theorem kept_proc : isRemoved Generated.C08.removedKinds .proc = false := by decide +kernel

theorem not_mem_resolve_of_removed (order removed : List String) (tab : String → List Str)
    (calls : List Chain) (n : Str) (h : isRemoved removed (lookupKind order tab n) = true) :
    n ∉ resolveScope order removed tab calls := by
  intro hm
  simp only [resolveScope, List.mem_filterMap] at hm
  obtain ⟨ch, _, hch⟩ := hm
  split at hch
  · rename_i m
    split at hch
    · simp at hch
    · rename_i hnr
      simp only [Option.some.injEq] at hch
      subst hch
      exact hnr h
  · simp at hch

theorem mem_resolve_of_kept (order removed : List String) (tab : String → List Str)
    (calls : List Chain) (n : Str) (hc : [n] ∈ calls) (h : isRemoved removed (lookupKind order tab n) = false) :
    n ∈ resolveScope order removed tab calls := by
  simp only [resolveScope, List.mem_filterMap]
  exact ⟨[n], hc, by simp [h]⟩

/-- a name held by one of the four variable tables of the scope is removed, whatever else carries
    it: these tables are merged last -/
theorem variable_never_kept (h : Host) (u : Unit) (n : Str) (calls : List Chain)
    (hn : n ∈ h.vars ∨ n ∈ u.args.map lower ∨ n ∈ u.ret.toList.map lower ∨ n ∈ scopeNames u) :
    n ∉ keptCalls h u calls := by
  apply not_mem_resolve_of_removed
  have hk : lookupKind Generated.C08.labelOrder (scopeTab h u) n = .var := by
    rcases hn with hn | hn | hn | hn <;>
      simp [lookupKind, Generated.C08.labelOrder, kindOfLayer, scopeTab, layer, hn]
  rw [hk]
  exact removed_var

theorem lookup_free (h : Host) (u : Unit) (n : Str) (hv : n ∉ scopeNames u) (ht : n ∉ h.types)
    (hhv : n ∉ h.vars) (ha : n ∉ u.args.map lower) (hr : ∀ r, u.ret = some r → lower r ≠ n) :
    lookupKind Generated.C08.labelOrder (scopeTab h u) n = if n ∈ h.procs then .proc else .unknown := by
  have hret : n ∉ u.ret.toList.map lower := by
    cases hu : u.ret with
    | none => simp
    | some r => simpa using fun hh => hr r hu hh.symm
  by_cases hp : n ∈ h.procs <;>
    simp [lookupKind, Generated.C08.labelOrder, kindOfLayer, scopeTab, layer, hv, ht, hhv, ha, hret, hp]

end Ford.Calls.Scope
