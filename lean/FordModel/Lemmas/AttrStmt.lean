/-
  Lemmas about `FordModel/AttrStmt.lean`: what one attribute and the loop over the attributes do to a variable
  (`applyAttr_*`, `applyAttrs_*`), the dictionary after the items have consumed their entries, the first declaration
  of a name through `process_attribs` (`firstVar_attach`), and the argument / result matching of `_cleanup`.
-/
import FordModel.AttrStmt
namespace Ford.AttrStmt

theorem applyAttrs_append (p : List (Str × Str)) (v : DVar) (xs ys : List Str) :
    applyAttrs p v (xs ++ ys) = applyAttrs p (applyAttrs p v xs) ys := by
  simp [applyAttrs, List.foldl_append]

theorem applyAttrs_invariant (P : DVar → Prop) (p : List (Str × Str)) (attrs : List Str)
    (step : ∀ a ∈ attrs, ∀ v, P v → P (applyAttr p v a)) (v : DVar) (h : P v) : P (applyAttrs p v attrs) := by
  induction attrs generalizing v with
  | nil => exact h
  | cons a as ih =>
    exact ih (fun b hb => step b (List.mem_cons_of_mem _ hb)) _ (step a List.mem_cons_self v h)

/- `applyAttr` is a chain of `if`s over record updates: a field is read off by pushing the projection into the
   branches (`apply_ite`), where every update of another field disappears. -/

theorem applyAttr_keeps (p : List (Str × Str)) (v : DVar) (a : Str) :
    (applyAttr p v a).name = v.name ∧ (applyAttr p v a).ftype = v.ftype ∧
    (applyAttr p v a).optional = v.optional ∧ (applyAttr p v a).parameter = v.parameter := by
  simp only [applyAttr, apply_ite DVar.name, apply_ite DVar.ftype, apply_ite DVar.optional,
    apply_ite DVar.parameter, ite_self, and_self]

theorem applyAttrs_keeps (p : List (Str × Str)) (attrs : List Str) (v : DVar) :
    (applyAttrs p v attrs).name = v.name ∧ (applyAttrs p v attrs).ftype = v.ftype ∧
    (applyAttrs p v attrs).optional = v.optional ∧ (applyAttrs p v attrs).parameter = v.parameter :=
  applyAttrs_invariant
    (fun w => w.name = v.name ∧ w.ftype = v.ftype ∧ w.optional = v.optional ∧ w.parameter = v.parameter) p attrs
    (fun a _ w hw => by
      obtain ⟨h1, h2, h3, h4⟩ := applyAttr_keeps p w a
      exact ⟨h1.trans hw.1, h2.trans hw.2.1, h3.trans hw.2.2.1, h4.trans hw.2.2.2⟩)
    v ⟨rfl, rfl, rfl, rfl⟩

theorem applyAttr_attribs_mono (p : List (Str × Str)) (v : DVar) (a x : Str) (h : x ∈ v.attribs) :
    x ∈ (applyAttr p v a).attribs := by
  simp only [applyAttr, apply_ite DVar.attribs, apply_ite (x ∈ ·), List.mem_append, h, true_or, ite_self]

theorem applyAttrs_attribs_mono (p : List (Str × Str)) (attrs : List Str) (v : DVar) (x : Str)
    (h : x ∈ v.attribs) : x ∈ (applyAttrs p v attrs).attribs :=
  applyAttrs_invariant (x ∈ ·.attribs) p attrs (fun a _ w hw => applyAttr_attribs_mono p w a x hw) v h

theorem applyAttr_plain (p : List (Str × Str)) (v : DVar) (a : Str) (h : isPlainAttr a = true) :
    a ∈ (applyAttr p v a).attribs := by
  simp only [isPlainAttr, Bool.and_eq_true, Bool.not_eq_true', bne_iff_ne, ne_eq] at h
  obtain ⟨⟨⟨h1, h2⟩, h3⟩, h4⟩ := h
  have h2' : (a.take 6 == (chars! "intent")) = false := by simpa using h2
  have h4' : (a == (chars! "parameter")) = false := by simpa using h4
  simp only [applyAttr, h1, h2', h3, h4', Bool.false_eq_true, if_false, List.mem_append, List.mem_singleton,
    or_true]

theorem applyAttrs_plain (p : List (Str × Str)) (attrs : List Str) (v : DVar) (a : Str)
    (ha : a ∈ attrs) (h : isPlainAttr a = true) : a ∈ (applyAttrs p v attrs).attribs := by
  obtain ⟨pre, post, rfl⟩ := List.append_of_mem ha
  rw [show pre ++ a :: post = (pre ++ [a]) ++ post by simp, applyAttrs_append, applyAttrs_append]
  exact applyAttrs_attribs_mono p post _ a (applyAttr_plain p _ a h)

theorem applyAttr_intent_other (p : List (Str × Str)) (v : DVar) (a : Str)
    (h : a.take 6 ≠ (chars! "intent")) : (applyAttr p v a).intent = v.intent := by
  have h' : (a.take 6 == (chars! "intent")) = false := by simpa using h
  simp only [applyAttr, apply_ite DVar.intent, h', Bool.false_eq_true, if_false, ite_self]

theorem applyAttrs_intent_other (p : List (Str × Str)) (attrs : List Str) (v : DVar)
    (h : ∀ a ∈ attrs, a.take 6 ≠ (chars! "intent")) : (applyAttrs p v attrs).intent = v.intent :=
  applyAttrs_invariant (·.intent = v.intent) p attrs
    (fun a ha w hw => (applyAttr_intent_other p w a (h a ha)).trans hw) v rfl

theorem applyAttr_intent (p : List (Str × Str)) (v : DVar) (a : Str)
    (h : a.take 6 = (chars! "intent")) : (applyAttr p v a).intent = (a.drop 7).dropLast := by
  have hp : isPermission a = false := by
    cases hq : isPermission a with
    | false => rfl
    | true =>
      simp only [isPermission, Bool.or_eq_true, beq_iff_eq] at hq
      rcases hq with (e | e) | e <;> (subst e; simp at h)
  unfold applyAttr
  rw [if_neg (by simp [hp]), if_pos (by simpa using h)]

theorem lookup_eraseKey_other (d : Dict) (k key : Str) (h : k ≠ key) :
    lookupAttrs (eraseKey d k) key = lookupAttrs d key := by
  induction d with
  | nil => simp [eraseKey, lookupAttrs]
  | cons e d ih =>
    obtain ⟨k', as⟩ := e
    by_cases hk : k' = k
    · subst hk
      simp [eraseKey, lookupAttrs, h]
    · simp only [eraseKey, beq_iff_eq, hk, if_false, lookupAttrs]
      rw [ih]

theorem lookup_consumeItems (items : List Item) (d d' : Dict) (key : Str)
    (h : key ∉ items.map (·.name)) (hc : consumeItems d items = some d') :
    lookupAttrs d' key = lookupAttrs d key := by
  induction items generalizing d with
  | nil =>
    simp only [consumeItems, Option.some.injEq] at hc
    rw [hc]
  | cons i is ih =>
    simp only [List.map_cons, List.mem_cons, not_or] at h
    simp only [consumeItems] at hc
    split at hc
    · cases hc
    · rw [ih _ h.2 hc]
      exact lookup_eraseKey_other d i.name key (fun e => h.1 e.symm)

theorem firstVar_nil (key : Str) : firstVar key [] = none := by simp [firstVar, takeVar]

theorem firstVar_cons (key : Str) (v : DVar) (vs : List DVar) :
    firstVar key (v :: vs) = if lower v.name = key then some v else firstVar key vs := by
  unfold firstVar
  simp only [takeVar, beq_iff_eq]
  split
  · simp
  · cases h : takeVar key vs with
    | none => simp
    | some x => simp

theorem firstVar_attachGo (p : List (Str × Str)) (key : Str) (vars : List DVar) (d : Dict) :
    firstVar key (attachGo p d vars) =
      (firstVar key vars).map (fun v => applyAttrs p v (lookupAttrs d key)) := by
  induction vars generalizing d with
  | nil => simp [attachGo, firstVar_nil]
  | cons v vs ih =>
    simp only [attachGo, firstVar_cons, (applyAttrs_keeps p _ v).1]
    by_cases h : lower v.name = key
    · simp [h]
    · simp only [h, if_false]
      rw [ih, lookup_eraseKey_other _ _ _ h]

theorem firstVar_dropExternal (key : Str) (vars : List DVar) (v : DVar)
    (h : firstVar key vars = some v) (hv : isExternal v = false) :
    firstVar key (dropExternal vars) = some v := by
  induction vars with
  | nil => simp [firstVar_nil] at h
  | cons w ws ih =>
    rw [firstVar_cons] at h
    by_cases hk : lower w.name = key
    · simp only [hk, if_true, Option.some.injEq] at h
      subst h
      simp [dropExternal, List.filter, hv, firstVar_cons, hk]
    · simp only [hk, if_false] at h
      have := ih h
      unfold dropExternal at this ⊢
      simp only [List.filter]
      split
      · simp [firstVar_cons, hk, this]
      · exact this

theorem firstVar_takeVar_other (k key : Str) (h : k ≠ key) (vars : List DVar) (x : DVar) (r : List DVar)
    (ht : takeVar k vars = some (x, r)) : firstVar key r = firstVar key vars := by
  induction vars generalizing x r with
  | nil => simp [takeVar] at ht
  | cons w ws ih =>
    simp only [takeVar, beq_iff_eq] at ht
    by_cases hk : lower w.name = k
    · simp only [hk, if_true, Option.some.injEq, Prod.mk.injEq] at ht
      obtain ⟨_, e⟩ := ht
      subst e
      rw [firstVar_cons, if_neg (by rw [hk]; exact h)]
    · simp only [hk, if_false] at ht
      cases hh : takeVar k ws with
      | none => simp [hh] at ht
      | some y =>
        obtain ⟨y1, y2⟩ := y
        simp only [hh, Option.some.injEq, Prod.mk.injEq] at ht
        obtain ⟨_, e⟩ := ht
        subst e
        rw [firstVar_cons, firstVar_cons, ih y1 y2 hh]

/-- one turn of the argument loop on a name `b`: it writes one slot and hands on variables among which every
    other name finds what it found before; the slot is the declaration of `b` when there is one -/
theorem matchArgs_name (b : Str) (rest : List Slot) (vars : List DVar) (ifs : List Str) :
    ∃ s vars' ifs', matchArgs (.name b :: rest) vars ifs
        = (s :: (matchArgs rest vars' ifs').1, (matchArgs rest vars' ifs').2) ∧
      (∀ key, lower b ≠ key → firstVar key vars' = firstVar key vars) ∧
      (∀ v, firstVar (lower b) vars = some v → s = .var v) := by
  simp only [matchArgs]
  cases ht : takeVar (lower b) vars with
  | some x =>
    obtain ⟨x1, x2⟩ := x
    refine ⟨.var x1, x2, ifs, rfl, fun key h => firstVar_takeVar_other _ _ h vars x1 x2 ht, ?_⟩
    intro v hv
    simp only [firstVar, ht, Option.map_some, Option.some.injEq] at hv
    rw [hv]
  | none =>
    have hv : ∀ v, firstVar (lower b) vars = some v → False := fun v hv => by simp [firstVar, ht] at hv
    cases hi : takeIface (lower b) ifs with
    | some y => exact ⟨_, vars, y.2, rfl, fun _ _ => rfl, fun v h => (hv v h).elim⟩
    | none => exact ⟨_, vars, ifs, rfl, fun _ _ => rfl, fun v h => (hv v h).elim⟩

theorem matchArgs_get (argNames : List Str) (hn : (argNames.map lower).Nodup)
    (vars : List DVar) (ifs : List Str) (i : Nat) (a : Str) (v : DVar)
    (ha : argNames[i]? = some a) (hv : firstVar (lower a) vars = some v) :
    (matchArgs (argNames.map Slot.name) vars ifs).1[i]? = some (.var v) := by
  induction argNames generalizing vars ifs i with
  | nil => simp at ha
  | cons b bs ih =>
    simp only [List.map_cons, List.nodup_cons] at hn
    obtain ⟨s, vars', ifs', hstep, hother, hself⟩ := matchArgs_name b (bs.map Slot.name) vars ifs
    rw [List.map_cons, hstep]
    cases i with
    | zero =>
      simp only [List.getElem?_cons_zero, Option.some.injEq] at ha
      subst ha
      simp [hself v hv]
    | succ j =>
      simp only [List.getElem?_cons_succ] at ha ⊢
      have hne : lower b ≠ lower a := fun e =>
        hn.1 (e ▸ List.mem_map.mpr ⟨a, List.mem_of_getElem? ha, rfl⟩)
      exact ih hn.2 vars' ifs' j ha ((hother _ hne).trans hv)

theorem matchArgs_vars_other (argNames : List Str) (key : Str) (hk : key ∉ argNames.map lower)
    (vars : List DVar) (ifs : List Str) :
    firstVar key (matchArgs (argNames.map Slot.name) vars ifs).2.1 = firstVar key vars := by
  induction argNames generalizing vars ifs with
  | nil => simp [matchArgs]
  | cons b bs ih =>
    simp only [List.map_cons, List.mem_cons, not_or] at hk
    obtain ⟨s, vars', ifs', hstep, hother, _⟩ := matchArgs_name b (bs.map Slot.name) vars ifs
    rw [List.map_cons, hstep]
    exact (ih hk.2 vars' ifs').trans (hother key (fun e => hk.1 e.symm))

theorem matchResult_vars_other (r key : Str) (h : lower r ≠ key) (vars : List DVar) :
    firstVar key (matchResult (some (.name r)) vars).2 = firstVar key vars := by
  simp only [matchResult]
  cases ht : takeVar (lower r) vars with
  | some x =>
    obtain ⟨x1, x2⟩ := x
    simpa using firstVar_takeVar_other _ _ h vars x1 x2 ht
  | none => simp

theorem matchResult_get (r : Str) (vars : List DVar) (v : DVar) (h : firstVar (lower r) vars = some v) :
    (matchResult (some (.name r)) vars).1 = some (.var v) := by
  simp only [matchResult]
  cases ht : takeVar (lower r) vars with
  | some x =>
    simp only [firstVar, ht, Option.map_some, Option.some.injEq] at h
    subst h
    simp
  | none => simp [firstVar, ht] at h

theorem attach_of_consumeItems (p : List (Str × Str)) (items : List Item) (d d' : Dict) (vars : List DVar)
    (hc : consumeItems d items = some d') : attach p items d vars = some (attachGo p d' vars) := by
  simp [attach, hc]

/-- `process_attribs`: the first declaration of a name that no item has leaves the loop with everything recorded
    for that name -/
theorem firstVar_attach (p : List (Str × Str)) (items : List Item) (d : Dict) (vars vars' : List DVar)
    (key : Str) (hi : key ∉ items.map (·.name)) (ha : attach p items d vars = some vars') :
    firstVar key vars' = (firstVar key vars).map (fun v => applyAttrs p v (lookupAttrs d key)) := by
  cases hc : consumeItems d items with
  | none => simp [attach, hc] at ha
  | some d' =>
    rw [attach_of_consumeItems p items d d' vars hc, Option.some.injEq] at ha
    rw [← ha, firstVar_attachGo, lookup_consumeItems items d d' key hi hc]

theorem firstVar_attached (p : List (Str × Str)) (items : List Item) (d : Dict) (vars vars' : List DVar)
    (key : Str) (v : DVar) (ha : attach p items d vars = some vars')
    (hv : firstVar key vars = some v) (hi : key ∉ items.map (·.name))
    (hx : isExternal (applyAttrs p v (lookupAttrs d key)) = false) :
    firstVar key (dropExternal vars') = some (applyAttrs p v (lookupAttrs d key)) := by
  apply firstVar_dropExternal _ _ _ _ hx
  rw [firstVar_attach p items d vars vars' key hi ha, hv]
  rfl

end Ford.AttrStmt
