import FordModel.Reader
import FordModel.Lemmas.Split
import FordModel.Lemmas.Chars
namespace Ford

/-! ### `quote_split` is the lexical scanner -/

/-- Specification: split at every `sep` that the lexical scanner `qstep`
    sees outside a character literal. -/
def splitSpec (sep : Char) : Str → QSt → Str → List Str
  | [], _, cur => [cur.reverse]
  | c :: cs, st, cur =>
    if c == sep && st == .out then cur.reverse :: splitSpec sep cs .out []
    else splitSpec sep cs (qstep st c) (c :: cur)

theorem splitSpec_ne (sep c : Char) (cs : Str) (st : QSt) (cur : Str)
    (h : (c == sep && st == .out) = false) :
    splitSpec sep (c :: cs) st cur = splitSpec sep cs (qstep st c) (c :: cur) := by
  simp [splitSpec, h]

theorem splitSpec_sep (sep c : Char) (cs : Str) (cur : Str) (h : (c == sep) = true) :
    splitSpec sep (c :: cs) .out cur = cur.reverse :: splitSpec sep cs .out [] := by
  simp [splitSpec, h]

/-- relation between the two Python flags (`squote`, `dquote`) and the scanner state -/
inductive FlagRel : Bool → Bool → QSt → Prop
  | out : FlagRel false false .out
  | dbl : FlagRel true false (.inq '"')
  | sgl : FlagRel false true (.inq '\'')

theorem quote_ne_sep (sep q : Char) (hs : isQuote sep = false) (hq : isQuote q = true) :
    (q == sep) = false := by
  rw [beq_eq_false_iff_ne]
  rintro rfl
  simp [hq] at hs

/-- outside a literal `quote_split` reads one character at a time -/
theorem qsplitAux_out (sep : Char) (hs : isQuote sep = false) (c : Char) (rest cur : Str) :
    qsplitAux sep (c :: rest) false false cur =
      if c == sep then cur.reverse :: qsplitAux sep rest false false []
      else qsplitAux sep rest (c == '"') (c == '\'') (c :: cur) := by
  have h1 := quote_ne_sep sep '"' hs rfl
  have h2 := quote_ne_sep sep '\'' hs rfl
  by_cases e1 : c = '"'
  · subst e1
    cases rest <;> simp [qsplitAux, h1]
  · by_cases e2 : c = '\''
    · subst e2
      cases rest <;> simp [qsplitAux, h2]
    · have e1' : (c == '"') = false := by simpa using e1
      have e2' : (c == '\'') = false := by simpa using e2
      cases rest <;> simp [qsplitAux, e1', e2']

/-- inside a literal too: the look-ahead at a doubled quote only anticipates the next step -/
theorem qsplitAux_inq (sep : Char) (hs : isQuote sep = false) (q : Char) (sq dq : Bool)
    (h : FlagRel sq dq (.inq q)) (c : Char) (rest cur : Str) :
    qsplitAux sep (c :: rest) sq dq cur =
      if c == q then qsplitAux sep rest false false (c :: cur)
      else qsplitAux sep rest sq dq (c :: cur) := by
  have hq : (q == sep) = false := by
    cases h <;> exact quote_ne_sep sep _ hs rfl
  by_cases e1 : c = q
  · subst e1
    cases rest with
    | nil => cases h <;> simp [qsplitAux]
    | cons d rest =>
      by_cases e : d = c
      · subst e
        cases h <;> simp [qsplitAux, qsplitAux_out sep hs, hq]
      · cases h <;> simp [qsplitAux, e]
  · have e1' : (c == q) = false := by simpa using e1
    cases h <;> cases rest <;> simp [qsplitAux, e1']

theorem qsplitAux_eq_spec (sep : Char) (hs : isQuote sep = false) (l : Str) (sq dq : Bool)
    (cur : Str) (st : QSt) (h : FlagRel sq dq st) :
    qsplitAux sep l sq dq cur = splitSpec sep l st cur := by
  induction l generalizing sq dq cur st with
  | nil => simp [qsplitAux, splitSpec]
  | cons c rest ih =>
    cases st with
    | out =>
      cases h
      rw [qsplitAux_out sep hs]
      by_cases e : c == sep
      · rw [splitSpec_sep _ _ _ _ e, if_pos e, ih _ _ _ _ .out]
      · rw [splitSpec_ne _ _ _ _ _ (by simp [e]), if_neg e]
        apply ih
        by_cases e1 : c = '"'
        · subst e1; exact .dbl
        · by_cases e2 : c = '\''
          · subst e2; exact .sgl
          · have : qstep .out c = .out := by simp [qstep, isQuote, e1, e2]
            have e1' : (c == '"') = false := by simpa using e1
            have e2' : (c == '\'') = false := by simpa using e2
            rw [this, e1', e2']
            exact .out
    | inq q =>
      rw [qsplitAux_inq sep hs q sq dq h, splitSpec_ne _ _ _ _ _ (by simp)]
      by_cases e : c == q
      · rw [if_pos e]; exact ih _ _ _ _ (by simp [qstep, e]; exact .out)
      · rw [if_neg e]; exact ih _ _ _ _ (by simp [qstep, e]; exact h)

/-! ### The comment / doc-mark regex has a unique match -/

/-- `([^"'!]|('[^']*')|("[^"]*"))*` : the strings matched by the starred group. -/
inductive Atoms : Str → Prop
  | nil : Atoms []
  | plain (c : Char) (rest : Str) : isQuote c = false → c ≠ '!' → Atoms rest → Atoms (c :: rest)
  | quoted (q : Char) (body rest : Str) : isQuote q = true → q ∉ body → Atoms rest →
      Atoms (q :: body ++ q :: rest)

/-- Declarative reading of `^ATOMS(!MARK.*)$` : group 4 starts at index `i`. -/
def ComMatch (mark l : Str) (i : Nat) : Prop :=
  ∃ p s, l = p ++ '!' :: s ∧ Atoms p ∧ p.length = i ∧ startsWith s mark = true

/-- inside a literal the scanner runs on to the closing quote -/
theorem comScanAux_inq_body (mark : Str) (q : Char) (body t : Str) (k : Nat) (h : q ∉ body) :
    comScanAux mark (body ++ t) (.inq q) k = comScanAux mark t (.inq q) (k + body.length) := by
  induction body generalizing k with
  | nil => rfl
  | cons b bs ih =>
    have hb : (b == q) = false := by
      simp at h; simp [Ne.symm h.1]
    have hq : q ∉ bs := by simp at h; exact h.2
    simp only [List.cons_append, comScanAux, hb, Bool.false_eq_true, ↓reduceIte, ih (k + 1) hq,
      List.length_cons]
    congr 1
    omega

theorem comScanAux_inq_skip (mark : Str) (q : Char) (body rest : Str) (k : Nat) (h : q ∉ body) :
    comScanAux mark (body ++ q :: rest) (.inq q) k = comScanAux mark rest .out (k + body.length + 1) := by
  simp [comScanAux_inq_body mark q body _ k h, comScanAux]

theorem quote_ne_bang (q : Char) (hq : isQuote q = true) : (q == '!') = false := by
  simp [isQuote] at hq
  rcases hq with h | h <;> simp [h]

/-- the scanner passes over a comment-free, quote-closed prefix -/
theorem comScanAux_atoms_append (mark p t : Str) (k : Nat) (hp : Atoms p) :
    comScanAux mark (p ++ t) .out k = comScanAux mark t .out (k + p.length) := by
  induction hp generalizing k with
  | nil => rfl
  | plain c rest hq hb _ ih =>
    have : (c == '!') = false := by simp [hb]
    simp only [List.cons_append, comScanAux, this, hq, Bool.false_eq_true, ↓reduceIte, ih (k + 1),
      List.length_cons]
    congr 1
    omega
  | quoted q body rest hq hnot _ ih =>
    simp only [List.cons_append, List.append_assoc, comScanAux, quote_ne_bang q hq, hq,
      Bool.false_eq_true, ↓reduceIte, comScanAux_inq_skip mark q body _ _ hnot, ih,
      List.length_cons, List.length_append]
    congr 1
    omega

/-- a declarative match is what the scanner returns -/
theorem comScanAux_of_atoms (mark p s : Str) (k : Nat) (hp : Atoms p) :
    comScanAux mark (p ++ '!' :: s) .out k =
      if startsWith s mark then some (k + p.length) else none := by
  simp [comScanAux_atoms_append mark p _ k hp, comScanAux]

/-- what a successful scan from state `st` tells about the input -/
def ScanPost (mark : Str) (l : Str) (k i : Nat) : QSt → Prop
  | .out => ∃ p s, l = p ++ '!' :: s ∧ Atoms p ∧ i = k + p.length ∧ startsWith s mark = true
  | .inq q => isQuote q = true →
      ∃ body p s, q ∉ body ∧ l = body ++ q :: (p ++ '!' :: s) ∧ Atoms p ∧
        i = k + body.length + 1 + p.length ∧ startsWith s mark = true

/-- what the scanner returns is a declarative match (stated for every scanner state) -/
theorem comScanAux_some (mark l : Str) (st : QSt) (k i : Nat) :
    comScanAux mark l st k = some i → ScanPost mark l k i st := by
  fun_induction comScanAux mark l st k
  case case1 => simp
  case case2 c cs k hc hm =>
    intro h
    simp at h hc; subst hc
    exact ⟨[], cs, by simp, .nil, by simp [h], hm⟩
  case case3 => simp
  case case4 c cs k hc hq ih =>
    intro h
    obtain ⟨body, p, s, hb, hl, hp, hi, hs⟩ := ih h hq
    refine ⟨c :: (body ++ c :: p), s, by simp [hl], ?_, by simp; omega, hs⟩
    exact .quoted c body p hq hb hp
  case case5 c cs k hc hq ih =>
    intro h
    obtain ⟨p, s, hl, hp, hi, hs⟩ := ih h
    refine ⟨c :: p, s, by simp [hl], .plain c p (by simpa using hq) (by simpa using hc) hp, by simp; omega, hs⟩
  case case6 c cs q k hc ih =>
    intro h _
    obtain ⟨p, s, hl, hp, hi, hs⟩ := ih h
    simp at hc; subst hc
    exact ⟨[], p, s, by simp, by simp [hl], hp, by simp; omega, hs⟩
  case case7 c cs q k hc ih =>
    intro h hq
    obtain ⟨body, p, s, hb, hl, hp, hi, hs⟩ := ih h hq
    refine ⟨c :: body, p, s, ?_, by simp [hl], hp, by simp; omega, hs⟩
    simp at hc ⊢
    exact ⟨fun e => hc e.symm, hb⟩

end Ford
