import FordModel.GraphLabel
namespace Ford.Graph

/-!
  Labels.  `posFrom` (the positions of a component type) is the specification of both dict loops,
  `compLoop` (`comp_types`) and `compOfLoop` (`comp_of`); `decodeLabel` is the reader's side of
  `procLabel`: what someone looking at a node label can recover from it.
-/

theorem labelOf_labelAdd (d : LabelDict) (k t : Node) (i : Nat) :
    labelOf (labelAdd d k i) t = if k = t then labelOf d t ++ [i] else labelOf d t := by
  induction d with
  | nil => by_cases h : k = t <;> simp [labelAdd, labelOf, h]
  | cons kv r ih =>
    obtain ⟨k', l⟩ := kv
    by_cases h1 : k' = k
    · subst h1
      by_cases h2 : k' = t <;> simp [labelAdd, labelOf, h2]
    · by_cases h2 : k' = t
      · subst h2
        have : ¬ k = k' := fun h => h1 h.symm
        simp [labelAdd, labelOf, h1, this]
      · simp [labelAdd, labelOf, h1, h2, ih]

theorem labelOf_compLoop (comps : List Node) (i : Nat) (d : LabelDict) (t : Node) :
    labelOf (compLoop comps i d) t = labelOf d t ++ posFrom comps i t := by
  induction comps generalizing i d with
  | nil => simp [compLoop, posFrom]
  | cons p r ih =>
    simp only [compLoop, posFrom, ih, labelOf_labelAdd]
    by_cases h : p = t <;> simp [h]

theorem compOfLoop_eq (t : Node) (comps : List Node) (i : Nat) (l : List Nat) :
    compOfLoop t comps i l = l ++ posFrom comps i t := by
  induction comps generalizing i l with
  | nil => simp [compOfLoop, posFrom]
  | cons p r ih =>
    simp only [compOfLoop, posFrom, ih]
    by_cases h : p = t <;> simp [h]

theorem mem_posFrom (comps : List Node) (i : Nat) (t : Node) (j : Nat) :
    j ∈ posFrom comps i t ↔ ∃ k, j = i + k ∧ comps[k]? = some t := by
  induction comps generalizing i with
  | nil => simp [posFrom]
  | cons p r ih =>
    simp only [posFrom, List.mem_append, List.mem_ite_nil_right, List.mem_singleton, ih]
    constructor
    · rintro (⟨rfl, rfl⟩ | ⟨k, rfl, hk⟩)
      · exact ⟨0, rfl, rfl⟩
      · exact ⟨k + 1, by omega, hk⟩
    · rintro ⟨_ | k, rfl, hk⟩
      · exact Or.inl ⟨Option.some.inj hk, rfl⟩
      · exact Or.inr ⟨k, by omega, hk⟩

theorem posFrom_sorted (comps : List Node) (i : Nat) (t : Node) :
    (posFrom comps i t).Pairwise (· < ·) := by
  induction comps generalizing i with
  | nil => exact .nil
  | cons p r ih =>
    rw [posFrom, List.pairwise_append]
    refine ⟨by split <;> simp, ih (i + 1), fun a ha b hb => ?_⟩
    obtain ⟨k, rfl, _⟩ := (mem_posFrom r (i + 1) t b).1 hb
    have := List.mem_singleton.1 (List.mem_ite_nil_right.1 ha).2
    omega

theorem posFrom_ne_nil (comps : List Node) (i : Nat) (t : Node) : posFrom comps i t ≠ [] ↔ t ∈ comps := by
  induction comps generalizing i with
  | nil => simp [posFrom]
  | cons p r ih =>
    by_cases hp : p = t
    · simp [posFrom, hp]
    · simp [posFrom, hp, ih, Ne.symm hp]

theorem keys_labelAdd (d : LabelDict) (k : Node) (i : Nat) :
    (labelAdd d k i).map Prod.fst = if k ∈ d.map Prod.fst then d.map Prod.fst else d.map Prod.fst ++ [k] := by
  induction d with
  | nil => simp [labelAdd]
  | cons kv r ih =>
    obtain ⟨k', l⟩ := kv
    by_cases h1 : k' = k
    · subst h1; simp [labelAdd]
    · have : ¬ k = k' := fun h => h1 h.symm
      simp only [labelAdd, h1, if_false, List.map_cons, ih, List.mem_cons, this, false_or]
      by_cases h2 : k ∈ r.map Prod.fst <;> simp [h2]

theorem keys_compLoop (comps : List Node) (i : Nat) (d : LabelDict) :
    (∀ k, k ∈ (compLoop comps i d).map Prod.fst ↔ k ∈ d.map Prod.fst ∨ k ∈ comps) ∧
    ((d.map Prod.fst).Nodup → ((compLoop comps i d).map Prod.fst).Nodup) := by
  induction comps generalizing i d with
  | nil => simp [compLoop]
  | cons p r ih =>
    obtain ⟨ih1, ih2⟩ := ih (i + 1) (labelAdd d p i)
    rw [keys_labelAdd] at ih1 ih2
    simp only [compLoop, List.mem_cons]
    by_cases hp : p ∈ d.map Prod.fst
    · rw [if_pos hp] at ih1 ih2
      refine ⟨fun k => (ih1 k).trans ⟨Or.imp_right Or.inr, ?_⟩, ih2⟩
      rintro (h | rfl | h)
      · exact Or.inl h
      · exact Or.inl hp
      · exact Or.inr h
    · rw [if_neg hp] at ih1 ih2
      refine ⟨fun k => by rw [ih1 k, List.mem_append, List.mem_singleton, or_assoc], fun hd => ih2 ?_⟩
      rw [List.nodup_append]
      exact ⟨hd, List.pairwise_singleton _ p, fun a ha b hb hab => hp (List.mem_singleton.1 hb ▸ hab ▸ ha)⟩

theorem splitFirst_clean (c : Char) (a r : Str) (h : a.contains c = false) :
    splitFirst c (a ++ c :: r) = some (a, r) := by
  induction a with
  | nil => simp [splitFirst]
  | cons x t ih =>
    simp only [List.contains_cons, Bool.or_eq_false_iff] at h
    have hx : ¬ x = c := by
      intro hxc; subst hxc; simp at h
    simp [splitFirst, hx, ih h.2]

theorem splitFirst_none (c : Char) (a : Str) (h : a.contains c = false) : splitFirst c a = none := by
  induction a with
  | nil => simp [splitFirst]
  | cons x t ih =>
    simp only [List.contains_cons, Bool.or_eq_false_iff] at h
    have hx : ¬ x = c := by
      intro hxc; subst hxc; simp at h
    simp [splitFirst, hx, ih h.2]

theorem decodeBinder_label (i : LabelIn) (hn : i.name.contains '%' = false)
    (hb : ∀ b, i.binder = some b → b.contains '%' = false) :
    decodeBinder (bindingLabel i ++ i.name) = (i.binder, i.name) := by
  cases hbi : i.binder with
  | none => simp [bindingLabel, hbi, decodeBinder, splitFirst_none _ _ hn]
  | some b =>
    have := splitFirst_clean '%' b i.name (hb b hbi)
    simp [bindingLabel, hbi, decodeBinder, this]

theorem clean_parts {i : LabelIn} (h : i.clean = true) :
    i.name.contains ':' = false ∧ i.name.contains '%' = false
      ∧ (∀ p, i.parent = some p → p.contains ':' = false)
      ∧ (∀ b, i.binder = some b → b.contains ':' = false ∧ b.contains '%' = false) := by
  simp only [LabelIn.clean, cleanName, Bool.and_eq_true, Bool.not_eq_true'] at h
  obtain ⟨⟨⟨h1, h2⟩, h3⟩, h4⟩ := h
  refine ⟨h1, h2, ?_, ?_⟩
  · intro p hp; simp [hp, cleanName] at h3; simpa using h3.1
  · intro b hb; simp [hb, cleanName] at h4; simpa using h4

/-- a label written with `show_proc_parent` can be read back: scope, type and name -/
theorem decodeLabel_procLabel (i : LabelIn) (h : i.clean = true) : decodeLabel (procLabel true i) = i := by
  obtain ⟨hn1, hn2, hp, hb⟩ := clean_parts h
  have hdb := decodeBinder_label i hn2 (fun b hbi => (hb b hbi).2)
  obtain ⟨name, parent, binder⟩ := i
  cases parent with
  | some p =>
    have e : procLabel true ⟨name, some p, binder⟩ = p ++ ':' :: ':' :: (bindingLabel ⟨name, some p, binder⟩ ++ name) := by
      simp [procLabel, parentLabel]
    rw [e, decodeLabel, splitFirst_clean ':' p _ (hp p rfl)]
    simp only [hdb]
  | none =>
    -- no `:` in what is left, so the label is read as one without scope
    have hc : (bindingLabel ⟨name, none, binder⟩ ++ name).contains ':' = false := by
      cases binder with
      | none => exact hn1
      | some b => simpa [bindingLabel] using And.intro (hb b rfl).1 hn1
    have e : procLabel true ⟨name, none, binder⟩ = bindingLabel ⟨name, none, binder⟩ ++ name := rfl
    rw [e, decodeLabel, splitFirst_none ':' _ hc]
    simp only [hdb]

end Ford.Graph
