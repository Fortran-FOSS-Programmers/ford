/-
  C09 — the names of a static page's HTML file: plain path segments; links and search entry resolve to the
  file written when the three places agree.
-/
import FordModel.PageName
import FordModel.Lemmas.Path
namespace Ford.PageName
open Ford Ford.Path

theorem rfindDot_no_dot (s : Str) (i : Nat) (h : '.' ∉ s) : rfindDot s i none = none := by
  induction s generalizing i with
  | nil => rfl
  | cons c cs ih =>
    have hc : c ≠ '.' := fun e => h (e ▸ List.mem_cons_self)
    have hcs : '.' ∉ cs := fun m => h (List.mem_cons_of_mem _ m)
    simp [rfindDot, hc, ih _ hcs]

/-- a stem without a dot has no suffix: `with_suffix(".html")` appends -/
theorem withSuffixHtml_plain (s : Str) (h : '.' ∉ s) : withSuffixHtml s = s ++ htmlExt := by
  simp [withSuffixHtml, suffixLen, rfindDot_no_dot s 0 h]

theorem name_plain (n m : Naming) (s : Str) (h : '.' ∉ s) : n.name s = m.name s := by
  cases n <;> cases m <;> simp [Naming.name, withSuffixHtml_plain s h]

theorem append_html_normalSeg (x : Str) : NormalSeg (x ++ htmlExt) := by
  have hl : 5 ≤ (x ++ htmlExt).length := by simp [htmlExt]
  refine ⟨?_, ?_, ?_⟩ <;> intro e <;> rw [e] at hl <;> simp [cur, up] at hl

theorem name_normalSeg (n : Naming) (s : Str) : NormalSeg (n.name s) := by
  cases n
  · exact append_html_normalSeg _
  · exact append_html_normalSeg _

theorem pageSeg_normalSeg : NormalSeg pageSeg := by decide

theorem pathOf_normal (n : Naming) (loc : List Seg) (stem : Seg) (hl : Normal loc) : Normal (pathOf n loc stem) :=
  normal_cons_iff.2 ⟨pageSeg_normalSeg, normal_append hl (normal_singleton (name_normalSeg n stem))⟩

/-- for any tables whose three places agree: the link `relurl` leaves on a page in directory `dir` resolves, in a tree
    at any root, to the file that is written for the page -/
theorem linkTo_resolves (T : NameTables) (hT : tablesOk T = true) (base dir loc : List Seg) (stem : Seg)
    (hb : Normal base) (hd : Normal dir) (hl : Normal loc) :
    resolve (base ++ dir) (linkTo T base dir loc stem) = base ++ outPath T loc stem := by
  have hu : T.url = T.outfile := of_decide_eq_true (Bool.and_eq_true_iff.1 hT).1
  rw [linkTo, urlPath, outPath, hu]
  exact resolve_relpath _ _ (normal_append hb (pathOf_normal _ loc stem hl)) (normal_append hb hd)

/-- ... and the search index URL names it from the directory of `search.html` -/
theorem searchPath_resolves (T : NameTables) (hT : tablesOk T = true) (base loc : List Seg) (stem : Seg)
    (hb : Normal base) (hl : Normal loc) :
    resolve base (searchPath T loc stem) = base ++ outPath T loc stem := by
  have hu : T.loc = T.outfile := of_decide_eq_true (Bool.and_eq_true_iff.1 hT).2
  rw [searchPath, outPath, hu]
  exact resolve_normal _ _ hb (pathOf_normal _ loc stem hl)

end Ford.PageName
