/-
  Lemmas for the entity list of a declaration statement (`line_to_variables` as modelled by
  Show.declVars): a declaration `T :: n1, n2, ...` yields exactly its names, once each, in order.
-/
import FordModel.Show
import FordModel.Lemmas.TypeSpecChar
namespace Ford.Show
open Ford Ford.TypeSpec

theorem cutGo_noquote (s : Str) (k : Nat) (h : ∀ c ∈ s, isQuote c = false) :
    cutGo s k .scan = s.map .txt := by
  induction s with
  | nil => simp [cutGo]
  | cons c cs ih =>
    simp only [cutGo, h c (by simp), Bool.false_eq_true, if_false, List.map_cons]
    rw [ih (fun d hd => h d (by simp [hd]))]

theorem segMasked_txt (s : Str) (k : Nat) : segMasked (s.map .txt) k = s := by
  induction s with
  | nil => rfl
  | cons c cs ih => simp [segMasked, ih]

theorem segStrings_txt (s : Str) : segStrings (s.map .txt) = [] := by
  induction s with
  | nil => rfl
  | cons c cs ih => simp [segStrings, ih]

theorem prepLine_noquote (s : Str) (h : ∀ c ∈ s, isQuote c = false) :
    prepLine false s = ⟨s, []⟩ := by
  simp [prepLine, cutLits, cutGo_noquote s 0 h, segMasked_txt, segStrings_txt]

theorem afterColons_append (typ rest : Str) (h : ∀ c ∈ typ, c ≠ ':') :
    afterColons (typ ++ ':' :: ':' :: rest) = some rest := by
  induction typ with
  | nil => simp [afterColons]
  | cons c cs ih =>
    have hc : c ≠ ':' := h c (by simp)
    have ih' := ih (fun d hd => h d (by simp [hd]))
    cases cs with
    | nil =>
      have hb : (c == ':') = false := by simpa using hc
      simp [afterColons, hb]
    | cons d ds =>
      have hb : (c == ':') = false := by simpa using hc
      simp only [List.cons_append] at ih' ⊢
      rw [afterColons]
      simp only [hb, Bool.false_and, Bool.false_eq_true, if_false]
      exact ih'

def flatCh (c : Char) : Bool := !isParen c && c != ','

/-- at nesting level 0 a character that is neither a parenthesis nor the separator joins the current piece -/
theorem psplitAux_flat (sep c : Char) (rest cur : Str) (hp : isParen c = false) (hs : c ≠ sep) :
    psplitAux sep (c :: rest) 0 0 cur = psplitAux sep rest 0 0 (c :: cur) := by
  simp only [isParen, Bool.or_eq_false_iff, beq_eq_false_iff_ne, ne_eq] at hp
  obtain ⟨⟨⟨h1, h2⟩, h3⟩, h4⟩ := hp
  have hb : (c == sep) = false := by simpa using hs
  simp [psplitAux, h1, h2, h3, h4, hb]

theorem psplit_piece_end (sep : Char) (n cur : Str)
    (h : ∀ c ∈ n, isParen c = false ∧ c ≠ sep) :
    psplitAux sep n 0 0 cur = [cur.reverse ++ n] := by
  induction n generalizing cur with
  | nil => simp [psplitAux]
  | cons c cs ih =>
    rw [psplitAux_flat sep c cs cur (h c (by simp)).1 (h c (by simp)).2, ih _ (fun d hd => h d (by simp [hd]))]
    simp

theorem psplit_piece (sep : Char) (n rest cur : Str) (hsep : isParen sep = false)
    (h : ∀ c ∈ n, isParen c = false ∧ c ≠ sep) :
    psplitAux sep (n ++ sep :: rest) 0 0 cur = (cur.reverse ++ n) :: psplitAux sep rest 0 0 [] := by
  induction n generalizing cur with
  | nil =>
    simp only [isParen, Bool.or_eq_false_iff, beq_eq_false_iff_ne, ne_eq] at hsep
    obtain ⟨⟨⟨h1, h2⟩, h3⟩, h4⟩ := hsep
    simp [psplitAux, h1, h2, h3, h4]
  | cons c cs ih =>
    rw [List.cons_append, psplitAux_flat sep c _ cur (h c (by simp)).1 (h c (by simp)).2,
      ih _ (fun d hd => h d (by simp [hd]))]
    simp

def sepCS : Str := [',', ' ']

theorem joinStr_cons_cons (sep x y : Str) (r : List Str) :
    joinStr sep (x :: y :: r) = x ++ sep ++ joinStr sep (y :: r) := rfl

theorem joinStr_prepend (c : Char) (x : Str) (r : List Str) (sep : Str) :
    c :: joinStr sep (x :: r) = joinStr sep ((c :: x) :: r) := by
  cases r <;> simp [joinStr]

/-- a name of the list: word characters only (no blank, parenthesis, comma, `=`, `*`, quote) -/
def NameOk (n : Str) : Prop := ∀ c ∈ n, isWord c = true

theorem word_flat {c : Char} (sep : Char) (hsep : isWord sep = false) (h : isWord c = true) :
    isParen c = false ∧ c ≠ sep := ⟨word_paren h, word_ne h hsep⟩

theorem psplit_names (n : Str) (ns : List Str) (cur : Str)
    (hn : ∀ c ∈ n, isParen c = false ∧ c ≠ ',') (hns : ∀ m ∈ ns, NameOk m) :
    psplitAux ',' (joinStr sepCS (n :: ns)) 0 0 cur = (cur.reverse ++ n) :: ns.map (' ' :: ·) := by
  induction ns generalizing n cur with
  | nil => simpa [joinStr] using psplit_piece_end ',' n cur hn
  | cons m ms ih =>
    rw [joinStr_cons_cons]
    simp only [sepCS, List.append_assoc, List.cons_append, List.nil_append]
    rw [psplit_piece ',' n _ cur (by decide) hn, joinStr_prepend]
    have hm : ∀ c ∈ ' ' :: m, isParen c = false ∧ c ≠ ',' := by
      intro c hc
      rcases List.mem_cons.mp hc with rfl | hc
      · decide
      · exact word_flat ',' (by decide) (hns m (by simp) c hc)
    have := ih (' ' :: m) [] hm (fun x hx => hns x (by simp [hx]))
    simp only [sepCS] at this
    rw [this]
    simp

theorem parenSplit_names (n : Str) (ns : List Str) (hn : NameOk n) (hns : ∀ m ∈ ns, NameOk m) :
    parenSplit ',' (joinStr sepCS (n :: ns)) = n :: ns.map (' ' :: ·) := by
  have := psplit_names n ns [] (fun c hc => word_flat ',' (by decide) (hn c hc)) hns
  simpa [parenSplit] using this

theorem findIdx?_none (p : Char) (s : Str) (i : Nat) (h : ∀ c ∈ s, c ≠ p) : findIdx? p s i = none := by
  induction s generalizing i with
  | nil => rfl
  | cons c cs ih =>
    have hb : (c == p) = false := by simpa using h c (by simp)
    simp only [findIdx?, hb, Bool.false_eq_true, if_false]
    exact ih _ (fun d hd => h d (by simp [hd]))

theorem splitNameDim_name (n : Str) (hn : NameOk n) : splitNameDim n = (n, []) := by
  have h1 : posIdx '(' n = none := by simp [posIdx, findIdx?_none '(' n 0 (fun c hc => word_ne (hn c hc) (by decide))]
  have h2 : posIdx '[' n = none := by simp [posIdx, findIdx?_none '[' n 0 (fun c hc => word_ne (hn c hc) (by decide))]
  have h3 : posIdx '*' n = none := by simp [posIdx, findIdx?_none '*' n 0 (fun c hc => word_ne (hn c hc) (by decide))]
  simp [splitNameDim, h1, h2, h3, minOpt]

theorem removeSpaces_name (n : Str) (hn : NameOk n) : removeSpaces n = n := by
  induction n with
  | nil => rfl
  | cons c cs ih =>
    have hc : c ≠ ' ' := word_ne (hn c (by simp)) (by decide)
    have hb : (c != ' ') = true := by simpa using hc
    simp only [removeSpaces, List.filter_cons, hb, if_true]
    congr 1
    exact ih (fun d hd => hn d (by simp [hd]))

theorem decOne_name (strings : List Str) (pad n : Str) (eqJoin : Bool) (hp : ∀ c ∈ pad, c = ' ') (hn : NameOk n) :
    decOne strings (pad ++ n) eqJoin = .ok ⟨n, [], false, none⟩ := by
  have hrm : removeSpaces (pad ++ n) = n := by
    have hpad : removeSpaces pad = [] := by
      induction pad with
      | nil => rfl
      | cons c cs ih =>
        have : c = ' ' := hp c (by simp)
        subst this
        simp only [removeSpaces, List.filter_cons]
        simpa [removeSpaces] using ih (fun d hd => hp d (by simp [hd]))
    have : removeSpaces (pad ++ n) = removeSpaces pad ++ removeSpaces n := by simp [removeSpaces]
    rw [this, hpad, removeSpaces_name n hn]; rfl
  have hsp : parenSplit '=' n = [n] := by
    have := psplit_piece_end '=' n [] (fun c hc => word_flat '=' (by decide) (hn c hc))
    simpa [parenSplit] using this
  have hstrip : strip n = n := strip_nospace n (fun c hc => word_space (hn c hc))
  unfold decOne
  simp only [hrm, hsp, hstrip, splitNameDim_name n hn]

theorem decAll_names (strings : List Str) (ns : List Str) (eqJoin : Bool) (hns : ∀ m ∈ ns, NameOk m) :
    decAll strings (ns.map (' ' :: ·)) eqJoin = .ok (ns.map fun m => ⟨m, [], false, none⟩) := by
  induction ns with
  | nil => simp [decAll]
  | cons m ms ih =>
    have h1 := decOne_name strings [' '] m eqJoin (by simp) (hns m (by simp))
    simp only [List.singleton_append] at h1
    simp only [List.map_cons, decAll, h1, ih (fun x hx => hns x (by simp [hx]))]


theorem joinStr_ne_nil (sep n : Str) (ns : List Str) (h : (n :: ns).getLast (by simp) ≠ []) :
    joinStr sep (n :: ns) ≠ [] := by
  induction ns generalizing n with
  | nil => simpa [joinStr] using h
  | cons m ms ih =>
    rw [joinStr_cons_cons]
    have := ih m (by simpa using h)
    intro e
    simp at e
    exact this e.2.2

theorem joinStr_getLast? (sep n : Str) (ns : List Str) (h : (n :: ns).getLast (by simp) ≠ []) :
    (joinStr sep (n :: ns)).getLast? = ((n :: ns).getLast (by simp)).getLast? := by
  induction ns generalizing n with
  | nil => simp [joinStr]
  | cons m ms ih =>
    rw [joinStr_cons_cons, List.getLast?_append]
    have h' : (m :: ms).getLast (by simp) ≠ [] := by simpa using h
    have hne := joinStr_ne_nil sep m ms h'
    rw [ih m h']
    have : ((m :: ms).getLast (by simp)).getLast? ≠ none := by
      simp [List.getLast?_eq_none_iff, h']
    cases hq : ((m :: ms).getLast (by simp)).getLast? with
    | none => exact absurd hq this
    | some c => simp [hq]

theorem rstrip_of_getLast? (s : Str) (c : Char) (h : s.getLast? = some c) (hc : isSpace c = false) :
    rstrip s = s := by
  have hne : s ≠ [] := by intro e; subst e; simp at h
  have hs : s = s.dropLast ++ [c] := by
    have := List.dropLast_concat_getLast hne
    rw [List.getLast?_eq_getLast hne] at h
    simp at h
    rw [h] at this
    exact this.symm
  have := rstrip_append_of_last s.dropLast [] c hc
  simp only [List.append_nil] at this
  rw [← hs] at this
  simpa [rstrip, lstrip] using this

/-- blanks in front of a text that begins and ends with a non-blank are all that `strip` removes -/
theorem strip_blank_append_of_ends (w s : Str) (c : Char) (r : Str) (l : Char) (hw : isBlank w = true)
    (hs : s = c :: r) (hc : isSpace c = false) (hl : s.getLast? = some l) (hl' : isSpace l = false) :
    strip (w ++ s) = s := by
  subst hs
  rw [strip, lstrip_blank_append _ _ hw, lstrip_of_not_space _ _ hc]
  exact rstrip_of_getLast? _ l hl hl'

/-- the joined names begin and end with a letter, so `strip` removes the leading blank and nothing else -/
theorem strip_joinStr_names (n : Str) (ns : List Str) (hn : ∀ m ∈ n :: ns, NameOk m ∧ m ≠ []) :
    strip (' ' :: joinStr sepCS (n :: ns)) = joinStr sepCS (n :: ns) := by
  have hlast := hn _ (List.getLast_mem (l := n :: ns) (by simp))
  obtain ⟨c, cs, rfl⟩ := List.exists_cons_of_ne_nil (hn n (by simp)).2
  obtain ⟨l, hq⟩ : ∃ l, (((c :: cs) :: ns).getLast (by simp)).getLast? = some l := by
    cases hq : (((c :: cs) :: ns).getLast (by simp)).getLast? with
    | none => exact absurd (List.getLast?_eq_none_iff.mp hq) hlast.2
    | some l => exact ⟨l, rfl⟩
  exact strip_blank_append_of_ends [' '] _ c (joinStr sepCS (cs :: ns)) l rfl (joinStr_prepend c cs ns sepCS).symm
    (word_space ((hn (c :: cs) (by simp)).1 c (by simp))) ((joinStr_getLast? sepCS _ ns hlast.2).trans hq)
    (word_space (hlast.1 l (List.mem_of_getLast? hq)))

theorem joinStr_names_noquote (l : List Str) (hl : ∀ m ∈ l, NameOk m) :
    ∀ c ∈ joinStr sepCS l, isQuote c = false := by
  induction l with
  | nil => intro c hc; simp [joinStr] at hc
  | cons x r ih =>
    intro c hc
    cases r with
    | nil =>
      simp only [joinStr] at hc
      have := word_kindCh (hl x (by simp) c hc)
      simp [kindCh] at this; exact this.2
    | cons y r' =>
      rw [joinStr_cons_cons] at hc
      simp only [List.mem_append, sepCS, List.mem_cons, List.not_mem_nil, or_false] at hc
      rcases hc with (hc | hc | hc) | hc
      · have := word_kindCh (hl x (by simp) c hc)
        simp [kindCh] at this; exact this.2
      · subst hc; decide
      · subst hc; decide
      · exact ih (fun m hm => hl m (by simp [hm])) c hc

end Ford.Show
