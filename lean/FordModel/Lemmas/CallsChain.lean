/- Lemmas about `FordModel/CallsChain.lean` (`_find_chain_item` and the calls loop of `correlate`), over
   the generated merge order. -/
import FordModel.CallsChain
import FordModel.CallsTable
import FordModel.Spec.CallsChain
namespace Ford.Calls.Chain
open Ford Ford.Calls

/-- in a derived type a component wins over every other table (generated merge order) -/
theorem typeItem_comp (w : World) (t : TypeDef) (l ty : Str) (h : assoc t.comps l = some ty) :
    typeItem Generated.C08.labelOrder w t l = some (.var l ty) := by
  simp [typeItem, Generated.C08.labelOrder, List.foldl, typeLayer, h]

theorem typeItem_bound (w : World) (t : TypeDef) (l o : Str) (hc : assoc t.comps l = none)
    (hp : t.parents.contains l = false) (ht : findType w l = none) (hb : assoc t.bound l = some o) :
    typeItem Generated.C08.labelOrder w t l = some (.bound o l) := by
  have hp' : l ∉ t.parents := by simpa using hp
  simp [typeItem, Generated.C08.labelOrder, List.foldl, typeLayer, hc, hp', ht, hb]

theorem walk_cons (order : List String) (w : World) (t : TypeDef) (l : Str) (rest : Chain) (h : rest ≠ []) :
    walk order w t (l :: rest) =
      match typeItem order w t l with
      | none => none
      | some it =>
        match nextCtx w it with
        | none => none
        | some t' => walk order w t' rest := by
  cases rest with
  | nil => exact absurd rfl h
  | cons l2 r =>
    rw [walk]
    cases typeItem order w t l with
    | none => rfl
    | some it => cases nextCtx w it <;> rfl

theorem findChain_cons (order : List String) (w : World) (root : Str → Option Item) (l : Str) (rest : Chain)
    (h : rest ≠ []) :
    findChain order w root (l :: rest) =
      match root l with
      | none => none
      | some it =>
        match nextCtx w it with
        | none => none
        | some t => walk order w t rest := by
  cases rest with
  | nil => exact absurd rfl h
  | cons l2 r =>
    rw [findChain]
    cases root l with
    | none => rfl
    | some it => cases nextCtx w it <;> rfl

theorem walk_path (w : World) (t t' : TypeDef) (ls : List Str) (c : Str) (hp : CompPath w t ls t') :
    walk Generated.C08.labelOrder w t (ls ++ [c]) = typeItem Generated.C08.labelOrder w t' c := by
  induction hp with
  | nil t => simp [walk]
  | cons t t1 t2 l ty ls hc hf _ ih =>
    rw [List.cons_append, walk_cons _ _ _ _ _ (by simp), typeItem_comp w t l ty hc]
    simp [nextCtx, hf, ih]

/-- a chain whose first label designates something with a type context - a variable, or a function
    whose result is an object (the selector of an ASSOCIATE construct, substituted for the associate
    name) - is resolved along the component path -/
theorem findChain_path (w : World) (root : Str → Option Item) (o : Str) (it : Item) (t0 t : TypeDef)
    (ls : List Str) (c : Str) (hr : root o = some it) (h0 : nextCtx w it = some t0) (hp : CompPath w t0 ls t) :
    findChain Generated.C08.labelOrder w root (o :: (ls ++ [c])) = typeItem Generated.C08.labelOrder w t c := by
  rw [findChain_cons _ _ _ _ _ (by simp), hr]
  simp [h0, walk_path w t0 t ls c hp]

end Ford.Calls.Chain
