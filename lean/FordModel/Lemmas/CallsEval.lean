/-
  A second spelling of `gate` and `step` (Calls.lean) over the generated tables, used to evaluate
  test vectors.  `gateC` lists the recognisers of the generated cascade in its order, with the branch
  names already looked up and the keywords of VARIABLE_RE / ATTRIB_RE spelled as character lists;
  `stepC` is `step` over `gateC`.  Each is proved equal to the model once (`gate_generated`,
  `step_generated`, `recorded_eq`).  The reason: the kernel decodes a `String` literal byte by byte
  whenever it compares it or takes its `toList`, which the model does for every branch name and
  keyword of every statement.  (`simp -index`: a literal unifies with `String.ofList _`, but the
  index of simp lemmas does not find it under that head.)
-/
import FordModel.CallsTable
import FordModel.TypeSpec
namespace Ford.Calls
open Ford

def varKeywordsC : List Str :=
  [chars! "integer", chars! "real", chars! "double precision", chars! "character", chars! "complex",
   chars! "double complex", chars! "logical", chars! "type", chars! "class", chars! "procedure",
   chars! "enumerator"]

def eatVarKwC (kw : Str) (s : Str) : Option Str :=
  if kw == chars! "double precision" then
    (eatCI (chars! "double") s).bind (fun r => eatCI (chars! "precision") (dropSpaces r))
  else if kw == chars! "double complex" then
    (eatCI (chars! "double") s).bind (fun r => eatCI (chars! "complex") (dropSpaces r))
  else if kw == chars! "type" then
    match eatCI kw s with
    | none => none
    | some r =>
      let w := spanLen isSpace r
      if w > 0 && startsWithCI (r.drop w) (chars! "is") then none else some r
  else if kw == chars! "class" then
    match eatCI kw s with
    | none => none
    | some r =>
      let w := spanLen isSpace r
      if w > 0 && (startsWithCI (r.drop w) (chars! "is") || startsWithCI (r.drop w) (chars! "default"))
      then none else some r
  else eatCI kw s

def variableReC (s : Str) : Bool :=
  varKeywordsC.any (fun kw =>
    match eatVarKwC kw s with
    | none => false
    | some r =>
      let w := spanLen isSpace r
      match r.drop w with
      | c :: _ => c == '(' || c == ':' || c == ',' || c == '*' || (w > 0 && isWord c)
      | [] => false)

theorem variableRe_eq (s : Str) : variableRe s = variableReC s := by
  unfold variableRe variableReC varKeywords varKeywordsC eatVarKw eatVarKwC
  simp -index only [List.map, String.toList_ofList]
  rfl

def attribKeywordsC : List Str :=
  [chars! "asynchronous", chars! "allocatable", chars! "bind", chars! "data", chars! "dimension",
   chars! "external", chars! "intent", chars! "optional", chars! "parameter", chars! "pointer",
   chars! "private", chars! "protected", chars! "public", chars! "save", chars! "target", chars! "value",
   chars! "volatile"]

def attribReC (s : Str) : Bool :=
  attribKeywordsC.any (fun kw =>
    match eatCI kw s with
    | none => false
    | some r =>
      if kw == chars! "bind" then
        match dropSpaces r with
        | '(' :: t => (afterCloses t 0 []).any (fun p => attribTail (t.drop p))
        | _ => false
      else if kw == chars! "intent" then
        match dropSpaces r with
        | '(' :: t =>
          let t1 := dropSpaces t
          let n := spanLen isWord t1
          if n == 0 then false else
          match dropSpaces (t1.drop n) with
          | ')' :: u => attribTail u
          | _ => false
        | _ => false
      else attribTail r (kw == chars! "parameter"))

theorem attribRe_eq (s : Str) : attribRe s = attribReC s := by
  unfold attribRe attribReC attribKeywords attribKeywordsC
  simp -index only [List.map, String.toList_ofList]
  rfl

/-- the branches of the generated cascade that the model gives a recogniser, in the generated
    order, each with its guard and with what `branchAct` does for it -/
def gateC (line : Str) (bl : Int) : Act :=
  let ll := lower line
  if ll == chars! "contains" then .skip
  else if ll == chars! "public" || ll == chars! "private" || ll == chars! "protected" then .skip
  else if ll == chars! "sequence" then .skip
  else if Rx.guardTest Generated.C08.guards "FORMAT_RE" line then .skip
  else if bl == 0 && attribReC line then .skip
  else if (endRe line).isSome then branchAct "END_RE" line bl
  else if blockRe line then .block
  else if (associateRe line).isSome then branchAct "ASSOCIATE_RE" line bl
  else if commonRe line then .skip
  else if bl == 0 && variableReC line then .skip
  else if useRe line then .skip
  else if Rx.guardTest Generated.C08.guards "ARITH_GOTO_RE" line then .skip
  else if callSearch line || (subcallChain line).isSome then .scan
  else .none

theorem branchAct_skip (name : String) (line : Str) (bl : Int) (h1 : name ≠ "END_RE") (h2 : name ≠ "BLOCK_RE")
    (h3 : name ≠ "ASSOCIATE_RE") (h4 : name ≠ "CALL_RE|SUBCALL_RE") : branchAct name line bl = .skip := by
  simp [branchAct, h1, h2, h3, h4]

theorem gate_generated (line : Str) (bl : Int) :
    gate Generated.C08.guards Generated.C08.cascade line bl = gateC line bl := by
  have hb : branchAct "BLOCK_RE" line bl = .block := by simp [branchAct]
  have hc : branchAct "CALL_RE|SUBCALL_RE" line bl = .scan := by simp [branchAct]
  simp -index only [Generated.C08.cascade, gate, branchTakes, gateC, hb, hc, branchAct_skip, variableRe_eq,
    attribRe_eq, String.toList_ofList, String.reduceBEq, String.reduceEq, ne_eq, not_false_eq_true,
    Bool.false_or, Bool.true_and, Bool.false_and, Bool.and_false, Bool.or_false, ↓reduceIte, Bool.false_eq_true]

def stepC (s : St) (raw : Str) : St :=
  if s.done || s.err then s else
  if raw.take 2 == ['!', '!'] then s else
  let line := maskQuotes raw
  match gateC line s.bl with
  | .none => s
  | .skip => s
  | .block => { s with bl := s.bl + 1 }
  | .endBlock => { s with bl := s.bl - 1 }
  | .endAssoc =>
    match s.assocs with
    | [] => { s with err := true }
    | _ :: r => { s with assocs := r }
  | .endUnit => { s with done := true }
  | .scan => { s with calls := addProcedureCalls intr s.assocs line s.calls }
  | .assoc items =>
    let calls := addProcedureCalls intr s.assocs line s.calls
    match stripParen items 0 with
    | [] => { s with calls := calls, err := true }
    | p :: _ =>
      match addBatch s.assocs (parenSplit ',' p) with
      | some asc' => { s with calls := calls, assocs := asc' }
      | none => { s with calls := calls, err := true }

theorem step_generated : step Generated.C08.guards Generated.C08.cascade intr = stepC := by
  funext s raw
  unfold step stepC
  simp -index only [gate_generated, String.toList_ofList]
  rfl

theorem recorded_eq (lines : List Str) : recorded lines = (lines.foldl stepC {}).calls := by
  rw [recorded, runUnit, step_generated]

end Ford.Calls
