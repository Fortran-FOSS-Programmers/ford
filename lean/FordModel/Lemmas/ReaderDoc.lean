import FordModel.Reader
import FordModel.Lemmas.Reader
import FordModel.Lemmas.ReaderLayout
namespace Ford

/-! ### The reader on a preceding doc block (`!>` first, then `!>` / `!!` / ordinary comment /
    blank lines) followed by a statement: symbolic evaluation of `feed` -/

/-- a physical line of a preceding doc block -/
inductive DLine
  | pre (ind t : Str)     -- `<ind>!<pre-marker><t>`
  | doc (ind t : Str)     -- `<ind>!<doc-marker><t>`
  | plain (ind c : Str)   -- `<ind>!<c>`, an ordinary comment
  | blank (ind : Str)     -- blank line

def DLine.render (m : Marks) : DLine → Str
  | .pre ind t => ind ++ '!' :: (m.pre ++ t)
  | .doc ind t => ind ++ '!' :: (m.doc ++ t)
  | .plain ind c => ind ++ '!' :: c
  | .blank ind => ind

/-- the doc item the line contributes (marker rewritten to the plain doc marker) -/
def DLine.docs (m : Marks) : DLine → List Str
  | .pre _ t => ['!' :: (m.doc ++ t)]
  | .doc _ t => ['!' :: (m.doc ++ t)]
  | _ => []

/-- the text of the doc line, as `read_docstring` cuts it -/
def DLine.texts : DLine → List Str
  | .pre _ t => [t]
  | .doc _ t => [t]
  | _ => []

/-- the line is what it is meant to be: indentation blank, the marker is configured, and the
    text after the `!` cannot be read as one of the *other* markers -/
def DLine.wf (m : Marks) : DLine → Prop
  | .pre ind t => isBlank ind = true ∧ m.pre ≠ [] ∧ startsWith (m.pre ++ t) m.preAlt = false ∧
      startsWith (m.pre ++ t) m.alt = false ∧ startsWith (m.pre ++ t) m.doc = false
  | .doc ind t => isBlank ind = true ∧ m.doc ≠ [] ∧ startsWith (m.doc ++ t) m.pre = false ∧
      startsWith (m.doc ++ t) m.preAlt = false ∧ startsWith (m.doc ++ t) m.alt = false
  | .plain ind c => isBlank ind = true ∧ startsWith c m.pre = false ∧ startsWith c m.preAlt = false ∧
      startsWith c m.alt = false ∧ startsWith c m.doc = false
  | .blank ind => isBlank ind = true

/-- reader state between logical lines: nothing buffered, no block open -/
def fresh (pd : Bool) : RS := { prevdoc := pd }

/-- reader state inside a `!>` block: the doc lines met so far are buffered -/
def inPre (docs : List Str) (pd : Bool) : RS := { docbuffer := docs, prevdoc := pd, readingPredoc := true }

theorem atoms_of_blank (ind : Str) (h : isBlank ind = true) : Atoms ind := by
  induction ind with
  | nil => exact .nil
  | cons c cs ih =>
    simp only [isBlank, List.all_cons, Bool.and_eq_true] at h
    have hc : isSpace c = true := h.1
    refine .plain c cs ?_ ?_ (ih (by simpa [isBlank] using h.2))
    · simp only [isSpace, Bool.or_eq_true, beq_iff_eq] at hc
      rcases hc with ((((h | h) | h) | h) | h) | h <;> subst h <;> decide
    · intro e; subst e; simp [isSpace] at hc

theorem matchCom_ind (ind s : Str) (h : isBlank ind = true) :
    matchCom (ind ++ '!' :: s) false = some ind.length := by
  have : startsWith s [] = true := by cases s <;> rfl
  simp [matchCom, comScan, comScanAux_of_atoms [] ind s 0 (atoms_of_blank ind h), this]

theorem firstStripped_ind (ind s : Str) (h : isBlank ind = true) :
    firstStripped (ind ++ '!' :: s) = some '!' := by
  have : isSpace '!' = false := by decide
  simp [firstStripped, lstrip_blank_append ind _ h, lstrip, this]

theorem firstStripped_blank (ind : Str) (h : isBlank ind = true) : firstStripped ind = none := by
  simp [firstStripped, lstrip_blank_nil ind h]

theorem drop_ind (ind s : Str) : (ind ++ s).drop ind.length = s := by simp
theorem take_ind (ind s : Str) : (ind ++ s).take ind.length = ind := by simp
theorem drop_mark (c : Char) (a t : Str) : (c :: (a ++ t)).drop (1 + a.length) = t := by
  rw [Nat.add_comm]; simp

/-- a `!>` line, met between logical lines or inside a `!>` block: buffered, block (re)opened -/
theorem feed_pre (m : Marks) (docs : List Str) (pd rp : Bool) (ind t : Str) (h : (DLine.pre ind t).wf m) :
    feed m { docbuffer := docs, prevdoc := pd, readingPredoc := rp } (ind ++ '!' :: (m.pre ++ t)) =
      .ok (inPre (docs ++ ['!' :: (m.doc ++ t)]) pd, []) := by
  obtain ⟨hb, hne, h1, h2, h3⟩ := h
  have e0 : (firstStripped (ind ++ '!' :: (m.pre ++ t)) == some '#') = false := by
    rw [firstStripped_ind ind _ hb]; decide
  have e1 : matchDocmark m.pre (ind ++ '!' :: (m.pre ++ t)) false = some ind.length := by
    rw [matchDocmark_inline m.pre ind _ (atoms_of_blank ind hb) hne, startsWith_append_self]; rfl
  have e2 := matchDocmark_comment m.preAlt ind _ (atoms_of_blank ind hb) h1
  have e3 := matchDocmark_comment m.alt ind _ (atoms_of_blank ind hb) h2
  have e4 := matchDocmark_comment m.doc ind _ (atoms_of_blank ind hb) h3
  have e5 := matchCom_ind ind (m.pre ++ t) hb
  have e6 := firstStripped_ind ind (m.pre ++ t) hb
  have e7 := strip_blank ind hb
  simp only [feed, unterminated_nil, e1, e2, e3, e4, e5, e6, hb, drop_ind, take_ind, e7,
    Bool.false_eq_true, ↓reduceIte, Bool.not_true]
  simp [feedTail, inPre, substMark, drop_mark]

/-- a plain doc-marker line inside a `!>` block stays in the block (it does not end it) -/
theorem feed_doc (m : Marks) (docs : List Str) (pd : Bool) (ind t : Str) (h : (DLine.doc ind t).wf m) :
    feed m (inPre docs pd) (ind ++ '!' :: (m.doc ++ t)) = .ok (inPre (docs ++ ['!' :: (m.doc ++ t)]) pd, []) := by
  obtain ⟨hb, hne, h1, h2, h3⟩ := h
  have e1 := matchDocmark_comment m.pre ind _ (atoms_of_blank ind hb) h1
  have e2 := matchDocmark_comment m.preAlt ind _ (atoms_of_blank ind hb) h2
  have e3 := matchDocmark_comment m.alt ind _ (atoms_of_blank ind hb) h3
  have e4 : matchDocmark m.doc (ind ++ '!' :: (m.doc ++ t)) false = some ind.length := by
    rw [matchDocmark_inline m.doc ind _ (atoms_of_blank ind hb) hne, startsWith_append_self]; rfl
  have e5 := matchCom_atoms ind (atoms_of_blank ind hb)
  have e6 := firstStripped_ind ind (m.doc ++ t) hb
  have e6' := firstStripped_blank ind hb
  have e7 := strip_blank ind hb
  simp only [feed, inPre, unterminated_nil, e1, e2, e3, e4, e5, e6, e6', drop_ind, take_ind, e7]
  simp [feedTail]

/-- inside a `!>` block a line without doc comment and without code is dropped and does not end the block -/
theorem feed_inPre_empty (m : Marks) (d : Str) (ds : List Str) (pd : Bool) (l : Str)
    (hn : NoDoc m false l) (hc : codeOf false l = []) :
    feed m (inPre (d :: ds) pd) l = .ok (inPre (d :: ds) pd, []) := by
  rw [feed_noDoc m (inPre (d :: ds) pd) l rfl rfl hn]
  simp only [inPre, unterminated_nil, hc]
  simp [feedStripped, feedTail]

/-- an ordinary comment line inside a `!>` block -/
theorem feed_plain (m : Marks) (d : Str) (ds : List Str) (pd : Bool) (ind c : Str) (h : (DLine.plain ind c).wf m) :
    feed m (inPre (d :: ds) pd) (ind ++ '!' :: c) = .ok (inPre (d :: ds) pd, []) := by
  obtain ⟨hb, h1, h2, h3, h4⟩ := h
  have ha := atoms_of_blank ind hb
  refine feed_inPre_empty m d ds pd _ ⟨by rw [firstStripped_ind ind c hb]; decide, matchDocmark_comment _ ind c ha h1,
    matchDocmark_comment _ ind c ha h2, matchDocmark_comment _ ind c ha h3, matchDocmark_comment _ ind c ha h4⟩ ?_
  rw [codeOf_outside_comment ind c ha, strip_blank ind hb]

/-- a blank line inside a `!>` block -/
theorem feed_blank (m : Marks) (d : Str) (ds : List Str) (pd : Bool) (ind : Str) (hb : isBlank ind = true) :
    feed m (inPre (d :: ds) pd) ind = .ok (inPre (d :: ds) pd, []) := by
  have ha := atoms_of_blank ind hb
  refine feed_inPre_empty m d ds pd _ ⟨by rw [firstStripped_blank ind hb]; decide, matchDocmark_plain _ ind ha,
    matchDocmark_plain _ ind ha, matchDocmark_plain _ ind ha, matchDocmark_plain _ ind ha⟩ ?_
  rw [codeOf_outside_plain ind ha, strip_blank ind hb]

/-- the statement line that follows the block: its statements are emitted first, then the
    buffered doc lines, and the reader is between logical lines again -/
theorem feed_stmt (m : Marks) (d : Str) (ds : List Str) (pd : Bool) (l : Str) (x : Char) (r : Str)
    (hn : NoDoc m false l) (hc : codeOf false l = x :: r) (hx : x ≠ '&')
    (hl : (x :: r).getLast? ≠ some '&') (hJ : itemsOf (' ' :: x :: r) ≠ []) :
    feed m (inPre (d :: ds) pd) l = .ok (fresh true, itemsOf (' ' :: x :: r) ++ d :: ds) := by
  have hx' : (x == '&') = false := by simp [hx]
  have hl' : ((x :: r).getLast? == some '&') = false := by simpa using hl
  obtain ⟨a, as, hI2⟩ : ∃ a as, itemsOf (' ' :: x :: r) = a :: as := by
    cases hh : itemsOf (' ' :: x :: r) with
    | nil => exact absurd hh hJ
    | cons a as => exact ⟨a, as, rfl⟩
  simp only [itemsOf] at hI2
  rw [feed_noDoc m (inPre (d :: ds) pd) l rfl rfl hn]
  simp only [inPre, unterminated_nil, hc]
  simp [feedStripped, hx', hl', feedTail, itemsOf, hI2, flush, fresh, strip, rstrip, lstrip]
/-- any line of the block, read inside the block: its doc item (if any) is buffered, nothing is
    emitted, the block stays open -/
theorem feed_block_line (m : Marks) (d : Str) (ds : List Str) (pd : Bool) (l : DLine) (h : l.wf m) :
    feed m (inPre (d :: ds) pd) (l.render m) = .ok (inPre (d :: (ds ++ l.docs m)) pd, []) := by
  cases l with
  | pre ind t => simpa [inPre, DLine.render, DLine.docs] using feed_pre m (d :: ds) pd true ind t h
  | doc ind t => simpa [DLine.render, DLine.docs] using feed_doc m (d :: ds) pd ind t h
  | plain ind c => simpa [DLine.render, DLine.docs] using feed_plain m d ds pd ind c h
  | blank ind => simpa [DLine.render, DLine.docs] using feed_blank m d ds pd ind h

theorem readFrom_block (m : Marks) (d : Str) (ds : List Str) (pd : Bool) (blk : List DLine)
    (h : ∀ l ∈ blk, l.wf m) (rest : List Str) :
    readFrom m (inPre (d :: ds) pd) (blk.map (DLine.render m) ++ rest) =
      readFrom m (inPre (d :: (ds ++ blk.flatMap (DLine.docs m))) pd) rest := by
  induction blk generalizing ds with
  | nil => simp
  | cons l ls ih =>
    have hl := h l (by simp)
    have hls : ∀ l' ∈ ls, l'.wf m := fun l' hl' => h l' (by simp [hl'])
    simp only [List.map_cons, List.cons_append, List.flatMap_cons]
    rw [readFrom_skip m _ _ _ _ (feed_block_line m d ds pd l hl), ih _ hls, List.append_assoc]

/-- **Preceding doc block.**  From a reader state between logical lines: a `!>` line, then any
    mixture of `!>` lines, plain doc-marker lines, ordinary comments and blank lines, then a
    statement line - nothing is emitted before the statement; at the statement line its
    statements are emitted, then every doc line of the block, complete and in order, rewritten
    to the plain doc marker; and the reader is between logical lines again. -/
theorem readFrom_predoc_block (m : Marks) (pd : Bool) (ind0 t0 : Str) (blk : List DLine) (l : Str)
    (x : Char) (r : Str) (rest : List Str)
    (h0 : (DLine.pre ind0 t0).wf m) (hb : ∀ b ∈ blk, b.wf m)
    (hn : NoDoc m false l) (hc : codeOf false l = x :: r) (hx : x ≠ '&')
    (hl : (x :: r).getLast? ≠ some '&') (hJ : itemsOf (' ' :: x :: r) ≠ []) :
    readFrom m (fresh pd) ((DLine.pre ind0 t0 :: blk).map (DLine.render m) ++ l :: rest) =
      match readFrom m (fresh true) rest with
      | .error e => .error e
      | .ok more =>
        .ok (itemsOf (' ' :: x :: r) ++ (DLine.pre ind0 t0 :: blk).flatMap (DLine.docs m) ++ more) := by
  have hf0 : feed m (fresh pd) ((DLine.pre ind0 t0).render m) = .ok (inPre ['!' :: (m.doc ++ t0)] pd, []) := by
    simpa [fresh, DLine.render] using feed_pre m [] pd false ind0 t0 h0
  simp only [List.map_cons, List.cons_append, List.flatMap_cons]
  rw [readFrom_skip m _ _ _ _ hf0, readFrom_block m _ [] pd blk hb (l :: rest),
    readFrom_step m _ _ l rest _ (feed_stmt m _ _ pd l x r hn hc hx hl hJ)]
  cases readFrom m (fresh true) rest <;> simp [DLine.docs]

/-- with a one-character doc marker the buffered items are the texts behind `!c` -/
theorem docs_eq_texts (m : Marks) (c : Char) (hd : m.doc = [c]) (blk : List DLine) :
    blk.flatMap (DLine.docs m) = (blk.flatMap DLine.texts).map (fun d => '!' :: c :: d) := by
  induction blk with
  | nil => rfl
  | cons l ls ih =>
    simp only [List.flatMap_cons, List.map_append, ih]
    cases l <;> simp [DLine.docs, DLine.texts, hd]

end Ford
