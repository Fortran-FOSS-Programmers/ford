/-
  Lemmas about `FordModel/SortComp.lean` (the option `sort`): the stable insertion sort permutes, and
  `sort_components` leaves every collection that is not in its table exactly as it was.
-/
import FordModel.SortComp
namespace Ford.SortComp

theorem insertK_perm {α : Type} (k : α → Key) (x : α) (l : List α) : (insertK k x l).Perm (x :: l) := by
  induction l with
  | nil => simp [insertK]
  | cons y ys ih =>
    simp only [insertK]
    split
    · exact (List.Perm.cons y ih).trans (List.Perm.swap x y ys)
    · exact List.Perm.refl _

theorem sortK_perm {α : Type} (k : α → Key) (l : List α) : (sortK k l).Perm l := by
  induction l with
  | nil => simp [sortK]
  | cons x xs ih => exact (insertK_perm k x (sortK k xs)).trans (List.Perm.cons x ih)

theorem coll_sorted (k : Item → Key) (tbl : List Str) (n : Str) (e : Entity) :
    coll n (e.map fun p => if tbl.contains p.1 then (p.1, sortK k p.2) else p)
      = if tbl.contains n then sortK k (coll n e) else coll n e := by
  induction e with
  | nil => simp [coll, sortK]
  | cons p rest ih =>
    obtain ⟨m, l⟩ := p
    by_cases hmn : m = n
    · subst hmn
      by_cases ht : m ∈ tbl <;> simp [coll, ht]
    · simp only [List.contains_iff_mem] at ih
      by_cases ht : m ∈ tbl <;> simp [coll, ht, hmn, ih]

theorem coll_sortComponents (tbl : List Str) (o : Opt) (n : Str) (e : Entity) :
    coll n (sortComponents tbl o e)
      = match keyFn o with
        | none => coll n e
        | some k => if tbl.contains n then sortK k (coll n e) else coll n e := by
  unfold sortComponents
  cases keyFn o with
  | none => rfl
  | some k => exact coll_sorted k tbl n e

theorem coll_sortComponents_unlisted (tbl : List Str) (n : Str) (h : tbl.contains n = false) (o : Opt)
    (e : Entity) : coll n (sortComponents tbl o e) = coll n e := by
  rw [coll_sortComponents]
  cases keyFn o with
  | none => rfl
  | some k => rw [h]; rfl

end Ford.SortComp
