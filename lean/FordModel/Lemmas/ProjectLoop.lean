import FordModel.ProjectLoop
namespace Ford

theorem loadFrom_append (st : ProjState) (a b : List (Str × Except Err FileTree)) :
    loadFrom true st (a ++ b) = loadFrom true (loadFrom true st a) b := by
  induction a generalizing st with
  | nil => rfl
  | cons x xs ih =>
    obtain ⟨n, r⟩ := x
    cases r <;> simp [loadFrom, ih]

theorem loadFrom_reg_congr (s1 s2 : ProjState) (h : s1.reg = s2.reg) (fs : List (Str × Except Err FileTree)) :
    (loadFrom true s1 fs).reg = (loadFrom true s2 fs).reg := by
  induction fs generalizing s1 s2 with
  | nil => exact h
  | cons x xs ih =>
    obtain ⟨m, r⟩ := x
    cases r with
    | ok t => simp only [loadFrom]; exact ih _ _ (by simp [h])
    | error e' => simp only [loadFrom, if_true]; exact ih _ _ (by simp [h])

/-- a rejected file changes nothing but the list of warnings -/
theorem loadFrom_reg_error (st : ProjState) (n : Str) (e : Err) (rest : List (Str × Except Err FileTree)) :
    (loadFrom true st ((n, .error e) :: rest)).reg
      = (loadFrom true st rest).reg := by
  simp only [loadFrom, if_true]
  exact loadFrom_reg_congr { st with warned := st.warned ++ [(n, e)] } st rfl rest

/-- With `dbg` the loop does three independent things: it registers the accepted files in their
    order, adds the rejected ones to the warnings, and never aborts. -/
theorem loadFrom_true (st : ProjState) (fs : List (Str × Except Err FileTree)) :
    loadFrom true st fs
      = { reg := (loadFrom true st (fs.filter isOkFile)).reg, warned := st.warned ++ fs.filterMap rejection,
          aborted := st.aborted } := by
  induction fs generalizing st with
  | nil => simp only [loadFrom, List.filter_nil, List.filterMap_nil, List.append_nil]
  | cons x xs ih =>
    obtain ⟨m, r⟩ := x
    cases r with
    | ok t => simp only [loadFrom, List.filter, isOkFile, List.filterMap_cons, rejection, ih]
    | error e' =>
      simp only [loadFrom, if_true, List.filter, isOkFile, List.filterMap_cons, rejection, ih, List.append_assoc,
        List.singleton_append, loadFrom_reg_congr { st with warned := st.warned ++ [(m, e')] } st rfl]

theorem loadFrom_reg_filter (st : ProjState) (fs : List (Str × Except Err FileTree)) :
    (loadFrom true st fs).reg = (loadFrom true st (fs.filter isOkFile)).reg := by
  rw [loadFrom_true]

theorem loadFrom_files (st : ProjState) (fs : List (Str × Except Err FileTree)) :
    (loadFrom true st fs).reg.files.map (·.1)
      = st.reg.files.map (·.1) ++ (fs.filter isOkFile).map (·.1) := by
  induction fs generalizing st with
  | nil => simp [loadFrom]
  | cons x xs ih =>
    obtain ⟨m, r⟩ := x
    cases r with
    | ok t => simp [loadFrom, ih, register, isOkFile, List.filter]
    | error e' => simp [loadFrom, ih, isOkFile, List.filter]

theorem map_insertFileAt {α β : Type} (g : α → β) (k : Nat) (x : α) (xs : List α) :
    (insertFileAt k x xs).map g = insertFileAt k (g x) (xs.map g) := by
  simp only [insertFileAt, List.map_append, List.map_cons, List.map_take, List.map_drop]

theorem filter_insertFileAt_error (k : Nat) (n : Str) (e : Err) (good : List (Str × Except Err FileTree)) :
    (insertFileAt k (n, .error e) good).filter isOkFile = good.filter isOkFile := by
  simp only [insertFileAt, List.filter_append, List.filter, isOkFile]
  rw [← List.filter_append, List.take_append_drop]

theorem namesFrom_true (fs : List (List NameKey × Except Err FileTree)) :
    namesFrom true fs = (fs.map (·.1)).flatten := by
  induction fs with
  | nil => rfl
  | cons x xs ih =>
    obtain ⟨r, o⟩ := x
    cases o <;> simp [namesFrom, ih]

/-- a file whose constructor requested nothing leaves the name table as if it were absent,
    wherever it is read and whatever became of it -/
theorem namesFrom_insert_nil (k : Nat) (bad : List NameKey × Except Err FileTree) (hb : bad.1 = [])
    (good : List (List NameKey × Except Err FileTree)) :
    namesFrom true (insertFileAt k bad good) = namesFrom true good := by
  rw [namesFrom_true, namesFrom_true]
  simp only [insertFileAt, List.map_append, List.map_cons, List.flatten_append, List.flatten_cons, hb,
             List.nil_append]
  rw [← List.flatten_append, ← List.map_append, List.take_append_drop]

theorem reservedWith_nil (evs : List (CK × CK × Str)) : reservedWith [] evs = [] := by
  simp [reservedWith]

theorem readFrom_prefix (m : Marks) (s : RS) (pre suf : List Str) (all : List Str)
    (h : readFrom m s (pre ++ suf) = .ok all) :
    ∃ xs ys, readFrom m s pre = .ok xs ∧ all = xs ++ ys := by
  induction pre generalizing s all with
  | nil => exact ⟨[], all, rfl, rfl⟩
  | cons l ls ih =>
    simp only [List.cons_append, readFrom] at h ⊢
    cases hf : feed m s l with
    | error e => simp [hf] at h
    | ok r =>
      obtain ⟨s', items⟩ := r
      simp only [hf] at h ⊢
      cases hr : readFrom m s' (ls ++ suf) with
      | error e => simp [hr] at h
      | ok more =>
        simp only [hr] at h
        obtain ⟨xs, ys, h1, h2⟩ := ih s' more hr
        refine ⟨items ++ xs, ys, by simp [h1], ?_⟩
        cases h
        simp [h2]

end Ford
