import FordModel.Order
import FordModel.Lemmas.Chars
namespace Ford.Order
open Ford

/-- `strLe` is the lexicographic order of `List Char` (characters compared by code point) -/
theorem strLe_iff_le (a b : Str) : strLe a b = true ↔ a ≤ b := by
  induction a generalizing b with
  | nil => simp [strLe]
  | cons x xs ih =>
    cases b with
    | nil => simp [strLe]
    | cons y ys =>
      rw [List.cons_le_cons_iff, ← ih, ← Char.toNat_inj, strLe]
      change _ ↔ x.toNat < y.toNat ∨ _
      rcases Nat.lt_trichotomy x.toNat y.toNat with h | h | h
      · simp only [h, if_true, true_or]
      · simp only [h, Nat.lt_irrefl, if_false, false_or, true_and]
      · simp only [Nat.lt_asymm h, Nat.ne_of_gt h, h, if_false, if_true, false_or, false_and, Bool.false_eq_true]

theorem strLe_refl (a : Str) : strLe a a = true :=
  (strLe_iff_le a a).mpr (List.le_refl a)

theorem strLe_total (a b : Str) : (strLe a b || strLe b a) = true := by
  rw [Bool.or_eq_true, strLe_iff_le, strLe_iff_le]
  exact List.le_total a b

theorem strLe_trans (a b c : Str) : strLe a b = true → strLe b c = true → strLe a c = true := by
  rw [strLe_iff_le, strLe_iff_le, strLe_iff_le]
  exact List.le_trans

theorem strLe_antisymm (a b : Str) : strLe a b = true → strLe b a = true → a = b := by
  rw [strLe_iff_le, strLe_iff_le]
  exact List.le_antisymm

theorem sublist_eq_filter_of_perm {α : Type} {l p : List α} {q : α → Bool} (hs : l.Sublist p)
    (hp : l.Perm (p.filter q)) : l = p.filter q := by
  have hq : l.filter q = l := List.filter_eq_self.mpr fun a ha => (List.mem_filter.mp (hp.mem_iff.mp ha)).2
  exact (hq ▸ hs.filter q).eq_of_length hp.length_eq

theorem sortOn_sorted {α : Type} (key : α → Str) (l : List α) :
    (sortOn key l).Pairwise (fun a b => strLe (key a) (key b) = true) :=
  List.pairwise_mergeSort (le := fun a b => strLe (key a) (key b))
    (fun _ _ _ => strLe_trans _ _ _) (fun _ _ => strLe_total _ _) l

theorem sortOn_perm_self {α : Type} (key : α → Str) (l : List α) : (sortOn key l).Perm l :=
  List.mergeSort_perm l _

theorem sortOn_perm {α : Type} (key : α → Str) (l₁ l₂ : List α) (hp : l₁.Perm l₂)
    (hinj : ∀ a b, a ∈ l₁ → b ∈ l₁ → key a = key b → a = b) :
    sortOn key l₁ = sortOn key l₂ := by
  have p1 := sortOn_perm_self key l₁
  have p2 := sortOn_perm_self key l₂
  refine List.Perm.eq_of_pairwise ?_ (sortOn_sorted key l₁) (sortOn_sorted key l₂) (p1.trans (hp.trans p2.symm))
  intro a b ha hb hab hba
  exact hinj a b (p1.mem_iff.mp ha) (hp.mem_iff.mpr (p2.mem_iff.mp hb)) (strLe_antisymm _ _ hab hba)

theorem sortOn_perm_of_nodup {α : Type} (key : α → Str) (l₁ l₂ : List α) (hp : l₁.Perm l₂)
    (hnd : (l₁.map key).Nodup) : sortOn key l₁ = sortOn key l₂ :=
  sortOn_perm key l₁ l₂ hp (fun _ _ => eq_of_nodup_map key hnd)

/-- A list that is already ordered by the key is left as it is (the sort is stable: ties keep their order).  The
    witnesses evaluate a sort through this lemma: `List.mergeSort` is defined by well-founded recursion and does not
    reduce under `decide`. -/
theorem sortOn_of_sorted {α : Type} (key : α → Str) (l : List α)
    (h : l.Pairwise (fun a b => strLe (key a) (key b) = true)) : sortOn key l = l :=
  List.mergeSort_of_pairwise h

/-- The elements that share a key value keep their order: being pairwise tied, they form a sublist of the sorted
    list (`List.sublist_mergeSort`), and that list has no other elements with this key. -/
theorem sortOn_filter_key {α : Type} (key : α → Str) (l : List α) (k : Str) :
    (sortOn key l).filter (fun a => key a == k) = l.filter (fun a => key a == k) := by
  have hsub : (l.filter (fun a => key a == k)).Sublist (sortOn key l) := by
    apply List.sublist_mergeSort (le := fun a b => strLe (key a) (key b))
      (fun _ _ _ => strLe_trans _ _ _) (fun _ _ => strLe_total _ _)
    · rw [List.pairwise_filter]
      apply List.pairwise_of_forall
      intro a b ha hb
      rw [beq_iff_eq.mp ha, beq_iff_eq.mp hb]
      exact strLe_refl k
    · exact List.filter_sublist
  exact (sublist_eq_filter_of_perm hsub ((sortOn_perm_self key l).symm.filter _)).symm

theorem numberAux_nil {lk : Bool} (seen : List Ent) : numberAux lk seen [] = [] := rfl

theorem numberAux_seen {lk : Bool} (seen rest : List Ent) (e : Ent) (h : seen.any (fun s => s.uid == e.uid) = true) :
    numberAux lk seen (e :: rest) = numberAux lk seen rest := by
  rw [numberAux, if_pos h]

theorem numberAux_new {lk : Bool} (seen rest : List Ent) (e : Ent) (h : seen.any (fun s => s.uid == e.uid) = false) :
    numberAux lk seen (e :: rest) =
      (e, (seen.filter (fun s => s.keyAs lk == e.keyAs lk)).length + 1) :: numberAux lk (e :: seen) rest := by
  rw [numberAux, if_neg (by simp [h])]

/-- The state of the selector when `p` was numbered: `p.1` is a request, not seen before, and its number counts the
    items seen until then under its key — the initial `seen` and, in front of it, some of the earlier requests. -/
theorem mem_numberAux {lk : Bool} {seen reqs : List Ent} {p : Ent × Nat} (hp : p ∈ numberAux lk seen reqs) :
    ∃ pre, pre ⊆ reqs ∧ p.1 ∈ reqs ∧ (pre ++ seen).any (fun s => s.uid == p.1.uid) = false ∧
      p.2 = ((pre ++ seen).filter (fun s => s.keyAs lk == p.1.keyAs lk)).length + 1 := by
  induction reqs generalizing seen with
  | nil => cases hp
  | cons x rest ih =>
    cases hx : seen.any (fun s => s.uid == x.uid) with
    | true =>
      rw [numberAux_seen _ _ _ hx] at hp
      obtain ⟨pre, hpre, hmem, hnew, hnum⟩ := ih hp
      exact ⟨pre, List.subset_cons_of_subset _ hpre, List.mem_cons_of_mem _ hmem, hnew, hnum⟩
    | false =>
      rw [numberAux_new _ _ _ hx] at hp
      rcases List.mem_cons.mp hp with rfl | hp'
      · exact ⟨[], List.nil_subset _, List.mem_cons_self, hx, rfl⟩
      · obtain ⟨pre, hpre, hmem, hnew, hnum⟩ := ih hp'
        refine ⟨pre ++ [x], ?_, List.mem_cons_of_mem _ hmem, ?_, ?_⟩
        · exact List.append_subset.mpr ⟨List.subset_cons_of_subset _ hpre, List.cons_subset.mpr ⟨List.mem_cons_self, List.nil_subset _⟩⟩
        · rwa [List.append_assoc]
        · rwa [List.append_assoc]

/-- Under pairwise different keys every new item is the first of its key. -/
theorem numberAux_eq_one {lk : Bool} (seen reqs : List Ent)
    (hinj : ∀ a b, a ∈ seen ++ reqs → b ∈ seen ++ reqs → a.keyAs lk = b.keyAs lk → a.uid = b.uid) :
    ∀ p, p ∈ numberAux lk seen reqs → p.2 = 1 := by
  intro p hp
  obtain ⟨pre, hpre, hmem, hnew, hnum⟩ := mem_numberAux hp
  rw [hnum, Nat.add_eq_right, List.length_eq_zero_iff, List.filter_eq_nil_iff]
  intro s hs hk
  refine List.any_eq_false.mp hnew s hs (beq_iff_eq.mpr (hinj s p.1 ?_ (List.mem_append_right _ hmem) (beq_iff_eq.mp hk)))
  exact List.mem_append.mpr ((List.mem_append.mp hs).symm.imp_right (@hpre s))

/-- numbering never revisits an item: whatever gets a number was not among the items already seen -/
theorem numberAux_fresh {lk : Bool} (seen reqs : List Ent) :
    ∀ p, p ∈ numberAux lk seen reqs → seen.any (fun s => s.uid == p.1.uid) = false := by
  intro p hp
  obtain ⟨pre, _, _, hnew, _⟩ := mem_numberAux hp
  rw [List.any_append, Bool.or_eq_false_iff] at hnew
  exact hnew.2

theorem numberAux_increasing {lk : Bool} (seen reqs : List Ent) :
    (numberAux lk seen reqs).Pairwise (fun p q => p.1.keyAs lk = q.1.keyAs lk → p.2 < q.2) := by
  induction reqs generalizing seen with
  | nil => exact .nil
  | cons x rest ih =>
    cases hx : seen.any (fun s => s.uid == x.uid) with
    | true =>
      rw [numberAux_seen _ _ _ hx]
      exact ih seen
    | false =>
      rw [numberAux_new _ _ _ hx]
      refine .cons (fun q hq (hk : x.keyAs lk = q.1.keyAs lk) => ?_) (ih (x :: seen))
      obtain ⟨pre, _, _, _, hnum⟩ := mem_numberAux hq
      rw [hnum, ← hk, List.filter_append, List.filter_cons, if_pos (beq_self_eq_true _), List.length_append,
        List.length_cons]
      exact Nat.lt_succ_of_le (Nat.le_add_left _ _)

theorem numberAux_distinct {lk : Bool} (seen reqs : List Ent) :
    ∀ p q, p ∈ numberAux lk seen reqs → q ∈ numberAux lk seen reqs →
      p.1.keyAs lk = q.1.keyAs lk → p.2 = q.2 → p = q := by
  intro p q hp hq
  have inc := numberAux_increasing (lk := lk) seen reqs
  exact List.Pairwise.forall_of_forall_of_flip (R := fun p q => p.1.keyAs lk = q.1.keyAs lk → p.2 = q.2 → p = q)
    (fun _ _ _ _ => rfl)
    (inc.imp fun h hk hn => absurd hn (Nat.ne_of_lt (h hk)))
    (inc.imp fun h hk hn => absurd hn.symm (Nat.ne_of_lt (h hk.symm))) hp hq

theorem exists_numberAux_of_mem {lk : Bool} (seen reqs : List Ent) (e : Ent) (he : e ∈ reqs)
    (hns : seen.any (fun s => s.uid == e.uid) = false) :
    ∃ p, p ∈ numberAux lk seen reqs ∧ p.1.uid = e.uid := by
  induction reqs generalizing seen with
  | nil => cases he
  | cons x rest ih =>
    rcases List.mem_cons.mp he with rfl | he'
    · rw [numberAux_new _ _ _ hns]
      exact ⟨_, List.mem_cons_self, rfl⟩
    · cases hx : seen.any (fun s => s.uid == x.uid) with
      | true =>
        rw [numberAux_seen _ _ _ hx]
        exact ih seen he' hns
      | false =>
        rw [numberAux_new _ _ _ hx]
        by_cases hxe : x.uid = e.uid
        · exact ⟨_, List.mem_cons_self, hxe⟩
        · have : (x :: seen).any (fun s => s.uid == e.uid) = false := by
            rw [List.any_cons, hns, beq_eq_false_iff_ne.mpr hxe]
            rfl
          obtain ⟨p, hp, hpe⟩ := ih (x :: seen) he' this
          exact ⟨p, List.mem_cons_of_mem _ hp, hpe⟩

theorem numberAux_append {lk : Bool} (seen r₁ r₂ : List Ent) :
    ∃ seen', numberAux lk seen (r₁ ++ r₂) = numberAux lk seen r₁ ++ numberAux lk seen' r₂ := by
  induction r₁ generalizing seen with
  | nil => exact ⟨seen, rfl⟩
  | cons x rest ih =>
    rw [List.cons_append]
    cases hx : seen.any (fun s => s.uid == x.uid) with
    | true =>
      rw [numberAux_seen _ _ _ hx, numberAux_seen _ _ _ hx]
      exact ih seen
    | false =>
      rw [numberAux_new _ _ _ hx, numberAux_new _ _ _ hx]
      obtain ⟨s', hs'⟩ := ih (x :: seen)
      exact ⟨s', by rw [hs', List.cons_append]⟩

theorem perm_eq_of_length_le_one {α : Type} {l₁ l₂ : List α} (hp : l₁.Perm l₂) (h : l₂.length ≤ 1) : l₁ = l₂ := by
  cases l₂ with
  | nil => exact hp.eq_nil
  | cons a t =>
    cases t with
    | nil => exact List.perm_singleton.mp hp
    | cons _ _ => exact absurd (Nat.le_of_succ_le_succ h) (Nat.not_succ_le_zero _)

theorem find?_perm_unique {α : Type} (p : α → Bool) (l₁ l₂ : List α) (hp : l₁.Perm l₂)
    (hu : ∀ a b, a ∈ l₁ → b ∈ l₁ → p a = true → p b = true → a = b) : l₁.find? p = l₂.find? p := by
  induction hp with
  | nil => rfl
  | cons x _ ih =>
    rw [List.find?_cons, List.find?_cons, ih fun a b ha hb => hu a b (.tail _ ha) (.tail _ hb)]
  | swap x y l =>
    simp only [List.find?_cons]
    cases hx : p x with
    | false => rfl
    | true =>
      cases hy : p y with
      | false => rfl
      | true => rw [hu y x (by simp) (by simp) hy hx]
  | trans h₁ _ ih₁ ih₂ =>
    rw [ih₁ hu, ih₂ fun a b ha hb => hu a b (h₁.mem_iff.mpr ha) (h₁.mem_iff.mpr hb)]

theorem look_cons (e : Path × Str) (es : FS) (p : Path) :
    look (e :: es) p = if e.1 = p then some e.2 else look es p := by
  rw [look, List.find?_cons]
  by_cases h : e.1 = p
  · rw [if_pos h, beq_iff_eq.mpr h]
    rfl
  · rw [if_neg h, beq_eq_false_iff_ne.mpr h]
    rfl

theorem look_filter (fs : FS) (q : Path → Bool) (p : Path) :
    look (fs.filter (fun e => q e.1)) p = if q p then look fs p else none := by
  induction fs with
  | nil => exact (ite_self _).symm
  | cons e es ih =>
    rw [List.filter_cons, look_cons]
    by_cases hp : e.1 = p
    · subst hp
      rw [if_pos rfl]
      cases hq : q e.1 with
      | true => rw [if_pos rfl, if_pos rfl, look_cons, if_pos rfl]
      | false =>
        rw [if_neg Bool.false_ne_true, if_neg Bool.false_ne_true, ih, hq]
        rfl
    · rw [if_neg hp, ← ih]
      split
      · rw [look_cons, if_neg hp]
      · rfl

theorem look_apply_rmtree (d : Path) (fs : FS) (p : Path) :
    look (apply (.rmtree d) fs) p = if isUnder d p then none else look fs p := by
  rw [apply, look_filter fs (fun x => !isUnder d x) p]
  cases isUnder d p <;> rfl

theorem look_apply_write (q : Path) (c : Str) (fs : FS) (p : Path) :
    look (apply (.write q c) fs) p = if q = p then some c else look fs p := by
  rw [apply, look_cons]
  by_cases h : q = p
  · rw [if_pos h, if_pos h]
  · have : (!(p == q)) = true := by simpa using Ne.symm h
    rw [if_neg h, if_neg h, look_filter fs (fun x => !(x == q)) p, if_pos this]

theorem run_cons (op : Op) (ops : List Op) (fs : FS) : run (op :: ops) fs = run ops (apply op fs) := rfl

theorem look_run_congr (ops : List Op) (fs₁ fs₂ : FS) (p : Path) (h : look fs₁ p = look fs₂ p) :
    look (run ops fs₁) p = look (run ops fs₂) p := by
  induction ops generalizing fs₁ fs₂ with
  | nil => exact h
  | cons op rest ih =>
    refine ih _ _ ?_
    cases op with
    | rmtree d => rw [look_apply_rmtree, look_apply_rmtree, h]
    | write q c => rw [look_apply_write, look_apply_write, h]

/-- once `rmtree d` has run, nothing of what was below `d` before the run is visible -/
theorem look_run_of_rmtree (pre post : List Op) (d : Path) (fs₁ fs₂ : FS) (p : Path) (h : isUnder d p = true) :
    look (run (pre ++ .rmtree d :: post) fs₁) p = look (run (pre ++ .rmtree d :: post) fs₂) p := by
  rw [run, run, List.foldl_append, List.foldl_append]
  refine look_run_congr post _ _ p ?_
  rw [look_apply_rmtree, look_apply_rmtree, h]
  rfl

/-- the paths whose content `op` can change -/
def Op.touches (op : Op) (p : Path) : Bool :=
  match op with
  | .rmtree d => isUnder d p
  | .write q _ => q == p

theorem look_apply_untouched (op : Op) (fs : FS) (p : Path) (h : op.touches p = false) :
    look (apply op fs) p = look fs p := by
  cases op with
  | rmtree d =>
    rw [look_apply_rmtree, show isUnder d p = false from h]
    rfl
  | write q c => rw [look_apply_write, if_neg (beq_eq_false_iff_ne.mp h)]

theorem look_run_untouched (ops : List Op) (fs : FS) (p : Path)
    (h : ∀ op ∈ ops, op.touches p = false) : look (run ops fs) p = look fs p := by
  induction ops generalizing fs with
  | nil => rfl
  | cons op rest ih =>
    rw [run_cons, ih _ (fun o ho => h o (List.mem_cons_of_mem _ ho)),
      look_apply_untouched op fs p (h op List.mem_cons_self)]

/-- last write wins -/
theorem look_run_writes (ws : List (Path × Str)) (fs : FS) (p : Path) :
    look (run (ws.map (fun w => Op.write w.1 w.2)) fs) p =
      match ws.reverse.find? (fun w => w.1 == p) with
      | some w => some w.2
      | none => look fs p := by
  induction ws generalizing fs with
  | nil => rfl
  | cons w rest ih =>
    rw [List.map_cons, run_cons, ih, List.reverse_cons, List.find?_append]
    cases rest.reverse.find? (fun w => w.1 == p) with
    | some x => rfl
    | none =>
      rw [Option.none_or, List.find?_singleton, look_apply_write]
      by_cases hw : w.1 = p
      · rw [if_pos hw, beq_iff_eq.mpr hw]
        rfl
      · rw [if_neg hw, beq_eq_false_iff_ne.mpr hw]
        rfl

theorem look_run_writes_perm (l₁ l₂ : List (Path × Str)) (hp : l₁.Perm l₂) (hnd : (l₁.map (·.1)).Nodup)
    (fs : FS) (p : Path) :
    look (run (l₁.map (fun w => Op.write w.1 w.2)) fs) p = look (run (l₂.map (fun w => Op.write w.1 w.2)) fs) p := by
  rw [look_run_writes, look_run_writes,
    find?_perm_unique _ l₁.reverse l₂.reverse ((List.reverse_perm l₁).trans (hp.trans (List.reverse_perm l₂).symm))]
  intro a b ha hb pa pb
  exact eq_of_nodup_map (·.1) hnd (List.mem_reverse.mp ha) (List.mem_reverse.mp hb)
    ((beq_iff_eq.mp pa).trans (beq_iff_eq.mp pb).symm)

/-- what lies below an excluded directory is invisible to `findSources` -/
theorem findSources_eq_filter_notBelow (srcDirs excl : List Path) (exts : List Str) (out : Path) (h : out ∈ excl)
    (fs : FS) :
    findSources srcDirs excl exts fs =
      ((fs.map (·.1)).filter (fun p => !isBelow out p)).filter
        (fun p => srcDirs.any (isBelow · p) && !excl.any (isBelow · p) && hasSourceName exts p) := by
  unfold findSources
  rw [List.filter_filter]
  apply List.filter_congr
  intro p _
  by_cases hb : isBelow out p = true
  · have : excl.any (isBelow · p) = true := List.any_eq_true.mpr ⟨out, h, hb⟩
    simp [this]
  · simp [hb]

end Ford.Order
