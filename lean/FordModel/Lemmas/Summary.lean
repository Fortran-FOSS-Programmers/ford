import FordModel.Summary
import FordModel.Meta
import FordModel.Lemmas.Admonition
namespace Ford

theorem lower_cons (c : Char) (s : Str) : lower (c :: s) = lowerChar c :: lower s := rfl

theorem startsWithCI_split (s pat : Str) (h : startsWithCI s pat = true) :
    ∃ a b, s = a ++ b ∧ lower a = pat := by
  induction pat generalizing s with
  | nil => exact ⟨[], s, rfl, rfl⟩
  | cons p ps ih =>
    cases s with
    | nil => simp [startsWithCI] at h
    | cons c cs =>
      simp only [startsWithCI, Bool.and_eq_true, beq_iff_eq] at h
      obtain ⟨a, b, hab, hl⟩ := ih cs h.2
      exact ⟨c :: a, b, by simp [hab], by simp [lower_cons, h.1, hl]⟩

theorem startsWithCI_of_lower (a b pat : Str) (h : lower a = pat) : startsWithCI (a ++ b) pat = true := by
  induction a generalizing pat with
  | nil => subst h; cases b <;> rfl
  | cons c cs ih =>
    subst h
    simp [lower_cons, startsWithCI, ih (lower cs) rfl]

theorem findCI_split (pat s : Str) (i : Nat) (h : findCI pat s = some i) :
    ∃ a m b, s = a ++ m ++ b ∧ a.length = i ∧ lower m = pat ∧
      ∀ k, k < i → startsWithCI (s.drop k) pat = false := by
  induction s generalizing i with
  | nil =>
    cases pat with
    | nil => simp [findCI] at h; subst h; exact ⟨[], [], [], rfl, rfl, rfl, by intro k hk; omega⟩
    | cons p ps => simp [findCI] at h
  | cons c cs ih =>
    by_cases hs : startsWithCI (c :: cs) pat = true
    · simp [findCI, hs] at h
      subst h
      obtain ⟨m, b, hmb, hl⟩ := startsWithCI_split _ _ hs
      exact ⟨[], m, b, by simpa using hmb, rfl, hl, by intro k hk; omega⟩
    · have hs' : startsWithCI (c :: cs) pat = false := by simpa using hs
      cases hf : findCI pat cs with
      | none => simp [findCI, hs', hf] at h
      | some j =>
        simp [findCI, hs', hf] at h
        subst h
        obtain ⟨a, m, b, hab, hlen, hl, hfirst⟩ := ih j hf
        refine ⟨c :: a, m, b, by simp [hab], by simp [hlen], hl, ?_⟩
        intro k hk
        cases k with
        | zero => simpa using hs'
        | succ k' => simpa using hfirst k' (by omega)

/-- an occurrence that nothing before it could start is found -/
theorem findCI_at (pat a m b : Str) (p0 : Char) (ps : Str) (hp : pat = p0 :: ps) (hm : lower m = pat)
    (ha : ∀ c ∈ a, lowerChar c ≠ p0) : findCI pat (a ++ m ++ b) = some a.length := by
  induction a with
  | nil =>
    have hs := startsWithCI_of_lower m b pat hm
    cases hmb : m ++ b with
    | nil =>
      subst hp
      cases m with
      | nil => simp [lower] at hm
      | cons _ _ => simp at hmb
    | cons x xs => simp only [List.nil_append, hmb] at hs ⊢; simp [findCI, hs]
  | cons c cs ih =>
    have hc : lowerChar c ≠ p0 := ha c (by simp)
    have hs : startsWithCI (c :: (cs ++ m ++ b)) pat = false := by
      subst hp; simp [startsWithCI, hc]
    have := ih (fun c' hc' => ha c' (by simp [hc']))
    simp only [List.cons_append, List.append_assoc] at hs this ⊢
    simp [findCI, hs, this]

theorem lowerChar_eq_lt (c : Char) (h : lowerChar c = '<') : c = '<' :=
  beq_iff_eq.1 ((lowerChar_beq c '<' (by decide)).symm.trans (beq_iff_eq.2 h))

theorem paraCapture_single (body : Str) (hb : '<' ∉ body) :
    paraCapture (pOpen ++ body ++ pClose) = some ([], pOpen ++ body ++ pClose, []) := by
  have h1 : findCI pOpen (pOpen ++ body ++ pClose) = some 0 := by
    have := findCI_at pOpen [] pOpen (body ++ pClose) '<' ['p', '>'] rfl (by decide) (by simp)
    simpa [List.append_assoc] using this
  have h2 : findCI pClose (body ++ pClose) = some body.length := by
    have := findCI_at pClose body pClose [] '<' ['/', 'p', '>'] rfl (by decide) (by
      intro c hc he
      exact hb (lowerChar_eq_lt c he ▸ hc))
    simpa using this
  unfold paraCapture
  simp only [h1]
  have hd : (pOpen ++ body ++ pClose).drop (0 + 3) = body ++ pClose := by simp [pOpen]
  simp only [hd, h2]
  simp [pOpen, pClose]
  exact ⟨List.take_of_length_le (by simp; omega), by omega⟩

theorem commonPrefix_spec (a b : Str) : ∃ r1 r2, a = commonPrefix a b ++ r1 ∧ b = commonPrefix a b ++ r2 := by
  induction a generalizing b with
  | nil => exact ⟨[], b, by simp [commonPrefix]⟩
  | cons x xs ih =>
    cases b with
    | nil => exact ⟨x :: xs, [], by simp [commonPrefix]⟩
    | cons y ys =>
      by_cases h : x = y
      · obtain ⟨r1, r2, h1, h2⟩ := ih ys
        subst h
        exact ⟨r1, r2, by simp only [commonPrefix, beq_self_eq_true, ↓reduceIte, List.cons_append, ← h1],
          by simp only [commonPrefix, beq_self_eq_true, ↓reduceIte, List.cons_append, ← h2]⟩
      · exact ⟨x :: xs, y :: ys, by simp [commonPrefix, h]⟩

theorem isSpace_of_isSpTab (c : Char) (h : isSpTab c = true) : isSpace c = true := by
  simp only [isSpTab, Bool.or_eq_true, beq_iff_eq] at h
  rcases h with rfl | rfl <;> rfl

theorem takeWhile_spTab_blank (l : Str) : isBlank (l.takeWhile isSpTab) = true :=
  List.all_eq_true.2 fun c hc => isSpace_of_isSpTab c (List.all_eq_true.1 List.all_takeWhile c hc)

theorem isBlank_prefix (a b : Str) (h : isBlank (a ++ b) = true) : isBlank a = true := by
  simp only [isBlank, List.all_append, Bool.and_eq_true] at h ⊢; exact h.1

theorem margin_none (ls : List Str) (h : margin ls = none) : ∀ l ∈ ls, l = [] := by
  induction ls with
  | nil => simp
  | cons x xs ih =>
    cases x with
    | nil =>
      intro l hl
      rcases List.mem_cons.1 hl with rfl | e
      · rfl
      · exact ih h l e
    | cons c cs => cases hm : margin xs <;> simp [margin, hm] at h

theorem margin_prefix (ls : List Str) (m : Str) (h : margin ls = some m) :
    isBlank m = true ∧ ∀ l ∈ ls, l ≠ [] → ∃ r, l = m ++ r := by
  induction ls generalizing m with
  | nil => simp [margin] at h
  | cons l ls ih =>
    cases l with
    | nil =>
      obtain ⟨hb, hall⟩ := ih m h
      refine ⟨hb, fun l' hl' hne => ?_⟩
      rcases List.mem_cons.1 hl' with rfl | e
      · exact absurd rfl hne
      · exact hall l' e hne
    | cons c cs =>
      have htl : c :: cs = (c :: cs).takeWhile isSpTab ++ (c :: cs).dropWhile isSpTab :=
        (List.takeWhile_append_dropWhile ..).symm
      cases hm : margin ls with
      | none =>
        obtain rfl : (c :: cs).takeWhile isSpTab = m := by simpa [margin, hm] using h
        refine ⟨takeWhile_spTab_blank _, fun l' hl' hne => ?_⟩
        rcases List.mem_cons.1 hl' with rfl | e
        · exact ⟨_, htl⟩
        · exact absurd (margin_none ls hm l' e) hne
      | some m' =>
        obtain rfl : commonPrefix ((c :: cs).takeWhile isSpTab) m' = m := by simpa [margin, hm] using h
        obtain ⟨hb', hall⟩ := ih m' hm
        obtain ⟨r1, r2, hr1, hr2⟩ := commonPrefix_spec ((c :: cs).takeWhile isSpTab) m'
        refine ⟨isBlank_prefix _ r2 (hr2 ▸ hb'), fun l' hl' hne => ?_⟩
        rcases List.mem_cons.1 hl' with rfl | e
        · exact ⟨r1 ++ (c :: cs).dropWhile isSpTab, by rw [← List.append_assoc, ← hr1]; exact htl⟩
        · obtain ⟨r, hr⟩ := hall l' e hne
          exact ⟨r2 ++ r, by rw [← List.append_assoc, ← hr2]; exact hr⟩

theorem words_allSpTab (l : Str) (h : l.all isSpTab = true) : words l = [] :=
  words_blank l (List.all_eq_true.2 fun c hc => isSpace_of_isSpTab c (List.all_eq_true.1 h c hc))

end Ford
