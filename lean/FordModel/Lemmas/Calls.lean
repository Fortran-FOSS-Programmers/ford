/-
  Lemmas about `FordModel/Calls.lean`: `strip_paren` on balanced text (three invariants of
  `stripParenAux`, for a nesting level above, at and below the requested depth `ret`), the
  de-duplication loop `addChains`, the statement loop, the cascade, the two generated guards, and
  the masking of character literals.
-/
import FordModel.CallsTable
import FordModel.Spec.Calls
import FordModel.Lemmas.CallsRegex
namespace Ford.Calls
open Ford Ford.CallsSpec

/-- above the requested depth (`ret < lv`) a balanced text leaves no trace -/
theorem strip_above (t : PTree) (h : t.WF) :
    ∀ (ret lv : Int) (rest cur : Str) (acc : List Str), ret < lv →
      stripParenAux ret (t.render ++ rest) lv cur acc = stripParenAux ret rest lv cur acc := by
  induction t with
  | nil => intros; simp [PTree.render]
  | chr c r ih =>
    intro ret lv rest cur acc hlt
    obtain ⟨h1, h2, h3⟩ := h
    have hne : ¬ lv = ret := by omega
    simp [PTree.render, stripParenAux, h1, h2, hne]
    exact ih h3 ret lv rest cur acc hlt
  | grp g r ihg ihr =>
    intro ret lv rest cur acc hlt
    obtain ⟨hg, hr⟩ := h
    have e1 : ¬ lv = ret := by omega
    have e2 : ¬ lv + 1 = ret := by omega
    simp [PTree.render, stripParenAux, e1, e2, List.append_assoc]
    rw [ihg hg ret (lv + 1) _ cur acc (by omega)]
    simp [stripParenAux, e2, e1]
    exact ihr hr ret lv rest cur acc hlt

/-- at the requested depth the text is collected with its groups emptied (`flat`) -/
theorem strip_at (t : PTree) (h : t.WF) :
    ∀ (ret : Int) (rest cur : Str) (acc : List Str),
      stripParenAux ret (t.render ++ rest) ret cur acc
        = stripParenAux ret rest ret (t.flat.reverse ++ cur) acc := by
  induction t with
  | nil => intros; simp [PTree.render, PTree.flat]
  | chr c r ih =>
    intro ret rest cur acc
    obtain ⟨h1, h2, h3⟩ := h
    simp [PTree.render, PTree.flat, stripParenAux, h1, h2]
    rw [ih h3]
  | grp g r _ ihr =>
    intro ret rest cur acc
    obtain ⟨hg, hr⟩ := h
    simp [PTree.render, PTree.flat, stripParenAux, List.append_assoc]
    rw [strip_above g hg ret (ret + 1) _ _ acc (by omega)]
    have e : ¬ ret + 1 = ret := by omega
    simp [stripParenAux, e]
    rw [ihr hr]

/-- `k + 1` levels below the requested depth the text contributes its pieces of depth `k` -/
theorem strip_below (t : PTree) (h : t.WF) :
    ∀ (k : Nat) (ret lv : Int) (rest : Str) (acc : List Str), ret = lv + 1 + k →
      stripParenAux ret (t.render ++ rest) lv [] acc
        = stripParenAux ret rest lv [] ((t.pieces k).reverse ++ acc) := by
  induction t with
  | nil => intros; simp [PTree.render, PTree.pieces]
  | chr c r ih =>
    intro k ret lv rest acc hk
    obtain ⟨h1, h2, h3⟩ := h
    have e : ¬ lv = ret := by omega
    simp [PTree.render, PTree.pieces, stripParenAux, h1, h2, e]
    exact ih h3 k ret lv rest acc hk
  | grp g r ihg ihr =>
    intro k ret lv rest acc hk
    obtain ⟨hg, hr⟩ := h
    cases k with
    | zero =>
      have e1 : ¬ lv = ret := by omega
      have e2 : lv + 1 = ret := by omega
      simp [PTree.render, PTree.pieces, stripParenAux, e1, e2, List.append_assoc]
      subst e2
      rw [strip_at g hg]
      simp [stripParenAux]
      rw [ihr hr 0 (lv + 1) lv rest _ (by omega)]
    | succ k =>
      have e1 : ¬ lv = ret := by omega
      have e2 : ¬ lv + 1 = ret := by omega
      simp [PTree.render, PTree.pieces, stripParenAux, e1, e2, List.append_assoc]
      rw [ihg hg k ret (lv + 1) _ acc (by omega)]
      simp [stripParenAux, e1, e2]
      rw [ihr hr (k + 1) ret lv rest _ (by omega)]

theorem addChains_lasts_nodup (intr : List Str) (asc : Assocs) (gs : List Str) (calls : List Chain) :
    (calls.map lastOf).Nodup → ((addChains intr asc gs calls).map lastOf).Nodup := by
  fun_induction addChains intr asc gs calls with
  | case1 => exact id
  | case2 _ _ _ _ _ _ ih => exact ih
  | case3 g more calls ch l hc ih =>
    intro h
    have hl : l ∉ calls.map lastOf := fun h' => hc (by simp [List.mem_map.1 h'])
    exact ih (by simpa [List.nodup_append, h] using hl)

theorem addChains_prefix (intr : List Str) (asc : Assocs) (gs : List Str) (calls : List Chain) :
    calls <+: addChains intr asc gs calls := by
  fun_induction addChains intr asc gs calls
  · simp
  · assumption
  · rename_i ih
    exact List.IsPrefix.trans (List.prefix_append _ _) ih

theorem mem_addChains_lasts (intr : List Str) (asc : Assocs) (gs : List Str) (calls : List Chain) (l : Str) :
    l ∈ (addChains intr asc gs calls).map lastOf ↔
      l ∈ calls.map lastOf ∨ (l ∉ intr ∧ ∃ g ∈ gs, lastOf (substHead asc (chainOf g)) = l) := by
  fun_induction addChains intr asc gs calls with
  | case1 => simp
  | case2 g more calls ch l' hc ih =>
    -- `g` is dropped: what it would contribute is an intrinsic or already ends a recorded chain
    have hc' : l' ∈ intr ∨ l' ∈ calls.map lastOf := by simpa using hc
    rw [ih]
    constructor
    · rintro (h | ⟨hn, g', hg', e⟩)
      · exact .inl h
      · exact .inr ⟨hn, g', List.mem_cons_of_mem _ hg', e⟩
    · rintro (h | ⟨hn, g', hg', e⟩)
      · exact .inl h
      · rcases List.mem_cons.1 hg' with rfl | hg'
        · subst e
          exact hc'.elim (fun hi => absurd hi hn) .inl
        · exact .inr ⟨hn, g', hg', e⟩
  | case3 g more calls ch l' hc ih =>
    -- `g` is recorded: its last name is no intrinsic, and from here on it ends a recorded chain
    have hc' : l' ∉ intr := fun hi => hc (by simp [hi])
    rw [ih, List.map_append, List.mem_append]
    constructor
    · rintro ((h | h) | ⟨hn, g', hg', e⟩)
      · exact .inl h
      · obtain rfl : l = l' := by simpa using h
        exact .inr ⟨hc', g, List.mem_cons_self, rfl⟩
      · exact .inr ⟨hn, g', List.mem_cons_of_mem _ hg', e⟩
    · rintro (h | ⟨hn, g', hg', e⟩)
      · exact .inl (.inl h)
      · rcases List.mem_cons.1 hg' with rfl | hg'
        · exact .inl (.inr (by simp [← e, ch]))
        · exact .inr ⟨hn, g', hg', e⟩

theorem addChains_no_intr (intr : List Str) (asc : Assocs) (gs : List Str) (calls : List Chain)
    (h : ∀ c ∈ calls, lastOf c ∉ intr) : ∀ c ∈ addChains intr asc gs calls, lastOf c ∉ intr := by
  intro c hc
  rcases (mem_addChains_lasts intr asc gs calls (lastOf c)).1 (List.mem_map_of_mem hc) with h1 | h1
  · obtain ⟨d, hd, e⟩ := List.mem_map.1 h1
    exact e ▸ h d hd
  · exact h1.1

theorem step_calls (gs : Rx.Guards) (casc : List (String × String)) (intr : List Str) (s : St) (raw : Str) :
    (step gs casc intr s raw).calls = s.calls ∨
      ∃ asc line, (step gs casc intr s raw).calls = addProcedureCalls intr asc line s.calls := by
  unfold step
  dsimp only
  repeat' split
  all_goals first
    | exact Or.inl rfl
    | exact Or.inr ⟨_, _, rfl⟩

def CallsInv (intr : List Str) (cs : List Chain) : Prop :=
  (cs.map lastOf).Nodup ∧ ∀ c ∈ cs, lastOf c ∉ intr

theorem step_inv (gs : Rx.Guards) (casc : List (String × String)) (intr : List Str) (s : St) (raw : Str)
    (h : CallsInv intr s.calls) : CallsInv intr (step gs casc intr s raw).calls := by
  rcases step_calls gs casc intr s raw with e | ⟨asc, line, e⟩
  · rw [e]; exact h
  · rw [e]
    exact ⟨addChains_lasts_nodup _ _ _ _ h.1, addChains_no_intr _ _ _ _ h.2⟩

theorem runUnit_inv (gs : Rx.Guards) (casc : List (String × String)) (intr : List Str) (lines : List Str) :
    CallsInv intr (runUnit gs casc intr lines).calls := by
  suffices h : ∀ s : St, CallsInv intr s.calls → CallsInv intr (lines.foldl (step gs casc intr) s).calls from
    h {} ⟨by simp, by simp⟩
  induction lines with
  | nil => exact fun s h => h
  | cons l ls ih => exact fun s h => ih _ (step_inv gs casc intr s l h)

theorem step_prefix (gs : Rx.Guards) (casc : List (String × String)) (intr : List Str) (s : St) (raw : Str) :
    s.calls <+: (step gs casc intr s raw).calls := by
  rcases step_calls gs casc intr s raw with e | ⟨asc, line, e⟩
  · rw [e]; exact List.prefix_refl _
  · rw [e]; exact addChains_prefix _ _ _ _

theorem branchAct_eq_scan {name : String} {line : Str} {bl : Int} :
    branchAct name line bl = .scan → name = "CALL_RE|SUBCALL_RE" := by
  fun_cases branchAct name line bl <;> simp_all

theorem branchAct_eq_assoc {name : String} {line : Str} {bl : Int} {items : Str} :
    branchAct name line bl = .assoc items → name = "ASSOCIATE_RE" ∧ associateRe line = some items := by
  fun_cases branchAct name line bl <;> simp_all

theorem gate_of_precedes (gs : Rx.Guards) (stops : List String) (casc : List (String × String))
    (name guard : String) (line : Str) (bl : Int)
    (hp : precedesAll stops casc name guard = true) (ht : branchTakes gs name guard line bl = true) :
    ∃ n, n ∉ stops ∧ gate gs casc line bl = branchAct n line bl := by
  induction casc with
  | nil => simp [precedesAll] at hp
  | cons e rest ih =>
    obtain ⟨n, g⟩ := e
    have hp' : n ∉ stops ∧ ((n = name ∧ g = guard) ∨ precedesAll stops rest name guard = true) := by
      simpa [precedesAll] using hp
    obtain ⟨hne, hor⟩ := hp'
    simp only [gate]
    by_cases htk : branchTakes gs n g line bl = true
    · simp only [htk, if_true]
      exact ⟨n, hne, rfl⟩
    · simp only [htk]
      rcases hor with ⟨rfl, rfl⟩ | hr
      · exact absurd ht htk
      · exact ih hr

theorem precedesAll_call (casc : List (String × String)) (name guard : String) :
    precedesAll ["CALL_RE|SUBCALL_RE"] casc name guard = precedesCall casc name guard := by
  induction casc with
  | nil => rfl
  | cons e rest ih => simp [precedesAll, precedesCall, ih]

theorem gate_not_scan (gs : Rx.Guards) (casc : List (String × String)) (name guard : String) (line : Str) (bl : Int)
    (hp : precedesCall casc name guard = true) (ht : branchTakes gs name guard line bl = true) :
    gate gs casc line bl ≠ .scan := by
  obtain ⟨n, hn, hg⟩ := gate_of_precedes gs _ casc name guard line bl (precedesAll_call .. ▸ hp) ht
  rw [hg]
  exact mt branchAct_eq_scan (by simpa using hn)

theorem gate_assoc (gs : Rx.Guards) (casc : List (String × String)) (line : Str) (bl : Int) (items : Str)
    (h : gate gs casc line bl = .assoc items) : associateRe line = some items := by
  induction casc with
  | nil => simp [gate] at h
  | cons e rest ih =>
    obtain ⟨n, g⟩ := e
    simp only [gate] at h
    by_cases htk : branchTakes gs n g line bl = true
    · simp only [htk, if_true] at h
      exact (branchAct_eq_assoc h).2
    · simp only [htk] at h
      exact ih (by simpa using h)

theorem step_calls_eq (gs : Rx.Guards) (casc : List (String × String)) (intr : List Str) (s : St) (raw : Str)
    (h1 : gate gs casc (maskQuotes raw) s.bl ≠ .scan)
    (h2 : ∀ items, gate gs casc (maskQuotes raw) s.bl ≠ .assoc items) :
    (step gs casc intr s raw).calls = s.calls := by
  unfold step
  dsimp only
  split
  · rfl
  split
  · rfl
  cases hg : gate gs casc (maskQuotes raw) s.bl with
  | scan => exact absurd hg h1
  | assoc items => exact absurd hg (h2 items)
  | endAssoc => cases s.assocs <;> rfl
  | _ => rfl

/-- a statement taken by a branch listed before the ASSOCIATE and the CALL branch records nothing -/
theorem step_calls_eq_of_precedes (gs : Rx.Guards) (casc : List (String × String)) (intr : List Str) (s : St)
    (raw : Str) (name guard : String)
    (hp : precedesAll ["ASSOCIATE_RE", "CALL_RE|SUBCALL_RE"] casc name guard = true)
    (ht : branchTakes gs name guard (maskQuotes raw) s.bl = true) :
    (step gs casc intr s raw).calls = s.calls := by
  obtain ⟨n, hn, hg⟩ := gate_of_precedes gs _ casc name guard (maskQuotes raw) s.bl hp ht
  have hn : n ≠ "ASSOCIATE_RE" ∧ n ≠ "CALL_RE|SUBCALL_RE" := by simpa using hn
  exact step_calls_eq _ _ _ s raw (hg ▸ mt branchAct_eq_scan hn.2)
    (fun items => hg ▸ fun e => hn.1 (branchAct_eq_assoc e).1)

/-- the shape of a FORMAT statement: label, blanks, `format` (any case), blanks, `(` items `)`,
    anything -/
theorem formatGuard_takes (lab ws1 kw ws2 items rest : Str)
    (hlab : lab ≠ []) (hd : ∀ c ∈ lab, isDigit c = true)
    (h1 : ws1 ≠ []) (hw1 : ∀ c ∈ ws1, isSpace c = true)
    (hkw : lower kw = ['f', 'o', 'r', 'm', 'a', 't'])
    (h2 : ws2 ≠ []) (hw2 : ∀ c ∈ ws2, isSpace c = true)
    (hit : ∀ c ∈ items, c ≠ '\n') :
    Rx.guardTest Generated.C08.guards "FORMAT_RE"
      (lab ++ (ws1 ++ (kw ++ (ws2 ++ '(' :: (items ++ ')' :: rest))))) = true := by
  have hdig : ∀ c ∈ lab, Rx.setHas true false [.range '0' '9'] c = true := by
    intro c hc
    have := hd c hc
    simp [isDigit] at this
    simp [Rx.setHas, Rx.Item.has, this]
  simp only [Rx.guardTest, Generated.C08.guards, Rx.Pattern.test]
  simp (config := { decide := true }) only [if_true, if_false]
  refine Rx.matchAt_of_mem (t := rest) _ ?_
  simp only [Generated.C08.rxFORMAT_RE]
  refine Rx.mem_run_seq (Rx.mem_run_bol rfl) ?_
  refine Rx.mem_seq_plus_set lab hlab hdig ?_
  refine Rx.mem_seq_plus_set ws1 h1 (fun c hc => Rx.setHas_space (hw1 c hc)) ?_
  refine Rx.mem_seq_lits hkw ?_
  -- `\s*` (the source) or `\s+` (the variant of finding C08-format-without-blank-scanned, repaired in
  -- FORD by f799f1b): the statement holds over either generated tree
  first
    | refine Rx.mem_seq_star_set ws2 (fun c hc => Rx.setHas_space (hw2 c hc)) ?_
    | refine Rx.mem_seq_plus_set ws2 h2 (fun c hc => Rx.setHas_space (hw2 c hc)) ?_
  refine Rx.mem_seq_set Rx.setHas_chr ?_
  refine Rx.mem_seq_star_set items (fun c hc => Rx.setHas_notnl (hit c hc)) ?_
  exact Rx.mem_run_set Rx.setHas_chr

/-- the shape of a computed GO TO **anywhere** in a statement: anything, `go`, blanks, `to`,
    blanks, `(` labels `)`, anything -/
theorem arithGotoGuard_takes (pre go ws1 to_ ws2 labels rest : Str)
    (hgo : lower go = ['g', 'o']) (hw1 : ∀ c ∈ ws1, isSpace c = true)
    (hto : lower to_ = ['t', 'o']) (hw2 : ∀ c ∈ ws2, isSpace c = true)
    (hne : labels ≠ []) (hl : ∀ c ∈ labels, isDigit c = true ∨ c = ',' ∨ isSpace c = true) :
    Rx.guardTest Generated.C08.guards "ARITH_GOTO_RE"
      (pre ++ (go ++ (ws1 ++ (to_ ++ (ws2 ++ '(' :: (labels ++ ')' :: rest)))))) = true := by
  have hlab : ∀ c ∈ labels, Rx.setHas true false [.range '0' '9', .chr ',', .space] c = true := by
    intro c hc
    rcases hl c hc with h | h | h
    · simp [isDigit] at h
      simp [Rx.setHas, Rx.Item.has, h]
    · simp [Rx.setHas, Rx.Item.has, h]
    · simp [Rx.setHas, Rx.Item.has, h]
  simp only [Rx.guardTest, Generated.C08.guards, Rx.Pattern.test]
  simp (config := { decide := true }) only [if_true, if_false]
  refine Rx.searchFrom_append _ pre _ (Rx.matchAt_of_mem (t := rest) _ ?_)
  simp only [Generated.C08.rxARITH_GOTO_RE]
  refine Rx.mem_seq_lits hgo ?_
  refine Rx.mem_seq_star_set ws1 (fun c hc => Rx.setHas_space (hw1 c hc)) ?_
  refine Rx.mem_seq_lits hto ?_
  refine Rx.mem_seq_star_set ws2 (fun c hc => Rx.setHas_space (hw2 c hc)) ?_
  refine Rx.mem_seq_set Rx.setHas_chr ?_
  refine Rx.mem_seq_plus_set labels hne hlab ?_
  exact Rx.mem_run_set Rx.setHas_chr

theorem litScan_body (q : Char) (post : Str) (hp : post.head? ≠ some q) :
    ∀ (body : Str) (pos : Nat) (fb : Option Nat), (∀ c ∈ body, c ≠ q) →
      litScan q (body ++ q :: post) pos fb = some (pos + body.length + 1) := by
  intro body
  induction body with
  | nil =>
    intro pos fb _
    cases post with
    | nil => simp [litScan]
    | cons d rest =>
      have : d ≠ q := by simpa using hp
      simp [litScan, this]
  | cons b bs ih =>
    intro pos fb hb
    have hbq : b ≠ q := hb b (by simp)
    have hrest : ∀ c ∈ bs, c ≠ q := fun c hc => hb c (by simp [hc])
    have := ih (pos + 1) fb hrest
    cases hbs : bs ++ q :: post with
    | nil => simp at hbs
    | cons d rest =>
      rw [hbs] at this
      simp only [List.cons_append, hbs, litScan, beq_iff_eq, hbq, if_false, this, List.length_cons]
      congr 1
      omega

theorem maskAux_prefix (pre s : Str) (n : Nat) (h : ∀ c ∈ pre, isQuote c = false) :
    maskAux (pre ++ s) 0 n = pre ++ maskAux s 0 n := by
  induction pre with
  | nil => rfl
  | cons c cs ih =>
    have hc : isQuote c = false := h c (by simp)
    simp [maskAux, hc]
    exact ih (fun d hd => h d (by simp [hd]))

theorem maskAux_skip (xs s : Str) (k n : Nat) :
    maskAux (xs ++ s) (xs.length + k) n = maskAux s k n := by
  induction xs with
  | nil => simp
  | cons c cs ih =>
    have : (c :: cs).length + k = (cs.length + k) + 1 := by simp; omega
    rw [List.cons_append, this, maskAux]
    exact ih

theorem maskAux_literal (q : Char) (hq : isQuote q = true) (body post : Str) (n : Nat)
    (hb : ∀ c ∈ body, c ≠ q) (hp : post.head? ≠ some q) :
    maskAux (q :: (body ++ q :: post)) 0 n =
      (let repl := (toString n).toList
       let x := repl ++ '"' :: post
       let e := (litScan '"' x 0 none).getD (repl.length + 1)
       '"' :: x.take e ++ maskAux post (e - (repl.length + 1)) (n + 1)) := by
  have h1 := litScan_body q post hp body 0 none hb
  simp only [Nat.zero_add] at h1
  simp only [maskAux, hq, h1, if_true]
  have hd : (body ++ q :: post).drop (body.length + 1) = post := by
    rw [show body ++ q :: post = (body ++ [q]) ++ post by simp]
    rw [List.drop_left' (by simp)]
  simp only [hd]
  have hs := maskAux_skip (body ++ [q]) post
    ((litScan '"' ((toString n).toList ++ '"' :: post) 0 none).getD ((toString n).toList.length + 1)
      - ((toString n).toList.length + 1)) (n + 1)
  simp only [List.length_append, List.length_singleton, List.append_assoc, List.singleton_append] at hs
  rw [hs]

end Ford.Calls
