/-
  Every entity reachable in the exported tree is among the entities appended to
  the importing project's lists.
-/
import FordModel.Lemmas.ExternalRT
namespace Ford.Ext
open Ford

theorem entriesAll_eq_flatMap (os : List XObj) : entriesAll os = os.flatMap entriesOf := by
  induction os with
  | nil => rfl
  | cons o r ih => simp only [entriesAll, List.flatMap_cons, ih]

theorem entriesList_eq_flatMap (os : List XObj) : entriesList os = os.flatMap entriesOf := by
  induction os with
  | nil => rfl
  | cons o r ih => simp only [entriesList, List.flatMap_cons, ih]

theorem entriesDict_eq_flatMap (os : List (Str × XObj)) :
    entriesDict os = os.flatMap (fun kv => entriesOf kv.2) := by
  induction os with
  | nil => rfl
  | cons o r ih => simp only [entriesDict, List.flatMap_cons, ih]

theorem entriesAttrs_eq_flatMap (ys : List (Str × XAttr)) :
    entriesAttrs ys = ys.flatMap (fun kv => entriesAttr kv.2) := by
  induction ys with
  | nil => rfl
  | cons y r ih => simp only [entriesAttrs, List.flatMap_cons, ih]

/-- the list a kind is appended to -/
def listOf (cls : Str) : Str := ((Gen.entities.lookup cls).map (·.1)).getD []

theorem entriesOf_spec_of_attr (b : Base) (p : Option Json) (name : Str) (url : Option Str) (obj : Str)
    (pt : Option Str) (attrs : List (Str × Attr)) (k : Str) (v : Attr) (hk : k ∈ Gen.attributes)
    (hl : attrs.lookup k = some v) (x : Entry) (hx : x ∈ entriesAttr (specAttr b (some (.str name)) v)) :
    x ∈ entriesOf (specE b p (.node name url obj pt attrs)) := by
  have hmem : (k, specAttr b (some (.str name)) v)
      ∈ orderByTable Gen.attributes (specAttrs b (some (.str name)) attrs) :=
    mem_orderByTable _ _ _ _ hk (by rw [lookup_specAttrs, hl]; rfl)
  simp only [specE, entriesOf, entriesAttrs_eq_flatMap]
  exact List.mem_cons_of_mem _ (List.mem_flatMap.mpr ⟨_, hmem, hx⟩)

/-- something that reaches a node is a node itself, hence kept -/
theorem reach_node_keep {c : Ent} {name : Str} {url : Option Str} {obj : Str} {pt : Option Str}
    {attrs : List (Str × Attr)} (h : Reach c (.node name url obj pt attrs)) : keep c = true := by
  cases h <;> rfl

/- `e` and the equation `he` instead of `Reach root (.node ..)`: the induction on `Reach` needs its second argument
   to be a variable. -/
theorem reach_entries (b : Base) (root e : Ent) (h : Reach root e) (name : Str) (url : Option Str) (obj : Str)
    (pt : Option Str) (attrs : List (Str × Attr)) (he : e = .node name url obj pt attrs) (p : Option Json) :
    ∃ x ∈ entriesOf (specE b p root),
      x.name = .str name ∧ x.cls = kindOf obj pt ∧ x.list = listOf (kindOf obj pt)
        ∧ x.url = .str (rebase b (urlText url)) := by
  induction h generalizing p with
  | refl e =>
    subst he
    exact ⟨_, List.mem_cons_self, rfl, rfl, rfl, rfl⟩
  | list rn ru ro rpt rattrs k xs c e hk hl hc hr ih =>
    obtain ⟨x, hx, hprops⟩ := ih he (some (.str rn))
    refine ⟨x, entriesOf_spec_of_attr b p rn ru ro rpt rattrs k _ hk hl x ?_, hprops⟩
    -- `entriesAttr (specAttr .. (.list xs))`, unfolded
    show x ∈ entriesList (specList b (some (.str rn)) xs)
    rw [entriesList_eq_flatMap, specList_eq]
    exact List.mem_flatMap.mpr
      ⟨_, List.mem_map_of_mem (List.mem_filter.mpr ⟨hc, reach_node_keep (he ▸ hr)⟩), hx⟩
  | dict rn ru ro rpt rattrs k kvs key c e hk hl hc hr ih =>
    obtain ⟨x, hx, hprops⟩ := ih he (some (.str rn))
    refine ⟨x, entriesOf_spec_of_attr b p rn ru ro rpt rattrs k _ hk hl x ?_, hprops⟩
    -- `entriesAttr (specAttr .. (.dict kvs))`, unfolded
    show x ∈ entriesDict (specDict b (some (.str rn)) kvs)
    rw [entriesDict_eq_flatMap, specDict_eq]
    exact List.mem_flatMap.mpr
      ⟨_, List.mem_map_of_mem (List.mem_filter.mpr ⟨hc, reach_node_keep (he ▸ hr)⟩), hx⟩

end Ford.Ext
