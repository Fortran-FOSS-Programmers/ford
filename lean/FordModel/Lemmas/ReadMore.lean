/-
  C09 — when the "Read more" link is appended only to entities with a URL.
-/
import FordModel.ReadMore
import FordModel.Lemmas.Path
namespace Ford.ReadMore
open Ford.Path

/-- The link is only appended for entities with a URL when it is guarded (repaired code), or when the rule
    "no URL ⇒ the summary is the documentation" is in force and the doc comment has no `summary:`
    metadata and a documentation with a paragraph (or none at all). -/
theorem readMore_url (T : Tables) (hT : T.linkNeedsUrl = true ∨ T.rule = .cutIfUrl) (hasUrl : Bool)
    (explicit para : Option Str) (doc : Str)
    (hx : T.linkNeedsUrl = true ∨ (explicit = none ∧ (para.isSome = true ∨ strip doc = [])))
    (h : readMore T hasUrl explicit para doc = true) : hasUrl = true := by
  cases hasUrl with
  | true => rfl
  | false =>
    exfalso
    cases hg : T.linkNeedsUrl with
    | true => simp [readMore, hg] at h
    | false =>
      have hr : T.rule = .cutIfUrl := hT.resolve_left (by simp [hg])
      obtain ⟨rfl, hp⟩ := hx.resolve_left (by simp [hg])
      cases para with
      | some p => simp [readMore, summaryOf, hr] at h
      | none =>
        have hd : strip doc = [] := hp.resolve_left (by simp)
        have : strip ([] : Str) = [] := by decide
        simp [readMore, summaryOf, hd, this] at h

end Ford.ReadMore
