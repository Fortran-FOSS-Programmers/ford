/-
  Lemmas for the name keying of C04 (FordModel/AccessNames.lean).
-/
import FordModel.AccessNames
import FordModel.Lemmas.Chars
namespace Ford.Access
open Ford

/-! ### `paren_split`

  `scanLv sep [c] l b` is what one character does to the two levels (`none`: `paren_split` cuts at it); both
  `paren_split` and `scanLv` go through a text one such step at a time. -/

theorem psplitAux_cons (sep c : Char) (r : Str) (l b : Int) (cur : Str) :
    psplitAux sep (c :: r) l b cur =
      match scanLv sep [c] l b with
      | some x => psplitAux sep r x.1 x.2 (c :: cur)
      | none => cur.reverse :: psplitAux sep r l b [] := by
  simp only [psplitAux, scanLv]
  -- the `if` cascade is peeled one Boolean test at a time; what is left each time is the `false` branch
  cases c == '('
  case true => rfl
  cases c == ')'
  case true => rfl
  cases c == '['
  case true => rfl
  cases c == ']'
  case true => rfl
  cases c == sep && l == 0 && b == 0
  case true => rfl
  rfl

theorem scanLv_cons (sep c : Char) (r : Str) (l b : Int) :
    scanLv sep (c :: r) l b = (scanLv sep [c] l b).bind (fun x => scanLv sep r x.1 x.2) := by
  simp only [scanLv]
  cases c == '('
  case true => rfl
  cases c == ')'
  case true => rfl
  cases c == '['
  case true => rfl
  cases c == ']'
  case true => rfl
  cases c == sep && l == 0 && b == 0
  case true => rfl
  rfl

theorem scanLv_append (sep : Char) (p q : Str) (l b : Int) :
    scanLv sep (p ++ q) l b = (scanLv sep p l b).bind (fun x => scanLv sep q x.1 x.2) := by
  induction p generalizing l b with
  | nil => rfl
  | cons c r ih =>
    rw [List.cons_append, scanLv_cons, scanLv_cons sep c r]
    cases scanLv sep [c] l b with
    | none => rfl
    | some x => exact ih x.1 x.2

/-- a character other than the separator never cuts -/
theorem scanLv_single (sep c : Char) (l b : Int) (h : c ≠ sep) : ∃ l' b', scanLv sep [c] l b = some (l', b') := by
  have hs : (c == sep) = false := by simpa using h
  simp only [scanLv, hs, Bool.false_and, Bool.false_eq_true, if_false]
  cases c == '('
  case true => exact ⟨_, _, rfl⟩
  cases c == ')'
  case true => exact ⟨_, _, rfl⟩
  cases c == '['
  case true => exact ⟨_, _, rfl⟩
  cases c == ']'
  case true => exact ⟨_, _, rfl⟩
  exact ⟨_, _, rfl⟩

/-- a text without top-level separator is run through without a split -/
theorem psplit_scan (sep : Char) (p t : Str) (l b l' b' : Int) (cur : Str)
    (h : scanLv sep p l b = some (l', b')) :
    psplitAux sep (p ++ t) l b cur = psplitAux sep t l' b' (p.reverse ++ cur) := by
  induction p generalizing l b cur with
  | nil =>
    simp only [scanLv, Option.some.injEq, Prod.mk.injEq] at h
    obtain ⟨rfl, rfl⟩ := h
    rfl
  | cons c r ih =>
    rw [scanLv_cons] at h
    rw [List.cons_append, psplitAux_cons]
    cases hc : scanLv sep [c] l b with
    | none => rw [hc] at h; cases h
    | some x =>
      rw [hc] at h
      simp only [List.reverse_cons, List.append_assoc, List.singleton_append]
      exact ih x.1 x.2 (c :: cur) h

/-- the first piece `paren_split` returns starts with what was accumulated so far -/
theorem psplit_head (sep : Char) (s : Str) (l b : Int) (cur : Str) :
    ∃ p tl, psplitAux sep s l b cur = (cur.reverse ++ p) :: tl := by
  induction s generalizing l b cur with
  | nil => exact ⟨[], [], by simp [psplitAux]⟩
  | cons c r ih =>
    rw [psplitAux_cons]
    cases scanLv sep [c] l b with
    | none => exact ⟨[], psplitAux sep r l b [], by simp⟩
    | some x =>
      obtain ⟨p, tl, h⟩ := ih x.1 x.2 (c :: cur)
      exact ⟨c :: p, tl, by simp [h]⟩

def NotLevel (sep c : Char) : Prop := c ≠ '(' ∧ c ≠ ')' ∧ c ≠ '[' ∧ c ≠ ']' ∧ c ≠ sep

theorem scanLv_plain (sep : Char) (p : Str) (l b : Int) (h : ∀ c ∈ p, NotLevel sep c) :
    scanLv sep p l b = some (l, b) := by
  induction p with
  | nil => rfl
  | cons c r ih =>
    obtain ⟨h1, h2, h3, h4, h5⟩ := h c (by simp)
    simp only [scanLv, beq_iff_eq, h1, h2, h3, h4, h5, if_false, false_and, Bool.and_eq_true]
    exact ih (fun d hd => h d (by simp [hd]))

/-- `hs`: the separator is no bracket, `paren_split` cuts at it on the top level -/
theorem psplit_closed_piece (sep : Char) (hs : scanLv sep [sep] 0 0 = none) (p t cur : Str) (h : Closed sep p) :
    psplitAux sep (p ++ sep :: t) 0 0 cur = (cur.reverse ++ p) :: psplitAux sep t 0 0 [] := by
  rw [psplit_scan sep p (sep :: t) 0 0 0 0 cur h, psplitAux_cons, hs, List.reverse_append, List.reverse_reverse]

theorem psplit_closed_end (sep : Char) (p cur : Str) (h : Closed sep p) :
    psplitAux sep p 0 0 cur = [cur.reverse ++ p] := by
  have := psplit_scan sep p [] 0 0 0 0 cur h
  simp only [List.append_nil] at this
  rw [this]
  simp [psplitAux]

/-- a closed text followed by the separator is the first piece, and there is a second -/
theorem parenSplit_cut (sep : Char) (hs : scanLv sep [sep] 0 0 = none) (n t : Str) (hn : Closed sep n) :
    ∃ p tl, parenSplit sep (n ++ sep :: t) = n :: p :: tl := by
  obtain ⟨p, tl, hp⟩ := psplit_head sep t 0 0 []
  refine ⟨p, tl, ?_⟩
  unfold parenSplit
  rw [psplit_closed_piece sep hs n t [] hn, hp]
  rfl

/-- a closed text followed by any other character: both stay in the first piece -/
theorem parenSplit_keep (sep c : Char) (hc : c ≠ sep) (n t : Str) (hn : Closed sep n) :
    ∃ p tl, parenSplit sep (n ++ c :: t) = (n ++ c :: p) :: tl := by
  obtain ⟨l', b', hone⟩ := scanLv_single sep c 0 0 hc
  have hscan : scanLv sep (n ++ [c]) 0 0 = some (l', b') := by
    rw [scanLv_append, hn]; exact hone
  obtain ⟨p, tl, hp⟩ := psplit_head sep t l' b' ((n ++ [c]).reverse ++ [])
  refine ⟨p, tl, ?_⟩
  have := psplit_scan sep (n ++ [c]) t 0 0 l' b' [] hscan
  simp only [List.append_assoc, List.singleton_append] at this
  unfold parenSplit
  rw [this, hp]
  simp

theorem parenSplit_join (sep : Char) (hs : scanLv sep [sep] 0 0 = none) (ps : List Str) (hne : ps ≠ [])
    (h : ∀ p ∈ ps, Closed sep p) : parenSplit sep (joinSep sep ps) = ps := by
  unfold parenSplit
  induction ps with
  | nil => exact absurd rfl hne
  | cons p r ih =>
    cases r with
    | nil => simpa [joinSep] using psplit_closed_end sep p [] (h p (by simp))
    | cons q r' =>
      simp only [joinSep]
      rw [psplit_closed_piece sep hs p _ [] (h p (by simp))]
      simp only [List.reverse_nil, List.nil_append, List.cons.injEq, true_and]
      exact ih (by simp) (fun x hx => h x (by simp [hx]))


/-- `"  Name  ".strip()` -/
theorem strip_padded (a b : Nat) (n : Str) (h : ∀ c ∈ n, isSpace c = false) :
    strip (blanks a ++ n ++ blanks b) = n :=
  strip_pad _ n _ (isBlank_replicate a) (isBlank_replicate b) h

theorem foldl_min_eq (l : List Nat) (a k : Nat) (hk : k ∈ l ∨ k = a) (hl : ∀ x ∈ l, k ≤ x) (ha : k ≤ a) :
    l.foldl min a = k := by
  induction l generalizing a with
  | nil => simp at hk; simp [hk]
  | cons x r ih =>
    simp only [List.foldl_cons]
    have hx : k ≤ x := hl x (by simp)
    apply ih
    · rcases hk with hk | hk
      · rcases List.mem_cons.1 hk with rfl | hk
        · right; omega
        · left; exact hk
      · right; subst hk; omega
    · intro y hy; exact hl y (by simp [hy])
    · omega

theorem cutIdx_at (n tl : Str) (c0 : Char) (hn : n ≠ []) (hc0 : c0 ∈ cutChars) (hfree : ∀ c ∈ cutChars, c ∉ n) :
    cutIdx (n ++ c0 :: tl) = n.length := by
  have hpos : 0 < n.length := List.length_pos_iff.2 hn
  unfold cutIdx cutCands
  apply foldl_min_eq
  · left
    refine List.mem_filterMap.2 ⟨c0, hc0, ?_⟩
    have : (n ++ c0 :: tl).idxOf c0 = n.length := by
      rw [List.idxOf_append, if_neg (hfree c0 hc0)]; simp
    simp only [this, List.length_append, List.length_cons]
    rw [if_pos ⟨hpos, by omega⟩]
  · intro x hx
    obtain ⟨c, hc, hx⟩ := List.mem_filterMap.1 hx
    have : (n ++ c0 :: tl).idxOf c = (c0 :: tl).idxOf c + n.length := by
      rw [List.idxOf_append, if_neg (hfree c hc)]
    simp only [this] at hx
    split at hx
    · simp only [Option.some.injEq] at hx; omega
    · exact absurd hx (by simp)
  · simp

theorem cutName_at (n tl : Str) (c0 : Char) (hn : n ≠ []) (hc0 : c0 ∈ cutChars) (hfree : ∀ c ∈ cutChars, c ∉ n) :
    cutName (n ++ c0 :: tl) = n := by
  unfold cutName
  rw [cutIdx_at n tl c0 hn hc0 hfree]
  simp

theorem cutName_none (s : Str) (hfree : ∀ c ∈ cutChars, c ∉ s) : cutName s = s := by
  unfold cutName cutIdx cutCands
  have : cutChars.filterMap (fun c => let i := s.idxOf c; if 0 < i ∧ i < s.length then some i else none) = [] := by
    rw [List.filterMap_eq_nil_iff]
    intro c hc
    simp only [List.idxOf_eq_length (hfree c hc), Nat.lt_irrefl, and_false, if_false]
  rw [this]
  simp


/-! ### what the measured tables have to say for the spellings below to work -/

/-- the blank is dropped from an entity-decl, no character of a name and none of `( [ * =` is -/
theorem dropChars_ok :
    ' ' ∈ declDropChars ∧ (∀ c ∈ declDropChars, isWord c = false) ∧ ∀ c ∈ ['(', '[', '*', '='], c ∉ declDropChars := by
  decide

/-- `(`, `[`, `*` end a name, no character of a name does -/
theorem cutChars_ok : (∀ c ∈ ['(', '[', '*'], c ∈ cutChars) ∧ ∀ c ∈ cutChars, isWord c = false := by
  decide

theorem ident_cutFree (n : Str) (h : IsIdent n) : ∀ c ∈ cutChars, c ∉ n := by
  intro c hc hm
  have := cutChars_ok.2 c hc
  simp [h.2 c hm] at this

theorem dropBlanks_append (a b : Str) : dropBlanks (a ++ b) = dropBlanks a ++ dropBlanks b := by
  simp [dropBlanks]

theorem dropBlanks_blanks (k : Nat) : dropBlanks (blanks k) = [] := by
  have := dropChars_ok.1
  simp only [dropBlanks, blanks, List.filter_eq_nil_iff, List.mem_replicate]
  rintro c ⟨_, rfl⟩
  simpa using this

theorem dropBlanks_ident (n : Str) (h : IsIdent n) : dropBlanks n = n := by
  simp only [dropBlanks, List.filter_eq_self]
  intro c hc
  by_cases hx : c ∈ declDropChars
  · have := dropChars_ok.2.1 c hx
    simp [h.2 c hc] at this
  · simpa using hx

theorem dropBlanks_noSpace (r : Str) (h : ∀ c ∈ r, isSpace c = true → c = ' ') :
    ∀ c ∈ dropBlanks r, isSpace c = false := by
  intro c hc
  simp only [dropBlanks, List.mem_filter] at hc
  cases hs : isSpace c with
  | false => rfl
  | true =>
    have := h c hc.1 hs
    subst this
    have := dropChars_ok.1
    simp [List.contains_eq_mem, this] at hc

theorem ident_notLevel (sep : Char) (hsep : isWord sep = false) (n : Str) (h : IsIdent n) :
    ∀ c ∈ n, NotLevel sep c := by
  intro c hc
  have hw := h.2 c hc
  exact ⟨word_ne hw (by decide), word_ne hw (by decide), word_ne hw (by decide), word_ne hw (by decide),
    word_ne hw hsep⟩

theorem ident_noSpace (n : Str) (h : IsIdent n) : ∀ c ∈ n, isSpace c = false :=
  fun c hc => word_space (h.2 c hc)

/-- **the name FORD gives an entity-decl** however it is spelled -/
theorem declName_spelled (d : DeclSp) (h : d.Ok) : declName d.text = d.name := by
  obtain ⟨hid, hrest, hsp, _⟩ := h
  have hdec : dropBlanks d.text = d.name ++ dropBlanks d.rest := by
    simp [DeclSp.text, dropBlanks_append, dropBlanks_blanks, dropBlanks_ident d.name hid]
  have hfree := ident_cutFree d.name hid
  have hplain : Closed '=' d.name := scanLv_plain '=' d.name 0 0 (ident_notLevel '=' (by decide) d.name hid)
  unfold declName
  simp only [hdec]
  cases hr : d.rest with
  | nil =>
    -- nothing follows the name
    have hsplit : parenSplit '=' d.name = [d.name] := psplit_closed_end '=' d.name [] hplain
    simp only [dropBlanks, List.filter_nil, List.append_nil, hsplit]
    rw [strip_nospace d.name (ident_noSpace d.name hid)]
    exact cutName_none d.name hfree
  | cons c0 r =>
    have hc0 : c0 ∈ ['(', '[', '*', '='] := by simpa [hr] using hrest
    have hkeep : dropBlanks (c0 :: r) = c0 :: dropBlanks r := by
      simp [dropBlanks, dropChars_ok.2.2 c0 hc0]
    rw [hkeep]
    by_cases heq : c0 = '='
    · -- an initialisation follows the name: the split has a second piece, the first is the name
      subst heq
      obtain ⟨p, tl, hsplit⟩ := parenSplit_cut '=' rfl d.name (dropBlanks r) hplain
      simp only [hsplit]
      exact cutName_none d.name hfree
    · -- an array-spec, a coarray-spec or a char-length follows the name: it stays in the first piece, the name is
      -- cut off there, whether the split has a second piece (an initialisation further on) or not
      have hcut : c0 ∈ cutChars := cutChars_ok.1 c0 (by simpa [heq] using hc0)
      obtain ⟨p, tl, hsplit⟩ := parenSplit_keep '=' c0 heq d.name (dropBlanks r) hplain
      simp only [hsplit]
      cases tl with
      | nil =>
        have hns : ∀ c ∈ d.name ++ c0 :: dropBlanks r, isSpace c = false := by
          intro c hc
          rcases List.mem_append.1 hc with hc | hc
          · exact ident_noSpace d.name hid c hc
          · exact dropBlanks_noSpace d.rest hsp c (by rw [hr, hkeep]; exact hc)
        rw [strip_nospace _ hns]
        exact cutName_at d.name _ c0 hid.1 hcut hfree
      | cons x xs => exact cutName_at d.name _ c0 hid.1 hcut hfree


theorem ident_lower (n : Str) (h : IsIdent n) : IsIdent (lower n) := by
  refine ⟨by simpa [lower] using h.1, ?_⟩
  intro c hc
  obtain ⟨x, hx, rfl⟩ := List.mem_map.1 hc
  exact isWord_lowerChar x (h.2 x hx)

theorem normKey_ident (g : Bool) (n : Str) (h : IsIdent n) : normKey g n = n := by
  unfold normKey
  have : '(' ∉ n := by
    intro hm
    have := h.2 _ hm
    revert this; decide
  simp [this]

theorem blanks_notLevel (sep : Char) (hsep : sep ≠ ' ') (k : Nat) : ∀ c ∈ blanks k, NotLevel sep c := by
  intro c hc
  simp only [blanks, List.mem_replicate] at hc
  obtain ⟨_, rfl⟩ := hc
  exact ⟨by decide, by decide, by decide, by decide, fun h => hsep h.symm⟩

theorem declText_closed (d : DeclSp) (h : d.Ok) : Closed ',' d.text := by
  obtain ⟨hid, _, _, hcl⟩ := h
  unfold Closed DeclSp.text
  have hpre : ∀ c ∈ blanks d.lead ++ d.name ++ blanks d.gap, NotLevel ',' c := by
    intro c hc
    simp only [List.mem_append] at hc
    rcases hc with (hc | hc) | hc
    · exact blanks_notLevel ',' (by decide) _ c hc
    · exact ident_notLevel ',' (by decide) d.name hid c hc
    · exact blanks_notLevel ',' (by decide) _ c hc
  rw [scanLv_append, scanLv_plain ',' _ 0 0 hpre]
  exact hcl

theorem declKeys_spelled (ds : List DeclSp) (hne : ds ≠ []) (h : ∀ d ∈ ds, d.Ok) :
    declKeys (joinSep ',' (ds.map DeclSp.text)) = ds.map (fun d => lower d.name) := by
  unfold declKeys
  rw [parenSplit_join ',' rfl _ (by simpa using hne)
    (by
      intro p hp
      obtain ⟨d, hd, rfl⟩ := List.mem_map.1 hp
      exact declText_closed d (h d hd))]
  rw [List.map_map]
  apply List.map_congr_left
  intro d hd
  simp [declName_spelled d (h d hd)]

theorem nameText_closed (d : NameSp) (h : IsIdent d.name) : Closed ',' d.text := by
  unfold Closed NameSp.text
  apply scanLv_plain
  intro c hc
  simp only [List.mem_append] at hc
  rcases hc with (hc | hc) | hc
  · exact blanks_notLevel ',' (by decide) _ c hc
  · exact ident_notLevel ',' (by decide) d.name h c hc
  · exact blanks_notLevel ',' (by decide) _ c hc

theorem nameKey_spelled (g : Bool) (d : NameSp) (h : IsIdent d.name) : nameKey g d.text = lower d.name := by
  unfold nameKey NameSp.text
  rw [strip_padded _ _ _ (ident_noSpace d.name h)]
  exact normKey_ident g _ (ident_lower d.name h)

theorem stmtKeys_spelled (g : Bool) (ns : List NameSp) (hne : ns ≠ []) (h : ∀ d ∈ ns, IsIdent d.name) :
    stmtKeys g (joinSep ',' (ns.map NameSp.text)) = ns.map (fun d => lower d.name) := by
  unfold stmtKeys
  rw [parenSplit_join ',' rfl _ (by simpa using hne)
    (by
      intro p hp
      obtain ⟨d, hd, rfl⟩ := List.mem_map.1 hp
      exact nameText_closed d (h d hd))]
  rw [List.map_map]
  apply List.map_congr_left
  intro d hd
  simp [nameKey_spelled g d (h d hd)]

theorem ifaceKey_ident (g : Bool) (n : Str) (h : IsIdent n) : ifaceKey g n = lower n :=
  normKey_ident g _ (ident_lower n h)

theorem keyed_spells (g : Bool) (r : RStmt) (s : Stmt) (h : Spells r s) : keyed g r = s := by
  cases h with
  | plain s => rfl
  | var ds attrs hne h => simp [keyed, declKeys_spelled ds hne h]
  | access a ns hne h => simp [keyed, stmtKeys_spelled g ns hne h]
  | generic n ps rs h => simp [keyed, ifaceKey_ident g n h]

theorem keyed_spells_list (g : Bool) (rs : List RStmt) (ss : List Stmt) (h : SpellsAll rs ss) :
    rs.map (keyed g) = ss := by
  induction h with
  | nil => rfl
  | cons h1 _ ih => simp [keyed_spells g _ _ h1, ih]

theorem filter_noSpace_lstrip (s : Str) : (lstrip s).filter (fun c => !isSpace c) = s.filter (fun c => !isSpace c) := by
  induction s with
  | nil => rfl
  | cons c r ih =>
    by_cases hc : isSpace c = true
    · simp [lstrip, hc, ih]
    · simp [lstrip, hc]

theorem filter_noSpace_strip (s : Str) : (strip s).filter (fun c => !isSpace c) = s.filter (fun c => !isSpace c) := by
  unfold strip rstrip
  rw [← List.reverse_reverse (List.filter _ (lstrip (lstrip s).reverse).reverse), ← List.filter_reverse,
    List.reverse_reverse, filter_noSpace_lstrip, List.filter_reverse, List.reverse_reverse, filter_noSpace_lstrip]


theorem filter_noSpace_lower (s : Str) :
    (lower s).filter (fun c => !isSpace c) = lower (s.filter (fun c => !isSpace c)) := by
  induction s with
  | nil => rfl
  | cons c r ih =>
    simp only [lower, List.map_cons, List.filter_cons, isSpace_lowerChar] at ih ⊢
    split <;> simp [ih]

end Ford.Access
