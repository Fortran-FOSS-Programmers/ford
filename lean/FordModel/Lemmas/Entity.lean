/-
  Lemmas about FordModel/Entity.lean (the entity of a declaration, the dummy arguments of a procedure).
-/
import FordModel.Entity
import FordModel.Lemmas.Show
namespace Ford.Entity
open Ford Ford.Show

/-- a declared entity as the abstract program has it: a name (not empty, none of the three characters that
    open what follows a name) and what follows it (nothing, or a text that begins with `(`, `[` or `*`) -/
def EntOk (e : Str × Str) : Prop :=
  e.1 ≠ [] ∧ (∀ x ∈ e.1, isNameDelim x = false) ∧ (e.2 = [] ∨ ∃ c r, e.2 = c :: r ∧ isNameDelim c = true)

/-- what may follow a name: nothing, or a text that begins with `(`, `[` or `*` (the third condition of `EntOk`) -/
abbrev Follows (s : Str) : Prop := s = [] ∨ ∃ c r, s = c :: r ∧ isNameDelim c = true

theorem Follows.append {a b : Str} (ha : Follows a) (hb : Follows b) : Follows (a ++ b) := by
  rcases ha with rfl | ⟨c, r, rfl, hc⟩
  · exact hb
  · exact Or.inr ⟨c, r ++ b, rfl, hc⟩

theorem mkVar_exact (e : Str × Str) (h : EntOk e) : mkVar (e.1 ++ e.2) = ⟨e.1, e.2⟩ := by
  obtain ⟨hne, hn, hs⟩ := h
  rcases hs with hs | ⟨c, r, hs, hc⟩
  · simp [mkVar, hs, splitNameDim_plain e.1 hn]
  · simp [mkVar, hs, splitNameDim_leading e.1 r c hne hn hc]

theorem declare_exact (ds : List (Str × Str)) (h : ∀ e ∈ ds, EntOk e) :
    declare (ds.map fun e => e.1 ++ e.2) = ds.map fun e => ⟨e.1, e.2⟩ := by
  induction ds with
  | nil => rfl
  | cons d ds ih =>
    simp only [declare, List.map_cons, List.map_map] at ih ⊢
    rw [mkVar_exact d (h d (by simp))]
    congr 1
    exact ih (fun e he => h e (by simp [he]))

/-- with pairwise different names the first variable of the name is the only one: what is left are the others -/
theorem takeVar_eq (a : Str) (vs : List Var) (hnd : (vs.map fun v => lower v.name).Nodup) :
    takeVar a vs = (vs.find? (sameName a)).map fun w => (w, vs.filter fun v => !sameName a v) := by
  induction vs with
  | nil => rfl
  | cons v vs ih =>
    simp only [List.map_cons, List.nodup_cons] at hnd
    by_cases hv : sameName a v = true
    · have hrest : ∀ x ∈ vs, (!sameName a x) = true := by
        intro x hx
        cases hc : sameName a x with
        | false => rfl
        | true =>
          simp only [sameName, beq_iff_eq] at hv hc
          exact absurd (List.mem_map.mpr ⟨x, hx, by rw [← hc, hv]⟩) hnd.1
      simp [takeVar, hv, List.filter_eq_self.mpr hrest]
    · simp only [Bool.not_eq_true] at hv
      simp only [takeVar, hv, ih hnd.2, List.find?_cons, List.filter_cons]
      cases vs.find? (sameName a) <;> simp

theorem find_after_take (a b : Str) (hab : lower a ≠ lower b) (vs : List Var) :
    (vs.filter fun v => !sameName a v).find? (sameName b) = vs.find? (sameName b) := by
  rw [List.find?_filter]
  congr 1
  funext v
  cases hb : sameName b v
  · simp
  · have : sameName a v = false := by
      simp only [sameName, beq_iff_eq, beq_eq_false_iff_ne] at hb ⊢
      exact fun e => hab (e.trans hb.symm)
    simp [this]

/-- what the argument `a` is documented as, given the declared variables of the unit -/
def argOf (vs : List Var) (a : Str) : Arg :=
  match vs.find? (sameName a) with
  | some v => .declared v
  | none => .implicit a

theorem matchArgs_exact (args : List Str) (vs : List Var)
    (hv : (vs.map fun v => lower v.name).Nodup) (ha : (args.map lower).Nodup) :
    matchArgs args vs = (args.map (argOf vs), vs.filter fun v => !(args.any fun a => sameName a v)) := by
  induction args generalizing vs with
  | nil => simp [matchArgs]; exact (List.filter_eq_self.mpr (fun _ _ => rfl)).symm
  | cons a as ih =>
    simp only [List.map_cons, List.nodup_cons] at ha
    simp only [matchArgs, takeVar_eq a vs hv, List.map_cons, argOf]
    cases hf : vs.find? (sameName a) with
    | none =>
      have hall : ∀ x ∈ vs, sameName a x = false := by
        intro x hx
        simpa using List.find?_eq_none.mp hf x hx
      simp only [Option.map_none, ih vs hv ha.2, Prod.mk.injEq, true_and]
      apply List.filter_congr
      intro x hx
      simp [hall x hx]
    | some w =>
      have hnd : ((vs.filter fun v => !sameName a v).map fun v => lower v.name).Nodup :=
        hv.sublist ((List.filter_sublist).map _)
      have hargs : as.map (argOf (vs.filter fun v => !sameName a v)) = as.map (argOf vs) := by
        apply List.map_congr_left
        intro b hb
        have hab : lower a ≠ lower b := fun e => ha.1 (List.mem_map.mpr ⟨b, hb, e.symm⟩)
        simp only [argOf, find_after_take a b hab vs]
      simp only [Option.map_some, ih _ hnd ha.2, hargs, Prod.mk.injEq, true_and, List.filter_filter]
      apply List.filter_congr
      intro x _
      simp [Bool.and_comm]

end Ford.Entity
