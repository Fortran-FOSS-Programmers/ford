import FordModel.MdState
namespace Ford

/-- after `reset`, the link targets and the footnote list of a converted document are those an
    unused instance would give (whatever the instance held before, in both variants) -/
theorem mdConvert_reset_links_foots (fix : Bool) (st : MdState) (d : List Str) :
    (mdConvert (mdReset fix st) d).2.links = (mdAlone d).links ∧
    (mdConvert (mdReset fix st) d).2.foots = (mdAlone d).foots := by
  simp [mdConvert, mdReset, mdAlone, mdEmpty, mdRender]

/-- with the abbreviation patterns removed by `reset` as well, so is the whole output -/
theorem mdConvert_reset_fixed (st : MdState) (d : List Str) :
    (mdConvert (mdReset true st) d).2 = mdAlone d := by
  simp [mdConvert, mdReset, mdAlone, mdEmpty, mdRender]

/-- the loop resets before every conversion: whatever part of the output does not depend on the instance's
    state after `reset` is, for every comment, that of the comment converted alone -/
theorem markdownAll_map {α : Type} (g : MdOut → α) (fix : Bool)
    (h : ∀ st d, g (mdConvert (mdReset fix st) d).2 = g (mdAlone d)) (st : MdState) (docs : List (List Str)) :
    (markdownAll fix st docs).map g = docs.map (fun d => g (mdAlone d)) := by
  induction docs generalizing st with
  | nil => rfl
  | cons d ds ih => simp only [markdownAll, List.map_cons, h, ih]

end Ford
