/-
  Lemmas for C16: looking up a child of an imported object that came from an exported
  description (`xFindChild ∘ specE`), the search among the loaded objects, and the double stripping of an
  exported URL.
-/
import FordModel.ExternalChild
import FordModel.ExternalSpec
import FordModel.Lemmas.ExternalRT
namespace Ford.Ext
open Ford

/-- the first entity object of a list whose name is `name`, case-insensitively (specification side) -/
def firstNamed (name : Str) : List Ent → Option Ent
  | [] => none
  | .node n u o pt ats :: r => if lower name == lower n then some (.node n u o pt ats) else firstNamed name r
  | _ :: r => firstNamed name r

/-- the first entity of that name in the exported list attributes of an entity, the attributes taken in
    `order` (specification side of `_find_in_list(self.children, name)`) -/
def firstChild (name : Str) (attrs : List (Str × Attr)) : List Str → Option Ent
  | [] => none
  | a :: r =>
    match (if a ∈ Gen.attributes then attrs.lookup a else none) with
    | some (.list xs) =>
      (match firstNamed name xs with
       | some c => some c
       | none => firstChild name attrs r)
    | _ => firstChild name attrs r

theorem xFindIn_specList (b : Base) (q : Option Json) (name : Str) (xs : List Ent) :
    xFindIn name (specList b q xs) = .ok ((firstNamed name xs).map (specE b q)) := by
  fun_induction firstNamed name xs with
  | case1 => rfl
  | case2 n u o pt ats r hn =>
    -- `specList` keeps a node: unfold it and `specE` to the head constructor, for the equation of `xFindIn`
    show xFindIn name (XObj.node _ (.str n) _ _ _ _ :: specList b q r) = _
    rw [xFindIn, if_pos hn]
    rfl
  | case3 n u o pt ats r hn ih =>
    show xFindIn name (XObj.node _ (.str n) _ _ _ _ :: specList b q r) = _
    rw [xFindIn, if_neg hn]
    exact ih
  | case4 e r hne ih =>
    cases e with
    | ext => exact ih
    | text s =>
      rw [specList]
      split
      · exact ih
      · exact ih
    | node n u o pt ats => exact absurd rfl (hne n u o pt ats)

theorem firstNamed_sound (name : Str) (xs : List Ent) (c : Ent) (h : firstNamed name xs = some c) :
    c ∈ xs ∧ ∃ n u o pt ats, c = .node n u o pt ats ∧ lower name = lower n := by
  fun_induction firstNamed name xs with
  | case1 => cases h
  | case2 n u o pt ats r hn =>
    cases h
    exact ⟨List.mem_cons_self, n, u, o, pt, ats, rfl, eq_of_beq hn⟩
  | case3 n u o pt ats r hn ih => exact ⟨List.mem_cons_of_mem _ (ih h).1, (ih h).2⟩
  | case4 e r _ ih => exact ⟨List.mem_cons_of_mem _ (ih h).1, (ih h).2⟩

theorem firstNamed_complete (name : Str) (xs : List Ent) (n : Str) (u : Option Str) (o : Str) (pt : Option Str)
    (ats : List (Str × Attr)) (h : Ent.node n u o pt ats ∈ xs) (hn : lower name = lower n) :
    ∃ c, firstNamed name xs = some c := by
  fun_induction firstNamed name xs with
  | case1 => cases h
  | case2 n' u' o' pt' ats' r hn' => exact ⟨_, rfl⟩
  | case3 n' u' o' pt' ats' r hn' ih =>
    rcases List.mem_cons.mp h with h | h
    · cases h
      exact absurd (beq_iff_eq.mpr hn) hn'
    · exact ih h
  | case4 e r hne ih =>
    rcases List.mem_cons.mp h with h | h
    · exact absurd h.symm (hne n u o pt ats)
    · exact ih h

theorem firstChild_sound (name : Str) (attrs : List (Str × Attr)) (order : List Str) (c : Ent)
    (h : firstChild name attrs order = some c) :
    ∃ a xs, a ∈ order ∧ a ∈ Gen.attributes ∧ attrs.lookup a = some (.list xs) ∧ c ∈ xs ∧
      ∃ n u o pt ats, c = .node n u o pt ats ∧ lower name = lower n := by
  fun_induction firstChild name attrs order with
  | case1 => cases h
  | case2 a r xs hl c' hf =>
    cases h
    split at hl
    · exact ⟨a, xs, List.mem_cons_self, ‹_›, hl, firstNamed_sound name xs c hf⟩
    · cases hl
  | case3 a r xs hl hf ih =>
    obtain ⟨a', xs', h1, h2⟩ := ih h
    exact ⟨a', xs', List.mem_cons_of_mem _ h1, h2⟩
  | case4 a r hl ih =>
    obtain ⟨a', xs', h1, h2⟩ := ih h
    exact ⟨a', xs', List.mem_cons_of_mem _ h1, h2⟩

theorem firstChild_complete (name : Str) (attrs : List (Str × Attr)) (order : List Str) (a : Str) (xs : List Ent)
    (ha : a ∈ order) (hat : a ∈ Gen.attributes) (hl : attrs.lookup a = some (.list xs))
    (n : Str) (u : Option Str) (o : Str) (pt : Option Str) (ats : List (Str × Attr))
    (h : Ent.node n u o pt ats ∈ xs) (hn : lower name = lower n) :
    ∃ c, firstChild name attrs order = some c := by
  fun_induction firstChild name attrs order with
  | case1 => cases ha
  | case2 a' r xs' hl' c' hf => exact ⟨c', rfl⟩
  | case3 a' r xs' hl' hf ih =>
    rcases List.mem_cons.mp ha with e | har
    · subst e
      rw [if_pos hat, hl] at hl'
      cases hl'
      obtain ⟨c, hc⟩ := firstNamed_complete name xs n u o pt ats h hn
      rw [hc] at hf
      cases hf
    · exact ih har
  | case4 a' r hne ih =>
    rcases List.mem_cons.mp ha with e | har
    · subst e
      rw [if_pos hat, hl] at hne
      exact absurd rfl (hne xs)
    · exact ih har

/-- table fact on the probed `Gen.classDefaults`: every default value is an empty list / dict or a string -/
theorem classDefaults_iterable :
    Gen.classDefaults.all (fun row => row.2.all (fun p => p.2 == kList || p.2 == kDict || p.2 == kStr)) = true := by
  decide +kernel

theorem defaultVal_absent_or_nothing (cls a : Str) :
    defaultVal cls a = .absent ∨ defaultVal cls a = .nothing := by
  unfold defaultVal
  cases hr : Gen.classDefaults.lookup cls with
  | none => exact .inl rfl
  | some row =>
    cases h : row.lookup a with
    | none => exact .inl (by simp only [Option.bind, h])
    | some shape =>
      have h1 := List.all_eq_true.mp classDefaults_iterable _ (lookup_mem hr)
      have h2 : (shape == kList || shape == kDict || shape == kStr) = true :=
        List.all_eq_true.mp h1 _ (lookup_mem h)
      simp only [Option.bind, h, h2, if_true, or_true]

theorem attrVal_spec (b : Base) (q : Option Json) (cls : Str) (attrs : List (Str × Attr)) (a : Str) :
    attrVal cls (orderByTable Gen.attributes (specAttrs b q attrs)) a =
      match (if a ∈ Gen.attributes then attrs.lookup a else none) with
      | some (.list xs) => .items (specList b q xs)
      | some (.dict _) => .nothing
      | some (.scalar _) => .nothing
      | none => defaultVal cls a := by
  unfold attrVal
  rw [lookup_orderByTable, lookup_specAttrs]
  by_cases ha : a ∈ Gen.attributes
  · simp only [if_pos ha]
    cases attrs.lookup a with
    | none => rfl
    | some v => cases v <;> rfl
  · simp only [if_neg ha]

theorem findLazy_spec (b : Base) (q : Option Json) (cls : Str) (name : Str) (attrs : List (Str × Attr))
    (order : List Str) :
    findLazy name cls (orderByTable Gen.attributes (specAttrs b q attrs)) order
      = .ok ((firstChild name attrs order).map (specE b q)) := by
  induction order with
  | nil => rfl
  | cons a r ih =>
    unfold findLazy firstChild
    rw [attrVal_spec]
    cases (if a ∈ Gen.attributes then attrs.lookup a else none) with
    | none => rcases defaultVal_absent_or_nothing cls a with hd | hd <;> simp only [hd, ih]
    | some v =>
      cases v with
      | list xs =>
        simp only [xFindIn_specList]
        cases firstNamed name xs with
        | none => exact ih
        | some c => rfl
      | dict kvs => exact ih
      | scalar s => exact ih

theorem xFindTop_not_skipped (skip : List Str) (name : Str) (xs : List XObj) (o : XObj)
    (h : xFindTop skip name xs = .ok (some o)) : skip.contains (xCls o) = false := by
  fun_induction xFindTop skip name xs with
  | case1 => cases h
  | case2 s r ih => exact ih h
  | case3 cls n url parent pt attrs r hs ih => exact ih h
  | case4 cls url parent pt attrs r hs s hn =>
    cases h
    exact Bool.eq_false_iff.mpr hs
  | case5 cls url parent pt attrs r hs s hn ih => exact ih h
  | case6 cls n url parent pt attrs r hs hne => cases h

theorem afterFirstSlashAux_append (d f : Str) (hd : '/' ∉ d) :
    afterFirstSlashAux (d ++ '/' :: f) = some f := by
  induction d with
  | nil => rfl
  | cons c r ih =>
    rw [List.mem_cons, not_or] at hd
    rw [List.cons_append, afterFirstSlashAux, if_neg (fun h => hd.1 (eq_of_beq h).symm), ih hd.2]

theorem afterFirstSlash_append (d f : Str) (hd : '/' ∉ d) : afterFirstSlash (d ++ '/' :: f) = f := by
  rw [afterFirstSlash, afterFirstSlashAux_append d f hd]
  rfl

theorem afterFirstSlashAux_none (s : Str) (h : '/' ∉ s) : afterFirstSlashAux s = none := by
  induction s with
  | nil => rfl
  | cons c r ih =>
    rw [List.mem_cons, not_or] at h
    rw [afterFirstSlashAux, if_neg (fun hc => h.1 (eq_of_beq hc).symm), ih h.2]

end Ford.Ext
