/-
  C09 — `relurl` finds and rewrites every link below the normalised output directory; a file system with one
  symbolic link on which a textual `abspath` fails.
-/
import FordModel.Relurl
import FordModel.Lemmas.Path
namespace Ford.Relurl
open Ford.Path

/-- A link below the normalised output directory is rewritten by `relurl`, on any file system
    (`real` idempotent; what lies below a canonical output directory is reached without crossing
    a symbolic link). -/
theorem rewrites_of_ok (T : Tables) (hT : tablesOk T = true) (fs : FS)
    (hidem : ∀ p, fs.real (fs.real p) = fs.real p) (p t : List Seg)
    (hplain : fs.real (normalisePath T fs p) = normalisePath T fs p →
      fs.real (normalisePath T fs p ++ t) = normalisePath T fs p ++ t) :
    rewrites T fs (normalisePath T fs p ++ t) = true := by
  cases hr : T.relurlResolves with
  | false => simp [rewrites, linkPath, hr]
  | true =>
    have hn : T.normalise = .resolve := by simpa [tablesOk, hr] using hT
    have hd : normalisePath T fs p = fs.real p := by simp [normalisePath, hn]
    have := hplain (by rw [hd]; exact hidem p)
    simp [rewrites, linkPath, hr, this]

theorem relurl_resolves (T : Tables) (fs : FS) (d pageDir t : List Seg)
    (hrw : rewrites T fs (d ++ t) = true) (hd : Normal d) (hp : Normal pageDir) (ht : Normal t) :
    ∃ r, relurl T fs (d ++ pageDir) (d ++ t) = some r ∧ resolve (d ++ pageDir) r = d ++ t := by
  have hl : linkPath T fs (d ++ t) = d ++ t := eq_of_beq hrw
  refine ⟨relpathPy (d ++ t) (d ++ pageDir), by rw [relurl, if_pos hrw, hl], ?_⟩
  exact resolve_relpathPy _ _ (normal_append hd ht) (normal_append hd hp)

/-- a file system with one symbolic link `/work -> /real` -/
def linkFS : FS :=
  { real := fun p => match p with
      | s :: rest => if s = ['w', 'o', 'r', 'k'] then ['r', 'e', 'a', 'l'] :: rest else s :: rest
      | [] => [] }

theorem linkFS_idem (p : List Seg) : linkFS.real (linkFS.real p) = linkFS.real p := by
  cases p with
  | nil => rfl
  | cons s rest =>
    by_cases h : s = ['w', 'o', 'r', 'k']
    · simp [linkFS, h]
    · simp [linkFS, h]

end Ford.Relurl
