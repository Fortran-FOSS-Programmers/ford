import FordModel.Display
import FordModel.DisplayLinks
namespace Ford.Display
open Ford.Generated

theorem firstNamed_mem (nm : Nat → Nat) (n : Nat) : (xs : List Ent) → (c : Ent) →
    firstNamed nm n xs = some c → c ∈ xs
  | [], c, h => by simp [firstNamed] at h
  | e :: es, c, h => by
    simp only [firstNamed] at h
    split at h
    · simp at h; simp [h]
    · exact List.mem_cons_of_mem _ (firstNamed_mem nm n es c h)

theorem inList_sub (l : String) : (cs : Ents) → (c : Ent) → c ∈ cs.inList l → c ∈ cs.toList
  | .nil, c, h => by simp [Ents.inList] at h
  | .cons e rest, c, h => by
    simp only [Ents.inList, List.mem_append] at h
    simp only [Ents.toList, List.mem_cons]
    rcases h with h | h
    · split at h
      · simp at h; exact Or.inl h
      · simp at h
    · exact Or.inr (inList_sub l rest c h)

theorem childrenOf_sub (cs : Ents) : (ls : List String) → (c : Ent) → c ∈ childrenOf cs ls → c ∈ cs.toList
  | [], c, h => by simp [childrenOf] at h
  | l :: ls, c, h => by
    simp only [childrenOf, List.mem_append] at h
    exact h.elim (inList_sub l cs c) (childrenOf_sub cs ls c)

/-- What a lookup among the children of `e` can name lies in `q`: the page `pg` on which `e` is described, and the
    pages of its children of the kinds `own`, which have pages of their own. -/
def PagesOf (q : List Ent) (own : Kind → Bool) (pg : Nat) (e : Ent) : Prop :=
  pg ∈ pageIds q ∧ ∀ c, c ∈ e.kids.toList → own c.info.kind = true → c.info.id ∈ pageIds q

theorem pagesOf_noPage {q : List Ent} {pg : Nat} (h : pg ∈ pageIds q) (e : Ent) : PagesOf q noPage pg e :=
  ⟨h, fun _ _ ho => by simp [noPage] at ho⟩

/-- a hit of `find_child` that does not go through a kept procedure reference names the page
    of the entity itself or the page of one of its (surviving) children -/
theorem findChild_page (E : LinkEnv) (q : List Ent) (a : Bool) (own : Kind → Bool) (pg : Nat) (e : Ent)
    (he : PagesOf q own pg e) (n : Nat) (h : Hit)
    (hf : findChild E a own pg e n = some h) (hv : h.viaRef = false) : h.page ∈ pageIds q := by
  unfold findChild at hf
  simp only at hf
  split at hf
  · rename_i c hc
    have hm := firstNamed_mem _ _ _ _ hc
    have hm' : c ∈ e.kids.toList := by
      split at hm
      · simp at hm
      · exact childrenOf_sub _ _ _ hm
    cases hf
    by_cases ho : own c.info.kind = true
    · simpa [ho] using he.2 c hm' ho
    · simpa [ho] using he.1
  · split at hf
    · cases hf
      simp at hv
    · split at hf
      · cases hf
        exact he.1
      · simp at hf

theorem firstInList_mem (nm : Nat → Nat) (n : Nat) (l : String) : (es : List (Nat × String)) → (i : Nat) →
    firstInList nm n l es = some i → i ∈ es.map (·.1)
  | [], i, h => by simp [firstInList] at h
  | (j, pl) :: rest, i, h => by
    simp only [firstInList] at h
    split at h
    · simp at h; simp [h]
    · simp only [List.map_cons, List.mem_cons]
      exact Or.inr (firstInList_mem nm n l rest i h)

theorem findInLists_mem (nm : Nat → Nat) (n : Nat) (es : List (Nat × String)) : (ls : List String) → (i : Nat) →
    findInLists nm n es ls = some i → i ∈ es.map (·.1)
  | [], i, h => by simp [findInLists] at h
  | l :: ls, i, h => by
    simp only [findInLists] at h
    split at h
    · rename_i j hj
      simp only [Option.some.injEq] at h
      subst h
      exact firstInList_mem nm n l es j hj
    · exact findInLists_mem nm n es ls i h

theorem lookup_isSome_eq (l : String) : (xs : List (String × String)) →
    (xs.lookup l).isSome = (xs.map (·.1)).contains l
  | [] => by simp [List.lookup]
  | (a, b) :: rest => by
    have ih := lookup_isSome_eq l rest
    simp only [List.lookup, List.map_cons, List.contains_cons]
    by_cases hab : l == a
    · simp [hab]
    · simp [hab, ih]

theorem pageKidsL_ids : (cs : Ents) → cs.pageKidsL.map (·.1) = cs.pageKids
  | .nil => by simp [Ents.pageKidsL, Ents.pageKids]
  | .cons e rest => by
    have ih := pageKidsL_ids rest
    have hl := lookup_isSome_eq (listOf e.info.kind) C05.containers
    simp only [Ents.pageKidsL, Ents.pageKids, List.map_append, ih, inContainers]
    cases hk : C05.containers.lookup (listOf e.info.kind) with
    | none => rw [hk] at hl; simp at hl; simp [hl]
    | some pl => rw [hk] at hl; simp at hl; simp [hl]

theorem unitPagesL_ids : (cs : Ents) → cs.unitPagesL.map (·.1) = cs.unitPages
  | .nil => by simp [Ents.unitPagesL, Ents.unitPages]
  | .cons e rest => by
    have ih := unitPagesL_ids rest
    simp only [Ents.unitPagesL, Ents.unitPages, List.map_append, List.map_cons, ih]
    split <;> simp [pageKidsL_ids]

theorem projEntries_ids : (q : List Ent) → (projEntries q).map (·.1) = pageIds q
  | [] => by simp [projEntries, pageIds]
  | f :: fs => by
    have ih := projEntries_ids fs
    simp [projEntries, pageIds, ih, unitPagesL_ids]

theorem projectFind_mem (E : LinkEnv) (q : List Ent) (n i : Nat) (h : projectFind E q n = some i) :
    i ∈ pageIds q := by
  unfold projectFind at h
  have := findInLists_mem _ _ _ _ _ h
  rwa [projEntries_ids] at this

/-- a link is safe with respect to a set of page ids -/
def Link.pointsInto (l : Link) (S : Nat → Prop) : Prop :=
  ∀ h, l.hit = some h → h.viaRef = false → S h.page

/-- the three lookups of `convert_link`: in the context, in its parent, in the project -/
theorem resolve0_page (E : LinkEnv) (q : List Ent) (par : Option (Ent × (Kind → Bool) × Nat))
    (own : Kind → Bool) (pg : Nat) (ctx : Ent) (hctx : PagesOf q own pg ctx)
    (hpar : ∀ p pown ppg, par = some (p, pown, ppg) → PagesOf q pown ppg p) (n : Nat) (h : Hit)
    (hr : resolve0 E q par own pg ctx n = some h) (hv : h.viaRef = false) : h.page ∈ pageIds q := by
  unfold resolve0 at hr
  split at hr
  · rename_i h' hf
    cases hr
    exact findChild_page E q true own pg ctx hctx n _ hf hv
  · split at hr
    · rename_i h' hp
      cases hr
      cases par with
      | none => simp at hp
      | some t =>
        obtain ⟨p, pown, ppg⟩ := t
        exact findChild_page E q false pown ppg p (hpar p pown ppg rfl) n _ hp hv
    · split at hr
      · rename_i i hi
        cases hr
        exact projectFind_mem E q n i hi
      · simp at hr

/-- the page test only removes hits -/
theorem resolve_some (E : LinkEnv) (q : List Ent) (par : Option (Ent × (Kind → Bool) × Nat))
    (own : Kind → Bool) (pg : Nat) (ctx : Ent) (n : Nat) (h : Hit)
    (hr : resolve E q par own pg ctx n = some h) :
    resolve0 E q par own pg ctx n = some h ∧ (E.checksPage = true → h.page ∈ pageIds q) := by
  unfold resolve at hr
  split at hr
  · rename_i h' h0
    split at hr
    · simp at hr
    · rename_i hc
      cases hr
      refine ⟨h0, ?_⟩
      intro hcp
      simp only [hcp, Bool.true_and, Bool.not_eq_true', Bool.not_eq_false] at hc
      simpa using hc
  · simp at hr

theorem linksAt_mem (E : LinkEnv) (q : List Ent) (par : Option (Ent × (Kind → Bool) × Nat))
    (own : Kind → Bool) (pg : Nat) (ctx : Ent) : (ns : List Nat) → (l : Link) →
    l ∈ linksAt E q par own pg ctx ns → ∃ n, l.hit = resolve E q par own pg ctx n
  | [], l, h => by simp [linksAt] at h
  | n :: ns, l, h => by
    simp only [linksAt, List.mem_cons] at h
    rcases h with h | h
    · exact ⟨n, by rw [h]⟩
    · exact linksAt_mem E q par own pg ctx ns l h

theorem linksAt_ok (E : LinkEnv) (q : List Ent) (par : Option (Ent × (Kind → Bool) × Nat))
    (own : Kind → Bool) (pg : Nat) (ctx : Ent) (hctx : PagesOf q own pg ctx)
    (hpar : ∀ p pown ppg, par = some (p, pown, ppg) → PagesOf q pown ppg p) (ns : List Nat) (l : Link)
    (hl : l ∈ linksAt E q par own pg ctx ns) : l.pointsInto (· ∈ pageIds q) := by
  obtain ⟨n, hn⟩ := linksAt_mem E q par own pg ctx ns l hl
  intro h hh hv
  rw [hn] at hh
  exact resolve0_page E q par own pg ctx hctx hpar n h (resolve_some E q par own pg ctx n h hh).1 hv

/-! ### the four levels of the traversal

A property `G` of links that holds of every link written at an entity whose own lookups and whose parent's name pages
of `q` only (`AtPages`) holds of every link of the project. -/

def AtPages (E : LinkEnv) (q : List Ent) (G : Link → Prop) : Prop :=
  ∀ par own pg ctx ns l, PagesOf q own pg ctx → (∀ p pown ppg, par = some (p, pown, ppg) → PagesOf q pown ppg p) →
    l ∈ linksAt E q par own pg ctx ns → G l

mutual
theorem deepLinks_all {E : LinkEnv} {q : List Ent} {G : Link → Prop} (pg : Nat)
    (hG : ∀ par ctx ns l, l ∈ linksAt E q (some (par, noPage, pg)) noPage pg ctx ns → G l) :
    (par e : Ent) → (l : Link) → l ∈ Ent.deepLinks E q par pg e → G l
  | par, .mk i cs, l, hl => by
    simp only [Ent.deepLinks, List.mem_append] at hl
    exact hl.elim (hG par _ _ l) (deepLinksKids_all pg hG (.mk i cs) cs l)
theorem deepLinksKids_all {E : LinkEnv} {q : List Ent} {G : Link → Prop} (pg : Nat)
    (hG : ∀ par ctx ns l, l ∈ linksAt E q (some (par, noPage, pg)) noPage pg ctx ns → G l) :
    (par : Ent) → (cs : Ents) → (l : Link) → l ∈ Ents.deepLinks E q par pg cs → G l
  | par, .nil, l, hl => by simp [Ents.deepLinks] at hl
  | par, .cons e rest, l, hl => by
    simp only [Ents.deepLinks, List.mem_append] at hl
    exact hl.elim (deepLinks_all pg hG par e l) (deepLinksKids_all pg hG par rest l)
end

theorem AtPages.deep {E : LinkEnv} {q : List Ent} {G : Link → Prop} (hG : AtPages E q G) {pg : Nat}
    (hpg : pg ∈ pageIds q) (par ctx : Ent) (ns : List Nat) (l : Link)
    (hl : l ∈ linksAt E q (some (par, noPage, pg)) noPage pg ctx ns) : G l :=
  hG _ _ _ _ ns l (pagesOf_noPage hpg ctx) (fun _ _ _ hp => by cases hp; exact pagesOf_noPage hpg par) hl

theorem memberLinks_all {E : LinkEnv} {q : List Ent} {G : Link → Prop} (hG : AtPages E q G) (u : Ent)
    (hu : PagesOf q (memberOwn u.info.kind) u.info.id u) :
    (cs : Ents) → (∀ c, c ∈ cs.toList → c ∈ u.kids.toList) → (l : Link) → l ∈ cs.memberLinks E q u → G l
  | .nil, _, l, hl => by simp [Ents.memberLinks] at hl
  | .cons c rest, hsub, l, hl => by
    have hpg : (if memberOwn u.info.kind c.info.kind then c.info.id else u.info.id) ∈ pageIds q := by
      split
      · rename_i ho; exact hu.2 c (hsub c (by simp [Ents.toList])) ho
      · exact hu.1
    simp only [Ents.memberLinks, List.mem_append] at hl
    rcases hl with (hl | hl) | hl
    · exact hG _ _ _ _ _ l (pagesOf_noPage hpg c) (fun _ _ _ hp => by cases hp; exact hu) hl
    · exact deepLinksKids_all _ (hG.deep hpg) c c.kids l hl
    · exact memberLinks_all hG u hu rest (fun x hx => hsub x (by simp [Ents.toList, hx])) l hl

/-- what `pageIds` contains below one file: the file, its units, and the members of units that have pages -/
def FileOk (q : List Ent) (f : Ent) : Prop :=
  PagesOf q allPages f.info.id f ∧ ∀ u, u ∈ f.kids.toList → PagesOf q (memberOwn u.info.kind) u.info.id u

theorem unitLinks_all {E : LinkEnv} {q : List Ent} {G : Link → Prop} (hG : AtPages E q G) (f : Ent)
    (hf : FileOk q f) :
    (cs : Ents) → (∀ u, u ∈ cs.toList → u ∈ f.kids.toList) → (l : Link) → l ∈ cs.unitLinks E q f → G l
  | .nil, _, l, hl => by simp [Ents.unitLinks] at hl
  | .cons u rest, hsub, l, hl => by
    have hu := hf.2 u (hsub u (by simp [Ents.toList]))
    simp only [Ents.unitLinks, List.mem_append] at hl
    rcases hl with (hl | hl) | hl
    · exact hG _ _ _ _ _ l hu (fun _ _ _ hp => by cases hp; exact hf.1) hl
    · exact memberLinks_all hG u hu u.kids (fun _ hx => hx) l hl
    · exact unitLinks_all hG f hf rest (fun x hx => hsub x (by simp [Ents.toList, hx])) l hl

theorem filesLinks_all {E : LinkEnv} {q : List Ent} {G : Link → Prop} (hG : AtPages E q G) :
    (fs : List Ent) → (∀ f, f ∈ fs → FileOk q f) → (l : Link) → l ∈ filesLinks E q fs → G l
  | [], _, l, hl => by simp [filesLinks] at hl
  | f :: fs, hfs, l, hl => by
    have hf : FileOk q f := hfs f (by simp)
    simp only [filesLinks, List.mem_append] at hl
    rcases hl with (hl | hl) | hl
    · exact hG _ _ _ _ _ l hf.1 (fun _ _ _ hp => by cases hp) hl
    · exact unitLinks_all hG f hf f.kids (fun _ hx => hx) l hl
    · exact filesLinks_all hG fs (fun x hx => hfs x (by simp [hx])) l hl

theorem pageKids_mem : (cs : Ents) → (c : Ent) → c ∈ cs.toList →
    inContainers (listOf c.info.kind) = true → c.info.id ∈ cs.pageKids
  | .nil, c, h, _ => by simp [Ents.toList] at h
  | .cons e rest, c, h, ho => by
    simp only [Ents.toList, List.mem_cons] at h
    simp only [Ents.pageKids, List.mem_append]
    rcases h with h | h
    · subst h; left; simp [ho]
    · right; exact pageKids_mem rest c h ho

theorem unitPages_mem : (us : Ents) → (u : Ent) → u ∈ us.toList →
    u.info.id ∈ us.unitPages
    ∧ ∀ c, c ∈ u.kids.toList → memberOwn u.info.kind c.info.kind = true → c.info.id ∈ us.unitPages
  | .nil, u, h => by simp [Ents.toList] at h
  | .cons e rest, u, h => by
    simp only [Ents.toList, List.mem_cons] at h
    rcases h with h | h
    · subst h
      refine ⟨by simp [Ents.unitPages], ?_⟩
      intro c hc ho
      simp only [memberOwn, Bool.and_eq_true] at ho
      simp only [Ents.unitPages, ho.1, if_true, List.mem_append, List.mem_cons]
      left; right
      exact pageKids_mem u.kids c hc ho.2
    · obtain ⟨h1, h2⟩ := unitPages_mem rest u h
      refine ⟨by simp only [Ents.unitPages, List.mem_append]; exact Or.inr h1, ?_⟩
      intro c hc ho
      simp only [Ents.unitPages, List.mem_append]
      exact Or.inr (h2 c hc ho)

theorem fileOk_of_mem : (q : List Ent) → (f : Ent) → f ∈ q → FileOk q f
  | [], f, h => by simp at h
  | g :: gs, f, h => by
    simp only [List.mem_cons] at h
    rcases h with h | h
    · subst h
      have hu := unitPages_mem f.kids
      exact ⟨⟨by simp [pageIds], fun u hm _ => by simp [pageIds, (hu u hm).1]⟩,
        fun u hm => ⟨by simp [pageIds, (hu u hm).1], fun c hc ho => by simp [pageIds, (hu u hm).2 c hc ho]⟩⟩
    · obtain ⟨⟨h1, h2⟩, h3⟩ := fileOk_of_mem gs f h
      have up : ∀ x, x ∈ pageIds gs → x ∈ pageIds (g :: gs) := fun x hx => by
        simp only [pageIds, List.mem_append]
        exact Or.inr hx
      exact ⟨⟨up _ h1, fun u hm ho => up _ (h2 u hm ho)⟩,
        fun u hm => ⟨up _ (h3 u hm).1, fun c hc ho => up _ ((h3 u hm).2 c hc ho)⟩⟩

theorem linksOf_all {E : LinkEnv} {q : List Ent} {G : Link → Prop} (hG : AtPages E q G) (l : Link)
    (hl : l ∈ linksOf E q) : G l :=
  filesLinks_all hG q (fileOk_of_mem q) l hl

theorem linksAt_checked (E : LinkEnv) (q : List Ent) (hc : E.checksPage = true)
    (par : Option (Ent × (Kind → Bool) × Nat)) (own : Kind → Bool) (pg : Nat) (ctx : Ent)
    (l : Link) (ns : List Nat) (hl : l ∈ linksAt E q par own pg ctx ns) (h : Hit) (hh : l.hit = some h) :
    h.page ∈ pageIds q := by
  obtain ⟨n, hn⟩ := linksAt_mem E q par own pg ctx ns l hl
  rw [hn] at hh
  exact (resolve_some E q par own pg ctx n h hh).2 hc

theorem deepLinks_checked (E : LinkEnv) (q : List Ent) (hc : E.checksPage = true) (pg : Nat) :
    (par e : Ent) → (l : Link) → l ∈ Ent.deepLinks E q par pg e → ∀ h, l.hit = some h → h.page ∈ pageIds q :=
  deepLinks_all pg (fun _ _ ns l => linksAt_checked E q hc _ _ _ _ l ns)

/-- **repaired variant: every hit names a page that exists**, references included -/
theorem linksOf_pages_checked (E : LinkEnv) (q : List Ent) (hc : E.checksPage = true)
    (l : Link) (hl : l ∈ linksOf E q) (h : Hit) (hh : l.hit = some h) : h.page ∈ pageIds q :=
  linksOf_all (G := fun l => ∀ h, l.hit = some h → h.page ∈ pageIds q)
    (fun par own pg ctx ns l _ _ => linksAt_checked E q hc par own pg ctx l ns) l hl h hh

end Ford.Display
