import FordModel.Parse
namespace Ford.Parse

/-
  The specification side of the structure round trip: a declared program (`Decl` / `Evs`), the statement stream it
  is written as (`flatten`), the tree a reader expects (`canon`), where the language allows each statement (`wf`) -
  and the proof that `Parse.run` on the stream of a well-formed declaration rebuilds its tree (`run_decl`, `run_evs`).
-/

mutual
/-- a declared container: kind, name, interface flags, specification-part events,
    whether a CONTAINS statement is present, events after CONTAINS -/
inductive Decl
  | mk (k : CK) (id : Nat) (g a : Bool) (pre : Evs) (hc : Bool) (post : Evs)
/-- events of a container body: nested declarations and leaf statements -/
inductive Evs
  | nil
  | consD (d : Decl) (rest : Evs)
  | consL (lk : LeafK) (id : Nat) (rest : Evs)
end

/-- `module procedure` opens an implementation inside a module and names a procedure inside an interface: the
    statement is the same (`.modproc true`), the container decides (`openItem .modprocImpl`, `leafItem .modprocRef`) -/
def openItem (k : CK) (id : Nat) (g a : Bool) : Item :=
  match k with
  | .file => .other
  | .module => .module id
  | .submodule => .submodule id
  | .program => .program id
  | .subroutine => .subroutine id
  | .function => .function id
  | .modprocImpl => .modproc true id
  | .type => .typeDef id
  | .interface => .interface g a id
  | .enum => .enum id
  | .blockdata => .blockData id

def leafItem (lk : LeafK) (id : Nat) : Item :=
  match lk with
  | .variable => .variable id
  | .boundproc => .boundproc id
  | .final => .final id
  | .use => .use id
  | .common => .common id
  | .namelist => .namelist id
  | .modprocRef => .modproc true id

mutual
def Decl.flatten : Decl → List Item
  | .mk k id g a pre hc post =>
    openItem k id g a :: (pre.flatten ++ ((if hc then [Item.contains] else []) ++ (post.flatten ++ [Item.endUnit])))
def Evs.flatten : Evs → List Item
  | .nil => []
  | .consD d r => d.flatten ++ r.flatten
  | .consL lk id r => leafItem lk id :: r.flatten
end

mutual
/-- the tree a reader expects -/
def Decl.canon : Decl → Node
  | .mk k id g a pre _ post => .mk k id g a (pre.canon ++ post.canon)
def Evs.canon : Evs → List Ev
  | .nil => []
  | .consD d r => .inl d.canon :: r.canon
  | .consL lk id r => .inr (lk, id) :: r.canon
end

/-- a child container of kind `k` may be declared in a container of kind `pk`
    (after CONTAINS iff `pinc`) -/
def childAllowed (pk : CK) (pinc : Bool) (k : CK) : Bool :=
  match k with
  | .file => false
  | .module | .submodule | .program | .blockdata => pk == .file
  | .subroutine | .function => (!isCodeUnit pk || pinc) && hasProcLists pk
  | .modprocImpl => isModuleLike pk
  | .type => hasTypes pk
  | .interface | .enum => hasCodeUnitLists pk

def leafAllowed (k : CK) (inc : Bool) (lk : LeafK) : Bool :=
  match lk with
  | .variable => hasVariables k
  | .use | .common => hasUses k
  | .namelist => hasCodeUnitLists k
  | .boundproc | .final => inc && k == .type
  | .modprocRef => k == .interface

def Evs.isNil : Evs → Bool
  | .nil => true
  | _ => false

mutual
/-- well-formed nesting: every statement stands where the language allows it -/
def Decl.wf (pk : CK) (pinc : Bool) : Decl → Bool
  | .mk k _ g a pre hc post =>
    childAllowed pk pinc k && (k == .interface || (!g && !a)) && !(g && a)
      && pre.wf k false
      && (if hc then canHaveContains k && post.wf k true else post.isNil)
def Evs.wf (k : CK) (inc : Bool) : Evs → Bool
  | .nil => true
  | .consD d r => d.wf k inc && r.wf k inc
  | .consL lk _ r => leafAllowed k inc lk && r.wf k inc
end

/-- number of PROGRAM units directly in an event list -/
def Evs.progs : Evs → Nat
  | .nil => 0
  | .consD (.mk k _ _ _ _ _ _) r => (if k == .program then 1 else 0) + r.progs
  | .consL _ _ r => r.progs

def isProgram : CK → Nat
  | .program => 1
  | _ => 0

def Decl.kind : Decl → CK
  | .mk k _ _ _ _ _ _ => k

def addEvs (f : Frame) (evs : List Ev) (np : Nat) : Frame :=
  { f with events := evs.reverse ++ f.events, programs := f.programs + np }

theorem step_leaf (f : Frame) (stk : List Frame) (e : List Err) (lk : LeafK) (id : Nat)
    (h : leafAllowed f.kind f.incontains lk = true) (hb : f.blocklevel = 0) :
    step ⟨f :: stk, e⟩ (leafItem lk id) =
      .ok ⟨{ f with events := .inr (lk, id) :: f.events } :: stk, e⟩ := by
  cases lk <;> simp_all [leafAllowed, leafItem, step, leaf, pushEv]

/-- Each branch of the cascade that opens a container has the guard `childAllowed` states for it; only
    the guards of SUBROUTINE / FUNCTION, MODPROC and INTERFACE are not literally the table entry. -/
theorem step_open (f : Frame) (stk : List Frame) (e : List Err) (k : CK) (id : Nat) (g a : Bool)
    (h : childAllowed f.kind f.incontains k = true) (hb : f.blocklevel = 0)
    (hga : (k == .interface || (!g && !a)) = true) (hna : (!(g && a)) = true) :
    step ⟨f :: stk, e⟩ (openItem k id g a) =
      .ok ⟨{ kind := k, id := id, generic := g, abstract := a } ::
            { f with programs := f.programs + isProgram k } :: stk, e⟩ := by
  obtain ⟨kind, fid, fg, fa, inc, bl, assoc, progs, evs⟩ := f
  simp only at hb
  subst hb
  cases k <;> simp [childAllowed] at h hga <;>
    simp [openItem, step, openChild, setTop, isProgram, h, hga]
  case subroutine =>
    intro hc hi
    simp [hc, hi] at h
  case function =>
    intro hc hi
    simp [hc, hi] at h
  case modprocImpl =>
    rintro rfl
    simp [isModuleLike] at h
  case interface =>
    rintro rfl
    simpa using hna

theorem step_contains (f : Frame) (stk : List Frame) (e : List Err)
    (h : canHaveContains f.kind = true) (hi : f.incontains = false) :
    step ⟨f :: stk, e⟩ .contains = .ok ⟨{ f with incontains := true } :: stk, e⟩ := by
  simp [step, h, hi, setTop]

theorem step_end (f p : Frame) (stk : List Frame) (e : List Err)
    (hk : f.kind ≠ .file) (hb : f.blocklevel = 0) :
    step ⟨f :: p :: stk, e⟩ .endUnit =
      .ok ⟨{ p with events := .inl f.close :: p.events } :: stk, e⟩ := by
  simp [step, hk, hb, pushEv]

theorem run_cons (s : St) (it : Item) (its : List Item) (s' : St) (h : step s it = .ok s') :
    run s (it :: its) = run (afterClose s it s') its := by
  simp [run, h]

theorem afterClose_ne (s s' : St) (it : Item) (h : it ≠ .endUnit) : afterClose s it s' = s' := by
  cases it <;> simp_all [afterClose]

theorem openItem_ne_end (k : CK) (id : Nat) (g a : Bool) : openItem k id g a ≠ .endUnit := by
  cases k <;> simp [openItem]

theorem leafItem_ne_end (lk : LeafK) (id : Nat) : leafItem lk id ≠ .endUnit := by
  cases lk <;> simp [leafItem]

/-- the END of a unit whose parent has seen at most one PROGRAM: the "Multiple PROGRAM units" test
    stays silent -/
theorem run_end (f p : Frame) (stk : List Frame) (e : List Err) (rest : List Item)
    (hk : f.kind ≠ .file) (hb : f.blocklevel = 0) (hp : p.programs ≤ 1) :
    run ⟨f :: p :: stk, e⟩ (.endUnit :: rest) =
      run ⟨{ p with events := .inl f.close :: p.events } :: stk, e⟩ rest := by
  rw [run_cons _ _ _ _ (step_end f p stk e hk hb)]
  simp [afterClose, Nat.not_lt.mpr hp]

theorem isProgram_eq_zero {pk k : CK} {inc : Bool} (hpk : pk ≠ .file)
    (h : childAllowed pk inc k = true) : isProgram k = 0 := by
  cases k <;> simp_all [childAllowed, isProgram]

theorem progs_consD (d : Decl) (r : Evs) : (Evs.consD d r).progs = isProgram d.kind + r.progs := by
  obtain ⟨k, _, _, _, _, _, _⟩ := d
  cases k <;> rfl

/-- inside a container other than the file no PROGRAM can be declared -/
theorem progs_zero (evs : Evs) (k : CK) (inc : Bool) (hk : k ≠ .file) (h : evs.wf k inc = true) :
    evs.progs = 0 := by
  match evs with
  | .nil => rfl
  | .consL lk id r =>
    simp only [Evs.wf, Bool.and_eq_true] at h
    exact progs_zero r k inc hk h.2
  | .consD (.mk ck cid g a pre hc post) r =>
    simp only [Evs.wf, Decl.wf, Bool.and_eq_true] at h
    rw [progs_consD, Decl.kind, isProgram_eq_zero hk h.1.1.1.1.1, progs_zero r k inc hk h.2]

/- `addEvs f evs np` is `f` after the events `evs` were recorded (`events` is kept reversed) and `np` PROGRAM units
    were counted.  The bound on `programs` is carried because the "Multiple PROGRAM units" test at each END reads the
    parent's counter: with at most one PROGRAM it never fires. -/
mutual
theorem run_decl (d : Decl) (f : Frame) (stk : List Frame) (e : List Err) (rest : List Item)
    (hw : d.wf f.kind f.incontains = true) (hb : f.blocklevel = 0)
    (hp : f.programs + isProgram d.kind ≤ 1) :
    run ⟨f :: stk, e⟩ (d.flatten ++ rest) =
      run ⟨addEvs f [.inl d.canon] (isProgram d.kind) :: stk, e⟩ rest := by
  match d with
  | .mk k id g a pre hc post =>
    simp only [Decl.wf, Bool.and_eq_true] at hw
    obtain ⟨⟨⟨⟨hca, hga⟩, hna⟩, hpre⟩, hpost⟩ := hw
    have hkf : k ≠ .file := by
      rintro rfl
      simp [childAllowed] at hca
    have hpz := progs_zero pre k false hkf hpre
    simp only [Decl.flatten, List.cons_append, List.append_assoc]
    rw [run_cons _ _ _ _ (step_open f stk e k id g a hca hb hga hna),
      afterClose_ne _ _ _ (openItem_ne_end k id g a),
      run_evs pre _ _ _ _ hpre rfl (by simp [hpz])]
    cases hc with
    | false =>
      have hpn : post = .nil := by
        cases post <;> simp_all [Evs.isNil]
      subst hpn
      simp only [Bool.false_eq_true, ↓reduceIte, Evs.flatten, List.nil_append]
      rw [run_end _ _ _ _ _ hkf rfl hp]
      simp [addEvs, Frame.close, Decl.canon, Evs.canon, Decl.kind, hpz]
    | true =>
      simp only [↓reduceIte, Bool.and_eq_true] at hpost
      have hqz := progs_zero post k true hkf hpost.2
      simp only [↓reduceIte, List.cons_append, List.nil_append]
      rw [run_cons _ _ _ _ (step_contains _ _ _ hpost.1 rfl), afterClose_ne _ _ _ (by simp),
        run_evs post _ _ _ _ hpost.2 rfl (by simp [addEvs, hpz, hqz]),
        run_end _ _ _ _ _ hkf rfl hp]
      simp [addEvs, Frame.close, Decl.canon, Decl.kind, hpz, hqz]

theorem run_evs (evs : Evs) (f : Frame) (stk : List Frame) (e : List Err) (rest : List Item)
    (hw : evs.wf f.kind f.incontains = true) (hb : f.blocklevel = 0)
    (hp : f.programs + evs.progs ≤ 1) :
    run ⟨f :: stk, e⟩ (evs.flatten ++ rest) =
      run ⟨addEvs f evs.canon evs.progs :: stk, e⟩ rest := by
  match evs with
  | .nil => simp [Evs.flatten, Evs.canon, Evs.progs, addEvs]
  | .consL lk id r =>
    simp only [Evs.wf, Bool.and_eq_true] at hw
    simp only [Evs.flatten, List.cons_append]
    rw [run_cons _ _ _ _ (step_leaf f stk e lk id hw.1 hb), afterClose_ne _ _ _ (leafItem_ne_end lk id),
      run_evs r]
    · simp [addEvs, Evs.canon, Evs.progs]
    · exact hw.2
    · exact hb
    · exact hp
  | .consD d r =>
    simp only [Evs.wf, Bool.and_eq_true] at hw
    rw [progs_consD] at hp ⊢
    simp only [Evs.flatten, List.append_assoc]
    rw [run_decl d f stk e _ hw.1 hb (by omega), run_evs r]
    · simp [addEvs, Evs.canon, Nat.add_assoc]
    · exact hw.2
    · exact hb
    · simp only [addEvs]
      omega
end

end Ford.Parse
