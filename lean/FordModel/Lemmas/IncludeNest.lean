/-
  Lemmas about FordModel/IncludeNest.lean (`FortranReader.include`: nested readers).
-/
import FordModel.IncludeNest
namespace Ford.IncludeNest
open Ford

variable (fs : Fs) (dirs : List Path) (rec : Path → Except IncErr (List Str)) (here : Path)

theorem expandWith_append (pre rest : List Str) (h : noInclude pre = true) :
    expandWith fs dirs rec here (pre ++ rest) = (expandWith fs dirs rec here rest).map (pre ++ ·) := by
  induction pre with
  | nil => rw [List.nil_append]; cases expandWith fs dirs rec here rest <;> rfl
  | cons a pre ih =>
    simp only [noInclude, List.all_cons, Bool.and_eq_true, Bool.not_eq_true'] at h
    simp only [List.cons_append, expandWith, h.1, Bool.false_eq_true, if_false, ih h.2]
    cases expandWith fs dirs rec here rest <;> rfl

theorem expandWith_noInclude (its : List Str) (h : noInclude its = true) : expandWith fs dirs rec here its = .ok its := by
  have := expandWith_append fs dirs rec here its [] h
  rwa [List.append_nil, expandWith, Except.map, List.append_nil] at this

/-- the first INCLUDE line whose file makes the nested reader raise ends the reading of this file with
    that very exception, whatever follows it -/
theorem expandWith_nested_error (pre : List Str) (s : Str) (post : List Str) (p : Path) (e : IncErr)
    (hpre : noInclude pre = true) (hs : isIncludeLine s = true)
    (hres : resolve fs (includeName s) (dirOf here :: dirs) = some p) (herr : rec p = .error e) :
    expandWith fs dirs rec here (pre ++ s :: post) = .error e := by
  simp only [expandWith_append fs dirs rec here pre _ hpre, expandWith, hs, if_true, hres, herr]
  rfl

theorem readFile_nested_error (d : Nat) (top p : Path)
    (pre : List Str) (s : Str) (post : List Str) (e : IncErr)
    (hbody : fs.get top = some (.items (pre ++ s :: post)))
    (hpre : noInclude pre = true) (hs : isIncludeLine s = true)
    (hres : resolve fs (includeName s) (dirOf top :: dirs) = some p)
    (herr : readFile fs dirs d p = .error e) :
    readFile fs dirs (d + 1) top = .error e := by
  simp [readFile, hbody, expandWith_nested_error fs dirs (readFile fs dirs d) top pre s post p e hpre hs hres herr]

theorem resolve_first (name : Str) (d : Path) (ds : List Path)
    (h : (fs.get (joinPath d name)).isSome = true) : resolve fs name (d :: ds) = some (joinPath d name) := by
  simp [resolve, h]

end Ford.IncludeNest
