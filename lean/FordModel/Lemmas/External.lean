/-
  Association lists as the external-project model (FordModel/External.lean) uses them:
  `List.lookup`, `orderByTable`, `sequencePairs`.
-/
import FordModel.External
import FordModel.Lemmas.Chars
namespace Ford.Ext
open Ford

theorem lookup_map_snd {β γ : Type} (f : β → γ) (xs : List (Str × β)) (a : Str) :
    (xs.map (fun kv => (kv.1, f kv.2))).lookup a = (xs.lookup a).map f := by
  induction xs with
  | nil => rfl
  | cons x r ih =>
    obtain ⟨k, v⟩ := x
    simp only [List.map_cons, List.lookup_cons, ih]
    cases a == k <;> rfl

theorem orderByTable_nil {α : Type} (xs : List (Str × α)) : orderByTable [] xs = [] := rfl

theorem orderByTable_cons {α : Type} (t : Str) (tbl : List Str) (xs : List (Str × α)) :
    orderByTable (t :: tbl) xs =
      (match xs.lookup t with
       | some v => (t, v) :: orderByTable tbl xs
       | none => orderByTable tbl xs) := by
  unfold orderByTable
  cases h : xs.lookup t <;> simp only [List.filterMap_cons, h, Option.map]

theorem mem_orderByTable {α : Type} (tbl : List Str) (xs : List (Str × α)) (k : Str) (v : α)
    (hk : k ∈ tbl) (hv : xs.lookup k = some v) : (k, v) ∈ orderByTable tbl xs :=
  List.mem_filterMap.mpr ⟨k, hk, by rw [hv]; rfl⟩

theorem lookup_orderByTable {α : Type} (tbl : List Str) (xs : List (Str × α)) (a : Str) :
    (orderByTable tbl xs).lookup a = if a ∈ tbl then xs.lookup a else none := by
  induction tbl with
  | nil => rfl
  | cons t tbl ih =>
    rw [orderByTable_cons]
    by_cases hat : a = t
    · subst hat
      cases h : xs.lookup a with
      | none => simp [ih, h]
      | some v => simp
    · have hb : (a == t) = false := beq_false_of_ne hat
      cases h : xs.lookup t <;> simp [List.lookup_cons, hb, ih, hat]

theorem orderByTable_congr {α : Type} (tbl : List Str) (xs ys : List (Str × α))
    (h : ∀ a ∈ tbl, xs.lookup a = ys.lookup a) : orderByTable tbl xs = orderByTable tbl ys := by
  induction tbl with
  | nil => rfl
  | cons t tbl ih =>
    rw [orderByTable_cons, orderByTable_cons, h t List.mem_cons_self,
      ih (fun a ha => h a (List.mem_cons_of_mem _ ha))]

theorem orderByTable_append_orderByTable {α : Type} (tbl : List Str) (hdr xs : List (Str × α))
    (h : ∀ a ∈ tbl, hdr.lookup a = none) :
    orderByTable tbl (hdr ++ orderByTable tbl xs) = orderByTable tbl xs := by
  apply orderByTable_congr
  intro a ha
  rw [List.lookup_append, h a ha, lookup_orderByTable, if_pos ha, Option.none_or]

theorem orderByTable_map_snd {β γ : Type} (f : β → γ) (tbl : List Str) (xs : List (Str × β)) :
    orderByTable tbl (xs.map (fun kv => (kv.1, f kv.2))) =
      (orderByTable tbl xs).map (fun kv => (kv.1, f kv.2)) := by
  simp only [orderByTable, lookup_map_snd, List.map_filterMap, Option.map_map]
  rfl

theorem keys_orderByTable {α : Type} (tbl : List Str) (xs : List (Str × α)) :
    (orderByTable tbl xs).map (·.1) = tbl.filter (fun a => (xs.lookup a).isSome) := by
  induction tbl with
  | nil => rfl
  | cons t tbl ih =>
    rw [orderByTable_cons]
    cases h : xs.lookup t <;> simp [h, ih]

theorem sequencePairs_ok {α : Type} (ys : List (Str × α)) :
    sequencePairs (ys.map (fun kv => (kv.1, (Except.ok kv.2 : Except XErr α)))) = .ok ys := by
  induction ys with
  | nil => rfl
  | cons y r ih => simp only [List.map_cons, sequencePairs, ih]

end Ford.Ext
