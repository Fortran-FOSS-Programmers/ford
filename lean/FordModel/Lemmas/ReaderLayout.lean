import FordModel.Reader
import FordModel.Lemmas.Reader
namespace Ford

/-! ### The reader on code-only lines: `feed` factors through the stripped code part -/

/-- no documentation is pending and no doc block is being read -/
def Quiet (s : RS) : Prop :=
  s.docbuffer = [] ∧ s.prevdoc = false ∧ s.readingAlt = 0 ∧ s.readingPredoc = false ∧
    s.readingPredocAlt = 0

/-- the line is neither a preprocessor line nor carries any kind of doc comment -/
def NoDoc (m : Marks) (inq : Bool) (line : Str) : Prop :=
  firstStripped line ≠ some '#' ∧ matchDocmark m.pre line inq = none ∧
    matchDocmark m.preAlt line inq = none ∧ matchDocmark m.alt line inq = none ∧
    matchDocmark m.doc line inq = none

/-- the code part of a physical line: ordinary comment removed (unless the line starts
    inside a continued literal), then stripped -/
def codeOf (inq : Bool) (line : Str) : Str :=
  strip (match matchCom line inq with
    | some i => line.take i
    | none => line)

def splitAmp (l : Str) : Bool × Str :=
  if l.getLast? == some '&' then (true, l.dropLast) else (false, l)

/-- end of one loop iteration on code: append, and emit the statements when complete -/
def tailC (lb : Str) (cont : Bool) (l : Str) : Except RErr ((Str × Bool) × List Str) :=
  let lb2 := lb ++ l
  if !lb2.isEmpty && !cont then
    let items := ((quoteSplit ';' lb2).filter (fun f => !f.isEmpty)).map strip
    if items.isEmpty then .error .internal else .ok (([], false), items)
  else .ok ((lb2, cont), [])

/-- the loop body as a function of `(linebuffer, continued)` and the code part of the line -/
def feedCode (lb : Str) (cont : Bool) (c : Str) : Except RErr ((Str × Bool) × List Str) :=
  match c with
  | [] => tailC lb cont []
  | x :: rest =>
    if x == '&' then
      if cont then
        if isBlank rest then .ok ((lb, cont), [])
        else tailC lb (splitAmp rest).1 (splitAmp rest).2
      else if rest.isEmpty then .ok ((lb, cont), [])
      else .error .ampStart
    else tailC (strip lb ++ [' ']) (splitAmp (x :: rest)).1 (splitAmp (x :: rest)).2

def liftCode (s : RS) : Except RErr ((Str × Bool) × List Str) → Except RErr (RS × List Str)
  | .error e => .error e
  | .ok ((lb, c), items) => .ok ({ s with linebuffer := lb, continued := c }, items)

theorem splitAmp_plain (l : Str) (h : l.getLast? ≠ some '&') : splitAmp l = (false, l) := by
  simp [splitAmp, h]

theorem splitAmp_amp (l : Str) : splitAmp (l ++ ['&']) = (true, l) := by
  simp [splitAmp]

theorem tailC_cont (lb l : Str) : tailC lb true l = .ok ((lb ++ l, true), []) := by
  simp [tailC]

theorem feedCode_amp (lb rest : Str) (h : isBlank rest = false) :
    feedCode lb true ('&' :: rest) = tailC lb (splitAmp rest).1 (splitAmp rest).2 := by
  simp [feedCode, h]

theorem feedCode_plain (lb : Str) (cont : Bool) (x : Char) (rest : Str) (hx : x ≠ '&') :
    feedCode lb cont (x :: rest) =
      tailC (strip lb ++ [' ']) (splitAmp (x :: rest)).1 (splitAmp (x :: rest)).2 := by
  have hx' : (x == '&') = false := by simp [hx]
  simp [feedCode, hx']

theorem unterminated_nil : unterminated [] = false := by decide

theorem flush_nodocs (m : Marks) (p : List Str) (pd : Bool) (hp : p ≠ []) :
    flush m p [] pd = (p, false) := by
  cases p with
  | nil => exact absurd rfl hp
  | cons a as => rfl

theorem feedTail_quiet (m : Marks) (cont : Bool) (lb l : Str) :
    feedTail m { continued := cont, linebuffer := lb } l =
      liftCode { continued := cont, linebuffer := lb } (tailC lb cont l) := by
  simp only [feedTail, tailC, liftCode, gt_iff_lt, Nat.lt_irrefl, ↓reduceIte]
  generalize List.map strip (List.filter (fun f => !List.isEmpty f) (quoteSplit ';' (lb ++ l))) = items
  by_cases hlb : (lb ++ l).isEmpty = true
  · cases cont <;> simp [hlb]
  · cases cont
    · cases items with
      | nil => simp [hlb]
      | cons a as => simp [hlb, flush]
    · simp [hlb]

/-- the if/else of the loop body on the stripped code part of the line (the text of `feed` from
    `match line with` on) -/
def feedStripped (m : Marks) (s : RS) : Str → Except RErr (RS × List Str)
  | [] =>
    let s := if s.prevdoc && s.docbuffer.isEmpty then { s with docbuffer := ['!' :: m.doc] } else s
    feedTail m s []
  | c :: rest =>
    let s := { s with readingPredoc := false, readingPredocAlt := 0, readingAlt := 0 }
    if c == '&' then
      if s.continued then
        if isBlank rest then .ok (s, [])
        else
          let (s, line) := if rest.getLast? == some '&' then ({ s with continued := true }, rest.dropLast)
                           else ({ s with continued := false }, rest)
          feedTail m s line
      else if rest.isEmpty then .ok (s, [])
      else .error .ampStart
    else
      let s := { s with linebuffer := strip s.linebuffer ++ [' '] }
      let line := c :: rest
      let (s, line) := if line.getLast? == some '&' then ({ s with continued := true }, line.dropLast)
                       else ({ s with continued := false }, line)
      feedTail m s line

/-- outside alternate doc blocks, a line without doc comment is read through its code part alone -/
theorem feed_noDoc (m : Marks) (s : RS) (line : Str) (ha : s.readingAlt = 0) (hpa : s.readingPredocAlt = 0)
    (hn : NoDoc m (unterminated s.linebuffer) line) :
    feed m s line = feedStripped m s (codeOf (unterminated s.linebuffer) line) := by
  obtain ⟨h0, h1, h2, h3, h4⟩ := hn
  obtain ⟨db, pd, ra, cont, rp, rpa, lb⟩ := s
  simp only at ha hpa h1 h2 h3 h4
  subst ha hpa
  have h0' : (firstStripped line == some '#') = false := by
    simpa using h0
  cases hm : matchCom line (unterminated lb) with
  | none =>
    simp only [feed, h1, h2, h3, h4, h0', hm, codeOf, Bool.false_eq_true, ↓reduceIte, ite_self]
    rfl
  | some i =>
    simp only [feed, h1, h2, h3, h4, h0', hm, codeOf, Bool.false_eq_true, ↓reduceIte, ite_self]
    simp only [gt_iff_lt, Nat.not_lt_zero, decide_false, Bool.or_self, Bool.false_and,
      Bool.false_eq_true, ↓reduceIte]
    rfl
theorem feed_eq_feedCode (m : Marks) (s : RS) (line : Str) (hq : Quiet s)
    (hn : NoDoc m (unterminated s.linebuffer) line) :
    feed m s line = liftCode s (feedCode s.linebuffer s.continued (codeOf (unterminated s.linebuffer) line)) := by
  obtain ⟨hd, hp, ha, hr, hra⟩ := hq
  rw [feed_noDoc m s line ha hra hn]
  obtain ⟨db, pd, ra, cont, rp, rpa, lb⟩ := s
  simp only at hd hp ha hr hra
  subst hd hp ha hr hra
  generalize codeOf (unterminated lb) line = c
  cases c with
  | nil => simp [feedStripped, feedCode, feedTail_quiet]
  | cons x rest =>
    simp only [feedStripped, feedCode, splitAmp]
    by_cases hx : (x == '&') = true
    · cases cont
      · by_cases hr : rest.isEmpty = true <;> simp [hx, hr, liftCode]
      · by_cases hb : isBlank rest = true
        · simp [hx, hb, liftCode]
        · by_cases hl : rest.getLast? == some '&' <;>
            simp [hx, hb, hl, feedTail_quiet, liftCode] <;> rfl
    · by_cases hl : (x :: rest).getLast? == some '&' <;>
        simp [hx, hl, feedTail_quiet, liftCode] <;> rfl

/-! ### Continuation groups at the level of code parts -/

/-- what a completed logical line `J` emits -/
def itemsOf (J : Str) : List Str := ((quoteSplit ';' J).filter (fun f => !f.isEmpty)).map strip

/-- a physical line inside a continued statement, after comment removal and stripping -/
inductive Mid
  | blank                       -- blank or comment-only line
  | ampOnly (ws : Str)          -- `&` alone
  | cont (lead : Bool) (b : Str) -- `[&] b &`
  deriving Repr

def Mid.code : Mid → Str
  | .blank => []
  | .ampOnly ws => '&' :: ws
  | .cont true b => '&' :: (b ++ ['&'])
  | .cont false b => b ++ ['&']

/-- effect on the joined text -/
def Mid.join (J : Str) : Mid → Str
  | .blank => J
  | .ampOnly _ => J
  | .cont true b => J ++ b
  | .cont false b => strip J ++ ' ' :: b

def Mid.wf : Mid → Prop
  | .blank => True
  | .ampOnly ws => isBlank ws = true
  | .cont true _ => True
  | .cont false b => ∃ x r, b = x :: r ∧ x ≠ '&'

theorem getLast_append_amp (b : Str) : (b ++ ['&']).getLast? = some '&' := by simp

theorem isBlank_append_amp (b : Str) : isBlank (b ++ ['&']) = false := by
  simp [isBlank, isSpace]

/-- a logical line that ends here and holds a statement is emitted -/
theorem tailC_done (lb l : Str) (h : itemsOf (lb ++ l) ≠ []) :
    tailC lb false l = .ok (([], false), itemsOf (lb ++ l)) := by
  have hne : (lb ++ l).isEmpty = false := by
    cases e : lb ++ l with
    | nil => rw [e] at h; exact absurd rfl h
    | cons _ _ => rfl
  have : (itemsOf (lb ++ l)).isEmpty = false := by simpa using h
  simp only [itemsOf] at this
  simp [tailC, hne, itemsOf, this]

theorem feedCode_mid (J : Str) (mid : Mid) (h : mid.wf) :
    feedCode J true mid.code = .ok ((mid.join J, true), []) := by
  cases mid with
  | blank => simp [Mid.code, Mid.join, feedCode, tailC]
  | ampOnly ws =>
    simp only [Mid.wf] at h
    simp [Mid.code, Mid.join, feedCode, h]
  | cont lead b =>
    cases lead with
    | true =>
      rw [show (Mid.cont true b).code = '&' :: (b ++ ['&']) from rfl,
        feedCode_amp J _ (isBlank_append_amp b), splitAmp_amp, tailC_cont]
      rfl
    | false =>
      obtain ⟨x, r, rfl, hx⟩ := h
      rw [show (Mid.cont false (x :: r)).code = x :: (r ++ ['&']) from rfl, feedCode_plain J true x _ hx,
        show x :: (r ++ ['&']) = (x :: r) ++ ['&'] from rfl, splitAmp_amp, tailC_cont]
      simp [Mid.join]
/-- fold of `feedCode` over the code parts of consecutive lines -/
def runCode : (Str × Bool) → List Str → Except RErr ((Str × Bool) × List Str)
  | st, [] => .ok (st, [])
  | (lb, c), l :: ls =>
    match feedCode lb c l with
    | .error e => .error e
    | .ok (st', items) =>
      match runCode st' ls with
      | .error e => .error e
      | .ok (st'', more) => .ok (st'', items ++ more)

theorem runCode_mids (J : Str) (mids : List Mid) (rest : List Str) (h : ∀ m ∈ mids, m.wf) :
    runCode (J, true) (mids.map Mid.code ++ rest) = runCode (mids.foldl Mid.join J, true) rest := by
  induction mids generalizing J with
  | nil => rfl
  | cons mid ms ih =>
    simp only [List.map_cons, List.cons_append, runCode, List.foldl_cons]
    rw [feedCode_mid J mid (h mid (by simp))]
    simp only [List.nil_append]
    rw [ih (mid.join J) (fun m hm => h m (by simp [hm]))]
    cases runCode (List.foldl Mid.join (mid.join J) ms, true) rest with
    | error e => rfl
    | ok r => rfl

/-- the first line of a continued statement: `b &`, `b` not starting with `&` -/
theorem feedCode_first (x : Char) (r : Str) (hx : x ≠ '&') :
    feedCode [] false (x :: r ++ ['&']) = .ok (((' ' :: x :: r), true), []) := by
  rw [show x :: r ++ ['&'] = x :: (r ++ ['&']) from rfl, feedCode_plain [] false x _ hx,
    show x :: (r ++ ['&']) = (x :: r) ++ ['&'] from rfl, splitAmp_amp, tailC_cont]
  rfl

/-- the last line of a continued statement: `[&] b` with `b` not ending in `&` -/
def lastCode (lead : Bool) (b : Str) : Str := if lead then '&' :: b else b

theorem feedCode_last (J : Str) (lead : Bool) (b : Str) (hne : isBlank b = false)
    (hl : b.getLast? ≠ some '&') (hh : lead = false → ∃ x r, b = x :: r ∧ x ≠ '&')
    (hJ : itemsOf (Mid.join J (.cont lead b)) ≠ []) :
    feedCode J true (lastCode lead b) =
      .ok (([], false), itemsOf (Mid.join J (.cont lead b))) := by
  cases lead with
  | true =>
    rw [show lastCode true b = '&' :: b from rfl, feedCode_amp J b hne, splitAmp_plain b hl]
    exact tailC_done J b hJ
  | false =>
    obtain ⟨x, r, rfl, hx⟩ := hh rfl
    rw [show lastCode false (x :: r) = x :: r from rfl, feedCode_plain J true x r hx, splitAmp_plain _ hl]
    have e : Mid.join J (.cont false (x :: r)) = (strip J ++ [' ']) ++ x :: r := by simp [Mid.join]
    rw [e] at hJ ⊢
    exact tailC_done _ _ hJ

/-! ### Continuation groups at the level of physical lines -/

def qs (lb : Str) (c : Bool) : RS := { continued := c, linebuffer := lb }

theorem quiet_qs (lb : Str) (c : Bool) : Quiet (qs lb c) := by simp [Quiet, qs]

theorem readFrom_step (m : Marks) (s s' : RS) (l : Str) (ls : List Str) (items : List Str)
    (h : feed m s l = .ok (s', items)) :
    readFrom m s (l :: ls) =
      match readFrom m s' ls with
      | .error e => .error e
      | .ok more => .ok (items ++ more) := by
  simp only [readFrom, h]
  cases readFrom m s' ls <;> rfl

theorem readFrom_skip (m : Marks) (s s' : RS) (l : Str) (ls : List Str) (h : feed m s l = .ok (s', [])) :
    readFrom m s (l :: ls) = readFrom m s' ls := by
  rw [readFrom_step m s s' l ls [] h]
  cases readFrom m s' ls <;> rfl

/-- the physical lines `lines` are the layout `mids` of a statement continued from `J`:
    each line carries no doc comment, and its code part - under the lexical state the
    reader is in at that point - is the intended one -/
def Rendered (m : Marks) : Str → List Mid → List Str → Prop
  | _, [], [] => True
  | J, mid :: ms, l :: ls =>
    NoDoc m (unterminated J) l ∧ codeOf (unterminated J) l = mid.code ∧ mid.wf ∧
      Rendered m (mid.join J) ms ls
  | _, _, _ => False

theorem readFrom_mids (m : Marks) (J : Str) (mids : List Mid) (lines rest : List Str)
    (h : Rendered m J mids lines) :
    readFrom m (qs J true) (lines ++ rest) = readFrom m (qs (mids.foldl Mid.join J) true) rest := by
  induction mids generalizing J lines with
  | nil =>
    cases lines with
    | nil => rfl
    | cons l ls => simp [Rendered] at h
  | cons mid ms ih =>
    cases lines with
    | nil => simp [Rendered] at h
    | cons l ls =>
      obtain ⟨hn, hc, hw, hr⟩ := h
      have hf : feed m (qs J true) l = .ok (qs (mid.join J) true, []) := by
        rw [feed_eq_feedCode m (qs J true) l (quiet_qs J true) (by simpa [qs] using hn)]
        simp only [qs] at hc ⊢
        rw [hc, feedCode_mid J mid hw]
        rfl
      simp only [List.cons_append, List.foldl_cons]
      rw [readFrom_skip m _ _ l _ hf, ih (mid.join J) ls hr]

/-- **Continuation join.**  A statement laid out over any number of physical lines -
    first line `b0 &`, then any mixture of blank lines, comment lines, `&`-only lines
    and continuation lines `[&] b &`, then a last line `[&] bn` - is read as the single
    logical line obtained by joining the pieces (a leading `&` joins directly, its
    absence joins with one blank), and is then split at the `;` outside literals. -/
theorem continuation_join (m : Marks) (l0 : Str) (x : Char) (r : Str) (mids : List Mid)
    (lines : List Str) (ln : Str) (lead : Bool) (b : Str) (rest : List Str)
    (h0 : NoDoc m false l0) (hc0 : codeOf false l0 = x :: r ++ ['&']) (hx : x ≠ '&')
    (hr : Rendered m (' ' :: x :: r) mids lines)
    (hn : NoDoc m (unterminated (mids.foldl Mid.join (' ' :: x :: r))) ln)
    (hcn : codeOf (unterminated (mids.foldl Mid.join (' ' :: x :: r))) ln = lastCode lead b)
    (hb : isBlank b = false) (hl : b.getLast? ≠ some '&')
    (hh : lead = false → ∃ y t, b = y :: t ∧ y ≠ '&')
    (hJ : itemsOf (Mid.join (mids.foldl Mid.join (' ' :: x :: r)) (.cont lead b)) ≠ []) :
    readFrom m (qs [] false) (l0 :: lines ++ ln :: rest) =
      match readFrom m (qs [] false) rest with
      | .error e => .error e
      | .ok more =>
        .ok (itemsOf (Mid.join (mids.foldl Mid.join (' ' :: x :: r)) (.cont lead b)) ++ more) := by
  have hf0 : feed m (qs [] false) l0 = .ok (qs (' ' :: x :: r) true, []) := by
    rw [feed_eq_feedCode m (qs [] false) l0 (quiet_qs _ _) (by simpa [qs, unterminated_nil] using h0)]
    simp only [qs, unterminated_nil, hc0]
    rw [feedCode_first x r hx]
    rfl
  have hfn : feed m (qs (mids.foldl Mid.join (' ' :: x :: r)) true) ln =
      .ok (qs [] false, itemsOf (Mid.join (mids.foldl Mid.join (' ' :: x :: r)) (.cont lead b))) := by
    rw [feed_eq_feedCode m _ ln (quiet_qs _ _) (by simpa [qs] using hn)]
    simp only [qs] at hcn ⊢
    rw [hcn, feedCode_last _ lead b hb hl hh hJ]
    rfl
  rw [List.cons_append, readFrom_skip m _ _ l0 _ hf0, readFrom_mids m _ mids lines (ln :: rest) hr,
    readFrom_step m _ _ ln rest _ hfn]

/-! ### Lexical side: the code part of a rendered physical line -/

theorem comScanAux_atoms_none (mark p : Str) (k : Nat) (hp : Atoms p) :
    comScanAux mark p .out k = none := by
  simpa [comScanAux] using comScanAux_atoms_append mark p [] k hp

theorem comScanAux_inq_open (mark : Str) (q : Char) (body : Str) (k : Nat) (h : q ∉ body) :
    comScanAux mark body (.inq q) k = none := by
  simpa [comScanAux] using comScanAux_inq_body mark q body [] k h

/-- closed literals then an unterminated one: no comment can start on this line -/
theorem comScanAux_atoms_open_none (mark p : Str) (q : Char) (body : Str) (k : Nat) (hp : Atoms p)
    (hq : isQuote q = true) (hb : q ∉ body) :
    comScanAux mark (p ++ q :: body) .out k = none := by
  simp [comScanAux_atoms_append mark p _ k hp, comScanAux, quote_ne_bang q hq, hq,
    comScanAux_inq_open mark q body _ hb]

/-- a line that starts outside a literal: everything from the first `!` outside the
    (closed) literals on is dropped -/
theorem codeOf_outside_comment (p cmt : Str) (hp : Atoms p) :
    codeOf false (p ++ '!' :: cmt) = strip p := by
  have h := comScanAux_of_atoms [] p cmt 0 hp
  simp only [startsWith, ↓reduceIte, Nat.zero_add] at h
  simp [codeOf, matchCom, comScan, h]

/-- ... a line without such a `!` is kept whole -/
theorem codeOf_outside_plain (p : Str) (hp : Atoms p) : codeOf false p = strip p := by
  simp [codeOf, matchCom, comScan, comScanAux_atoms_none [] p 0 hp]

/-- a line that starts inside a continued literal is taken whole -/
theorem codeOf_inside (l : Str) : codeOf true l = strip l := by
  simp [codeOf, matchCom]

theorem noDoc_inside (m : Marks) (l : Str) (h : firstStripped l ≠ some '#') : NoDoc m true l := by
  simp [NoDoc, matchDocmark, h]

theorem matchDocmark_comment (mark p cmt : Str) (hp : Atoms p) (hm : startsWith cmt mark = false) :
    matchDocmark mark (p ++ '!' :: cmt) false = none := by
  have h := comScanAux_of_atoms mark p cmt 0 hp
  simp only [hm, Bool.false_eq_true, ↓reduceIte] at h
  simp [matchDocmark, comScan, h]

theorem matchCom_atoms (p : Str) (hp : Atoms p) : matchCom p false = none := by
  simp [matchCom, comScan, comScanAux_atoms_none [] p 0 hp]

theorem matchDocmark_inline (mark p s : Str) (hp : Atoms p) (hm : mark ≠ []) :
    matchDocmark mark (p ++ '!' :: s) false = if startsWith s mark then some p.length else none := by
  have he : mark.isEmpty = false := by cases mark <;> simp_all
  simp [matchDocmark, he, comScan, comScanAux_of_atoms mark p s 0 hp]

theorem matchDocmark_plain (mark p : Str) (hp : Atoms p) : matchDocmark mark p false = none := by
  simp [matchDocmark, comScan, comScanAux_atoms_none mark p 0 hp]

theorem matchDocmark_open (mark p : Str) (q : Char) (body : Str) (hp : Atoms p)
    (hq : isQuote q = true) (hb : q ∉ body) : matchDocmark mark (p ++ q :: body) false = none := by
  simp [matchDocmark, comScan, comScanAux_atoms_open_none mark p q body 0 hp hq hb]

end Ford
