/-
  C10: every (ASCII) Fortran identifier, in any letter case, satisfies the
  hypothesis `Legal cfg opNames` of the naming theorems - for the generated
  literals of the working tree.
-/
import FordModel.NamesCfg
import FordModel.Lemmas.NamesLegal
namespace Ford.Names
open Ford

/-- what a character of a lower-cased identifier looks like -/
def okLower (c : Char) : Bool := ('a' ≤ c ∧ c ≤ 'z') || isDigit c || c == '_'

theorem lowerChar_ok_ascii : ∀ m, m < 128 → isWord (Char.ofNat m) = true →
    okLower (lowerChar (Char.ofNat m)) = true := by decide +kernel

theorem lowerChar_head_ascii : ∀ m, m < 128 → isAlpha (Char.ofNat m) = true →
    lowerChar (Char.ofNat m) ≠ '_' := by decide +kernel

theorem ident_chars (n : Str) (ha : Ascii n) (hi : isIdent n = true) : ∀ c ∈ lower n, okLower c = true := by
  intro c hc
  unfold lower at hc
  obtain ⟨x, hx, rfl⟩ := List.mem_map.1 hc
  have hw : isWord x = true := by
    cases n with
    | nil => cases hx
    | cons y ys =>
      simp [isIdent] at hi
      rcases List.mem_cons.1 hx with rfl | hx
      · simp [isWord, hi.1]
      · exact hi.2 x hx
  have := lowerChar_ok_ascii x.toNat (ha x hx)
  rw [Char.ofNat_toNat] at this
  exact this hw

theorem ident_legal (S : List Str) (T : Cfg)
    (htab : ∀ p ∈ T.table, okLower p.1 = false) (hsep : okLower T.sep = false)
    (hun : T.unnamed.head? = some '_')
    (himg : ∀ img ∈ S.map (baseL T), ∃ c ∈ img, okLower c = false)
    (n : Str) (ha : Ascii n) (hi : isIdent n = true) : Legal T S n := by
  have hch := ident_chars n ha hi
  refine Or.inl ⟨fun p hp hm => Bool.eq_false_iff.1 (htab p hp) (hch _ hm),
    fun hm => Bool.eq_false_iff.1 hsep (hch _ hm), ?_, ?_,
    notOpImage_of_no_paren _ _ (fun hm => absurd (hch _ hm) (by decide))⟩
  · intro heq
    cases n with
    | nil => cases hi
    | cons y ys =>
      simp [isIdent] at hi
      rw [← heq] at hun
      simp [lower] at hun
      have := lowerChar_head_ascii y.toNat (ha y List.mem_cons_self)
      rw [Char.ofNat_toNat] at this
      exact this hi.1 hun
  · intro hmem
    obtain ⟨c, hc, hbad⟩ := himg _ hmem
    exact Bool.eq_false_iff.1 hbad (hch c hc)

end Ford.Names
