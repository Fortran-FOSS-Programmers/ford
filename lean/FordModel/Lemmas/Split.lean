import FordModel.Basic.Split
namespace Ford

theorem qsplitAux_ne_nil (sep : Char) (l : Str) (sq dq : Bool) (cur : Str) :
    qsplitAux sep l sq dq cur ≠ [] := by
  fun_induction qsplitAux sep l sq dq cur <;> first | assumption | exact List.cons_ne_nil _ _

theorem joinSep_cons (sep : Char) (x : Str) (r : List Str) (h : r ≠ []) :
    joinSep sep (x :: r) = x ++ sep :: joinSep sep r := by
  cases r with
  | nil => exact absurd rfl h
  | cons y r => rfl

theorem join_qsplitAux (sep : Char) (l : Str) (sq dq : Bool) (cur : Str) :
    joinSep sep (qsplitAux sep l sq dq cur) = cur.reverse ++ l := by
  fun_induction qsplitAux sep l sq dq cur
  -- the two cases that split: the character is the separator
  case case4 c _ _ _ _ _ h =>
    have : c = sep := by simp at h; exact h.1.1
    simp [joinSep, this]
  case case12 c _ _ _ _ _ _ _ h ih =>
    have : c = sep := by simp at h; exact h.1.1
    rw [joinSep_cons _ _ _ (qsplitAux_ne_nil _ _ _ _ _), ih, this]
    simp
  all_goals simp [*, joinSep]

end Ford
