import FordModel.Lemmas.Use
namespace Ford.Use

/-! `correlateNested` overlays three tables: the host's, the procedure's own declarations, and what
  its USE statements supply; a later layer hides an earlier one. -/

theorem correlateNested_all (g : List Scope) (st : State) (k : Nat) (hostAll : Table) (p : Scope) :
    (correlateNested g st k hostAll p).all
      = update (update hostAll (tableOf p (declsOf k p))) (p.uses.flatMap (impTable g st)) :=
  useFold_all g st p p.uses _

/-- an entry of the table of own declarations comes from a declaration of kind `k` -/
theorem aget_ownTable (k : Nat) (p : Scope) (l : Str) (e : Ent)
    (h : aget (tableOf p (declsOf k p)) l = some e) : ∃ d ∈ p.decls, d.kind = k ∧ d.name = l ∧ e = (p.name, d.name) := by
  obtain ⟨d, hd, hp⟩ := mem_tableOf (aget_mem h)
  rw [mem_declsOf] at hd
  cases hp
  exact ⟨d, hd.1, hd.2, rfl, rfl⟩

def AgreeOn (g : List Scope) (st st' : State) : Prop := ∀ m ∈ g, getTabs st m.name = getTabs st' m.name

/-- names of contained procedures are not names of modules or programs -/
def NestedDisjoint (g : List Scope) (ns : List Nested) : Prop := ∀ x ∈ ns, ∀ m ∈ g, x.scope.name ≠ m.name

theorem useStep_congr (g : List Scope) (st st' : State) (h : AgreeOn g st st') (m : Scope) (t : Tabs) (u : UseA) :
    useStep g st m t u = useStep g st' m t u := by
  unfold useStep
  cases hf : findMod g u.mod with
  | none => rfl
  | some n => simp only [h n (findMod_some hf).1]

theorem step_agree (g : List Scope) (st st' : State) (h : AgreeOn g st st') (n : Str) :
    AgreeOn g (step g st n) (step g st' n) := by
  unfold step
  split
  · exact h
  · next m0 hf =>
    intro m hm
    have hc : correlate g st m0 = correlate g st' m0 := by
      unfold correlate
      rw [funext fun t => funext (useStep_congr g st st' h m0 t), h m0 (findScope_some hf).1]
    rw [getTabs_aset, getTabs_aset, hc, h m hm]

theorem getTabs_step_other (g : List Scope) (st : State) (n z : Str) (h : n ≠ z ∨ ∀ m ∈ g, m.name ≠ z) :
    getTabs (step g st n) z = getTabs st z := by
  unfold step
  split
  · rfl
  · next m hf =>
    obtain ⟨hm, hnm⟩ := findScope_some hf
    rw [getTabs_aset, if_neg (h.elim id fun h e => h m hm (hnm.trans e))]

theorem getTabs_nestedFold_other (g : List Scope) (k : Nat) (ys : List Nested) (st : State) (z : Str)
    (h : ∀ y ∈ ys, y.scope.name ≠ z) : getTabs (ys.foldl (stepNested g k) st) z = getTabs st z := by
  induction ys generalizing st with
  | nil => rfl
  | cons a ys ih =>
    rw [List.foldl_cons, ih _ fun y hy => h y (.tail _ hy)]
    exact (getTabs_aset _ _ _ _).trans (if_neg (h a (.head _)))

theorem stepN_agree (g : List Scope) (ns : List Nested) (k : Nat) (hd : NestedDisjoint g ns)
    (st st' : State) (h : AgreeOn g st st') (n : Str) : AgreeOn g (stepN g ns k st n) (step g st' n) := by
  intro m hm
  unfold stepN
  rw [getTabs_nestedFold_other g k _ _ m.name fun x hx => hd x (List.mem_filter.1 hx).1 m hm]
  exact step_agree g st st' h n m hm

theorem runN_agree (g : List Scope) (ns : List Nested) (k : Nat) (hd : NestedDisjoint g ns) (order : List Str) :
    AgreeOn g (runN k g ns order) (run k g order) := by
  unfold runN run
  have : ∀ st st', AgreeOn g st st' →
      AgreeOn g (order.foldl (stepN g ns k) st) (order.foldl (step g) st') := by
    induction order with
    | nil => exact fun _ _ h => h
    | cons a as ih => exact fun st st' h => ih _ _ (stepN_agree g ns k hd st st' h a)
  exact this _ _ fun m _ => rfl

/-- a later `stepN` leaves entry `z` alone when `z` is neither the container correlated nor one
    of its contained procedures -/
theorem getTabs_stepN_other (g : List Scope) (ns : List Nested) (k : Nat) (st : State) (n z : Str)
    (h1 : n ≠ z ∨ ∀ m ∈ g, m.name ≠ z) (h2 : ∀ y ∈ ns, y.root = n → y.scope.name ≠ z) :
    getTabs (stepN g ns k st n) z = getTabs st z := by
  unfold stepN
  rw [getTabs_nestedFold_other g k _ _ z (fun y hy => by
    rw [List.mem_filter] at hy
    exact h2 y hy.1 (by simpa using hy.2))]
  exact getTabs_step_other g st n z h1

theorem getTabs_stepNFold_other (g : List Scope) (ns : List Nested) (k : Nat) (post : List Str) (st : State) (z : Str)
    (h1 : z ∉ post ∨ ∀ m ∈ g, m.name ≠ z) (h2 : ∀ y ∈ ns, y.root ∈ post → y.scope.name ≠ z) :
    getTabs (post.foldl (stepN g ns k) st) z = getTabs st z := by
  induction post generalizing st with
  | nil => rfl
  | cons a post ih =>
    rw [List.foldl_cons, ih _ (h1.imp_left fun h hz => h (.tail _ hz)) fun y hy hr => h2 y hy (.tail _ hr)]
    exact getTabs_stepN_other g ns k st a z (h1.imp_left fun h e => h (e ▸ .head _))
      fun y hy hr => h2 y hy (hr ▸ .head _)

theorem isTopoN_cons (g : List Scope) (ns : List Nested) (done : List Str) (nm : Str) (rest : List Str) :
    isTopoN g ns done (nm :: rest) = true ↔
      (∀ m, findScope g nm = some m →
        usesDone g done m = true ∧ nm ∉ done ∧ nestedDone g ns done nm = true) ∧
      isTopoN g ns (nm :: done) rest = true := by
  rw [isTopoN, Bool.and_eq_true]
  cases findScope g nm with
  | none => simp only [true_and, reduceCtorEq, false_implies, implies_true]
  | some m => simp only [List.contains_eq_mem, Bool.and_eq_true, Bool.not_eq_eq_eq_not, Bool.not_true,
      decide_eq_false_iff_not, and_assoc, Option.some.injEq, forall_eq']

theorem isTopo_of_isTopoN (g : List Scope) (ns : List Nested) (order done : List Str)
    (h : isTopoN g ns done order = true) : isTopo g done order = true := by
  induction order generalizing done with
  | nil => rfl
  | cons a rest ih =>
    rw [isTopoN_cons] at h
    exact (isTopo_cons g done a rest).2 ⟨fun m hf => ⟨(h.1 m hf).1, (h.1 m hf).2.1⟩, ih _ h.2⟩

theorem isTopoN_append (g : List Scope) (ns : List Nested) (a b done : List Str)
    (h : isTopoN g ns done (a ++ b) = true) :
    isTopoN g ns done a = true ∧ isTopoN g ns (a.reverse ++ done) b = true := by
  induction a generalizing done with
  | nil => exact ⟨rfl, h⟩
  | cons x a ih =>
    rw [List.cons_append, isTopoN_cons] at h
    obtain ⟨h1, h2⟩ := ih _ h.2
    rw [List.reverse_cons, List.append_assoc]
    exact ⟨(isTopoN_cons g ns done x a).2 ⟨h.1, h1⟩, h2⟩

theorem isTopoN_not_mem (g : List Scope) (ns : List Nested) (l done : List Str) (n : Str) (m : Scope)
    (hf : findScope g n = some m) (hn : n ∈ done) (h : isTopoN g ns done l = true) : n ∉ l := by
  induction l generalizing done with
  | nil => exact List.not_mem_nil
  | cons a l ih =>
    rw [isTopoN_cons] at h
    intro hmem
    rcases List.mem_cons.1 hmem with e | hl
    · subst e
      exact (h.1 m hf).2.1 hn
    · exact ih (a :: done) (.tail _ hn) h.2 hl

def NestedNamesDistinct (ns : List Nested) : Prop := ns.Pairwise (fun y z => y.scope.name ≠ z.scope.name)

theorem pw_names_inj (l : List Nested) (h : NestedNamesDistinct l) (y z : Nested) (hy : y ∈ l) (hz : z ∈ l)
    (e : y.scope.name = z.scope.name) : y = z := by
  unfold NestedNamesDistinct at h
  induction l with
  | nil => simp at hy
  | cons c l ih =>
    rw [List.pairwise_cons] at h
    rcases List.mem_cons.1 hy with hy1 | hy1
    · rcases List.mem_cons.1 hz with hz1 | hz1
      · rw [hy1, hz1]
      · exact absurd (hy1 ▸ e) (h.1 z hz1)
    · rcases List.mem_cons.1 hz with hz1 | hz1
      · exact absurd (hz1 ▸ e.symm) (h.1 y hy1)
      · exact ih h.2 hy1 hz1

theorem hostsFirst_split (seen : List Str) (a : List Nested) (x : Nested) (b : List Nested)
    (h : hostsFirst seen (a ++ x :: b)) : x.host ∈ seen ∨ ∃ z ∈ a, z.scope.name = x.host := by
  induction a generalizing seen with
  | nil => exact Or.inl h.1
  | cons c a ih =>
    have h' : c.host ∈ seen ∧ hostsFirst (c.scope.name :: seen) (a ++ x :: b) := h
    rcases ih _ h'.2 with h1 | ⟨z, hz, hzn⟩
    · rcases List.mem_cons.1 h1 with h1 | h1
      · exact Or.inr ⟨c, by simp, h1.symm⟩
      · exact Or.inl h1
    · exact Or.inr ⟨z, List.mem_cons_of_mem _ hz, hzn⟩

/-- The moment a contained procedure `x` is correlated, in a run that takes its root exactly once:
    there is a state `S` from which `x` gets the table it still has at the end, in which the entry of
    its host is final too, and in which every scope taken before the root has the table `run` gives it. -/
theorem nested_moment (g : List Scope) (ns : List Nested) (k : Nat) (pre post : List Str)
    (hd : NestedDisjoint g ns) (hpw : NestedNamesDistinct ns) (x : Nested) (hx : x ∈ ns)
    (m : Scope) (hm : m ∈ g) (hroot : m.name = x.root) (hpre : x.root ∉ pre) (hpost : x.root ∉ post)
    (hhf : hostsFirst [x.root] (ns.filter (fun y => y.root == x.root))) :
    ∃ S, getTabs (runN k g ns (pre ++ x.root :: post)) x.scope.name
          = correlateNested g S k (getTabs S x.host).all x.scope ∧
      getTabs (runN k g ns (pre ++ x.root :: post)) x.host = getTabs S x.host ∧
      ∀ n ∈ g, n.name ∈ pre → getTabs S n.name = getTabs (run k g pre) n.name := by
  -- `a`: the procedures of the same root correlated before `x`, `b`: those after
  have hxf : x ∈ ns.filter (fun y => y.root == x.root) := List.mem_filter.2 ⟨hx, beq_self_eq_true x.root⟩
  obtain ⟨a, b, hab⟩ := List.append_of_mem hxf
  have hsub : ∀ y, y ∈ a ∨ y ∈ b → y ∈ ns ∧ y.root = x.root := by
    intro y hy
    have : y ∈ ns.filter (fun y => y.root == x.root) := by
      rw [hab, List.mem_append, List.mem_cons]
      exact hy.imp_right Or.inr
    exact ⟨(List.mem_filter.1 this).1, beq_iff_eq.1 (List.mem_filter.1 this).2⟩
  have hpwf : (a ++ x :: b).Pairwise (fun y z => y.scope.name ≠ z.scope.name) := hab ▸ hpw.filter _
  rw [List.pairwise_append, List.pairwise_cons] at hpwf
  obtain ⟨_, ⟨hpxb, _⟩, hpab⟩ := hpwf
  have hothers : ∀ y ∈ ns, y.root ∈ post → ∀ z ∈ ns, z.root = x.root → y.scope.name ≠ z.scope.name := by
    intro y hy hyr z hz hzr e
    cases pw_names_inj ns hpw y z hy hz e
    exact hpost (hzr ▸ hyr)
  have hne : ∀ y ∈ ns, y.scope.name ≠ x.root := fun y hy => hroot ▸ hd y hy m hm
  obtain ⟨S, hS⟩ : ∃ S, S = a.foldl (stepNested g k) (step g (runN k g ns pre) x.root) := ⟨_, rfl⟩
  -- an entry that nothing after `x` writes is the one `x` found or left
  have hlater : ∀ z, (z ∉ post ∨ ∀ m ∈ g, m.name ≠ z) → (∀ y ∈ ns, y.root ∈ post → y.scope.name ≠ z) →
      (∀ y ∈ b, y.scope.name ≠ z) →
      getTabs (runN k g ns (pre ++ x.root :: post)) z
        = if x.scope.name = z then correlateNested g S k (getTabs S x.host).all x.scope else getTabs S z := by
    intro z h1 h2 h3
    have hrun : runN k g ns (pre ++ x.root :: post)
        = post.foldl (stepN g ns k) (b.foldl (stepNested g k) (stepNested g k S x)) := by
      rw [hS, ← List.foldl_cons, ← List.foldl_append, ← hab]
      exact List.foldl_append
    rw [hrun, getTabs_stepNFold_other g ns k post _ z h1 h2, getTabs_nestedFold_other g k b _ z h3]
    exact getTabs_aset _ _ _ _
  refine ⟨S, ?_, ?_, fun n hng hn => ?_⟩
  · exact (hlater x.scope.name (Or.inr fun m' hm' => (hd x hx m' hm').symm)
      (fun y hy hyr => hothers y hy hyr x hx rfl) fun y hy => (hpxb y hy).symm).trans (if_pos rfl)
  · rcases hostsFirst_split [x.root] a x b (hab ▸ hhf) with h1 | ⟨z, hz, hzn⟩
    · rw [List.mem_singleton.1 h1]
      exact (hlater x.root (Or.inl hpost) (fun y hy _ => hne y hy)
        fun y hy => hne y (hsub y (Or.inr hy)).1).trans (if_neg (hne x hx))
    · obtain ⟨hzns, hzr⟩ := hsub z (Or.inl hz)
      rw [← hzn]
      exact (hlater z.scope.name (Or.inr fun m' hm' => (hd z hzns m' hm').symm)
        (fun y hy hyr => hothers y hy hyr z hzns hzr)
        fun y hy => (hpab z hz y (.tail _ hy)).symm).trans (if_neg (hpab z hz x (.head _)).symm)
  · rw [hS, getTabs_nestedFold_other g k a _ n.name fun y hy => hd y (hsub y (Or.inl hy)).1 n hng,
      getTabs_step_other g _ x.root n.name (Or.inl fun e => hpre (e ▸ hn))]
    exact runN_agree g ns k hd pre n hng

end Ford.Use
