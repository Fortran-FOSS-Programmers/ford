/-
  C10: legal names, symbol replacement, quoting, output paths, directories, src copy.
-/
import FordModel.Lemmas.Names
namespace Ford.Names
open Ford

theorem replaceChar_eq (c : Char) (rep : Str) : ∀ s : Str,
    replaceChar c rep s = s.flatMap (fun x => if x = c then rep else [x]) := by
  intro s
  induction s with
  | nil => rfl
  | cons x xs ih =>
    rw [replaceChar, ih, List.flatMap_cons]
    split <;> rfl

theorem replaceChar_id (c : Char) (rep : Str) : ∀ s : Str, c ∉ s → replaceChar c rep s = s := by
  intro s
  induction s with
  | nil => intro _; rfl
  | cons x xs ih =>
    intro h
    simp at h
    have hx : ¬ x = c := fun e => h.1 e.symm
    simp [replaceChar, hx, ih h.2]

theorem replaceAll_id : ∀ (T : SymTable) (s : Str), (∀ p ∈ T, p.1 ∉ s) → replaceAll T s = s := by
  intro T
  induction T with
  | nil => intro s _; rfl
  | cons p t ih =>
    intro s h
    obtain ⟨c, rep⟩ := p
    have hc : c ∉ s := h (c, rep) (by simp)
    simp only [replaceAll, replaceChar_id c rep s hc]
    exact ih s (fun q hq => h q (List.mem_cons_of_mem _ hq))

theorem mem_replaceChar (c d : Char) (rep : Str) (s : Str) (h : d ∈ replaceChar c rep s) : d ∈ rep ∨ d ∈ s ∧ d ≠ c := by
  rw [replaceChar_eq] at h
  obtain ⟨x, hx, hd⟩ := List.mem_flatMap.1 h
  split at hd
  · exact Or.inl hd
  · rename_i e
    rw [List.mem_singleton.1 hd]
    exact Or.inr ⟨hx, e⟩

theorem mem_replaceAll (d : Char) : ∀ (T : SymTable) (s : Str), d ∈ replaceAll T s →
    (∃ p ∈ T, d ∈ p.2) ∨ d ∈ s ∧ ∀ p ∈ T, p.1 ≠ d := by
  intro T
  induction T with
  | nil => intro s h; exact Or.inr ⟨h, by simp⟩
  | cons p t ih =>
    intro s h
    obtain ⟨c, rep⟩ := p
    rcases ih _ h with ⟨q, hq, hd⟩ | ⟨hm, hk⟩
    · exact Or.inl ⟨q, List.mem_cons_of_mem _ hq, hd⟩
    · rcases mem_replaceChar c d rep s hm with hr | ⟨hs, hne⟩
      · exact Or.inl ⟨(c, rep), List.mem_cons_self, hr⟩
      · refine Or.inr ⟨hs, fun q hq => ?_⟩
        rcases List.mem_cons.1 hq with rfl | hq
        · exact fun e => hne e.symm
        · exact hk q hq

theorem baseOf_eq (T : Cfg) (n : Str) : baseOf T n = baseL T (lower n) := rfl

theorem baseL_eq (T : Cfg) (l : Str) :
    baseL T l = if replaceAll T.table l = [] then T.unnamed else replaceAll T.table l := by
  unfold baseL
  split <;> simp [*]

theorem blanks_succ (n : Nat) : blanks (n + 1) = ' ' :: blanks n := rfl

theorem mem_blanks (c : Char) (n : Nat) (h : c ∈ blanks n) : c = ' ' := by
  unfold blanks at h
  exact (List.mem_replicate.1 h).2

theorem blanks_reverse (n : Nat) : (blanks n).reverse = blanks n := by
  unfold blanks; simp

theorem skipBlanks_blanks (x : Str) (hx : ∀ c, x.head? = some c → c ≠ ' ') :
    ∀ n, skipBlanks (blanks n ++ x) = (n, x) := by
  intro n
  induction n with
  | zero =>
    cases x with
    | nil => rfl
    | cons c cs =>
      have : ¬ c = ' ' := hx c rfl
      simp [blanks, skipBlanks, this]
  | succ n ih =>
    rw [blanks_succ]
    simp [skipBlanks, ih]

theorem kwSplit_append : ∀ (k r : Str), (∀ c ∈ k, c ≠ ' ' ∧ c ≠ '(') →
    (∀ c, r.head? = some c → c = ' ' ∨ c = '(') → kwSplit (k ++ r) = (k, r) := by
  intro k
  induction k with
  | nil =>
    intro r _ hr
    cases r with
    | nil => rfl
    | cons c cs =>
      have := hr c rfl
      simp [kwSplit, this]
  | cons x xs ih =>
    intro r hk hr
    have hx' : ¬ (x = ' ' ∨ x = '(') := not_or.2 (hk x List.mem_cons_self)
    have := ih r (fun c hc => hk c (List.mem_cons_of_mem _ hc)) hr
    simp [kwSplit, hx', this]

/-- what makes a (keyword, operator) pair readable back from its spelling -/
def GoodCore (q : Str × Str) : Prop := (∀ c ∈ q.1, c ≠ ' ' ∧ c ≠ '(') ∧ q.2 ≠ [] ∧ ' ' ∉ q.2

instance (q : Str × Str) : Decidable (GoodCore q) := by unfold GoodCore; infer_instance

theorem head_not_blank (o x : Str) (hne : o ≠ []) (hb : ' ' ∉ o) :
    ∀ c, (o ++ x).head? = some c → c ≠ ' ' := by
  intro c hc
  cases o with
  | nil => exact absurd rfl hne
  | cons y ys =>
    simp at hc hb
    rw [← hc]
    exact fun e => hb.1 e.symm

theorem parseSp_spell (q : Str × Str) (g : GoodCore q) (a b c : Nat) :
    parseSp (spellOp q a b c) = some (q, a, b, c) := by
  obtain ⟨k, o⟩ := q
  obtain ⟨hk, hne, hb⟩ := g
  simp only at hk hne hb
  have hrest : ∀ ch, (blanks a ++ '(' :: (blanks b ++ (o ++ (blanks c ++ [')'])))).head? = some ch →
      ch = ' ' ∨ ch = '(' := by
    intro ch h
    cases a with
    | zero => simp [blanks] at h; exact Or.inr h.symm
    | succ n => rw [blanks_succ] at h; simp at h; exact Or.inl h.symm
  have h1 := kwSplit_append k _ hk hrest
  have h2 := skipBlanks_blanks ('(' :: (blanks b ++ (o ++ (blanks c ++ [')'])))) (by intro ch h; simp at h; rw [← h]; decide) a
  have h3 := skipBlanks_blanks (o ++ (blanks c ++ [')'])) (head_not_blank o _ hne hb) b
  have hrev : (o ++ (blanks c ++ [')'])).reverse = ')' :: (blanks c ++ o.reverse) := by
    simp [blanks_reverse]
  have hne' : o.reverse ≠ [] := by simpa using hne
  have hb' : ' ' ∉ o.reverse := by simpa using hb
  have h4 := skipBlanks_blanks (o.reverse ++ []) (head_not_blank o.reverse [] hne' hb') c
  simp only [List.append_nil] at h4
  simp only [parseSp, spellOp, h1, h2, h3, hrev, h4, if_true, List.reverse_reverse]

theorem spellOp_inj (p q : Str × Str) (gp : GoodCore p) (gq : GoodCore q) (a b c a' b' c' : Nat)
    (h : spellOp p a b c = spellOp q a' b' c') : p = q ∧ a = a' ∧ b = b' ∧ c = c' := by
  have := parseSp_spell q gq a' b' c'
  rw [← h, parseSp_spell p gp a b c] at this
  simpa using this

theorem opSpelled_form (l : Str) (h : OpSpelled l) : ∃ p ∈ opCores, ∃ a b c, l = spellOp p a b c := by
  unfold OpSpelled at h
  split at h
  · rename_i p a b c _
    exact ⟨p, h.1, a, b, c, h.2⟩
  · exact h.elim

theorem notOpImage_spell (T : Cfg) (q : Str × Str) (g : GoodCore q) (a b c : Nat)
    (h : NotOpImage T (spellOp q a b c)) : q ∉ opCores.map (coreImg T) := by
  unfold NotOpImage at h
  rw [parseSp_spell q g a b c] at h
  exact h

theorem kwSplit_subset : ∀ (s : Str) (c : Char), c ∈ (kwSplit s).2 → c ∈ s := by
  intro s
  induction s with
  | nil => intro c h; simp [kwSplit] at h
  | cons x xs ih =>
    intro c h
    unfold kwSplit at h
    split at h
    · exact h
    · exact List.mem_cons_of_mem _ (ih c h)

theorem skipBlanks_subset : ∀ (s : Str) (c : Char), c ∈ (skipBlanks s).2 → c ∈ s := by
  intro s
  induction s with
  | nil => intro c h; simp [skipBlanks] at h
  | cons x xs ih =>
    intro c h
    unfold skipBlanks at h
    split at h
    · exact List.mem_cons_of_mem _ (ih c h)
    · exact h

theorem parseSp_none (l : Str) (h : '(' ∉ l) : parseSp l = none := by
  unfold parseSp
  simp only
  split
  · rfl
  · rename_i o r2 e
    have : o ∈ l := by
      apply kwSplit_subset; apply skipBlanks_subset; rw [e]; simp
    have ho : ¬ o = '(' := fun eo => h (eo ▸ this)
    simp [ho]

theorem notOpImage_of_no_paren (T : Cfg) (l : Str) (h : '(' ∉ l) : NotOpImage T l := by
  unfold NotOpImage
  rw [parseSp_none l h]
  trivial

theorem replaceChar_append (c : Char) (rep : Str) (x y : Str) :
    replaceChar c rep (x ++ y) = replaceChar c rep x ++ replaceChar c rep y := by
  simp only [replaceChar_eq, List.flatMap_append]

theorem replaceAll_append : ∀ (T : SymTable) (x y : Str),
    replaceAll T (x ++ y) = replaceAll T x ++ replaceAll T y := by
  intro T
  induction T with
  | nil => intro x y; rfl
  | cons p t ih =>
    intro x y
    obtain ⟨c, rep⟩ := p
    simp only [replaceAll, replaceChar_append, ih]

theorem replaceAll_cons_id (T : SymTable) (d : Char) (x : Str) (hd : ∀ p ∈ T, p.1 ≠ d) :
    replaceAll T (d :: x) = d :: replaceAll T x := by
  have : d :: x = [d] ++ x := rfl
  rw [this, replaceAll_append, replaceAll_id T [d] (by intro p hp; simp; exact hd p hp)]
  rfl

theorem replaceAll_blanks (T : SymTable) (hd : ∀ p ∈ T, p.1 ≠ ' ') (n : Nat) :
    replaceAll T (blanks n) = blanks n :=
  replaceAll_id T _ (fun p hp hm => hd p hp (mem_blanks _ _ hm))

def KeysClear (T : Cfg) : Prop := ∀ p ∈ T.table, p.1 ≠ ' ' ∧ p.1 ≠ '(' ∧ p.1 ≠ ')'

instance (T : Cfg) : Decidable (KeysClear T) := by unfold KeysClear; infer_instance

theorem replaceAll_spell (T : Cfg) (hk : KeysClear T) (p : Str × Str) (a b c : Nat) :
    replaceAll T.table (spellOp p a b c) = spellOp (coreImg T p) a b c := by
  have h0 : ∀ q ∈ T.table, q.1 ≠ ' ' := fun q hq => (hk q hq).1
  have h1 : ∀ q ∈ T.table, q.1 ≠ '(' := fun q hq => (hk q hq).2.1
  have h2 : ∀ q ∈ T.table, q.1 ≠ ')' := fun q hq => (hk q hq).2.2
  have hnil : replaceAll T.table [] = [] := replaceAll_id _ _ (by simp)
  simp only [spellOp, coreImg, replaceAll_append, replaceAll_cons_id _ _ _ h1, replaceAll_blanks _ h0,
    replaceAll_cons_id _ _ _ h2, hnil]

theorem spellOp_ne_nil (p : Str × Str) (a b c : Nat) : spellOp p a b c ≠ [] := by
  simp [spellOp]

theorem baseL_spell (T : Cfg) (hk : KeysClear T) (p : Str × Str) (a b c : Nat) :
    baseL T (spellOp p a b c) = spellOp (coreImg T p) a b c := by
  rw [baseL_eq, replaceAll_spell T hk, if_neg (spellOp_ne_nil _ a b c)]

theorem not_mem_spellOp (d : Char) (p : Str × Str) (a b c : Nat) (h1 : d ∉ p.1) (h2 : d ∉ p.2)
    (hd : d ≠ ' ' ∧ d ≠ '(' ∧ d ≠ ')') : d ∉ spellOp p a b c := by
  simp [spellOp, blanks, h1, h2, hd]

/-- The finitely many facts about the table and the listed names (decided by
    evaluation on the generated table). -/
structure TableOK (T : Cfg) (S : List Str) : Prop where
  unnamed_sep : T.sep ∉ T.unnamed
  img_sep : ∀ x ∈ S, T.sep ∉ baseL T x
  img_inj : ∀ x ∈ S, ∀ y ∈ S, baseL T x = baseL T y → x = y
  unnamed_img : ∀ x ∈ S, baseL T x ≠ T.unnamed
  /-- blanks and parentheses are not replaced: a generic spec keeps its spacing -/
  keys_clear : KeysClear T
  /-- the separator is none of the characters of a spelled generic spec -/
  sep_clear : T.sep ≠ ' ' ∧ T.sep ≠ '(' ∧ T.sep ≠ ')'
  /-- keyword and operator token are still recognisable after the replacement ... -/
  core_good : ∀ p ∈ opCores, GoodCore p ∧ GoodCore (coreImg T p)
  core_sep : ∀ p ∈ opCores, T.sep ∉ (coreImg T p).1 ∧ T.sep ∉ (coreImg T p).2
  /-- ... and the replacement does not identify two operators -/
  core_inj : ∀ p ∈ opCores, ∀ q ∈ opCores, coreImg T p = coreImg T q → p = q
  /-- the unnamed stem is not the image of a generic spec -/
  unnamed_core : NotOpImage T T.unnamed
  /-- a listed name is a generic spec itself, or its image is not the image of one -/
  listed_core : ∀ x ∈ S, OpSpelled x ∨ NotOpImage T (baseL T x)

theorem plain_base {T : Cfg} {S : List Str} {n : Str} (h : Plain T S n) :
    baseOf T n = if lower n = [] then T.unnamed else lower n := by
  rw [baseOf_eq, baseL_eq, replaceAll_id T.table (lower n) h.1]

theorem spell_image_inj {T : Cfg} {S : List Str} (ok : TableOK T S) {p q : Str × Str} (hp : p ∈ opCores)
    (hq : q ∈ opCores) {a b c a' b' c' : Nat}
    (h : baseL T (spellOp p a b c) = baseL T (spellOp q a' b' c')) : p = q ∧ a = a' ∧ b = b' ∧ c = c' := by
  rw [baseL_spell T ok.keys_clear, baseL_spell T ok.keys_clear] at h
  obtain ⟨e, hs⟩ := spellOp_inj _ _ (ok.core_good p hp).2 (ok.core_good q hq).2 _ _ _ _ _ _ h
  exact ⟨ok.core_inj p hp q hq e, hs⟩

theorem spelled_sep {T : Cfg} {S : List Str} (ok : TableOK T S) {l : Str} (h : OpSpelled l) :
    T.sep ∉ baseL T l := by
  obtain ⟨p, hp, a, b, c, rfl⟩ := opSpelled_form l h
  rw [baseL_spell T ok.keys_clear]
  exact not_mem_spellOp _ _ a b c (ok.core_sep p hp).1 (ok.core_sep p hp).2 ok.sep_clear

theorem legal_sep {T : Cfg} {S : List Str} (ok : TableOK T S) {n : Str} (h : Legal T S n) :
    T.sep ∉ baseOf T n := by
  rcases h with h | h | h
  · rw [plain_base h]
    split
    · exact ok.unnamed_sep
    · exact h.2.1
  · exact ok.img_sep _ h
  · exact spelled_sep ok h

theorem spelled_inj {T : Cfg} {S : List Str} (ok : TableOK T S) {x y : Str}
    (hx : OpSpelled x) (hy : OpSpelled y) (h : baseL T x = baseL T y) : x = y := by
  obtain ⟨p, hp, a, b, c, rfl⟩ := opSpelled_form x hx
  obtain ⟨q, hq, a', b', c', rfl⟩ := opSpelled_form y hy
  obtain ⟨rfl, rfl, rfl, rfl⟩ := spell_image_inj ok hp hq h
  rfl

theorem notImage_ne_spelled {T : Cfg} {S : List Str} (ok : TableOK T S) {l y : Str}
    (hl : NotOpImage T l) (hy : OpSpelled y) : l ≠ baseL T y := by
  obtain ⟨q, hq, a, b, c, rfl⟩ := opSpelled_form y hy
  rw [baseL_spell T ok.keys_clear]
  intro e
  rw [e] at hl
  exact notOpImage_spell T _ (ok.core_good q hq).2 a b c hl (List.mem_map_of_mem hq)

theorem plain_base_fresh {T : Cfg} {S : List Str} (ok : TableOK T S) {n : Str} (h : Plain T S n) :
    baseOf T n ∉ S.map (baseL T) ∧ NotOpImage T (baseOf T n) := by
  rw [plain_base h]
  split
  · refine ⟨fun hm => ?_, ok.unnamed_core⟩
    obtain ⟨x, hx, e⟩ := List.mem_map.1 hm
    exact ok.unnamed_img x hx e
  · exact ⟨h.2.2.2.1, h.2.2.2.2⟩

theorem legal_base_inj {T : Cfg} {S : List Str} (ok : TableOK T S) {a b : Str}
    (ha : Legal T S a) (hb : Legal T S b) (h : baseOf T a = baseOf T b) : lower a = lower b := by
  -- `Legal` = plain ∨ listed ∨ spelled, for `a` and for `b`: plain/plain directly; plain against the other two by
  -- `plain_other`; listed/spelled by `listed_spelled`; listed/listed and spelled/spelled by the table facts
  have plain_other : ∀ x y : Str, Plain T S x → lower y ∈ S ∨ OpSpelled (lower y) →
      baseOf T x ≠ baseOf T y := by
    intro x y hx hy h
    obtain ⟨h1, h2⟩ := plain_base_fresh ok hx
    rw [h] at h1 h2
    rcases hy with hy | hy
    · exact h1 (List.mem_map_of_mem hy)
    · exact notImage_ne_spelled ok h2 hy rfl
  have listed_spelled : ∀ x y : Str, lower x ∈ S → OpSpelled (lower y) → baseOf T x = baseOf T y →
      lower x = lower y := by
    intro x y hx hy h
    rcases ok.listed_core _ hx with hs | hn
    · exact spelled_inj ok hs hy h
    · exact absurd h (notImage_ne_spelled ok hn hy)
  rcases ha with ha | ha <;> rcases hb with hb | hb
  · rw [plain_base ha, plain_base hb] at h
    by_cases ea : lower a = [] <;> by_cases eb : lower b = [] <;> simp only [ea, eb, if_true, if_false] at h
    · rw [ea, eb]
    · exact absurd h.symm hb.2.2.1
    · exact absurd h ha.2.2.1
    · exact h
  · exact absurd h (plain_other a b ha hb)
  · exact absurd h.symm (plain_other b a hb ha)
  · rcases ha with ha | ha <;> rcases hb with hb | hb
    · exact ok.img_inj _ ha _ hb h
    · exact listed_spelled a b ha hb h
    · exact (listed_spelled b a hb ha h.symm).symm
    · exact spelled_inj ok ha hb h

theorem hexDigit_inj : ∀ a, a < 16 → ∀ b, b < 16 → hexDigit a = hexDigit b → a = b := by decide +kernel

theorem quoteChar_ne_nil (c : Char) : quoteChar c ≠ [] := by
  unfold quoteChar; split <;> simp

theorem quote_inj : ∀ (a b : Str), Ascii a → Ascii b → quote a = quote b → a = b := by
  intro a
  induction a with
  | nil =>
    intro b _ _ h
    cases b with
    | nil => rfl
    | cons y ys => exact absurd (List.append_eq_nil_iff.1 h.symm).1 (quoteChar_ne_nil y)
  | cons x xs ih =>
    intro b ha hb h
    cases b with
    | nil => exact absurd (List.append_eq_nil_iff.1 h).1 (quoteChar_ne_nil x)
    | cons y ys =>
      obtain ⟨hx, ha'⟩ := List.forall_mem_cons.1 ha
      obtain ⟨hy, hb'⟩ := List.forall_mem_cons.1 hb
      have pct : quoteSafe '%' ≠ true := by decide
      simp only [quote, quoteChar] at h
      by_cases sx : quoteSafe x = true <;> by_cases sy : quoteSafe y = true <;>
        simp only [sx, sy, if_true, if_false, Bool.false_eq_true, List.cons_append, List.nil_append, List.cons.injEq, true_and] at h
      · rw [h.1, ih ys ha' hb' h.2]
      · exact absurd (h.1 ▸ sx) pct
      · exact absurd (h.1 ▸ sy) pct
      · obtain ⟨h1, h2, h3⟩ := h
        have lt16 : ∀ n, n < 128 → n / 16 < 16 := fun n hn => Nat.div_lt_of_lt_mul (Nat.lt_trans hn (by decide))
        have e1 := hexDigit_inj _ (lt16 _ hx) _ (lt16 _ hy) h1
        have e2 := hexDigit_inj _ (Nat.mod_lt _ (by decide)) _ (Nat.mod_lt _ (by decide)) h2
        have : x = y := Char.toNat_inj.1 (by rw [← Nat.div_add_mod x.toNat 16, e1, e2, Nat.div_add_mod])
        rw [this, ih ys ha' hb' h3]

theorem anchorOf_inj (o1 o2 s1 s2 : Str) (h1 : '-' ∉ o1) (h2 : '-' ∉ o2) (a1 : Ascii s1) (a2 : Ascii s2)
    (h : anchorOf o1 s1 = anchorOf o2 s2) : o1 = o2 ∧ s1 = s2 := by
  obtain ⟨ho, hq⟩ := split_first_sep '-' o1 o2 _ _ h1 h2 h
  exact ⟨ho, quote_inj s1 s2 a1 a2 hq⟩

theorem splitSlashAux_noslash : ∀ (s cur : Str), '/' ∉ s → splitSlashAux s cur = [cur.reverse ++ s] := by
  intro s
  induction s with
  | nil => intro cur _; simp [splitSlashAux]
  | cons c cs ih =>
    intro cur h
    simp at h
    have hc : ¬ c = '/' := fun e => h.1 e.symm
    simp [splitSlashAux, hc, ih (c :: cur) h.2]

theorem outfileOf_noslash (dir stem : Str) (h : '/' ∉ stem) :
    outfileOf dir stem = [dir, stem ++ htmlExt] := by
  unfold outfileOf splitSlash
  rw [splitSlashAux_noslash]
  · simp
  · simp only [List.mem_append, not_or]
    exact ⟨h, by decide⟩

theorem objOf_no_dash (k : Kind) : '-' ∉ objOf k := by
  unfold objOf
  -- a literal unifies with `String.ofList [..]` (found only with `-index`): this removes `toList`
  -- without evaluating it, which `decide` would do through the UTF-8 decoder
  simp -index only [String.toList_ofList]
  cases k <;> decide

/-- the values `get_dir` can return -/
def entityDirs : List Str :=
  [nm! "sourcefile", nm! "program", nm! "module", nm! "blockdata", nm! "namelist", nm! "type",
   nm! "interface", nm! "proc"]

theorem objOf_mem_entityDirs (k : Kind) : k ≠ .submodule → alwaysPage k = true ∨ condPage k = true →
    objOf k ∈ entityDirs := by
  unfold objOf
  simp -index only [String.toList_ofList]
  cases k <;> decide

theorem dirOf_mem (k : Kind) (p : Option Kind) (g n : Bool) (d : Str)
    (h : dirOf k p g n = some d) : d ∈ entityDirs := by
  unfold dirOf at h
  by_cases c1 : k = .submodule
  · rw [if_pos c1] at h
    rw [← Option.some.inj h]
    decide +kernel
  rw [if_neg c1] at h
  by_cases c2 : identBorrows k p g = true
  · rw [if_pos c2] at h
    rw [← Option.some.inj h]
    decide +kernel
  rw [if_neg c2] at h
  by_cases c3 : (isInterfaceKind k && !n) = true
  · rw [if_pos c3] at h
    cases h
  rw [if_neg c3] at h
  by_cases c4 : (alwaysPage k || (condPage k && pageParent p)) = true
  · rw [if_pos c4] at h
    rw [← Option.some.inj h]
    rw [Bool.or_eq_true, Bool.and_eq_true] at c4
    exact objOf_mem_entityDirs k c1 (c4.imp_right And.left)
  · rw [if_neg c4] at h
    cases h

def srcEntry (f : Str × Str) : Str × Str := (basename f.1, f.2)

theorem copySrc_eq : ∀ (files acc : List (Str × Str)),
    copySrc acc files = (files.map srcEntry).reverse ++ acc := by
  intro files
  induction files with
  | nil => intro acc; simp [copySrc]
  | cons f fs ih =>
    intro acc
    obtain ⟨p, c⟩ := f
    simp [copySrc, ih, srcEntry]

end Ford.Names
