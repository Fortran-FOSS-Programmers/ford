/-
  Lemmas for the `type( )` / `class( )` / `procedure( )` branch of FordModel/TypeSpec.lean.
-/
import FordModel.Lemmas.TypeSpecChar
namespace Ford.TypeSpec

/-- the keywords whose parenthesised part is a prototype -/
inductive ProtoT where
  | type | class | procedure
  deriving DecidableEq, Repr

def ProtoT.kw : ProtoT → Str
  | .type => (chars! "type") | .class => (chars! "class") | .procedure => (chars! "procedure")

theorem protoT_alpha (ty : ProtoT) : ∀ c ∈ ty.kw, isAlpha c = true := by cases ty <;> decide
theorem protoT_isProto (ty : ProtoT) : isProtoType ty.kw = true := by cases ty <;> decide

theorem varTypeRest_proto (ty : ProtoT) (t r : Str) (ht : lower t = ty.kw) :
    varTypeRest (t ++ r) = some r := by
  have hd : ∀ kw, diverge kw ty.kw = true → kwCI kw (t ++ r) = none :=
    fun kw h => kwCI_diverge kw t r (by rw [ht]; exact h)
  have hp := kwCI_of_lower _ t r ht
  cases ty <;> simp only [ProtoT.kw] at hd hp
  · simp only [varTypeRest, firstSome, kw2CI, hp, hd (chars! "integer") (by decide), hd (chars! "real") (by decide),
      hd (chars! "double") (by decide), hd (chars! "character") (by decide), hd (chars! "complex") (by decide),
      hd (chars! "logical") (by decide)]
  · simp only [varTypeRest, firstSome, kw2CI, hp, hd (chars! "integer") (by decide), hd (chars! "real") (by decide),
      hd (chars! "double") (by decide), hd (chars! "character") (by decide), hd (chars! "complex") (by decide),
      hd (chars! "logical") (by decide), hd (chars! "type") (by decide)]
  · simp only [varTypeRest, firstSome, kw2CI, hp, hd (chars! "integer") (by decide), hd (chars! "real") (by decide),
      hd (chars! "double") (by decide), hd (chars! "character") (by decide), hd (chars! "complex") (by decide),
      hd (chars! "logical") (by decide), hd (chars! "type") (by decide), hd (chars! "class") (by decide)]

theorem normVartype_proto (ty : ProtoT) (t : Str) (ht : lower t = ty.kw) : normVartype t = ty.kw := by
  unfold normVartype
  simp only [ht]
  cases ty <;> decide

/-- `PROTO_RE.match(name)` for a plain name -/
theorem protoMatch_name (n : Str) (hn : ∀ c ∈ n, isWord c = true) (hne : n ≠ []) :
    protoMatch n = some (n, []) := by
  have ht : n.takeWhile isWord = n := takeWhile_all _ hn
  have hstar : ∀ r, n ≠ '*' :: r := by
    intro r e
    have := hn '*' (by rw [e]; simp)
    revert this; decide
  unfold protoMatch
  cases n with
  | nil => exact absurd rfl hne
  | cons c cs =>
    have hc : c ≠ '*' := by intro e; subst e; exact hstar cs rfl
    split
    · rename_i r heq; simp at heq; exact absurd heq.1 hc
    · simp [ht, skipWs]

theorem finish_proto_paren (ty : ProtoT) (w2 n w3 rest : Str) (h2 : isBlank w2 = true) (h3 : isBlank w3 = true)
    (hn : ∀ c ∈ n, isWord c = true) (hne : n ≠ []) :
    finish ty.kw ('(' :: ((w2 ++ n ++ w3) ++ [')'])) rest
      = .ok { vartype := ty.kw, rest, proto := some (n, []) } := by
  have hX : ∀ c ∈ w2 ++ n ++ w3, c ≠ ')' := fun c hc =>
    isParen_close (padded_paren h2 (fun c hc => word_paren (hn c hc)) h3 c hc)
  obtain ⟨hXne, hlen⟩ := padded_nonempty w2 w3 hne
  have hns : ∀ c ∈ n, isSpace c = false := fun c hc => word_space (hn c hc)
  unfold finish
  simp only [hlen, decide_false, Bool.false_and, vkSearch_paren _ hX, hXne, protoT_isProto]
  have hrw := removeWs_padded w2 n w3 h2 h3 hns
  rw [List.append_assoc] at hrw
  simp [removeWs_strip, hrw, protoMatch_name n hn hne]

theorem spells_proto (ty : ProtoT) (t : Str) (ht : lower t = ty.kw) : Spells ty.kw t where
  rest r := varTypeRest_proto ty t r ht
  norm := normVartype_proto ty t ht
  nl := alpha_nl (kw_alpha t _ ht (protoT_alpha ty))

/-- `type ( name ) tail`, `class ( name ) tail`, `procedure ( name ) tail` -/
theorem parse_proto (ty : ProtoT) (t w1 w2 n w3 tail : Str) (ht : lower t = ty.kw)
    (h1 : isPad w1 = true) (h2 : isPad w2 = true) (h3 : isPad w3 = true)
    (hn : ∀ c ∈ n, isWord c = true) (hne : n ≠ [])
    (htail : EndsScan tail) (htn : tail.all (fun c => c != '\n') = true) :
    parseType (t ++ (w1 ++ (('(' :: (w2 ++ n ++ w3) ++ [')']) ++ tail)))
      = .ok { vartype := ty.kw, rest := strip tail, proto := some (n, []) } := by
  have hN := allNotNl n (fun c hc => nospace_ne_nl (word_space (hn c hc)))
  rw [parseType_paren (spells_proto ty t ht) w1 _ tail (isPad_blank h1)
    (padded_paren (isPad_blank h2) (fun c hc => word_paren (hn c hc)) (isPad_blank h3)) htail
    (by simp [List.all_append, hN, isPad_nl h1, isPad_nl h2, isPad_nl h3, htn])]
  exact finish_proto_paren ty w2 n w3 _ (isPad_blank h2) (isPad_blank h3) hn hne

end Ford.TypeSpec
