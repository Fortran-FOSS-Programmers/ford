/-
  Lemmas about the containment guard of `get_page_tree` (`PageTree.guardSkips`) for Props/C17.lean.
-/
import FordModel.Lemmas.PageTree
namespace Ford.PT
open Ford

theorem splitSlash_go_plain (s cur : Str) (h : '/' ∉ s) : splitSlash.go s cur = [cur.reverse ++ s] := by
  induction s generalizing cur with
  | nil => simp [splitSlash.go]
  | cons c t ih =>
    have hc : c ≠ '/' := fun hh => h (by simp [hh])
    have ht : '/' ∉ t := fun hh => h (by simp [hh])
    simp [splitSlash.go, hc, ih _ ht]

theorem splitSlash_plain (s : Str) (h : '/' ∉ s) : splitSlash s = [s] := by
  simpa [splitSlash] using splitSlash_go_plain s [] h

/-- `relpath(topdir / name, topdir)` is `name` itself -/
theorem relpath_child (topdir : PathS) (name : Str) : relpath (topdir ++ [name]) topdir = [name] := by
  have h := relpath_prefix topdir [name] []
  rw [List.append_nil] at h
  exact h

end Ford.PT
