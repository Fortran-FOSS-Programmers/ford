import FordModel.Lemmas.ReaderLayout
namespace Ford

/-! ### `&` ... `&` continuation is exact: a line cut anywhere reads as the uncut line -/

/-- text contributed by a continuation line -/
def Mid.text : Mid → Str
  | .cont _ b => b
  | _ => []

/-- a physical line of a continued statement that joins directly: blank / comment line,
    `&`-only line, or `& b &` -/
def Mid.direct : Mid → Prop
  | .blank => True
  | .ampOnly _ => True
  | .cont lead _ => lead = true

theorem foldl_join_direct (J : Str) (mids : List Mid) (h : ∀ mid ∈ mids, mid.direct) :
    mids.foldl Mid.join J = J ++ (mids.map Mid.text).flatten := by
  induction mids generalizing J with
  | nil => simp
  | cons mid ms ih =>
    have hm := h mid (by simp)
    have hrest : ∀ m' ∈ ms, m'.direct := fun m' hm' => h m' (by simp [hm'])
    simp only [List.foldl_cons, List.map_cons, List.flatten_cons]
    rw [ih _ hrest]
    cases mid with
    | blank => simp [Mid.join, Mid.text]
    | ampOnly ws => simp [Mid.join, Mid.text]
    | cont lead b =>
      simp only [Mid.direct] at hm
      subst hm
      simp [Mid.join, Mid.text]

/-- a complete statement on one physical line -/
theorem feedCode_single (x : Char) (s : Str) (hx : x ≠ '&') (hl : (x :: s).getLast? ≠ some '&')
    (hJ : itemsOf (' ' :: x :: s) ≠ []) :
    feedCode [] false (x :: s) = .ok (([], false), itemsOf (' ' :: x :: s)) := by
  rw [feedCode_plain [] false x s hx, splitAmp_plain _ hl]
  exact tailC_done [' '] (x :: s) hJ

theorem getLast?_append_of_ne_nil (a b : Str) (hb : b ≠ []) : (a ++ b).getLast? = b.getLast? := by
  cases b with
  | nil => exact absurd rfl hb
  | cons c cs => simp [List.getLast?_eq_some_getLast]

/-- **Cutting a line with `&` ... `&` changes nothing.**  The statement on the physical line
    `l1` (code part `x :: r ++ pieces ++ b`) and the same text cut into any number of pieces -
    first line `x r &`, then any mixture of blank / comment / `&`-only lines and lines
    `& piece &`, then `& b` - give the same reading, exactly. -/
theorem split_exact (m : Marks) (l0 l1 : Str) (x : Char) (r : Str) (mids : List Mid)
    (lines : List Str) (ln b : Str) (rest : List Str)
    (h0 : NoDoc m false l0) (hc0 : codeOf false l0 = x :: r ++ ['&']) (hx : x ≠ '&')
    (hd : ∀ mid ∈ mids, mid.direct)
    (hr : Rendered m (' ' :: x :: r) mids lines)
    (hn : NoDoc m (unterminated (' ' :: x :: r ++ (mids.map Mid.text).flatten)) ln)
    (hcn : codeOf (unterminated (' ' :: x :: r ++ (mids.map Mid.text).flatten)) ln = '&' :: b)
    (h1 : NoDoc m false l1) (hc1 : codeOf false l1 = x :: r ++ (mids.map Mid.text).flatten ++ b)
    (hb : isBlank b = false) (hl : b.getLast? ≠ some '&')
    (hJ : itemsOf (' ' :: x :: r ++ (mids.map Mid.text).flatten ++ b) ≠ []) :
    readFrom m (qs [] false) (l0 :: lines ++ ln :: rest) = readFrom m (qs [] false) (l1 :: rest) := by
  have hfold : mids.foldl Mid.join (' ' :: x :: r) = ' ' :: x :: r ++ (mids.map Mid.text).flatten := by
    rw [foldl_join_direct _ _ hd]
  have hbne : b ≠ [] := by
    intro h; subst h; simp [isBlank] at hb
  have hL := continuation_join m l0 x r mids lines ln true b rest h0 hc0 hx hr
    (by rw [hfold]; exact hn) (by rw [hfold]; simpa [lastCode] using hcn) hb hl (by intro h; cases h)
    (by rw [hfold]; simpa [Mid.join] using hJ)
  rw [hL, hfold]
  have hlast : (x :: (r ++ (mids.map Mid.text).flatten ++ b)).getLast? ≠ some '&' := by
    have e : x :: (r ++ (mids.map Mid.text).flatten ++ b) = (x :: (r ++ (mids.map Mid.text).flatten)) ++ b := by
      simp
    rw [e, getLast?_append_of_ne_nil _ _ hbne]; exact hl
  have hf1 : feed m (qs [] false) l1 =
      .ok (qs [] false, itemsOf (' ' :: x :: (r ++ (mids.map Mid.text).flatten ++ b))) := by
    rw [feed_eq_feedCode m (qs [] false) l1 (quiet_qs _ _) (by simpa [qs, unterminated_nil] using h1)]
    simp only [qs, unterminated_nil, hc1]
    have e : x :: r ++ (mids.map Mid.text).flatten ++ b = x :: (r ++ (mids.map Mid.text).flatten ++ b) := by
      simp
    rw [e, feedCode_single x _ hx hlast (by simpa using hJ)]
    rfl
  rw [readFrom_step m _ _ l1 rest _ hf1]
  simp [Mid.join]

end Ford
