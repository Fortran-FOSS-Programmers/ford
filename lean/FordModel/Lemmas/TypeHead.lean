/-
  Lemmas about the model of the statement that opens a derived type (FordModel/TypeHead.lean).
-/
import FordModel.TypeHead
import FordModel.Lemmas.TypeSpec
import FordModel.Lemmas.TypeSpecChar
namespace Ford.TypeHead
open Ford Ford.TypeSpec

theorem space_not_word {c : Char} (h : isSpace c = true) : isWord c = false := by
  cases hw : isWord c with
  | false => rfl
  | true => rw [word_space hw] at h; cases h

theorem word_of_lowerChar_alpha (b k : Char) (hk : isAlpha k = true) (h : lowerChar b = k) : isWord b = true := by
  unfold lowerChar at h
  split at h
  · rename_i hAZ
    simp [isWord, isAlpha, hAZ.1, hAZ.2]
  · subst h; simp [isWord, hk]

theorem lowerChar_ne_of_not_word (b k : Char) (hk : isAlpha k = true) (hb : isWord b = false) : lowerChar b ≠ k := by
  intro h; rw [word_of_lowerChar_alpha b k hk h] at hb; cases hb

theorem blank_ne {w : Str} (hw : isBlank w = true) {x : Char} (hx : isSpace x = false) : ∀ c ∈ w, c ≠ x := by
  rintro c hc rfl
  rw [List.all_eq_true.mp hw c hc] at hx
  cases hx

theorem skipWs_blank (w : Str) (hw : isBlank w = true) : skipWs w = [] := by
  have := skipWs_blank_append w [] hw
  simpa [skipWs] using this

theorem skipWs_blank_cons (w : Str) (c : Char) (r : Str) (hw : isBlank w = true) (hc : isSpace c = false) :
    skipWs (w ++ c :: r) = c :: r := by
  rw [skipWs_blank_append _ _ hw]
  exact skipWs_of_head _ _ hc

theorem skipWs_length_lt (w : Str) (c : Char) (r : Str) (hw : isBlank w = true) (hne : w ≠ []) (hc : isSpace c = false) :
    (skipWs (w ++ c :: r)).length < (w ++ c :: r).length := by
  rw [skipWs_blank_cons w c r hw hc]
  cases w with
  | nil => exact absurd rfl hne
  | cons a as => simp; omega

/-- `\w+` takes exactly the identifier when what follows does not start with a word character -/
theorem spanWord_append (n rest : Str) (hn : ∀ c ∈ n, isWord c = true)
    (hr : ∀ c r', rest = c :: r' → isWord c = false) : spanWord (n ++ rest) = (n, rest) := by
  induction n with
  | nil =>
    cases rest with
    | nil => rfl
    | cons c r' => simp [spanWord, hr c r' rfl]
  | cons a as ih =>
    have ha := hn a (by simp)
    have := ih (fun d hd => hn d (by simp [hd]))
    simp [spanWord, ha, this]

theorem spanNoParen_append (body rest : Str) (hb : ∀ c ∈ body, c ≠ '(' ∧ c ≠ ')') :
    spanNoParen (body ++ ')' :: rest) = (body, ')' :: rest) := by
  induction body with
  | nil => simp [spanNoParen]
  | cons a as ih =>
    have ha := hb a (by simp)
    have := ih (fun d hd => hb d (by simp [hd]))
    simp [spanNoParen, ha.1, ha.2, this]

/-- the look-ahead `is\s*\(` fails when the identifier is not `is` (in any letter case), or when no
    parenthesis follows it; what follows the identifier does not start with a word character -/
theorem guardAhead_false (n rest : Str) (hn : ∀ c ∈ n, isWord c = true) (hne : n ≠ [])
    (hr : ∀ c r', rest = c :: r' → isWord c = false)
    (hx : lower n ≠ (chars! "is") ∨ (skipWs rest).head? ≠ some '(') :
    guardAhead (n ++ rest) = false := by
  match n, hne with
  | [a], _ =>
    cases rest with
    | nil => simp [guardAhead, kwCI]
    | cons b bs =>
      have hb := lowerChar_ne_of_not_word b 's' (by decide) (hr b bs rfl)
      simp [guardAhead, kwCI, hb]
  | [a, b], _ =>
    simp only [guardAhead, List.cons_append, List.nil_append, kwCI]
    by_cases h1 : lowerChar a = 'i'
    · by_cases h2 : lowerChar b = 's'
      · rcases hx with hx | hx
        · exact absurd (by simp [lower, h1, h2]) hx
        · cases rest <;> simp_all [kwCI]
      · simp [h1, h2]
    · simp [h1]
  | a :: b :: c :: r, _ =>
    have hc : isWord c = true := hn c (by simp)
    simp only [guardAhead, List.cons_append, kwCI]
    by_cases h1 : lowerChar a = 'i'
    · by_cases h2 : lowerChar b = 's'
      · simp [h1, h2, kwCI, skipWs_of_head c (r ++ rest) (word_space hc), word_ne hc (d := '(') (by decide)]
      · simp [h1, h2]
    · simp [h1]

theorem paramsEnd_blank (w : Str) (hw : isBlank w = true) : paramsEnd (skipWs w) = some none := by
  simp [skipWs_blank w hw, paramsEnd]

theorem paramsEnd_params (body w : Str) (hb : ∀ c ∈ body, c ≠ '(' ∧ c ≠ ')') (hw : isBlank w = true) :
    paramsEnd ('(' :: (body ++ ')' :: w)) = some (some ('(' :: (body ++ [')']))) := by
  simp [paramsEnd, spanNoParen_append body w hb, skipWs_blank w hw]

theorem blank_head_not_word (w : Str) (hw : isBlank w = true) : ∀ c r', w = c :: r' → isWord c = false := by
  intro c r' h; subst h
  simp [isBlank] at hw
  exact space_not_word hw.1

theorem blank_cons_head_not_word (w : Str) (c : Char) (x : Str) (hw : isBlank w = true) (hc : isWord c = false) :
    ∀ d r', w ++ c :: x = d :: r' → isWord d = false := by
  intro d r' h
  cases w with
  | nil =>
    rw [← (List.cons.inj h).1]
    exact hc
  | cons a as =>
    rw [← (List.cons.inj h).1]
    exact blank_head_not_word _ hw a as rfl

/-- an identifier that passes the look-ahead is group 2; group 3 is decided by what follows it -/
theorem nameTail_ident (n rest : Str) (hn : ∀ c ∈ n, isWord c = true) (hne : n ≠ [])
    (hr : ∀ c r', rest = c :: r' → isWord c = false)
    (hx : lower n ≠ (chars! "is") ∨ (skipWs rest).head? ≠ some '(') :
    nameTail (n ++ rest) = (paramsEnd (skipWs rest)).map fun p => (n, p) := by
  have hn' : n.isEmpty = false := by cases n <;> simp_all
  simp only [nameTail, guardAhead_false n rest hn hne hr hx, spanWord_append n rest hn hr, hn']
  cases paramsEnd (skipWs rest) <;> rfl

/-- `name` + blanks: group 2 = the name, no group 3 - for every identifier -/
theorem nameTail_plain (n w : Str) (hn : ∀ c ∈ n, isWord c = true) (hne : n ≠ []) (hw : isBlank w = true) :
    nameTail (n ++ w) = some (n, none) := by
  rw [nameTail_ident n w hn hne (blank_head_not_word w hw) (Or.inr (by simp [skipWs_blank w hw])),
    paramsEnd_blank w hw]
  rfl

/-- `name` + blanks + `( .. )` + blanks: groups 2 and 3 - for every identifier but `is` -/
theorem nameTail_params (n w1 body w2 : Str) (hn : ∀ c ∈ n, isWord c = true) (hne : n ≠ [])
    (hx : lower n ≠ (chars! "is")) (h1 : isBlank w1 = true)
    (hb : ∀ c ∈ body, c ≠ '(' ∧ c ≠ ')') (h2 : isBlank w2 = true) :
    nameTail (n ++ (w1 ++ '(' :: (body ++ ')' :: w2))) = some (n, some ('(' :: (body ++ [')']))) := by
  rw [nameTail_ident n _ hn hne (blank_cons_head_not_word w1 '(' _ h1 (by decide)) (Or.inl hx),
    skipWs_blank_cons w1 '(' _ h1 (by decide), paramsEnd_params body w2 hb h2]
  rfl

theorem nameTail_nonword (c : Char) (r : Str) (hc : isWord c = false) : nameTail (c :: r) = none := by
  have hg : guardAhead (c :: r) = false := by
    simp [guardAhead, kwCI, lowerChar_ne_of_not_word c 'i' (by decide) hc]
  simp [nameTail, hg, spanWord, hc]

theorem nameTail_nil : nameTail [] = none := by simp [nameTail, guardAhead, kwCI, spanWord]

/-- `::` is matched only where two colons stand -/
theorem atColons_none (acc s : Str) (h : ∀ r, s ≠ ':' :: ':' :: r) : atColons acc s = none := by
  unfold atColons
  split
  · exact absurd rfl (h _)
  · rfl

theorem colonsSplit_nocolon (s : Str) : ∀ acc, (∀ c ∈ s, c ≠ ':') → colonsSplit acc s = none := by
  induction s with
  | nil => intro acc _; simp [colonsSplit]
  | cons c cs ih =>
    intro acc h
    simp [colonsSplit, ih (c :: acc) (fun d hd => h d (by simp [hd])), atColons_none acc (c :: cs) fun r e => h ':' (by simp [e]) rfl]

theorem colonsSplit_cons (acc : Str) (c : Char) (cs : Str) :
    colonsSplit acc (c :: cs) =
      match colonsSplit (c :: acc) cs with
      | some x => some x
      | none => atColons acc (c :: cs) := by
  cases h : colonsSplit (c :: acc) cs <;> simp [colonsSplit, h]

theorem atColons_colons (acc rest : Str) :
    atColons acc (':' :: ':' :: rest) =
      match nameTail (skipWs rest) with
      | some (n, p) => some (acc.reverse, n, p)
      | none => none := by
  cases h : nameTail (skipWs rest) <;> simp [atColons, h]

/-- one `::` in the statement: that is where group 1 ends -/
theorem colonsSplit_unique (a rest : Str) (ha : ∀ c ∈ a, c ≠ ':') (hrest : ∀ c ∈ rest, c ≠ ':') :
    ∀ acc, colonsSplit acc (a ++ ':' :: ':' :: rest) =
      match nameTail (skipWs rest) with
      | some (n, p) => some (acc.reverse ++ a, n, p)
      | none => none := by
  induction a with
  | nil =>
    intro acc
    have h1 : colonsSplit (':' :: acc) (':' :: rest) = none := by
      rw [colonsSplit_cons, colonsSplit_nocolon rest _ hrest, atColons_none _ _ fun r e => hrest ':' (by simp [(List.cons.inj e).2]) rfl]
    rw [List.nil_append, colonsSplit_cons, h1, atColons_colons]
    simp
  | cons c cs ih =>
    intro acc
    have hc := ha c (by simp)
    have := ih (fun d hd => ha d (by simp [hd])) (c :: acc)
    rw [List.cons_append, colonsSplit_cons, this, atColons_none acc _ fun r e => hc (List.cons.inj e).1]
    cases nameTail (skipWs rest) with
    | none => rfl
    | some x => simp

theorem ident_head (n : Str) (hn : ∀ c ∈ n, isWord c = true) (hne : n ≠ []) :
    ∃ c r, n = c :: r ∧ isWord c = true := by
  cases n with
  | nil => exact absurd rfl hne
  | cons c r => exact ⟨c, r, rfl, hn c (by simp)⟩

/-- first alternative: `type`, at least one blank, then the tail -/
theorem typeRe_alt1 (t w : Str) (c : Char) (r : Str) (x : Str × Option Str) (ht : lower t = (chars! "type"))
    (hw : isBlank w = true) (hwne : w ≠ []) (hc : isSpace c = false) (hx : nameTail (c :: r) = some x) :
    typeRe (t ++ (w ++ c :: r)) = some ⟨none, x.1, x.2⟩ := by
  have hsk := skipWs_blank_cons w c r hw hc
  have hlt := skipWs_length_lt w c r hw hwne hc
  rw [hsk] at hlt
  simp only [typeRe, kwCI_of_lower _ t _ ht, hsk, hlt, if_true, hx]

theorem typeRe_plain (t w n w2 : Str) (ht : lower t = (chars! "type")) (hw : isBlank w = true) (hwne : w ≠ [])
    (hn : ∀ c ∈ n, isWord c = true) (hne : n ≠ []) (hw2 : isBlank w2 = true) :
    typeRe (t ++ (w ++ (n ++ w2))) = some ⟨none, n, none⟩ := by
  obtain ⟨c, r, rfl, hc⟩ := ident_head n hn hne
  exact typeRe_alt1 t w c (r ++ w2) (c :: r, none) ht hw hwne (word_space hc) (nameTail_plain (c :: r) w2 hn hne hw2)

/-- the first alternative fails on a statement whose first character after `type` and the blanks is
    neither a blank nor in `\w` -/
theorem typeRe_alt1_fails (w : Str) (c : Char) (r : Str) (hw : isBlank w = true) (hc : isWord c = false)
    (hs : isSpace c = false) :
    (if (skipWs (w ++ c :: r)).length < (w ++ c :: r).length then nameTail (skipWs (w ++ c :: r)) else none) = none := by
  rw [skipWs_blank_cons w c r hw hs]
  split
  · exact nameTail_nonword c r hc
  · rfl


/-- second alternative without an attribute list: `type`, blanks, `::`, then the tail -/
theorem typeRe_colons_tail (t w0 rest : Str) (x : Str × Option Str) (ht : lower t = (chars! "type"))
    (h0 : isBlank w0 = true) (hx : nameTail (skipWs rest) = some x) :
    typeRe (t ++ (w0 ++ ':' :: ':' :: rest)) = some ⟨none, x.1, x.2⟩ := by
  have ha := typeRe_alt1_fails w0 ':' (':' :: rest) h0 (by decide) (by decide)
  simp only [typeRe, kwCI_of_lower _ t _ ht, ha]
  simp only [skipWs_blank_cons w0 ':' _ h0 (by decide), hx]

/-- second alternative with an attribute list that contains no colon -/
theorem typeRe_attrs_tail (t w0 a rest : Str) (x : Str × Option Str) (ht : lower t = (chars! "type"))
    (h0 : isBlank w0 = true) (ha : ∀ c ∈ a, c ≠ ':') (hrest : ∀ c ∈ rest, c ≠ ':')
    (hx : nameTail (skipWs rest) = some x) :
    typeRe (t ++ (w0 ++ ',' :: (a ++ ':' :: ':' :: rest))) = some ⟨some (',' :: a), x.1, x.2⟩ := by
  have h1 := typeRe_alt1_fails w0 ',' (a ++ ':' :: ':' :: rest) h0 (by decide) (by decide)
  have hc := colonsSplit_unique a rest ha hrest [',']
  rw [hx] at hc
  simp only [typeRe, kwCI_of_lower _ t _ ht, h1]
  simp only [skipWs_blank_cons w0 ',' _ h0 (by decide), hc]
  simp

theorem nameTail_blank_plain (w n w2 : Str) (hw : isBlank w = true) (hn : ∀ c ∈ n, isWord c = true) (hne : n ≠ [])
    (h2 : isBlank w2 = true) : nameTail (skipWs (w ++ (n ++ w2))) = some (n, none) := by
  obtain ⟨c, r, rfl, hc⟩ := ident_head n hn hne
  rw [List.cons_append, skipWs_blank_cons w c (r ++ w2) hw (word_space hc)]
  exact nameTail_plain (c :: r) w2 hn hne h2

theorem pad_ident_no_colon (w1 n w2 : Str) (h1 : isBlank w1 = true) (hn : ∀ c ∈ n, isWord c = true)
    (h2 : isBlank w2 = true) : ∀ c ∈ w1 ++ (n ++ w2), c ≠ ':' := by
  intro c hc
  simp only [List.mem_append] at hc
  rcases hc with hc | hc | hc
  · exact blank_ne h1 (by decide) c hc
  · exact word_ne (hn c hc) (d := ':') (by decide)
  · exact blank_ne h2 (by decide) c hc

theorem lower_is (i : Str) (hi : lower i = (chars! "is")) :
    ∃ a b, i = [a, b] ∧ lowerChar a = 'i' ∧ lowerChar b = 's' := by
  match i with
  | [] => simp [lower] at hi
  | [_] => simp [lower] at hi
  | [a, b] => simp [lower] at hi; exact ⟨a, b, rfl, hi.1, hi.2⟩
  | _ :: _ :: _ :: _ => simp [lower] at hi

/-- **the SELECT TYPE guard** `type is ( ..` is not matched, whatever follows the parenthesis -/
theorem typeRe_guard (t w i w1 rest : Str) (ht : lower t = (chars! "type")) (hw : isBlank w = true)
    (hi : lower i = (chars! "is")) (h1 : isBlank w1 = true) :
    typeRe (t ++ (w ++ (i ++ (w1 ++ '(' :: rest)))) = none := by
  obtain ⟨a, b, rfl, hla, hlb⟩ := lower_is i hi
  have haw : isWord a = true := word_of_lowerChar_alpha a 'i' (by decide) hla
  have hsk := skipWs_blank_cons w a (b :: (w1 ++ '(' :: rest)) hw (word_space haw)
  have hg : guardAhead (a :: b :: (w1 ++ '(' :: rest)) = true := by
    simp [guardAhead, kwCI, hla, hlb, skipWs_blank_cons w1 '(' rest h1 (by decide)]
  have hnt : nameTail (a :: b :: (w1 ++ '(' :: rest)) = none := by simp [nameTail, hg]
  have hac : a ≠ ',' := by intro h; subst h; simp [isWord, isAlpha, isDigit] at haw
  have hacol : a ≠ ':' := by intro h; subst h; simp [isWord, isAlpha, isDigit] at haw
  simp only [typeRe, kwCI_of_lower _ t _ ht, List.cons_append, List.nil_append, hsk, hnt, ite_self]
  split
  · rename_i heq; injection heq with h _; exact absurd h hac
  · rename_i heq; injection heq with h _; exact absurd h hacol
  · rfl

/-- **a declaration** `type ( ..` is not matched, whatever follows the parenthesis -/
theorem typeRe_decl (t w rest : Str) (ht : lower t = (chars! "type")) (hw : isBlank w = true) :
    typeRe (t ++ (w ++ '(' :: rest)) = none := by
  have h1 := typeRe_alt1_fails w '(' rest hw (by decide) (by decide)
  simp only [typeRe, kwCI_of_lower _ t _ ht, h1]
  simp [skipWs_blank_cons w '(' rest hw (by decide)]

theorem varAlt_none (kw : Str → Option Str) (banned : List Str) (s : Str) (h : kw s = none) :
    varAlt kw banned s = none := by simp [varAlt, h]

theorem kw2CI_none (k1 k2 s : Str) (h : kwCI k1 s = none) : kw2CI k1 k2 s = none := by simp [kw2CI, h]

theorem skipWsLast_blank (w : Str) (c : Char) (r : Str) (hw : isBlank w = true) (hc : isSpace c = false) :
    ∀ l, ∃ l', skipWsLast l (w ++ c :: r) = (l', c :: r) := by
  induction w with
  | nil => intro l; exact ⟨l, by simp [skipWsLast, hc]⟩
  | cons a as ih =>
    intro l
    simp [isBlank] at hw
    obtain ⟨l', h⟩ := ih (by simp [isBlank]; exact hw.2) (some a)
    exact ⟨l', by simp [skipWsLast, hw.1, h]⟩

theorem take_prefix (t r : Str) : (t ++ r).take ((t ++ r).length - r.length) = t := by
  simp

/-- an alternative of group 1 whose keyword parts from the statement's keyword at some letter fails -/
theorem varAlt_diverge (kw k : Str) (banned : List Str) (t r : Str) (ht : lower t = k)
    (hd : diverge kw k = true) : varAlt (kwCI kw) banned (t ++ r) = none :=
  varAlt_none _ _ _ (kwCI_diverge kw t r (ht ▸ hd))

theorem varAlt_diverge2 (kw kw2 k : Str) (banned : List Str) (t r : Str) (ht : lower t = k)
    (hd : diverge kw k = true) : varAlt (kw2CI kw kw2) banned (t ++ r) = none :=
  varAlt_none _ _ _ (kw2CI_none _ _ _ (kwCI_diverge kw t r (ht ▸ hd)))

/-- the alternatives of group 1 other than `type` fail on a statement that begins with `type` -/
theorem varRe_type (t r : Str) (ht : lower t = (chars! "type")) :
    varRe (t ++ r) =
      match varAlt (kwCI (chars! "type")) [(chars! "is")] (t ++ r) with
      | some (r', g2) => some ((t ++ r).take ((t ++ r).length - r'.length), g2)
      | none => none := by
  -- each alternative but one is rewritten to `none`; `decide` settles where its keyword parts from `type`
  simp (disch := decide) only [varRe, varAlt_diverge _ _ _ t r ht, varAlt_diverge2 _ _ _ _ t r ht, firstSome2]
  cases varAlt (kwCI (chars! "type")) [(chars! "is")] (t ++ r) <;> rfl

/-- the alternatives of group 1 other than `class` fail on a statement that begins with `class` -/
theorem varRe_class (t r : Str) (ht : lower t = (chars! "class")) :
    varRe (t ++ r) =
      match varAlt (kwCI (chars! "class")) [(chars! "is"), (chars! "default")] (t ++ r) with
      | some (r', g2) => some ((t ++ r).take ((t ++ r).length - r'.length), g2)
      | none => none := by
  simp (disch := decide) only [varRe, varAlt_diverge _ _ _ t r ht, varAlt_diverge2 _ _ _ _ t r ht, firstSome2]
  cases varAlt (kwCI (chars! "class")) [(chars! "is"), (chars! "default")] (t ++ r) <;> rfl

theorem wsThen_true (kw w i rest : Str) (hw : isBlank w = true) (hwne : w ≠ []) (hi : lower i = kw)
    (c : Char) (r : Str) (hic : i = c :: r) (hc : isSpace c = false) : wsThen kw (w ++ (i ++ rest)) = true := by
  subst hic
  have hsk := skipWs_blank_cons w c (r ++ rest) hw hc
  have hlt := skipWs_length_lt w c (r ++ rest) hw hwne hc
  rw [hsk] at hlt
  have hkw := kwCI_of_lower kw (c :: r) rest hi
  simp only [List.cons_append] at hkw ⊢
  simp only [wsThen, hsk, hlt, decide_true, Bool.true_and, hkw, Option.isSome_some]

theorem varAlt_banned (k : Str) (banned : List Str) (t r : Str) (ht : lower t = k)
    (hb : banned.any (fun w => wsThen w r) = true) : varAlt (kwCI k) banned (t ++ r) = none := by
  simp only [varAlt, kwCI_of_lower k t r ht, hb, if_true]

/-- a parenthesis after the keyword and blanks: the alternative matches, group 2 starts at the parenthesis -/
theorem varAlt_paren (k : Str) (banned : List Str) (t w rest : Str) (ht : lower t = k) (hw : isBlank w = true)
    (hk : ∀ b ∈ banned, ∃ c r, b = c :: r ∧ lowerChar '(' ≠ c) :
    varAlt (kwCI k) banned (t ++ (w ++ '(' :: rest)) = some (w ++ '(' :: rest, '(' :: rest) := by
  have hsk := skipWs_blank_cons w '(' rest hw (by decide)
  have hb : banned.any (fun b => wsThen b (w ++ '(' :: rest)) = false := by
    rw [List.any_eq_false]
    intro b hbm
    obtain ⟨c, r, hbc, hne⟩ := hk b hbm
    subst hbc
    simp [wsThen, hsk, kwCI, hne]
  obtain ⟨l', hl⟩ := skipWsLast_blank w '(' rest hw (by decide) none
  simp [varAlt, kwCI_of_lower k t _ ht, hb, varTail, hl]

/-- blanks around an attribute written without blanks at its ends are stripped, nothing else -/
theorem strip_tight (l a r : Str) (hl : isBlank l = true) (ha : tight a = true) (hr : isBlank r = true) :
    strip (l ++ (a ++ r)) = a := by
  cases a with
  | nil => simp [tight] at ha
  | cons c m =>
    cases hrev : (c :: m).reverse with
    | nil => simp at hrev
    | cons d m' =>
      unfold tight at ha
      rw [hrev] at ha
      simp only [Bool.and_eq_true, Bool.not_eq_true'] at ha
      have h3 : lstrip (l ++ (c :: m ++ r)) = c :: m ++ r := by
        rw [lstrip_blank_append _ _ hl]; exact lstrip_of_not_space _ _ ha.1
      have h4 : rstrip (c :: m ++ r) = c :: m := by
        unfold rstrip
        rw [List.reverse_append, lstrip_blank_append _ _ (by rw [isBlank_reverse]; exact hr), hrev, lstrip_of_not_space _ _ ha.2, ← hrev]
        simp
      simp only [strip, h3, h4]

theorem strip_tight_self (a : Str) (ha : tight a = true) : strip a = a := by
  simpa using strip_tight [] a [] rfl ha rfl

theorem item_no_sep (it : Str × Str × Str) (h : attrItemOk it = true) :
    ∀ c ∈ it.1 ++ (it.2.1 ++ it.2.2), c ≠ ',' ∧ c ≠ ':' := by
  simp only [attrItemOk, Bool.and_eq_true, List.all_eq_true, bne_iff_ne] at h
  intro c hc
  simp only [List.mem_append] at hc
  rcases hc with hc | hc | hc
  · exact ⟨blank_ne h.1.1.1 (by decide) c hc, blank_ne h.1.1.1 (by decide) c hc⟩
  · exact h.1.2 c hc
  · exact ⟨blank_ne h.2 (by decide) c hc, blank_ne h.2 (by decide) c hc⟩

theorem renderAttrs_cons_cons (it x : Str × Str × Str) (xs : List (Str × Str × Str)) :
    renderAttrs (it :: x :: xs) = (it.1 ++ (it.2.1 ++ it.2.2)) ++ ',' :: renderAttrs (x :: xs) := by
  simp [renderAttrs]

theorem renderAttrs_no_colon (items : List (Str × Str × Str)) (h : ∀ it ∈ items, attrItemOk it = true) :
    ∀ c ∈ renderAttrs items, c ≠ ':' := by
  match items with
  | [] => intro c hc; simp [renderAttrs] at hc
  | [(l, a, r)] =>
    simpa [renderAttrs] using fun c hc => (item_no_sep (l, a, r) (h _ (by simp)) c hc).2
  | (l, a, r) :: x :: xs =>
    have h1 := fun c hc => (item_no_sep (l, a, r) (h _ (by simp)) c hc).2
    have h2 := renderAttrs_no_colon (x :: xs) (fun it hit => h it (by simp [hit]))
    intro c hc
    rw [renderAttrs_cons_cons, List.mem_append, List.mem_cons] at hc
    rcases hc with hc | rfl | hc
    · exact h1 c hc
    · decide
    · exact h2 c hc

/-- strip-and-split gives back the attribute texts as written, in order -/
theorem splitStripped_render (items : List (Str × Str × Str)) (hne : items ≠ [])
    (h : ∀ it ∈ items, attrItemOk it = true) : splitStripped (renderAttrs items) = items.map (·.2.1) := by
  match items, hne with
  | [(l, a, r)], _ =>
    have hok := h (l, a, r) (by simp)
    have hnc := fun c hc => (item_no_sep (l, a, r) hok c hc).1
    simp only [attrItemOk, Bool.and_eq_true] at hok
    simp only [splitStripped, renderAttrs, splitComma_one _ hnc, List.map_cons, List.map_nil,
      strip_tight l a r hok.1.1.1 hok.1.1.2 hok.2]
  | (l, a, r) :: x :: xs, _ =>
    have hok := h (l, a, r) (by simp)
    have hnc := fun c hc => (item_no_sep (l, a, r) hok c hc).1
    simp only [attrItemOk, Bool.and_eq_true] at hok
    have ih := splitStripped_render (x :: xs) (by simp) (fun it hit => h it (by simp [hit]))
    simp only [splitStripped] at ih
    simp only [splitStripped, renderAttrs_cons_cons, splitComma, splitComma_go_append _ _ [] hnc, List.map_cons,
      List.reverse_nil, List.nil_append, strip_tight l a r hok.1.1.1 hok.1.1.2 hok.2]
    simp only [splitComma] at ih
    rw [ih]
    rfl

theorem spanBase_append (b rest : Str) (hb : ∀ c ∈ b, c ≠ '(' ∧ c ≠ ')' ∧ isSpace c = false)
    (hr : ∀ c r', rest = c :: r' → (c == '(' || c == ')' || isSpace c) = true) : spanBase (b ++ rest) = (b, rest) := by
  induction b with
  | nil =>
    cases rest with
    | nil => rfl
    | cons c r' => simp only [List.nil_append, spanBase, hr c r' rfl, if_true]
  | cons a as ih =>
    have ha := hb a (by simp)
    have := ih (fun d hd => hb d (by simp [hd]))
    simp [spanBase, ha.1, ha.2.1, ha.2.2, this]

/-- `extends ( base )` in any letter case with any blanks: the parent is the name as written -/
theorem extendsAt_spelled (e w1 w2 b w3 rest : Str) (he : lower e = (chars! "extends")) (h1 : isBlank w1 = true)
    (h2 : isBlank w2 = true) (hb : ∀ c ∈ b, c ≠ '(' ∧ c ≠ ')' ∧ isSpace c = false) (hbne : b ≠ [])
    (h3 : isBlank w3 = true) : extendsAt (e ++ (w1 ++ '(' :: (w2 ++ (b ++ (w3 ++ ')' :: rest))))) = some b := by
  obtain ⟨c, r, rfl⟩ := List.exists_cons_of_ne_nil hbne
  have hr : ∀ c r', (w3 ++ ')' :: rest) = c :: r' → (c == '(' || c == ')' || isSpace c) = true := by
    intro c r' h
    cases w3 with
    | nil => simp at h; rw [← h.1]; decide
    | cons a as =>
      simp at h; rw [← h.1]
      simp [isBlank] at h3; simp [h3.1]
  simp only [extendsAt, kwCI_of_lower _ e _ he, skipWs_blank_cons w1 '(' _ h1 (by decide), List.cons_append,
    skipWs_blank_cons w2 c _ h2 (hb c (by simp)).2.2]
  rw [← List.cons_append, spanBase_append (c :: r) (w3 ++ ')' :: rest) hb hr]
  simp [skipWs_blank_cons w3 ')' rest h3 (by decide)]

theorem extendsSearch_spelled (e w1 w2 b w3 rest : Str) (he : lower e = (chars! "extends")) (h1 : isBlank w1 = true)
    (h2 : isBlank w2 = true) (hb : ∀ c ∈ b, c ≠ '(' ∧ c ≠ ')' ∧ isSpace c = false) (hbne : b ≠ [])
    (h3 : isBlank w3 = true) : extendsSearch (e ++ (w1 ++ '(' :: (w2 ++ (b ++ (w3 ++ ')' :: rest))))) = some b := by
  have h := extendsAt_spelled e w1 w2 b w3 rest he h1 h2 hb hbne h3
  cases e with
  | nil => simp [lower] at he
  | cons c cs =>
    simp only [List.cons_append] at h ⊢
    simp only [extendsSearch, h]

theorem paren_after_kw {kw s r r1 : Str} (hk : kwCI kw s = some r) (hs : skipWs r = '(' :: r1) : '(' ∈ s := by
  obtain ⟨p, rfl⟩ := kwCI_suffix _ _ _ hk
  obtain ⟨q, hq⟩ := skipWs_suffix r
  rw [hq, hs]
  simp

/-- `EXTENDS_RE` needs an opening parenthesis -/
theorem extendsAt_noparen (s : Str) (h : ∀ c ∈ s, c ≠ '(') : extendsAt s = none := by
  unfold extendsAt
  split
  · rfl
  · rename_i r hk
    split
    · rename_i r1 hs
      exact absurd rfl (h '(' (paren_after_kw hk hs))
    · rfl

theorem extendsSearch_noparen (s : Str) (h : ∀ c ∈ s, c ≠ '(') : extendsSearch s = none := by
  induction s with
  | nil => rfl
  | cons c cs ih =>
    simp only [extendsSearch, extendsAt_noparen (c :: cs) h]
    exact ih (fun d hd => h d (by simp [hd]))

theorem lower_head (i k : Str) (kc : Char) (kr : Str) (hi : lower i = k) (hk : k = kc :: kr) (ha : isAlpha kc = true) :
    ∃ c r, i = c :: r ∧ isSpace c = false := by
  subst hk
  cases i with
  | nil => simp [lower] at hi
  | cons c r =>
    simp [lower] at hi
    exact ⟨c, r, rfl, word_space (word_of_lowerChar_alpha c kc ha hi.1)⟩

/-- a banned word follows the keyword after at least one blank: the alternative fails, whatever comes next -/
theorem varAlt_guard (k kw : Str) (banned : List Str) (kc : Char) (kr : Str) (hkw : kw = kc :: kr)
    (ha : isAlpha kc = true) (hmem : kw ∈ banned) (t w i rest : Str) (ht : lower t = k) (hw : isBlank w = true)
    (hwne : w ≠ []) (hi : lower i = kw) : varAlt (kwCI k) banned (t ++ (w ++ (i ++ rest))) = none := by
  obtain ⟨c, r, hic, hc⟩ := lower_head i _ kc kr hi hkw ha
  have hb := wsThen_true kw w i rest hw hwne hi c r hic hc
  exact varAlt_banned k banned t _ ht (List.any_eq_true.mpr ⟨kw, hmem, hb⟩)

/-- `type is ..` is not a declaration, whatever follows -/
theorem varRe_guard_type (t w i rest : Str) (ht : lower t = (chars! "type")) (hw : isBlank w = true) (hwne : w ≠ [])
    (hi : lower i = (chars! "is")) : varRe (t ++ (w ++ (i ++ rest))) = none := by
  rw [varRe_type t _ ht, varAlt_guard _ _ _ 'i' _ rfl (by decide) (by simp) t w i rest ht hw hwne hi]

theorem varRe_guard_class_is (t w i rest : Str) (ht : lower t = (chars! "class")) (hw : isBlank w = true) (hwne : w ≠ [])
    (hi : lower i = (chars! "is")) : varRe (t ++ (w ++ (i ++ rest))) = none := by
  rw [varRe_class t _ ht, varAlt_guard _ _ _ 'i' _ rfl (by decide) (by simp) t w i rest ht hw hwne hi]

theorem varRe_guard_class_default (t w i rest : Str) (ht : lower t = (chars! "class")) (hw : isBlank w = true)
    (hwne : w ≠ []) (hi : lower i = (chars! "default")) : varRe (t ++ (w ++ (i ++ rest))) = none := by
  rw [varRe_class t _ ht, varAlt_guard _ _ _ 'd' _ rfl (by decide) (by simp) t w i rest ht hw hwne hi]

/-- `type ( ..` is a declaration: group 1 = the keyword as written, group 2 = everything from the parenthesis -/
theorem varRe_decl_type (t w rest : Str) (ht : lower t = (chars! "type")) (hw : isBlank w = true) :
    varRe (t ++ (w ++ '(' :: rest)) = some (t, '(' :: rest) := by
  have h := varAlt_paren (chars! "type") [(chars! "is")] t w rest ht hw
    (by intro b hb; simp at hb; subst hb; exact ⟨'i', _, rfl, by decide⟩)
  rw [varRe_type t _ ht, h]
  simp

theorem varRe_decl_class (t w rest : Str) (ht : lower t = (chars! "class")) (hw : isBlank w = true) :
    varRe (t ++ (w ++ '(' :: rest)) = some (t, '(' :: rest) := by
  have h := varAlt_paren (chars! "class") [(chars! "is"), (chars! "default")] t w rest ht hw
    (by
      intro b hb; simp at hb
      rcases hb with hb | hb
      · subst hb; exact ⟨'i', _, rfl, by decide⟩
      · subst hb; exact ⟨'d', _, rfl, by decide⟩)
  rw [varRe_class t _ ht, h]
  simp

end Ford.TypeHead
