/-
  Lemmas about `FordModel/DeclLine.lean`: what the loop over the attributes of a type declaration (`classify`) leaves
  in each field, stated through the specification predicates `isPlain`, `isOptRule` ...
-/
import FordModel.DeclLine
namespace Ford.DeclLine
open Ford

/-- what one turn of the loop does to each field, in terms of the specification predicates -/
theorem classifyOne_fields (rules : Rules) (st : DeclAttrs) (a : Str) :
    (classifyOne rules st a).attribs = st.attribs ++ (if isPlain rules a then [a] else []) ∧
    (classifyOne rules st a).optional = (st.optional || isOptRule rules a) ∧
    (classifyOne rules st a).parameter = (st.parameter || isParamRule rules a) ∧
    (isIntentRule rules a = false → (classifyOne rules st a).intent = st.intent) ∧
    (isPermRule rules a = false → (classifyOne rules st a).permission = st.permission) := by
  cases h : lookupRule rules (normAttr a) with
  | none => simp [classifyOne, isPlain, isOptRule, isParamRule, h]
  | some act => cases act <;> simp [classifyOne, isPlain, isOptRule, isParamRule, isIntentRule, isPermRule, h]

theorem foldl_attribs (rules : Rules) : ∀ (as : List Str) (st : DeclAttrs),
    (as.foldl (classifyOne rules) st).attribs = st.attribs ++ as.filter (isPlain rules)
  | [], st => by simp
  | a :: as, st => by
    rw [List.foldl_cons, foldl_attribs rules as, (classifyOne_fields rules st a).1, List.append_assoc,
      List.filter_cons]
    split <;> rfl

theorem foldl_optional (rules : Rules) : ∀ (as : List Str) (st : DeclAttrs),
    (as.foldl (classifyOne rules) st).optional = (st.optional || as.any (isOptRule rules))
  | [], st => by simp
  | a :: as, st => by
    rw [List.foldl_cons, foldl_optional rules as, (classifyOne_fields rules st a).2.1, List.any_cons, Bool.or_assoc]

theorem foldl_parameter (rules : Rules) : ∀ (as : List Str) (st : DeclAttrs),
    (as.foldl (classifyOne rules) st).parameter = (st.parameter || as.any (isParamRule rules))
  | [], st => by simp
  | a :: as, st => by
    rw [List.foldl_cons, foldl_parameter rules as, (classifyOne_fields rules st a).2.2.1, List.any_cons,
      Bool.or_assoc]

theorem foldl_intent_keep (rules : Rules) : ∀ (as : List Str) (st : DeclAttrs),
    (∀ a ∈ as, isIntentRule rules a = false) → (as.foldl (classifyOne rules) st).intent = st.intent
  | [], _, _ => rfl
  | a :: as, st, h => by
    rw [List.foldl_cons, foldl_intent_keep rules as _ (fun b hb => h b (by simp [hb])),
      (classifyOne_fields rules st a).2.2.2.1 (h a (by simp))]

theorem foldl_permission_keep (rules : Rules) : ∀ (as : List Str) (st : DeclAttrs),
    (∀ a ∈ as, isPermRule rules a = false) → (as.foldl (classifyOne rules) st).permission = st.permission
  | [], _, _ => rfl
  | a :: as, st, h => by
    rw [List.foldl_cons, foldl_permission_keep rules as _ (fun b hb => h b (by simp [hb])),
      (classifyOne_fields rules st a).2.2.2.2 (h a (by simp))]
theorem classify_intent_last (rules : Rules) (perm : Str) (pre post : List Str) (a v : Str)
    (ha : lookupRule rules (normAttr a) = some (.intent v))
    (hp : ∀ b ∈ post, isIntentRule rules b = false) :
    (classify rules perm (pre ++ a :: post)).intent = v := by
  simp only [classify, List.foldl_append, List.foldl_cons]
  rw [foldl_intent_keep rules post _ hp]
  simp [classifyOne, ha]

theorem classify_permission_last (rules : Rules) (perm : Str) (pre post : List Str) (a : Str)
    (ha : lookupRule rules (normAttr a) = some .permission)
    (hp : ∀ b ∈ post, isPermRule rules b = false) :
    (classify rules perm (pre ++ a :: post)).permission = normAttr a := by
  simp only [classify, List.foldl_append, List.foldl_cons]
  rw [foldl_permission_keep rules post _ hp]
  simp [classifyOne, ha]

theorem classify_permission_default (rules : Rules) (perm : Str) (as : List Str)
    (hp : ∀ b ∈ as, isPermRule rules b = false) : (classify rules perm as).permission = perm := by
  simp only [classify]
  rw [foldl_permission_keep rules as _ hp]
  rfl

end Ford.DeclLine
