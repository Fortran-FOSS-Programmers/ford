import FordModel.Graph
import FordModel.Lemmas.GraphData
namespace Ford.Graph

/-!
  `get_call_nodes`: the fuel the model supplies always suffices, so `callNodes` *is* the
  set of nearest kept descendants — a function of the entity table and the call list alone,
  whatever other call lists were walked before (no state survives one walk).  After that: `rawCalls`,
  the call lists the node constructors walk, and where `graph_all` takes its per-entity graphs and
  its roots from (`perEntityOf`, `useRootsOf`, `boundRoot`).
-/

/-- what the entities of `l` that were not visited yet can still put on the stack when they are
    expanded (their calls and bindings), plus one step for the expansion itself -/
def budgetAux (tab : Table) (vis : List Node) : List Node → Nat
  | [] => 0
  | i :: is => (if vis.contains i then 0 else (callChildren tab i).length + 1) + budgetAux tab vis is

def budget (tab : Table) (vis : List Node) : Nat := budgetAux tab vis (List.range tab.length)

theorem budgetAux_visit (tab : Table) (c : Node) (vis l : List Node) :
    budgetAux tab (c :: vis) l ≤ budgetAux tab vis l ∧
      (c ∈ l → vis.contains c = false →
        budgetAux tab (c :: vis) l + (callChildren tab c).length + 1 ≤ budgetAux tab vis l) := by
  induction l with
  | nil => exact ⟨Nat.le_refl _, fun h => nomatch h⟩
  | cons i is ih =>
    obtain ⟨ih1, ih2⟩ := ih
    simp only [budgetAux, List.contains_cons, List.mem_cons]
    by_cases hic : i = c
    · subst hic
      simp only [beq_self_eq_true, Bool.true_or, if_true]
      refine ⟨by split <;> omega, fun _ hv => ?_⟩
      simp only [hv, Bool.false_eq_true, if_false]
      omega
    · have hne : (i == c) = false := by simpa using hic
      simp only [hne, Bool.false_or]
      refine ⟨by omega, fun hc hv => ?_⟩
      have := ih2 (hc.resolve_left (Ne.symm hic)) hv
      omega

theorem ent_default_of_le (tab : Table) (c : Node) (h : tab.length ≤ c) : ent tab c = {} := by
  simp [ent, List.getD_eq_getElem?_getD, List.getElem?_eq_none h]

/-- only entities of the table are ever expanded (a name the table does not know is kept) -/
theorem lt_length_of_not_keep (tab : Table) (c : Node) (h : keep tab c = false) : c < tab.length := by
  by_cases hlt : c < tab.length
  · exact hlt
  · have hd := ent_default_of_le tab c (Nat.le_of_not_lt hlt)
    simp [keep, isSimple, hd] at h

/-- **enough fuel, never `none`**: one step per popped element, and every entity is expanded at
    most once -/
theorem callNodesAux_isSome (tab : Table) (fuel : Nat) (stack vis res : List Node)
    (h : budget tab vis + stack.length ≤ fuel) : (callNodesAux tab fuel stack vis res).isSome = true := by
  fun_induction callNodesAux tab fuel stack vis res
  case case1 => simp
  case case2 => simp at h
  case case3 f c rest vis res hv ih =>
    apply ih; simp at h; omega
  case case4 f c rest vis res hv hk ih =>
    apply ih
    have := (budgetAux_visit tab c vis (List.range tab.length)).1
    simp only [budget, List.length_cons] at h ⊢
    omega
  case case5 f c rest vis res hv hk ih =>
    apply ih
    have hk' : keep tab c = false := by simpa using hk
    have hlt := lt_length_of_not_keep tab c hk'
    have := (budgetAux_visit tab c vis (List.range tab.length)).2 (List.mem_range.2 hlt) (by simpa using hv)
    simp only [budget, List.length_cons, List.length_append] at h ⊢
    omega

theorem budgetAux_nil (tab : Table) (l : List Node) :
    budgetAux tab [] l = (l.map fun i => (callChildren tab i).length + 1).sum := by
  induction l with
  | nil => simp [budgetAux]
  | cons i is ih => simp [budgetAux, ih]

theorem map_range_ent (tab : Table) (g : Ent → Nat) :
    (List.range tab.length).map (fun i => g (ent tab i)) = tab.map g := by
  apply List.ext_getElem
  · simp
  · intro i h1 h2
    have hi : i < tab.length := by simpa using h1
    simp [ent, List.getD_eq_getElem?_getD, List.getElem?_eq_getElem hi]

theorem budget_nil_le (tab : Table) : budget tab [] ≤ callFuel tab := by
  have h := map_range_ent tab (fun e => (e.calls ++ e.bindings).length + 1)
  simp only [budget, budgetAux_nil, callChildren, callFuel]
  rw [h]
  simp only [List.length_append]
  omega

theorem callNodes_spec (tab : Table) (calls : List Node) :
    callNodesAux tab (callFuel tab + calls.length) calls [] [] = some (callNodes tab calls) := by
  have h := callNodesAux_isSome tab (callFuel tab + calls.length) calls [] []
    (by have := budget_nil_le tab; omega)
  rw [callNodes]
  cases hr : callNodesAux tab (callFuel tab + calls.length) calls [] [] with
  | none => simp [hr] at h
  | some r => simp

theorem mem_callNodes (tab : Table) (calls : List Node) (x : Node) :
    x ∈ callNodes tab calls ↔ ∃ c ∈ calls, Nearest tab c x :=
  callNodesAux_nearest (callNodes_spec tab calls) x

theorem nearest_skip_iff (tab : Table) (c x : Node) (hk : keep tab c = false) :
    Nearest tab c x ↔ ∃ d ∈ callChildren tab c, Nearest tab d x := by
  constructor
  · intro h
    cases h with
    | here hk' => simp [hk] at hk'
    | skip _ hd hn => exact ⟨_, hd, hn⟩
  · rintro ⟨d, hd, hn⟩
    exact .skip hk hd hn

/-- the calls the constructor of a procedure / program node looks at -/
def rawCalls (tab : Table) (a : Node) : List Node :=
  match (ent tab a).kind with
  | .proc => callChildren tab a
  | .prog => (ent tab a).calls
  | _ => []

/-- `graph_all` draws per-entity graphs for, and takes the roots of the module graph from, the
    registered entities only -/
theorem mem_of_mem_perEntityOf {fx : Bool} {tab : Table} {nd : NodeData} {regs : List Node} {e : Node}
    {c : GClass} {g : GState} (h : (e, c, g) ∈ perEntityOf fx tab nd regs) : e ∈ regs := by
  simp only [perEntityOf, List.mem_flatMap, entityGraphs, List.mem_map, Prod.mk.injEq] at h
  obtain ⟨r, hr, _, _, rfl, _⟩ := h
  exact hr

theorem mem_of_mem_useRootsOf {tab : Table} {regs : List Node} {per : List (Node × GClass × GState)}
    {e : Node} (h : e ∈ useRootsOf tab regs per) : e ∈ regs := by
  simp only [useRootsOf, List.mem_append, List.mem_filter] at h
  rcases h with ((h | h) | h) | h
  · exact h.1
  · exact h.1.1
  · exact h.1.1
  · exact h.1.1

/-- when `graph_all` does *not* make a bound procedure a root of the call graph -/
theorem boundRoot_eq_false {fb : Bool} {tab : Table} {bp : Node} :
    boundRoot fb tab bp = false ↔
      ∃ b, (ent tab bp).bindings = [b] ∧ (ent tab b).isBound = false
        ∧ (fb = true → (ent tab bp).deferred = true ∨ (ent tab b).visibleF = true) := by
  unfold boundRoot
  rcases (ent tab bp).bindings with _ | ⟨b, _ | ⟨c, rest⟩⟩
  · simp
  · cases (ent tab bp).deferred <;> simp
  · simp

/-- the repaired test is `is_simple_binding` -/
theorem boundRoot_fixed {tab : Table} {bp : Node} (h : (ent tab bp).isBound = true) :
    boundRoot true tab bp = !isSimple tab bp := by
  simp [boundRoot, isSimple, h]

theorem mem_callRootsOf_bound {fb : Bool} {tab : Table} {regs : List Node} {per : List (Node × GClass × GState)}
    {t bp : Node} (ht : t ∈ regs) (hk : (ent tab t).kind = .type) (hb : bp ∈ (ent tab t).boundprocs)
    (hroot : boundRoot fb tab bp = true) : bp ∈ callRootsOf fb tab regs per := by
  simp only [callRootsOf, List.mem_append, mem_dedup, List.mem_flatMap, List.mem_filter]
  exact Or.inl (Or.inr ⟨t, ⟨ht, by simp [isKind, hk]⟩, hb, hroot⟩)

end Ford.Graph
