/-
  Lemmas about the `include` queue of `FortranReader` (model: FordModel/Include.lean).
-/
import FordModel.Include
import FordModel.Lemmas.Reader
namespace Ford.Include
open Ford TypeSpec

/-- What Fortran's INCLUDE means for one statement of the queue: an include statement stands for the
    items of the file it names; every other statement (and an include of a missing `.h` file, which
    FORD keeps with a warning) stands for itself. -/
def expand1 (loose : Bool) (resolve : Str → Res) (p : Str) : List Str :=
  match look loose resolve p with
  | .splice l => l
  | _ => [p]

/-- The statement can be dealt with at all: looking the file up does not fail, and - in the variant
    `guarded = false` (finding C02-include-without-statements, repaired in FORD by 8c43f56) - the file gives at least
    one item. -/
def Expandable (guarded loose : Bool) (resolve : Str → Res) (p : Str) : Prop :=
  match look loose resolve p with
  | .fail _ => False
  | .splice [] => guarded = true
  | _ => True

instance (guarded loose : Bool) (resolve : Str → Res) (p : Str) : Decidable (Expandable guarded loose resolve p) := by
  unfold Expandable; split <;> infer_instance

theorem drain_eq_flatMap (c : Cfg) (resolve : Str → Res) (h1 : c.incPrologue = true)
    (h2 : c.incEpilogue = true) (pending : List Str) (mode : Pop) (hm : mode ≠ .blind)
    (h : ∀ p ∈ pending, Expandable c.guarded c.kwLoose resolve p) :
    drain c resolve mode pending = .ok (pending.flatMap (expand1 c.kwLoose resolve)) := by
  induction pending generalizing mode with
  | nil => cases mode <;> simp_all [drain]
  | cons p rest ih =>
    have hp : Expandable c.guarded c.kwLoose resolve p := h p (by simp)
    have hr : ∀ q ∈ rest, Expandable c.guarded c.kwLoose resolve q := fun q hq => h q (by simp [hq])
    have ihp := ih .prologue (by decide) hr
    unfold Expandable at hp
    cases mode with
    | blind => exact absurd rfl hm
    | epilogue | prologue =>
      simp only [drain, h1, h2, ↓reduceIte, List.flatMap_cons, expand1]
      cases hl : look c.kwLoose resolve p with
      | keep => simp [ihp, Except.map]
      | fail e => simp [hl] at hp
      | splice l =>
        cases l with
        | nil =>
          rw [hl] at hp
          simp only [hp, ↓reduceIte]
          exact ih _ hm hr
        | cons x l => simp [ihp, Except.map]

/-- two stretches of the queue drained one after the other give what the whole queue gives -/
theorem drain_append (c : Cfg) (resolve : Str → Res) (h1 : c.incPrologue = true)
    (h2 : c.incEpilogue = true) (a b : List Str)
    (ha : ∀ p ∈ a, Expandable c.guarded c.kwLoose resolve p) (hb : ∀ p ∈ b, Expandable c.guarded c.kwLoose resolve p) :
    drain c resolve .epilogue (a ++ b) =
      (do let x ← drain c resolve .epilogue a; let y ← drain c resolve .epilogue b; pure (x ++ y)) := by
  rw [drain_eq_flatMap c resolve h1 h2 (a ++ b) .epilogue (by decide)
        (fun p hp => by rcases List.mem_append.1 hp with h | h; exact ha p h; exact hb p h),
      drain_eq_flatMap c resolve h1 h2 a .epilogue (by decide) ha,
      drain_eq_flatMap c resolve h1 h2 b .epilogue (by decide) hb]
  simp [List.flatMap_append, bind, Except.bind, pure, Except.pure]

/-- a queue without include statements is returned as it is, wherever `include()` is called -/
theorem drain_no_include (c : Cfg) (resolve : Str → Res) (pending : List Str) (mode : Pop)
    (hm : mode ≠ .blind) (h : ∀ p ∈ pending, isIncludeStmt c.kwLoose p = false) :
    drain c resolve mode pending = .ok pending := by
  induction pending generalizing mode with
  | nil => cases mode <;> simp_all [drain]
  | cons p rest ih =>
    have hp : look c.kwLoose resolve p = .keep := by simp [look, h p (by simp)]
    have ihp := ih .prologue (by decide) (fun q hq => h q (by simp [hq]))
    cases mode with
    | blind => exact absurd rfl hm
    | epilogue => by_cases hc : c.incEpilogue = true <;> simp [drain, hc, hp, ihp, Except.map]
    | prologue => by_cases hc : c.incPrologue = true <;> simp [drain, hc, hp, ihp, Except.map]

theorem quote_not_space (q : Char) (hq : isQuote q = true) : isSpace q = false := by
  simp [isQuote] at hq
  rcases hq with h | h <;> subst h <;> decide

theorem name_between_quotes (n : Nat) (kw ws name : Str) (q : Char) (hk : kw.length = n)
    (hws : isBlank ws = true) (hq : isQuote q = true) :
    ((strip ((kw ++ ws ++ q :: name ++ [q]).drop n)).drop 1).dropLast = name := by
  have hsp := quote_not_space q hq
  have e1 : (kw ++ ws ++ q :: name ++ [q]).drop n = ws ++ q :: (name ++ [q]) := by
    rw [List.append_assoc, List.append_assoc, List.drop_append_of_le_length (by omega), ← hk]
    simp
  have e2 : strip (ws ++ q :: (name ++ [q])) = q :: (name ++ [q]) := by
    unfold strip
    rw [lstrip_blank_append ws _ hws, lstrip_of_not_space q _ hsp]
    have := rstrip_snoc (q :: name) q hsp
    simpa using this
  rw [e1, e2]
  show (name ++ [q]).dropLast = name
  simp

/-- in the repaired variant the blanks between keyword and name are optional (none, or any white space) -/
theorem include_stmt_name_loose (kw ws name : Str) (q : Char) (hk : lower kw = chars! "include")
    (hws : isBlank ws = true) (hq : isQuote q = true) :
    isIncludeStmt true (kw ++ ws ++ q :: name ++ [q]) = true ∧
    includeName true (kw ++ ws ++ q :: name ++ [q]) = name := by
  have hlen : kw.length = 7 := by
    have := congrArg List.length hk
    simpa [lower] using this
  have hsp := quote_not_space q hq
  constructor
  · have e : lower (kw ++ ws ++ q :: name ++ [q]) = chars! "include" ++ lower (ws ++ q :: name ++ [q]) := by
      rw [show kw ++ ws ++ q :: name ++ [q] = kw ++ (ws ++ q :: name ++ [q]) by simp, lower_append, hk]
    have ed : (kw ++ ws ++ q :: name ++ [q]).drop 7 = ws ++ q :: (name ++ [q]) := by
      rw [show kw ++ ws ++ q :: name ++ [q] = kw ++ (ws ++ q :: (name ++ [q])) by simp,
        List.drop_append_of_le_length (by omega), ← hlen]
      simp
    simp only [isIncludeStmt, ↓reduceIte, e, startsWith_append_self, Bool.true_and, ed, quoteNext,
      lstrip_blank_append ws _ hws, lstrip_of_not_space q _ hsp, hq]
  · have := name_between_quotes 7 kw ws name q hlen hws hq
    simpa [includeName] using this

/-- `include` (any capitalisation), a blank, any further blanks, the name between two equal quote
    characters: an include statement in both variants of the recognition, and the name looked up is
    the text between the delimiters, whatever characters it is made of -/
theorem include_stmt_name (loose : Bool) (kw ws name : Str) (q : Char) (hk : lower kw = chars! "include")
    (hws : isBlank ws = true) (hq : isQuote q = true) :
    isIncludeStmt loose (kw ++ ' ' :: ws ++ q :: name ++ [q]) = true ∧
    includeName loose (kw ++ ' ' :: ws ++ q :: name ++ [q]) = name := by
  have hlen : kw.length = 7 := by
    have := congrArg List.length hk
    simpa [lower] using this
  have hws' : isBlank (' ' :: ws) = true := by
    simp only [isBlank, List.all_cons] at hws ⊢
    simp [hws]
    decide
  cases loose with
  | false =>
    constructor
    · have e : lower (kw ++ ' ' :: ws ++ q :: name ++ [q]) = chars! "include " ++ lower (ws ++ q :: name ++ [q]) := by
        rw [show kw ++ ' ' :: ws ++ q :: name ++ [q] = kw ++ ([' '] ++ (ws ++ q :: name ++ [q])) by simp,
          lower_append, lower_append, hk]
        rfl
      simp only [isIncludeStmt, Bool.false_eq_true, ↓reduceIte, e]
      exact startsWith_append_self _ _
    · have := name_between_quotes 8 (kw ++ [' ']) ws name q (by simp [hlen]) hws hq
      simpa [includeName] using this
  | true => exact include_stmt_name_loose kw (' ' :: ws) name q hk hws' hq

end Ford.Include
