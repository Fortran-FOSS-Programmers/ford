import FordModel.Nav
namespace Ford.Nav

/-! Soundness of `valid`.  A well-formed condition compares counts with 0 and 1 only, so a count matters
    only up to 2; and it looks at the lists and options it names only.  Hence the shape `⟨f, b⟩` that agrees
    with `sh` in this sense on those names gives the condition the value it has at `sh`, and `asgs`/`basgs`
    list such an `f` and `b`. -/

/-- with counts cut off at 2 a numeric expression keeps its value, or is at least 2 before and after -/
theorem evalN_cut (sh : Shape) (f : Str → Nat) (b : Str → Bool) (e : NExpr)
    (h : ∀ x ∈ namesN e, f x = min (sh.count x) 2) :
    evalN ⟨f, b⟩ e = evalN sh e ∨ (2 ≤ evalN ⟨f, b⟩ e ∧ 2 ≤ evalN sh e) := by
  induction e with
  | len l =>
    show f l = sh.count l ∨ (2 ≤ f l ∧ 2 ≤ sh.count l)
    rw [h l List.mem_cons_self]
    rcases Nat.le_total (sh.count l) 2 with h | h
    · exact Or.inl (Nat.min_eq_left h)
    · exact Or.inr ⟨Nat.le_of_eq (Nat.min_eq_right h).symm, h⟩
  | lit n => exact Or.inl rfl
  | add a c iha ihc =>
    have h := List.forall_mem_append.1 h
    rcases iha h.1 with ha | ha
    · rcases ihc h.2 with hc | hc
      · exact Or.inl (by rw [evalN, evalN, ha, hc])
      · exact Or.inr ⟨Nat.le_trans hc.1 (Nat.le_add_left ..), Nat.le_trans hc.2 (Nat.le_add_left ..)⟩
    · exact Or.inr ⟨Nat.le_trans ha.1 (Nat.le_add_right ..), Nat.le_trans ha.2 (Nat.le_add_right ..)⟩

/-- such a pair of values is told apart by no comparison with 0 or 1 -/
theorem decide_cut {a b n : Nat} (h : a = b ∨ (2 ≤ a ∧ 2 ≤ b)) (hn : n ≤ 1) :
    decide (a > n) = decide (b > n) ∧ decide (a = n) = decide (b = n) := by
  rcases h with rfl | ⟨ha, hb⟩
  · exact ⟨rfl, rfl⟩
  · have ha := Nat.lt_of_le_of_lt hn ha
    have hb := Nat.lt_of_le_of_lt hn hb
    exact ⟨by rw [decide_eq_true ha, decide_eq_true hb],
      by rw [decide_eq_false (Nat.ne_of_gt ha), decide_eq_false (Nat.ne_of_gt hb)]⟩

theorem eval_cut (sh : Shape) (f : Str → Nat) (b : Str → Bool) (c : Cond) (hwf : wf c = true)
    (h : ∀ x ∈ names c, f x = min (sh.count x) 2) (hb : ∀ x ∈ opts c, b x = sh.opt x) :
    eval ⟨f, b⟩ c = eval sh c := by
  induction c with
  | tt => rfl
  | gt e n => exact (decide_cut (evalN_cut sh f b e h) (of_decide_eq_true hwf)).1
  | eq e n => exact (decide_cut (evalN_cut sh f b e h) (of_decide_eq_true hwf)).2
  | opt o => exact hb o List.mem_cons_self
  | and a c iha ihc =>
    have hwf : wf a = true ∧ wf c = true := Bool.and_eq_true_iff.1 hwf
    have h := List.forall_mem_append.1 h
    have hb := List.forall_mem_append.1 hb
    show (eval _ a && eval _ c) = (eval sh a && eval sh c)
    rw [iha hwf.1 h.1 hb.1, ihc hwf.2 h.2 hb.2]
  | or a c iha ihc =>
    have hwf : wf a = true ∧ wf c = true := Bool.and_eq_true_iff.1 hwf
    have h := List.forall_mem_append.1 h
    have hb := List.forall_mem_append.1 hb
    show (eval _ a || eval _ c) = (eval sh a || eval sh c)
    rw [iha hwf.1 h.1 hb.1, ihc hwf.2 h.2 hb.2]
  | not a iha => exact congrArg not (iha hwf h hb)

/-- `asgs` and `basgs` are the instances `F` of one scheme: every function with values in `vs` is matched,
    on the given names, by one of the functions built name by name -/
theorem assignments_complete {α : Type} (vs : List α) (d : α) (F : List Str → List (Str → α))
    (h0 : F [] = [fun _ => d])
    (hs : ∀ n ns, F (n :: ns) = (F ns).flatMap fun f => vs.map fun v => fun x => if x = n then v else f x)
    (g : Str → α) (hg : ∀ x, g x ∈ vs) (ns : List Str) : ∃ f ∈ F ns, ∀ x ∈ ns, f x = g x := by
  induction ns with
  | nil => exact ⟨fun _ => d, h0 ▸ List.mem_singleton_self _, fun _ hx => by cases hx⟩
  | cons n ns ih =>
    obtain ⟨f, hf, hfx⟩ := ih
    refine ⟨fun x => if x = n then g n else f x, ?_, fun x hx => ?_⟩
    · rw [hs]
      exact List.mem_flatMap.2 ⟨f, hf, List.mem_map.2 ⟨g n, hg n, rfl⟩⟩
    · show (if x = n then g n else f x) = g x
      by_cases hxn : x = n
      · rw [if_pos hxn, hxn]
      · rw [if_neg hxn]
        exact hfx x ((List.mem_cons.1 hx).resolve_left hxn)

/-- Soundness of the decision procedure: a condition accepted by `valid` holds
    for **every** project shape (all counts, all option values). -/
theorem valid_sound (c : Cond) (h : valid c = true) (sh : Shape) : eval sh c = true := by
  simp only [valid, Bool.and_eq_true, List.all_eq_true] at h
  obtain ⟨hwf, hall⟩ := h
  have hcut : ∀ k, k ≤ 2 → k ∈ [0, 1, 2] := by decide
  obtain ⟨f, hf, hfx⟩ := assignments_complete [0, 1, 2] 0 asgs rfl (fun _ _ => rfl)
    (fun x => min (sh.count x) 2) (fun _ => hcut _ (Nat.min_le_right ..)) (names c).eraseDups
  obtain ⟨b, hb, hbx⟩ := assignments_complete [false, true] false basgs rfl (fun _ _ => rfl)
    sh.opt (fun x => by cases sh.opt x <;> simp) (opts c).eraseDups
  rw [← eval_cut sh f b c hwf (fun x hx => hfx x (List.mem_eraseDups.2 hx))
    fun x hx => hbx x (List.mem_eraseDups.2 hx)]
  exact hall f hf b hb

theorem eval_disj (sh : Shape) (cs : List Cond) : eval sh (disj cs) = cs.any (eval sh) := by
  induction cs with
  | nil => simp [disj, Cond.ff, eval]
  | cons c cs ih => simp [disj, eval, ih]

theorem eval_imp (sh : Shape) (a b : Cond) : eval sh (imp a b) = true ↔ (eval sh a = true → eval sh b = true) := by
  simp only [imp, eval]
  cases eval sh a <;> cases eval sh b <;> simp

/-- how the checks of the tables are used: an accepted implication carries its premise to its
    conclusion on every project shape -/
theorem valid_imp {a b : Cond} (h : valid (imp a b) = true) (sh : Shape) (ha : eval sh a = true) :
    eval sh b = true :=
  (eval_imp sh a b).1 (valid_sound _ h sh) ha

theorem contains_filter_fst (sh : Shape) (p : Str) (es : List (Str × Cond)) :
    ((es.filter fun e => eval sh e.2).map (·.1)).contains p = es.any fun e => isPage p e && eval sh e.2 := by
  rw [List.contains_eq_any_beq, List.any_map, List.any_filter]
  refine congrArg es.any (funext fun e => ?_)
  have : (p == e.1) = isPage p e :=
    Bool.eq_iff_iff.2 (by rw [beq_iff_eq, isPage, decide_eq_true_eq]; exact eq_comm)
  rw [Bool.and_comm, ← this]
  rfl

theorem targetExists_eq (T : Tables) (sh : Shape) (t : Target) :
    targetExists T sh t = eval sh (targetCond T t) := by
  cases t with
  | list p =>
    rw [targetExists, targetCond, listPages, eval_disj, List.any_map, List.any_filter, contains_filter_fst]
    rfl
  | first l =>
    rw [targetExists, targetCond, firstPageExists, eval, eval_disj, List.any_map, List.any_filter]
    rfl

end Ford.Nav
