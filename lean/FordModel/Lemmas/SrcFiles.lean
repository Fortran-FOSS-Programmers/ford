/-
  Lemmas about the model of `find_all_files` (FordModel/SrcFiles.lean).
-/
import FordModel.SrcFiles
namespace Ford.SrcFiles
open Ford Ford.TypeSpec

theorem mem_addNew (acc : List Str) (x y : Str) : y ∈ addNew acc x ↔ y ∈ acc ∨ y = x := by
  unfold addNew
  split
  · rename_i h
    have hx : x ∈ acc := by simpa using h
    exact ⟨Or.inl, fun hy => hy.elim id (· ▸ hx)⟩
  · simp

theorem addNew_nodup (acc : List Str) (x : Str) (h : acc.Nodup) : (addNew acc x).Nodup := by
  unfold addNew
  split
  · exact h
  · rename_i hc
    have hx : x ∉ acc := by simpa using hc
    rw [List.nodup_append]
    refine ⟨h, by simp, ?_⟩
    intro a ha b hb
    simp at hb
    intro hab
    rw [hab, hb] at ha
    exact hx ha

theorem insertAll_nodup (xs : List Str) : ∀ acc : List Str, acc.Nodup → (insertAll acc xs).Nodup := by
  induction xs with
  | nil => intro acc h; simpa [insertAll] using h
  | cons x xs ih => intro acc h; simp only [insertAll]; exact ih _ (addNew_nodup acc x h)

theorem mem_insertAll (xs : List Str) : ∀ (acc : List Str) (y : Str), y ∈ insertAll acc xs ↔ y ∈ acc ∨ y ∈ xs := by
  induction xs with
  | nil => intro acc y; simp [insertAll]
  | cons x xs ih =>
    intro acc y
    simp only [insertAll]
    rw [ih, mem_addNew]
    simp only [List.mem_cons, or_assoc]

theorem mem_hits (dirs exts : List Str) (tree : List Entry) (s : Str) :
    s ∈ hits dirs exts tree ↔ ∃ x ∈ tree, x.path = s ∧ ∃ d ∈ dirs, ∃ e ∈ exts, globHit d e x = true := by
  simp only [hits, List.mem_flatMap, List.mem_map, List.mem_filter]
  constructor
  · rintro ⟨d, hd, e, he, x, ⟨hx, hg⟩, hp⟩
    exact ⟨x, hx, hp, d, hd, e, he, hg⟩
  · rintro ⟨x, hx, hp, d, hd, e, he, hg⟩
    exact ⟨d, hd, e, he, x, ⟨hx, hg⟩, hp⟩

theorem collect_nodup (dirs exts : List Str) (tree : List Entry) : (collect dirs exts tree).Nodup :=
  insertAll_nodup _ [] List.nodup_nil

theorem mem_collect (dirs exts : List Str) (tree : List Entry) (s : Str) :
    s ∈ collect dirs exts tree ↔ ∃ x ∈ tree, x.path = s ∧ ∃ d ∈ dirs, ∃ e ∈ exts, globHit d e x = true := by
  unfold collect
  rw [mem_insertAll, mem_hits]
  simp

theorem dropDirs_nodup (ds : List Str) : ∀ fs : List Str, fs.Nodup → (dropDirs ds fs).Nodup := by
  induction ds with
  | nil => intro fs h; simpa [dropDirs] using h
  | cons d ds ih => intro fs h; simp only [dropDirs]; exact ih _ (h.sublist List.filter_sublist)

theorem mem_dropDirs (ds : List Str) : ∀ (fs : List Str) (s : Str),
    s ∈ dropDirs ds fs ↔ s ∈ fs ∧ ∀ d ∈ ds, fnm (d ++ (chars! "/*")) s = false := by
  induction ds with
  | nil => intro fs s; simp [dropDirs]
  | cons d ds ih =>
    intro fs s
    simp only [dropDirs]
    rw [ih]
    simp only [List.mem_filter, List.mem_cons, Bool.not_eq_true', forall_eq_or_imp, and_assoc]

theorem dropFiles_nodup (cwd : Str) (ps : List Str) : ∀ fs : List Str, fs.Nodup → (dropFiles cwd ps fs).Nodup := by
  induction ps with
  | nil => intro fs h; simpa [dropFiles] using h
  | cons p ps ih => intro fs h; simp only [dropFiles]; exact ih _ (h.sublist List.filter_sublist)

theorem mem_dropFiles (cwd : Str) (ps : List Str) : ∀ (fs : List Str) (s : Str),
    s ∈ dropFiles cwd ps fs ↔ s ∈ fs ∧ ∀ p ∈ ps, fnm p (relTo cwd s) = false := by
  induction ps with
  | nil => intro fs s; simp [dropFiles]
  | cons p ps ih =>
    intro fs s
    simp only [dropFiles]
    rw [ih]
    simp only [List.mem_filter, List.mem_cons, Bool.not_eq_true', forall_eq_or_imp, and_assoc]

/-- a prefix of a prefix is a prefix -/
theorem startsWith_of_append (s p q : Str) (h : startsWith s (p ++ q) = true) : startsWith s p = true := by
  induction p generalizing s with
  | nil => cases s <;> simp [startsWith]
  | cons a as ih =>
    cases s with
    | nil => simp [startsWith] at h
    | cons c cs =>
      simp only [List.cons_append, startsWith, Bool.and_eq_true] at h ⊢
      exact ⟨h.1, ih cs h.2⟩

/-- what lies below a directory inside `d` lies below `d` -/
theorem globHit_nested (d sub e : Str) (x : Entry) (h : globHit (d ++ '/' :: sub) e x = true) : globHit d e x = true := by
  simp only [globHit, Bool.and_eq_true] at h ⊢
  refine ⟨?_, h.2⟩
  have : (d ++ '/' :: sub) ++ ['/'] = (d ++ ['/']) ++ (sub ++ ['/']) := by simp
  rw [this] at h
  exact startsWith_of_append _ _ _ h.1

end Ford.SrcFiles
