/-
  Lemmas about literal cut-out / re-insertion and the display strings (C18).
-/
import FordModel.Show
import FordModel.Lemmas.Chars
namespace Ford.Show

theorem tmplExpand_doubleBs (s : Str) : tmplExpand (doubleBs s) = .ok s := by
  induction s with
  | nil => simp [doubleBs, tmplExpand]
  | cons c cs ih =>
    by_cases hc : c = '\\'
    · subst hc
      simp [doubleBs, tmplExpand, ih, Except.map]
    · simp only [doubleBs, beq_iff_eq, hc, if_false]
      cases hds : doubleBs cs with
      | nil =>
        rw [hds] at ih
        simp [tmplExpand] at ih
        simp [tmplExpand, hc, ← ih]
      | cons d r =>
        rw [hds] at ih
        simp [tmplExpand, hc, ih, Except.map]

theorem unNbsp_nbspGo (s : Str) (b : Bool) (h : ∀ c ∈ s, c ≠ nbspChar) : unNbsp (nbspGo b s) = s := by
  fun_induction nbspGo b s with
  | case1 => rfl
  | case2 prev c hc =>
    have : c = ' ' := by simpa using hc
    subst this
    cases prev <;> rfl
  | case3 prev c hc =>
    have hn : c ≠ nbspChar := h c (by simp)
    simp [unNbsp, hn]
  | case4 prev c d r hc ih =>
    have : c = ' ' := by simpa using hc
    subst this
    have ih' := ih (fun x hx => h x (List.mem_cons_of_mem _ hx))
    simp only [unNbsp] at ih' ⊢
    rw [List.map_cons, ih']
    split <;> rfl
  | case5 prev c d r hc ih =>
    have hn : c ≠ nbspChar := h c (by simp)
    have ih' := ih (fun x hx => h x (List.mem_cons_of_mem _ hx))
    simp only [unNbsp] at ih' ⊢
    rw [List.map_cons, ih']
    simp [hn]

theorem nbspGo_length (s : Str) (b : Bool) : (nbspGo b s).length = s.length := by
  fun_induction nbspGo b s <;> simp_all
  all_goals (try split) <;> simp_all

theorem litEnd_pos (q : Char) (s : Str) : ∀ n, litEnd q s = some n → 1 ≤ n := by
  fun_induction litEnd q s <;> simp_all <;> omega

/-- the part of the literal being cut out that `cutGo` has read so far (the invariant of `segOriginal_cutGo`) -/
def CutSt.pending : CutSt → Str
  | .lit _ cur => cur.reverse
  | _ => []

/- `pending` on each state, for `simp` (unfolding `pending` itself leaves a `match`) -/
theorem pending_scan : CutSt.scan.pending = [] := rfl
theorem pending_verb (n : Nat) : (CutSt.verb n).pending = [] := rfl
theorem pending_lit (n : Nat) (cur : Str) : (CutSt.lit n cur).pending = cur.reverse := rfl
theorem pending_ite (c : Prop) [Decidable c] (n : Nat) :
    (if c then CutSt.scan else CutSt.verb n).pending = [] := by split <;> rfl

theorem segOriginal_cutGo (cs : Str) (k : Nat) (st : CutSt) :
    segOriginal (cutGo cs k st) = st.pending ++ cs := by
  fun_induction cutGo cs k st <;> simp_all [segOriginal, pending_ite, pending_scan, pending_lit, pending_verb]
  next st h => cases st <;> simp_all [pending_scan, pending_verb]

/-- the shape of a segment list: texts kept, literal contents forgotten -/
def segShape : List Seg → List (Option Char)
  | [] => []
  | .txt c :: r => some c :: segShape r
  | .lit _ :: r => none :: segShape r

theorem segMasked_shape (a b : List Seg) (k : Nat) (h : segShape a = segShape b) :
    segMasked a k = segMasked b k := by
  induction a generalizing b k with
  | nil =>
    cases b with
    | nil => rfl
    | cons y ys => cases y <;> simp [segShape] at h
  | cons x xs ih =>
    cases b with
    | nil => cases x <;> simp [segShape] at h
    | cons y ys =>
      cases x <;> cases y <;> simp [segShape] at h
      · simp [segMasked, h.1, ih ys k h.2]
      · simp [segMasked, ih ys (k + 1) h]

theorem removeSpaces_cons (c : Char) (s : Str) :
    removeSpaces (c :: s) = (if c = ' ' then [] else [c]) ++ removeSpaces s := by
  by_cases h : c = ' ' <;> simp [removeSpaces, h]

theorem findIdx?_skip (p : Char) : ∀ (nm rest : Str) (i : Nat), (∀ x ∈ nm, x ≠ p) →
    findIdx? p (nm ++ rest) i = findIdx? p rest (i + nm.length)
  | [], rest, i, _ => by simp
  | x :: nm, rest, i, h => by
    have hx : (x == p) = false := by simpa using h x (by simp)
    have ih := findIdx?_skip p nm rest (i + 1) (fun y hy => h y (by simp [hy]))
    simp only [List.cons_append, findIdx?, hx, Bool.false_eq_true, if_false, ih, List.length_cons]
    congr 1; omega

theorem findIdx?_ge (p : Char) : ∀ (s : Str) (i j : Nat), findIdx? p s i = some j → i ≤ j
  | [], _, _, h => by simp [findIdx?] at h
  | c :: cs, i, j, h => by
    simp only [findIdx?] at h
    split at h
    · simp at h; omega
    · have := findIdx?_ge p cs (i + 1) j h; omega

/-- position of a delimiter in `nm ++ c :: rest` when `nm` (non-empty) has none: at the end of `nm` if it is `c`,
    behind it otherwise -/
theorem posIdx_skip (p c : Char) (nm rest : Str) (hne : nm ≠ []) (h : ∀ x ∈ nm, x ≠ p) :
    (c = p → posIdx p (nm ++ c :: rest) = some nm.length) ∧
    (∀ j, posIdx p (nm ++ c :: rest) = some j → nm.length ≤ j) := by
  have hl : 0 < nm.length := List.length_pos_iff.mpr hne
  have hf := findIdx?_skip p nm (c :: rest) 0 h
  simp only [Nat.zero_add] at hf
  constructor
  · intro e
    subst e
    unfold posIdx
    rw [hf]
    simp only [findIdx?, beq_self_eq_true, if_true]
    split
    · rename_i h0; simp only [Option.some.injEq] at h0; omega
    · rename_i r _ ; rfl
  · intro j hj
    unfold posIdx at hj
    rw [hf] at hj
    split at hj
    · cases hj
    · exact findIdx?_ge p _ _ _ hj

theorem not_nameDelim {x : Char} (h : isNameDelim x = false) : x ≠ '(' ∧ x ≠ '[' ∧ x ≠ '*' := by
  simpa [isNameDelim, and_assoc] using h

theorem minOpt_left (n : Nat) (b : Option Nat) (hb : ∀ j, b = some j → n ≤ j) : minOpt (some n) b = some n := by
  cases b with
  | none => rfl
  | some y => simp [minOpt, Nat.min_eq_left (hb y rfl)]

theorem minOpt_right (n : Nat) (a : Option Nat) (ha : ∀ j, a = some j → n ≤ j) : minOpt a (some n) = some n := by
  cases a with
  | none => rfl
  | some x => simp [minOpt, Nat.min_eq_right (ha x rfl)]

theorem minOpt_ge {n : Nat} {a b : Option Nat} (ha : ∀ j, a = some j → n ≤ j) (hb : ∀ j, b = some j → n ≤ j) :
    ∀ j, minOpt a b = some j → n ≤ j := by
  intro j hj
  cases a <;> cases b <;> simp only [minOpt, Option.some.injEq, reduceCtorEq] at hj
  · exact hb j (congrArg some hj)
  · exact ha j (congrArg some hj)
  · have := ha _ rfl
    have := hb _ rfl
    omega

/-- the name of an entity is the text in front of its first `(`, `[` or `*`, whichever of the three comes
    first *in the text* -/
theorem splitNameDim_leading (nm rest : Str) (c : Char) (hne : nm ≠ [])
    (h : ∀ x ∈ nm, isNameDelim x = false) (hc : isNameDelim c = true) :
    splitNameDim (nm ++ c :: rest) = (nm, c :: rest) := by
  have hp : ∀ x ∈ nm, x ≠ '(' := fun x hx => (not_nameDelim (h x hx)).1
  have hb : ∀ x ∈ nm, x ≠ '[' := fun x hx => (not_nameDelim (h x hx)).2.1
  have hs : ∀ x ∈ nm, x ≠ '*' := fun x hx => (not_nameDelim (h x hx)).2.2
  have P := posIdx_skip '(' c nm rest hne hp
  have B := posIdx_skip '[' c nm rest hne hb
  have S := posIdx_skip '*' c nm rest hne hs
  -- no delimiter is found before the end of `nm`, and the one that `c` is is found there
  have hmin : minOpt (posIdx '(' (nm ++ c :: rest))
      (minOpt (posIdx '[' (nm ++ c :: rest)) (posIdx '*' (nm ++ c :: rest))) = some nm.length := by
    simp only [isNameDelim, Bool.or_eq_true, beq_iff_eq] at hc
    rcases hc with (e | e) | e
    · rw [P.1 e, minOpt_left _ _ (minOpt_ge B.2 S.2)]
    · rw [B.1 e, minOpt_left _ _ S.2, minOpt_right _ _ P.2]
    · rw [S.1 e, minOpt_right _ _ B.2, minOpt_right _ _ P.2]
  unfold splitNameDim
  rw [hmin]
  simp

theorem posIdx_none_of_absent (p : Char) (nm : Str) (h : ∀ x ∈ nm, x ≠ p) : posIdx p nm = none := by
  have hf := findIdx?_skip p nm [] 0 h
  simp only [List.append_nil] at hf
  unfold posIdx
  rw [hf]
  simp [findIdx?]

theorem splitNameDim_plain (nm : Str) (h : ∀ x ∈ nm, isNameDelim x = false) : splitNameDim nm = (nm, []) := by
  have hp : ∀ x ∈ nm, x ≠ '(' := fun x hx => (not_nameDelim (h x hx)).1
  have hb : ∀ x ∈ nm, x ≠ '[' := fun x hx => (not_nameDelim (h x hx)).2.1
  have hs : ∀ x ∈ nm, x ≠ '*' := fun x hx => (not_nameDelim (h x hx)).2.2
  unfold splitNameDim
  rw [posIdx_none_of_absent _ _ hp, posIdx_none_of_absent _ _ hb, posIdx_none_of_absent _ _ hs]
  rfl

/-- `body` is the rest of a well-formed literal opened by `q`: characters other than `q` and
    doubled `q`s, then the closing `q`. -/
def litTail (q : Char) : Str → Bool
  | [] => false
  | [c] => c == q
  | c :: d :: r => if c == q then (d == q && litTail q r) else litTail q (d :: r)

/-- the regex engine finds a well-formed literal as a whole when the text after it does not
    start with the same quote -/
theorem litEnd_of_litTail (q : Char) (body : Str) :
    ∀ rest : Str, litTail q body = true → rest.head? ≠ some q →
      litEnd q (body ++ rest) = some body.length := by
  fun_induction litTail q body
  · intro rest h; simp at h
  · rename_i c
    intro rest h hr
    simp at h
    subst h
    cases rest with
    | nil => simp [litEnd]
    | cons d r =>
      have : d ≠ c := by intro e; subst e; simp at hr
      simp [litEnd, this]
  · rename_i c d r hc ih
    intro rest h hr
    simp at h
    obtain ⟨hd, ht⟩ := h
    have hcq : c = q := by simpa using hc
    subst hcq; subst hd
    simp [litEnd, ih rest ht hr]
  · rename_i c d r hc ih
    intro rest h hr
    have hcq : ¬ c = q := by simpa using hc
    have := ih rest h hr
    simp only [List.cons_append] at this ⊢
    simp [litEnd, hcq, this]

theorem litTail_cons_ne (q c : Char) (t : Str) (hc : c ≠ q) (h : litTail q t = true) :
    litTail q (c :: t) = true := by
  cases t with
  | nil => simp [litTail] at h
  | cons d r => simp [litTail, hc, h]

theorem litTail_nbspGo (q : Char) (hq : isQuote q = true) (body : Str) :
    ∀ b : Bool, litTail q body = true → litTail q (nbspGo b body) = true := by
  have hsp : q ≠ ' ' := by intro e; subst e; simp [isQuote] at hq
  have hnb : q ≠ nbspChar := by intro e; subst e; simp [isQuote, nbspChar] at hq
  fun_induction litTail q body
  · -- empty text: not a literal tail
    intro b h; simp at h
  · -- one character: the closing quote, which is not a blank
    rename_i c
    intro b h
    simp at h
    subst h
    simp [nbspGo, hsp, litTail]
  · -- a doubled quote: both characters are copied
    rename_i c d r hc ih
    intro b h
    simp at h
    obtain ⟨hd, ht⟩ := h
    have hcq : c = q := by simpa using hc
    subst hcq; subst hd
    cases r with
    | nil => simp [litTail] at ht
    | cons e r' =>
      have := ih false ht
      simp only [nbspGo, beq_iff_eq, hsp, if_false]
      simp [litTail, this]
  · -- any other character: copied, or a blank that stays a blank or becomes NBSP - never the quote
    rename_i c d r hc ih
    intro b h
    have hcq : ¬ c = q := by simpa using hc
    by_cases hcs : c = ' '
    · subst hcs
      simp only [nbspGo, beq_self_eq_true, if_true]
      refine litTail_cons_ne q _ _ ?_ (ih true h)
      split
      · exact Ne.symm hnb
      · exact Ne.symm hsp
    · simp only [nbspGo, beq_iff_eq, hcs, if_false]
      exact litTail_cons_ne q c _ hcq (ih false h)

theorem lowerChar_of_isDigit (c : Char) (h : c.isDigit = true) : lowerChar c = c := by
  simp only [Char.isDigit, Bool.and_eq_true, decide_eq_true_eq] at h
  unfold lowerChar
  have : ¬ ('A' ≤ c ∧ c ≤ 'Z') := by
    intro ⟨h1, _⟩
    have h2 := h.2
    simp only [Char.le_def] at h1
    revert h1 h2
    generalize c.val = v
    intro a b
    have : ('A' : Char).val = 65 := by decide
    rw [this] at b
    exact absurd (UInt32.le_trans b a) (by decide)
  simp [this]

theorem map_id_of_mem (f : Char → Char) (s : Str) (h : ∀ c ∈ s, f c = c) : s.map f = s := by
  induction s with
  | nil => rfl
  | cons c cs ih => simp [h c (by simp), ih (fun d hd => h d (by simp [hd]))]

theorem lower_natStr (k : Nat) : lower (natStr k) = natStr k := by
  have h : ∀ c ∈ natStr k, lowerChar c = c := by
    intro c hc
    apply lowerChar_of_isDigit
    simp only [natStr, toString, Nat.repr, String.toList_ofList] at hc
    exact Nat.isDigit_of_mem_toDigits (by decide) (by decide) hc
  unfold lower
  exact map_id_of_mem _ _ h

theorem lower_maskOf (k : Nat) : lower (maskOf k) = maskOf k := by
  have hq : lowerChar '"' = '"' := by decide
  have h := lower_natStr k
  simp only [lower] at h
  simp [maskOf, lower, hq, h]

theorem lower_segMasked (segs : List Seg) (k : Nat) :
    lower (segMasked segs k) = segMasked (lowerSegs segs) k := by
  fun_induction segMasked segs k <;> simp_all [lowerSegs, segMasked, lower_append, lower_maskOf]
  all_goals simp_all [lower]

theorem segStrings_lowerSegs (segs : List Seg) : segStrings (lowerSegs segs) = segStrings segs := by
  fun_induction lowerSegs segs <;> simp_all [segStrings]

theorem lowerChar_beq_quote (q c : Char) (hq : isQuote q = true) : (lowerChar c == q) = (c == q) := by
  refine lowerChar_beq c q ?_
  simp only [isQuote, Bool.or_eq_true, beq_iff_eq] at hq
  rcases hq with rfl | rfl <;> decide

theorem lowerChar_quote (c : Char) (hq : isQuote c = true) : lowerChar c = c := by
  simpa using lowerChar_beq_quote c c hq

theorem isQuote_lowerChar (c : Char) : isQuote (lowerChar c) = isQuote c := by
  rw [isQuote, lowerChar_beq c '\'' (by decide), lowerChar_beq c '"' (by decide), isQuote]

theorem litEnd_lower (q : Char) (hq : isQuote q = true) (s : Str) : litEnd q (lower s) = litEnd q s := by
  fun_induction litEnd q s <;> simp_all [lower, litEnd, lowerChar_beq_quote]

def CutSt.lowered : CutSt → CutSt
  | .lit n cur => .lit n (lower cur)
  | st => st

theorem verbExtra_lower (k : Nat) (cs : Str) : verbExtra k (lower cs) = verbExtra k cs := by
  have h : natStr k ++ '"' :: lower cs = lower (natStr k ++ '"' :: cs) := by
    have hq : lowerChar '"' = '"' := by decide
    have := lower_natStr k
    simp only [lower] at this
    simp [lower, hq, this]
  simp only [verbExtra, h, litEnd_lower '"' (by decide)]

theorem lower_reverse (s : Str) : lower s.reverse = (lower s).reverse := by simp [lower]

/- `lower` and `lowered` case by case, for `simp` -/
theorem lower_nil : lower [] = [] := rfl
theorem lower_cons (c : Char) (cs : Str) : lower (c :: cs) = lowerChar c :: lower cs := rfl
theorem lowered_scan : CutSt.scan.lowered = .scan := rfl
theorem lowered_verb (n : Nat) : (CutSt.verb n).lowered = .verb n := rfl
theorem lowered_lit (n : Nat) (cur : Str) : (CutSt.lit n cur).lowered = .lit n (lower cur) := rfl
theorem lowered_ite (c : Prop) [Decidable c] (n : Nat) :
    (if c then CutSt.scan else CutSt.verb n).lowered = (if c then CutSt.scan else CutSt.verb n) := by
  split <;> rfl

theorem lower_isEmpty (s : Str) : (lower s).isEmpty = s.isEmpty := by cases s <;> rfl

/-- cutting commutes with lower-casing: `lowered` touches only the buffer of the literal being read, quotes are their
    own lower case (`lowerChar_quote`), so the scanner takes the same branch at every character.  The cases are those of
    `cutGo`, in its order: end of text (3), inside a literal (last character / not), skipping (`verb`), and
    scanning (quote that closes / quote that does not / other character). -/
theorem cutGo_lower (cs : Str) (k : Nat) (st : CutSt) :
    cutGo (lower cs) k st.lowered = lowerAllSegs (cutGo cs k st) := by
  fun_induction cutGo cs k st
  · simp_all [lower_nil, lowered_lit, cutGo, lowerAllSegs]
  · simp_all [lower_nil, lowered_lit, cutGo, lowerAllSegs, lower_isEmpty, lower_reverse]
  · rename_i k st h
    cases st <;> simp_all [lower_nil, lowered_scan, lowered_verb, cutGo, lowerAllSegs]
  · rename_i c cs k skip cur h ih
    rw [lowered_ite] at ih
    simp only [beq_iff_eq] at ih
    simp [lower_cons, lowered_lit, cutGo, h, lowerAllSegs, verbExtra_lower]
    exact ⟨by simp [lower], by simpa [lower] using ih⟩
  · rename_i c cs k skip cur h ih
    have h' : ¬ skip ≤ 1 := by omega
    simp only [lowered_lit, lower_cons] at ih ⊢
    simp [cutGo, h', ih]
  · rename_i c cs k n ih
    rw [lowered_ite] at ih
    simp [lower_cons, lowered_verb, cutGo, lowerAllSegs, ih]
  · rename_i c cs k hq n hl ih
    simp only [lowered_lit, lower_cons, lower_nil, lowered_scan] at ih ⊢
    have hl' : litEnd (lowerChar c) (lower cs) = some n := by
      rw [lowerChar_quote c hq, litEnd_lower c hq, hl]
    simp [cutGo, isQuote_lowerChar, hq, hl', ih]
  · rename_i c cs k hq hl ih
    simp only [lower_cons, lowered_scan] at ih ⊢
    have hl' : litEnd (lowerChar c) (lower cs) = none := by
      rw [lowerChar_quote c hq, litEnd_lower c hq, hl]
    simp [cutGo, isQuote_lowerChar, hq, hl', ih, lowerAllSegs]
  · rename_i c cs k hq ih
    simp only [lower_cons, lowered_scan] at ih ⊢
    simp [cutGo, isQuote_lowerChar, hq, ih, lowerAllSegs]

theorem lower_segOriginal_lowerSegs (segs : List Seg) :
    lower (segOriginal (lowerSegs segs)) = lower (segOriginal segs) := by
  fun_induction lowerSegs segs <;> simp_all [segOriginal, lower_cons, lowerChar_idem, lower_append]

theorem segStrings_lowerAllSegs (segs : List Seg) :
    segStrings (lowerAllSegs segs) = (segStrings segs).map lower := by
  fun_induction lowerAllSegs segs <;> simp_all [segStrings]

theorem segMasked_lowerAllSegs (segs : List Seg) (k : Nat) :
    segMasked (lowerAllSegs segs) k = segMasked (lowerSegs segs) k := by
  fun_induction segMasked segs k <;> simp_all [lowerAllSegs, lowerSegs, segMasked]

end Ford.Show
