/-
  C09 — when a graph node has a URL, and which one.
-/
import FordModel.GraphUrl
import FordModel.Lemmas.Path
namespace Ford.GraphUrl
open Ford Ford.Path

theorem nodeUrl_some (T : Tables) (n : Node) (r : List Seg) (h : nodeUrl T n = some r) :
    shown T n = true ∧ ∃ u, n.url = some u ∧ u ≠ [] ∧
      (r = u ∧ (T.keepsForeign && (n.fromStr || n.external)) = true ∨
       r = T.parentDir ++ u ∧ (T.keepsForeign && (n.fromStr || n.external)) = false) := by
  unfold nodeUrl at h
  cases hu : n.url with
  | none => simp [hu] at h
  | some u =>
    simp only [hu] at h
    by_cases he : u = []
    · simp [he] at h
    · by_cases hs : shown T n = true
      · cases hk : (T.keepsForeign && (n.fromStr || n.external)) with
        | true =>
          simp [he, hs, hk] at h
          exact ⟨hs, u, rfl, he, Or.inl ⟨h.symm, rfl⟩⟩
        | false =>
          simp [he, hs, hk] at h
          exact ⟨hs, u, rfl, he, Or.inr ⟨h.symm, rfl⟩⟩
      · simp [he, hs] at h

end Ford.GraphUrl
