import FordModel.Graph
import FordModel.Lemmas.GraphData
import FordModel.Lemmas.GraphCalls
namespace Ford.Graph

/-!
  Relation slots of the node constructors: `targets` links exactly what the slots of the entity's
  node class hold — the slots of `slotsOf`, the table the translator regenerates from the real
  constructors — plus the interface-to-implementation links, which have their own decision table.
-/

theorem mem_allKinds (k : Kind) : k ∈ allKinds := by cases k <;> decide

theorem mem_allSlots (s : Slot) : s ∈ allSlots := by cases s <;> decide

theorem mem_optList {o : Option Node} {x : Node} : x ∈ optList o ↔ o = some x := by
  cases o <;> simp [optList, eq_comm]

theorem Slot.rel_eq_call (s : Slot) : s.rel = .call ↔ s.isCall = true := by
  cases s <;> decide

theorem Slot.rel_ne_iface (s : Slot) : s.rel ≠ .iface := by
  cases s <;> decide

theorem rawCalls_eq_slots (tab : Table) (a : Node) :
    rawCalls tab a = ((slotsOf (ent tab a).kind).filter Slot.isCall).flatMap (slotVals (ent tab a)) := by
  cases hk : (ent tab a).kind <;>
    simp [rawCalls, hk, slotsOf, Slot.isCall, slotVals, callChildren, List.filter]

theorem callNodes_nil (tab : Table) : callNodes tab [] = [] := rfl

/-- `targets`, constructor by constructor, is one expression in the slots of the node class: the
    values of the plain slots under the slot's relation, what `get_call_nodes` shows for the call
    slots, the interface links -/
theorem targets_eq (tab : Table) (i : Node) :
    targets tab i =
      (if (ent tab i).kind = .type ∧ (ent tab i).extUrl = true then []
        else ((slotsOf (ent tab i).kind).filter fun s => !s.isCall).flatMap fun s =>
          (slotVals (ent tab i) s).map (s.rel, ·))
      ++ (callNodes tab (rawCalls tab i)).map (Rel.call, ·)
      ++ (if (ent tab i).kind = .proc ∧ (ent tab i).isIface = true
          then (ifaceTargets C13Gen.ifaceRules tab i).map (Rel.iface, ·) else []) := by
  cases hk : (ent tab i).kind <;>
    simp [targets, hk, rawCalls, callNodes_nil, slotsOf, slotVals, Slot.isCall, Slot.rel, callChildren]

theorem mem_map_rel {l : List Node} {r r' : Rel} {t : Node} : (r, t) ∈ l.map (r', ·) ↔ r = r' ∧ t ∈ l := by
  simp only [List.mem_map, Prod.mk.injEq]
  constructor
  · rintro ⟨_, ht, rfl, rfl⟩; exact ⟨rfl, ht⟩
  · rintro ⟨rfl, ht⟩; exact ⟨t, ht, rfl, rfl⟩

/-- `targets_eq` read as membership: one disjunct per summand (plain slots, call slots, interface links) -/
theorem mem_targets {tab : Table} {i t : Node} {r : Rel} :
    (r, t) ∈ targets tab i ↔
      (¬ ((ent tab i).kind = .type ∧ (ent tab i).extUrl = true)
          ∧ ∃ s ∈ slotsOf (ent tab i).kind, s.isCall = false ∧ r = s.rel ∧ t ∈ slotVals (ent tab i) s)
        ∨ (r = .call ∧ t ∈ callNodes tab (rawCalls tab i))
        ∨ (((ent tab i).kind = .proc ∧ (ent tab i).isIface = true)
            ∧ r = .iface ∧ t ∈ ifaceTargets C13Gen.ifaceRules tab i) := by
  simp only [targets_eq, List.mem_append, List.mem_ite_nil_left, List.mem_ite_nil_right, List.mem_flatMap,
    List.mem_filter, mem_map_rel, Bool.not_eq_true', or_assoc, and_assoc]

theorem targets_slot_complete (tab : Table) (i t : Node) (s : Slot)
    (hs : s ∈ slotsOf (ent tab i).kind) (hc : s.isCall = false)
    (hx : (ent tab i).kind = .type → (ent tab i).extUrl = false)
    (ht : t ∈ slotVals (ent tab i) s) : (s.rel, t) ∈ targets tab i :=
  mem_targets.2 (Or.inl ⟨fun h => Bool.noConfusion ((hx h.1).symm.trans h.2), s, hs, hc, rfl, ht⟩)

/-- nothing but the slots of the entity's node class is linked (interface-to-implementation links
    aside: they have their own decision table) -/
theorem targets_slot_sound (tab : Table) (i t : Node) (r : Rel) (h : (r, t) ∈ targets tab i) (hr : r ≠ .iface) :
    ∃ s ∈ slotsOf (ent tab i).kind, s.rel = r ∧ (s.isCall = false → t ∈ slotVals (ent tab i) s) := by
  rcases mem_targets.1 h with ⟨_, s, hs, _, rfl, ht⟩ | ⟨rfl, ht⟩ | ⟨_, rfl, _⟩
  · exact ⟨s, hs, rfl, fun _ => ht⟩
  · -- a call that is shown stands in for a value of one of the call slots
    obtain ⟨c, hc, _⟩ := (mem_callNodes tab _ t).1 ht
    rw [rawCalls_eq_slots] at hc
    simp only [List.mem_flatMap, List.mem_filter] at hc
    obtain ⟨s, ⟨hs, hcall⟩, _⟩ := hc
    exact ⟨s, hs, s.rel_eq_call.2 hcall, fun hn => Bool.noConfusion (hn.symm.trans hcall)⟩
  · exact absurd rfl hr

theorem mem_targets_call {tab : Table} {a t : Node} :
    (Rel.call, t) ∈ targets tab a ↔ t ∈ callNodes tab (rawCalls tab a) := by
  rw [mem_targets]
  constructor
  · rintro (⟨_, s, _, hc, hr, _⟩ | ⟨_, ht⟩ | ⟨_, hr, _⟩)
    · exact Bool.noConfusion (hc.symm.trans (s.rel_eq_call.1 hr.symm))
    · exact ht
    · cases hr
  · exact fun ht => Or.inr (Or.inl ⟨rfl, ht⟩)

theorem mem_targets_iface {tab : Table} {i m : Node}
    (hk : (ent tab i).kind = .proc) (hi : (ent tab i).isIface = true) :
    (Rel.iface, m) ∈ targets tab i ↔ m ∈ ifaceTargets C13Gen.ifaceRules tab i := by
  rw [mem_targets]
  constructor
  · rintro (⟨_, s, _, _, hr, _⟩ | ⟨hr, _⟩ | ⟨_, _, hm⟩)
    · exact absurd hr.symm s.rel_ne_iface
    · cases hr
    · exact hm
  · exact fun hm => Or.inr (Or.inr ⟨⟨hk, hi⟩, rfl, hm⟩)

end Ford.Graph
