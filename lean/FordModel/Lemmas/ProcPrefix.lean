/-
  Lemmas about `FordModel/ProcPrefix.lean`: the substring loop over the prefix keywords (`attrsGo_words`) and its
  word-wise variant (`attrsWordsGo_eq`), `paren_split(" ", ..)` over well-formed chunks (`parenSplit_joinSep`),
  and the pieces for the argument list of a procedure statement (`splitCommas_joinStr`, `strip_joinStr_names`).
-/
import FordModel.ProcPrefix
import FordModel.Lemmas.Split
import FordModel.Lemmas.TypeSpec
namespace Ford.ProcPrefix
open Ford

/-- a keyword without blanks cannot start in one word and end in the next -/
theorem startsWith_append_blank : ∀ (k a b : Str), ' ' ∉ k →
    startsWith (a ++ ' ' :: b) k = startsWith a k
  | [], a, b, _ => by cases a <;> simp [startsWith]
  | x :: k, [], b, h => by
    have hx : (' ' == x) = false := by
      simp only [List.mem_cons, not_or] at h
      simpa using h.1
    simp [startsWith, hx]
  | x :: k, y :: a, b, h => by
    have hk : ' ' ∉ k := fun hm => h (List.mem_cons_of_mem _ hm)
    simp [startsWith, startsWith_append_blank k a b hk]

theorem startsWith_blank (k b : Str) (hne : k ≠ []) (hb : ' ' ∉ k) :
    startsWith (' ' :: b) k = false := by
  have := startsWith_append_blank k [] b hb
  simp only [List.nil_append] at this
  rw [this]
  cases k with
  | nil => exact absurd rfl hne
  | cons x k => rfl

theorem isInfix_nil (k : Str) (hne : k ≠ []) : isInfix k [] = false := by
  cases k with
  | nil => exact absurd rfl hne
  | cons x k => rfl

theorem isInfix_self (k : Str) : isInfix k k = true := by
  cases k with
  | nil => rfl
  | cons c cs => simp [isInfix, startsWith_self]

theorem isInfix_append_blank (k : Str) (hne : k ≠ []) (hb : ' ' ∉ k) (b : Str) :
    ∀ a : Str, isInfix k (a ++ ' ' :: b) = (isInfix k a || isInfix k b)
  | [] => by
    simp [isInfix, startsWith_blank k b hne hb, hne]
  | y :: a => by
    have h1 := startsWith_append_blank k (y :: a) b hb
    simp only [List.cons_append] at h1
    simp [isInfix, h1, isInfix_append_blank k hne hb b a, Bool.or_assoc]

theorem removeGo_short (k : Str) : ∀ (s : Str) (n : Nat), s.length ≤ n → removeGo k n s = []
  | [], n, _ => by cases n <;> simp [removeGo]
  | c :: cs, 0, h => by simp at h
  | c :: cs, n + 1, h => by
    simp only [removeGo]
    exact removeGo_short k cs n (by simp at h; omega)

theorem removeGo_append_blank (k : Str) (hne : k ≠ []) (hb : ' ' ∉ k) (b : Str) :
    ∀ (a : Str) (skip : Nat), skip ≤ a.length →
      removeGo k skip (a ++ ' ' :: b) = removeGo k skip a ++ ' ' :: removeGo k 0 b
  | [], skip, h => by
    have h0 : skip = 0 := by simpa using h
    subst h0
    simp [removeGo, startsWith_blank k b hne hb]
  | c :: a, skip + 1, h => by
    simp only [List.cons_append, removeGo]
    exact removeGo_append_blank k hne hb b a skip (by simp at h; omega)
  | c :: a, 0, _ => by
    have h1 := startsWith_append_blank k (c :: a) b hb
    simp only [List.cons_append] at h1
    simp only [List.cons_append, removeGo, h1]
    by_cases hs : startsWith (c :: a) k = true
    · have hl := startsWith_length _ _ hs
      simp only [hs, if_true]
      exact removeGo_append_blank k hne hb b a (k.length - 1) (by simp at hl; omega)
    · simp only [hs, Bool.false_eq_true, if_false, List.cons_append]
      rw [removeGo_append_blank k hne hb b a 0 (by omega)]

theorem removeAll_append_blank (k : Str) (hne : k ≠ []) (hb : ' ' ∉ k) (a b : Str) :
    removeAll k (a ++ ' ' :: b) = removeAll k a ++ ' ' :: removeAll k b :=
  removeGo_append_blank k hne hb b a 0 (by omega)

theorem removeAll_not_infix (k : Str) : ∀ w : Str, isInfix k w = false → removeAll k w = w
  | [], _ => rfl
  | c :: cs, h => by
    simp only [isInfix, Bool.or_eq_false_iff] at h
    have ih := removeAll_not_infix k cs h.2
    simp only [removeAll] at ih
    simp [removeAll, removeGo, h.1, ih]

theorem removeAll_self (k : Str) (hne : k ≠ []) : removeAll k k = [] := by
  cases k with
  | nil => exact absurd rfl hne
  | cons c cs =>
    simp only [removeAll, removeGo, startsWith_self, if_true]
    exact removeGo_short _ cs _ (by simp)

theorem removeAll_nil (k : Str) : removeAll k [] = [] := rfl

theorem isInfix_joinSep (k : Str) (hne : k ≠ []) (hb : ' ' ∉ k) :
    ∀ ws : List Str, isInfix k (joinSep ' ' ws) = ws.any (isInfix k)
  | [] => by simp [joinSep, isInfix_nil k hne]
  | [x] => by simp [joinSep]
  | x :: y :: r => by
    simp only [joinSep, isInfix_append_blank k hne hb, List.any_cons]
    rw [isInfix_joinSep k hne hb (y :: r)]
    simp

theorem removeAll_joinSep (k : Str) (hne : k ≠ []) (hb : ' ' ∉ k) :
    ∀ ws : List Str, removeAll k (joinSep ' ' ws) = joinSep ' ' (ws.map (removeAll k))
  | [] => rfl
  | [x] => by simp [joinSep]
  | x :: y :: r => by
    simp only [joinSep, List.map_cons, removeAll_append_blank k hne hb]
    rw [removeAll_joinSep k hne hb (y :: r)]
    simp

theorem dropBlanks_joinSep : ∀ ws : List Str, dropBlanks (joinSep ' ' ws) = (ws.map dropBlanks).flatten
  | [] => rfl
  | [x] => by simp [joinSep]
  | x :: y :: r => by
    have ih := dropBlanks_joinSep (y :: r)
    simp only [dropBlanks] at ih
    simp [joinSep, dropBlanks, ih]

theorem orderSound_cons {k : Str} {ks : List Str} (h : orderSound (k :: ks) = true) :
    k ≠ [] ∧ ' ' ∉ k ∧ (∀ k' ∈ ks, isInfix k k' = false) ∧ orderSound ks = true := by
  simp only [orderSound, Bool.and_eq_true, Bool.not_eq_true', List.all_eq_true] at h
  obtain ⟨⟨⟨h1, h2⟩, h3⟩, h4⟩ := h
  refine ⟨?_, ?_, ?_, h4⟩
  · intro hk; subst hk; simp at h1
  · intro hm; simp [hm] at h2
  · intro k' hk'; simpa using h3 k' hk'

theorem orderSound_ne_nil : ∀ {ks : List Str}, orderSound ks = true → ∀ k ∈ ks, k ≠ []
  | [], _, k, hk => by simp at hk
  | k0 :: ks, h, k, hk => by
    obtain ⟨h1, _, _, h4⟩ := orderSound_cons h
    rcases List.mem_cons.mp hk with rfl | hk
    · exact h1
    · exact orderSound_ne_nil h4 k hk

/-- One keyword over blank-separated words each of which contains `k` only if it is `k`: the substring test finds it
    iff it is one of the words, and deleting it from the text empties exactly those words. -/
theorem keyword_words (k : Str) (hne : k ≠ []) (hb : ' ' ∉ k) (ws : List Str)
    (hword : ∀ w ∈ ws, isInfix k w = decide (w = k)) :
    isInfix k (joinSep ' ' ws) = decide (k ∈ ws) ∧
    removeAll k (joinSep ' ' ws) = joinSep ' ' (ws.map (fun w => if w = k then [] else w)) := by
  constructor
  · rw [isInfix_joinSep k hne hb]
    by_cases hm : k ∈ ws
    · simp only [hm, decide_true, List.any_eq_true]
      exact ⟨k, hm, isInfix_self k⟩
    · simp only [hm, decide_false]
      rw [Bool.eq_false_iff]
      intro hc
      obtain ⟨w, hwm, hi⟩ := List.any_eq_true.mp hc
      rw [hword w hwm] at hi
      have : w = k := by simpa using hi
      exact hm (this ▸ hwm)
  · rw [removeAll_joinSep k hne hb]
    congr 1
    apply List.map_congr_left
    intro w hwm
    by_cases e : w = k
    · subst e; simp [removeAll_self w hne]
    · have : isInfix k w = false := by rw [hword w hwm]; simp [e]
      simp [e, removeAll_not_infix k w this]

/-- a word that is empty, a keyword of a sound table `k :: ks`, or free of its keywords contains `k` only if it is
    `k`; any other such word is empty, a keyword of `ks`, or free of the keywords of `ks` -/
theorem word_step {k : Str} {ks : List Str} (hs : orderSound (k :: ks) = true) {w : Str}
    (hw : w = [] ∨ w ∈ k :: ks ∨ noKeyword (k :: ks) w = true) :
    isInfix k w = decide (w = k) ∧ (w ≠ k → w = [] ∨ w ∈ ks ∨ noKeyword ks w = true) := by
  obtain ⟨hne, _, hlater, _⟩ := orderSound_cons hs
  by_cases e : w = k
  · subst e; simp [isInfix_self]
  · simp only [e, decide_false, ne_eq, not_false_eq_true, forall_const]
    rcases hw with h | h | h
    · subst h; exact ⟨isInfix_nil k hne, Or.inl rfl⟩
    · rcases List.mem_cons.mp h with h | h
      · exact absurd h e
      · exact ⟨hlater w h, Or.inr (Or.inl h)⟩
    · simp only [noKeyword, List.all_cons, Bool.and_eq_true, Bool.not_eq_true'] at h
      exact ⟨h.1, Or.inr (Or.inr (by simpa [noKeyword] using h.2))⟩

/-- a word other than `k` and `[]` is among the words after `k` has been emptied iff it was before -/
theorem mem_map_empty_iff (k k' : Str) (ws : List Str) (h1 : k' ≠ []) (h2 : k' ≠ k) :
    k' ∈ ws.map (fun w => if w = k then [] else w) ↔ k' ∈ ws := by
  constructor
  · intro h
    obtain ⟨w, hwm, hwe⟩ := List.mem_map.mp h
    by_cases e : w = k
    · rw [if_pos e] at hwe; exact absurd hwe.symm h1
    · rw [if_neg e] at hwe; exact hwe ▸ hwm
  · intro h
    exact List.mem_map.mpr ⟨k', h, by simp [h2]⟩

/-- The words of the prefix: each one is empty, a keyword of the table, or contains no keyword at all.
    Then the substring loop over a sound table reports exactly the keywords that were written (in table
    order) and leaves every other word as it is. -/
theorem attrsGo_words : ∀ (ks : List Str), orderSound ks = true → ∀ (ws : List Str),
    (∀ w ∈ ws, w = [] ∨ w ∈ ks ∨ noKeyword ks w = true) →
    attrsGo ks (joinSep ' ' ws) =
      (ks.filter (fun k => decide (k ∈ ws)),
       joinSep ' ' (ws.map (fun w => if w ∈ ks then [] else w)))
  | [], _, ws, _ => by simp [attrsGo]
  | k :: ks, hs, ws, hw => by
    obtain ⟨hne, hb, hlater, hs'⟩ := orderSound_cons hs
    -- one turn of the loop: `k` is found iff it is a word, and what is left are the words with `k` emptied
    obtain ⟨hany, hrem⟩ := keyword_words k hne hb ws (fun w hwm => (word_step hs (hw w hwm)).1)
    have ih := attrsGo_words ks hs' (ws.map (fun w => if w = k then [] else w)) (by
      intro w' hm'
      obtain ⟨w, hwm, rfl⟩ := List.mem_map.mp hm'
      by_cases e : w = k
      · simp [e]
      · simp only [e, if_false]
        exact (word_step hs (hw w hwm)).2 e)
    -- a later keyword is not empty and is not `k`, so it is among the words left iff it was among the words
    have hknot : k ∉ ks := by
      intro hm
      have := hlater k hm
      rw [isInfix_self] at this; cases this
    have hf : ks.filter (fun k' => decide (k' ∈ ws.map (fun w => if w = k then [] else w))) =
        ks.filter (fun k' => decide (k' ∈ ws)) :=
      List.filter_congr fun k' hk' => by
        rw [decide_eq_decide]
        exact mem_map_empty_iff k k' ws (orderSound_ne_nil hs' k' hk') (fun e => hknot (e ▸ hk'))
    -- emptying `k` and then the keywords of `ks` is emptying the keywords of `k :: ks`
    have hmap : (ws.map (fun w => if w = k then [] else w)).map (fun w => if w ∈ ks then [] else w) =
        ws.map (fun w => if w ∈ k :: ks then [] else w) := by
      rw [List.map_map]
      apply List.map_congr_left
      intro w _
      by_cases e : w = k <;> simp [e]
    by_cases hm : k ∈ ws
    · simp only [attrsGo, hany, hm, decide_true, if_true]
      rw [hrem, ih, hf, hmap, List.filter_cons]
      simp [hm]
    · -- `k` is absent: emptying it changes no word, so the text `ih` speaks of is the text itself
      have hsame : ws.map (fun w => if w = k then [] else w) = ws := by
        refine (List.map_congr_left fun w hwm => ?_).trans (List.map_id' ws)
        have e : w ≠ k := fun e => hm (e ▸ hwm)
        simp [e]
      simp only [attrsGo, hany, hm, decide_false, Bool.false_eq_true, if_false]
      rw [← hsame, ih, hf, hmap, hsame, List.filter_cons]
      simp [hm]

theorem attrsWordsGo_eq : ∀ (ks ws : List Str), ks.Nodup →
    attrsWordsGo ks ws = (ks.filter (fun k => decide (k ∈ ws)), ws.filter (fun w => decide (w ∉ ks)))
  | [], ws, _ => by
    simp only [attrsWordsGo, List.filter_nil, List.not_mem_nil, not_false_eq_true, decide_true]
    exact Prod.ext rfl (List.filter_eq_self.mpr (by simp)).symm
  | k :: ks, ws, hn => by
    have hknot : k ∉ ks := (List.nodup_cons.mp hn).1
    have hn' := (List.nodup_cons.mp hn).2
    by_cases hm : k ∈ ws
    · have hc : ws.contains k = true := by simpa using hm
      simp only [attrsWordsGo, hc, if_true]
      rw [attrsWordsGo_eq ks _ hn']
      have hf : ks.filter (fun k' => decide (k' ∈ ws.filter (· != k))) = ks.filter (fun k' => decide (k' ∈ ws)) := by
        apply List.filter_congr
        intro k' hk'
        have : k' ≠ k := fun e => hknot (e ▸ hk')
        simp [List.mem_filter, this]
      refine Prod.ext ?_ ?_
      · simp only [List.filter_cons, hm, decide_true, if_true]
        rw [hf]
      · simp only [List.filter_filter]
        apply List.filter_congr
        intro w _
        by_cases e : w = k <;> simp [e]
    · have hc : ws.contains k = false := by simpa using hm
      simp only [attrsWordsGo, hc, Bool.false_eq_true, if_false]
      rw [attrsWordsGo_eq ks ws hn']
      refine Prod.ext ?_ ?_
      · simp [hm]
      · apply List.filter_congr
        intro w hwm
        have e : w ≠ k := fun e => hm (e ▸ hwm)
        simp [e]

/-- `paren_split(" ", ...)` reads a well-formed chunk without cutting it and leaves it at level 0 -/
theorem psplitAux_chunk (rest w : Str) (lv bl : Int) (cur : Str) (h : chunkOk w lv bl = true) :
    psplitAux ' ' (w ++ rest) lv bl cur = psplitAux ' ' rest 0 0 (w.reverse ++ cur) := by
  fun_induction chunkOk w lv bl generalizing cur with
  | case1 lv bl =>
    simp only [Bool.and_eq_true, beq_iff_eq] at h
    rw [h.1, h.2]
    rfl
  | case6 => cases h
  | _ => simp_all [psplitAux]

/-- `paren_split(" ", " ".join(chunks)) == chunks` for well-formed chunks -/
theorem parenSplit_joinSep : ∀ (ws : List Str), ws ≠ [] → (∀ w ∈ ws, chunkOk w 0 0 = true) →
    parenSplit ' ' (joinSep ' ' ws) = ws
  | [], h, _ => absurd rfl h
  | [x], _, hw => by
    have := psplitAux_chunk [] x 0 0 [] (hw x (by simp))
    simpa [joinSep, parenSplit, psplitAux] using this
  | x :: y :: r, _, hw => by
    have ih := parenSplit_joinSep (y :: r) (by simp) (fun w hm => hw w (by simp [hm]))
    simp only [parenSplit] at ih
    simp only [joinSep, parenSplit]
    rw [psplitAux_chunk _ x 0 0 [] (hw x (by simp))]
    simp [psplitAux, ih]

theorem chunkOk_no_blank (w : Str) (h : ' ' ∉ w) (hp : ∀ c ∈ w, c ≠ '(' ∧ c ≠ ')' ∧ c ≠ '[' ∧ c ≠ ']') :
    chunkOk w 0 0 = true := by
  induction w with
  | nil => rfl
  | cons c w ih =>
    have hc := hp c (by simp)
    have hb : c ≠ ' ' := fun e => h (by simp [e])
    have hb' : (c == ' ') = false := by simpa using hb
    simp only [chunkOk, beq_iff_eq, hc.1, hc.2.1, hc.2.2.1, hc.2.2.2, hb', if_false, Bool.false_and,
      Bool.false_eq_true]
    exact ih (fun hm => h (List.mem_cons_of_mem _ hm)) (fun d hd => hp d (List.mem_cons_of_mem _ hd))

theorem tabsToBlanks_id (s : Str) (h : '\t' ∉ s) : tabsToBlanks s = s := by
  induction s with
  | nil => rfl
  | cons c s ih =>
    have hc : (c == '\t') = false := by
      have : c ≠ '\t' := fun e => h (by simp [e])
      simpa using this
    have := ih (fun hm => h (List.mem_cons_of_mem _ hm))
    simp only [tabsToBlanks] at this
    simp only [tabsToBlanks, List.map_cons, hc, Bool.false_eq_true, if_false, this]

theorem tabsToBlanks_joinSep (ws : List Str) (h : ∀ w ∈ ws, '\t' ∉ w) :
    tabsToBlanks (joinSep ' ' ws) = joinSep ' ' ws := by
  apply tabsToBlanks_id
  intro hm
  rcases mem_joinSep _ ws hm with h1 | ⟨w, hw, hc⟩
  · cases h1
  · exact h w hw hc

theorem dropBlanks_flatten (l : List Str) : dropBlanks l.flatten = (l.map dropBlanks).flatten := by
  induction l with
  | nil => rfl
  | cons x l ih =>
    simp only [dropBlanks] at ih
    simp [dropBlanks, ih]

theorem splitCommas_ne_nil : ∀ s : Str, splitCommas s ≠ []
  | [] => by simp [splitCommas]
  | c :: cs => by
    simp only [splitCommas]
    split
    · simp
    · split <;> simp

theorem splitCommas_plain : ∀ n : Str, ',' ∉ n → splitCommas n = [n]
  | [], _ => rfl
  | c :: cs, h => by
    have hc : (c == ',') = false := by
      have : c ≠ ',' := fun e => h (by simp [e])
      simpa using this
    have ih := splitCommas_plain cs (fun hm => h (List.mem_cons_of_mem _ hm))
    simp [splitCommas, hc, ih]

theorem splitCommas_append : ∀ (n r : Str), ',' ∉ n → splitCommas (n ++ ',' :: r) = n :: splitCommas r
  | [], r, _ => by simp [splitCommas]
  | c :: cs, r, h => by
    have hc : (c == ',') = false := by
      have : c ≠ ',' := fun e => h (by simp [e])
      simpa using this
    have ih := splitCommas_append cs r (fun hm => h (List.mem_cons_of_mem _ hm))
    simp [splitCommas, hc, ih]

theorem argOk_spec {n : Str} (h : argOk n = true) : n ≠ [] ∧ ',' ∉ n ∧ ∀ c ∈ n, isSpace c = false := by
  simp only [argOk, Bool.and_eq_true, Bool.not_eq_true', List.all_eq_true, bne_iff_ne, ne_eq] at h
  refine ⟨?_, ?_, ?_⟩
  · intro e; subst e; simp at h
  · intro hm; exact (h.2 ',' hm).1 rfl
  · intro c hc; exact (h.2 c hc).2

/-- `", ".join(names)` split at the commas: the names, all but the first with a blank in front -/
theorem splitCommas_joinStr : ∀ (x : Str) (r : List Str), (∀ n ∈ x :: r, ',' ∉ n) →
    splitCommas (joinStr [',', ' '] (x :: r)) = x :: r.map (' ' :: ·)
  | x, [], h => by simp [joinStr, splitCommas_plain x (h x (by simp))]
  | x, y :: r, h => by
    have ih := splitCommas_joinStr y r (fun n hn => h n (List.mem_cons_of_mem _ hn))
    have hx := h x (by simp)
    simp only [joinStr, List.append_assoc, List.cons_append, List.nil_append]
    rw [splitCommas_append x _ hx]
    simp only [splitCommas, show ((' ' : Char) == ',') = false by decide, Bool.false_eq_true, if_false, ih]
    simp

/-- `", ".join(names)` begins with the first character of the first name and ends with the last of the last -/
theorem joinStr_names_ends : ∀ (x : Str) (r : List Str), (∀ n ∈ x :: r, n ≠ []) →
    (joinStr [',', ' '] (x :: r)).head? = x.head? ∧
    ∃ n ∈ x :: r, (joinStr [',', ' '] (x :: r)).getLast? = n.getLast?
  | x, [], _ => ⟨rfl, x, by simp, rfl⟩
  | x, y :: r, h => by
    obtain ⟨_, n, hn, hl⟩ := joinStr_names_ends y r (fun n hn => h n (List.mem_cons_of_mem _ hn))
    refine ⟨?_, n, List.mem_cons_of_mem _ hn, ?_⟩
    · cases x with
      | nil => exact absurd rfl (h [] (by simp))
      | cons c cs => rfl
    · simp only [joinStr]
      rw [List.getLast?_append, hl]
      cases hg : n.getLast? with
      | none => exact absurd (List.getLast?_eq_none_iff.mp hg) (h n (List.mem_cons_of_mem _ hn))
      | some d => rfl

theorem strip_joinStr_names (x : Str) (r : List Str) (h : ∀ n ∈ x :: r, argOk n = true) :
    strip (joinStr [',', ' '] (x :: r)) = joinStr [',', ' '] (x :: r) := by
  obtain ⟨hh, n, hn, hl⟩ := joinStr_names_ends x r (fun n hn => (argOk_spec (h n hn)).1)
  apply strip_of_ends
  · intro c hc
    rw [hh] at hc
    exact (argOk_spec (h x (by simp))).2.2 c (List.mem_of_mem_head? hc)
  · intro c hc
    rw [hl] at hc
    exact (argOk_spec (h n hn)).2.2 c (List.mem_of_getLast? hc)
end Ford.ProcPrefix
