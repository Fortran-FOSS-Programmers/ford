/-
  Lemmas about the settings pipeline of `Settings.lean` for arbitrary tables: association lists and the
  assignment loops (precedence), `convert_setting`, path normalisation, `normalise_paths`.
  The user guide's spellings are in `Lemmas/SettingsSpec.lean`, the choice of the source in `Lemmas/SettingsSource.lean`.
-/
import FordModel.Settings
namespace Ford.Settings

variable {α : Type} (schema : List (Str × Tag × PyVal)) (seps : List (Str × Str))

theorem aget_aset_eq (k : Str) (v : α) (l : List (Str × α)) : aget k (aset k v l) = some v := by
  induction l with
  | nil => simp [aset, aget]
  | cons e r ih =>
    obtain ⟨k', v'⟩ := e
    by_cases h : k' = k
    · simp [aset, aget, h]
    · simp [aset, aget, h, ih]

theorem aget_aset_ne (k k' : Str) (v : α) (l : List (Str × α)) (h : k' ≠ k) :
    aget k' (aset k v l) = aget k' l := by
  induction l with
  | nil => simp [aset, aget, Ne.symm h]
  | cons e r ih =>
    obtain ⟨k2, v2⟩ := e
    by_cases h2 : k2 = k
    · subst h2
      simp [aset, aget, Ne.symm h]
    · by_cases h3 : k2 = k'
      · subst h3
        simp [aset, aget, h2]
      · simp [aset, aget, h2, h3, ih]

theorem aget_none_of_not_mem (k : Str) (l : List (Str × α)) (h : k ∉ l.map (·.1)) :
    aget k l = none := by
  induction l with
  | nil => rfl
  | cons e r ih =>
    obtain ⟨k2, v2⟩ := e
    simp only [List.map_cons, List.mem_cons, not_or] at h
    have h1 : k2 ≠ k := fun hh => h.1 hh.symm
    simpa [aget, h1] using ih h.2

theorem aset_not_mem (k : Str) (v : α) (l : List (Str × α)) (h : k ∉ l.map (·.1)) :
    aset k v l = l ++ [(k, v)] := by
  induction l with
  | nil => rfl
  | cons e r ih =>
    obtain ⟨k2, v2⟩ := e
    simp only [List.map_cons, List.mem_cons, not_or] at h
    have h1 : k2 ≠ k := fun hh => h.1 hh.symm
    simpa [aset, h1] using ih h.2

/-- the step of every loop that appends entries with distinct keys to an accumulator (`parseToDict_enc`,
    `eftDict_enc`, `eftsOfList_enc`, `metaLoop_encBlock`): the keys still to come stay fresh -/
theorem keys_fresh_after_append {β : Type} (key : β → Str) (x : β) (r : List β) (acc : List (Str × α)) (v : α)
    (hnd : key x ∉ r.map key) (hacc : ∀ y ∈ x :: r, key y ∉ acc.map (·.1)) :
    ∀ y ∈ r, key y ∉ (acc ++ [(key x, v)]).map (·.1) := by
  intro y hy
  simp only [List.map_append, List.map_cons, List.map_nil, List.mem_append, List.mem_singleton, not_or]
  refine ⟨hacc y (by simp [hy]), fun hh => hnd ?_⟩
  rw [← hh]
  exact List.mem_map.2 ⟨y, hy, rfl⟩

/-! ### a run of assignments: the later one wins

`--config`, the keyword arguments of `ProjectSettings`, the command-line namespace and the merges of
`extra_mods` are all loops of this shape; each is identified with `assignAll` below and inherits
what is proved here once. -/

/-- `for k, v in kvs: d[k] = f(k, v)`, stopping at the first error of `f` -/
def assignAll (f : Str → α → Except Err α) :
    List (Str × α) → List (Str × α) → Except Err (List (Str × α))
  | [], d => .ok d
  | (k, v) :: r, d =>
    match f k v with
    | .error e => .error e
    | .ok w => assignAll f r (aset k w d)

variable (f : Str → α → Except Err α)

theorem aget_assignAll_none (kvs d d' : List (Str × α)) (k : Str) (h : aget k kvs = none)
    (hr : assignAll f kvs d = .ok d') : aget k d' = aget k d := by
  induction kvs generalizing d with
  | nil =>
    cases hr
    rfl
  | cons e r ih =>
    obtain ⟨k', v'⟩ := e
    have hk : k' ≠ k := by
      intro hk
      simp [aget, hk] at h
    simp only [aget, beq_iff_eq, hk, if_false] at h
    simp only [assignAll] at hr
    split at hr
    · cases hr
    · rw [ih _ h hr, aget_aset_ne _ _ _ _ (Ne.symm hk)]

theorem aget_assignAll_some (kvs d d' : List (Str × α)) (k : Str) (v : α)
    (hnd : (kvs.map (·.1)).Nodup) (h : aget k kvs = some v) (hr : assignAll f kvs d = .ok d') :
    ∃ w, f k v = .ok w ∧ aget k d' = some w := by
  induction kvs generalizing d with
  | nil => cases h
  | cons e r ih =>
    obtain ⟨k', v'⟩ := e
    rw [List.map_cons, List.nodup_cons] at hnd
    simp only [assignAll] at hr
    split at hr
    · cases hr
    · rename_i w hw
      by_cases hk : k' = k
      · subst hk
        obtain rfl : v' = v := by simpa [aget] using h
        refine ⟨w, hw, ?_⟩
        rw [aget_assignAll_none f r _ d' k' (aget_none_of_not_mem _ _ hnd.1) hr, aget_aset_eq]
      · exact ih _ hnd.2 (by simpa [aget, hk] using h) hr

theorem aget_assignAll_mem (kvs d d' : List (Str × α)) (k : Str) (h : k ∈ kvs.map (·.1))
    (hr : assignAll f kvs d = .ok d') :
    ∃ v w, (k, v) ∈ kvs ∧ f k v = .ok w ∧ aget k d' = some w := by
  induction kvs generalizing d with
  | nil => cases h
  | cons e r ih =>
    obtain ⟨k', v'⟩ := e
    simp only [assignAll] at hr
    split at hr
    · cases hr
    · rename_i w hw
      by_cases hkr : k ∈ r.map (·.1)
      · obtain ⟨v, w', hm, hf, hg⟩ := ih _ hkr hr
        exact ⟨v, w', List.mem_cons_of_mem _ hm, hf, hg⟩
      · obtain rfl : k = k' := by simpa [hkr] using h
        refine ⟨v', w, List.mem_cons_self, hw, ?_⟩
        rw [aget_assignAll_none f r _ d' k (aget_none_of_not_mem _ _ hkr) hr, aget_aset_eq]

theorem applyConfig_eq (cfg s : Settings) : assignAll (fun _ v => .ok v) cfg s = .ok (applyConfig cfg s) := by
  induction cfg generalizing s with
  | nil => rfl
  | cons e r ih => exact ih _

theorem overlayMods_eq (mods d : List (Str × Atom)) :
    assignAll (fun _ v => .ok v) mods d = .ok (overlayMods mods d) := by
  induction mods generalizing d with
  | nil => rfl
  | cons e r ih => exact ih _

theorem updateAll_eq (intrinsic : List (Str × Str)) (d : List (Str × Atom)) :
    assignAll (fun _ v => .ok v) (intrinsic.map (fun kv => (kv.1, Atom.str kv.2))) d = .ok (updateAll intrinsic d) := by
  induction intrinsic generalizing d with
  | nil => rfl
  | cons e r ih => exact ih _

/-- what `ProjectSettings(**kw)` does with one keyword argument -/
def kwArg (schema : List (Str × Tag × PyVal)) (k : Str) (v : PyVal) : Except Err PyVal :=
  match tagOf schema k with
  | none => .error (.unknownKw k)
  | some .noInit => .error (.unknownKw k)
  | some _ => .ok v

theorem overlay_eq (kw s : Settings) :
    overlay schema kw s = assignAll (kwArg schema) kw s := by
  induction kw generalizing s with
  | nil => rfl
  | cons e r ih =>
    obtain ⟨k, v⟩ := e
    simp only [overlay, assignAll, kwArg]
    split <;> simp [*]

/-- what `convert_types_from_commandarguments` does with one entry of the namespace -/
def cliArg (schema : List (Str × Tag × PyVal)) (seps : List (Str × Str)) (k : Str) (v : PyVal) : Except Err PyVal :=
  match tagOf schema k with
  | none => .ok v
  | some t => convertSetting seps t k v

theorem applyCli_eq (cli s : Settings) :
    applyCli schema seps cli s = assignAll (cliArg schema seps) cli s := by
  induction cli generalizing s with
  | nil => rfl
  | cons e r ih =>
    obtain ⟨k, v⟩ := e
    simp only [applyCli, assignAll, cliArg]
    split
    · simp [*]
    · split <;> simp [*]

theorem aget_applyConfig (cfg s : Settings) (k : Str) (hnd : (cfg.map (·.1)).Nodup) :
    aget k (applyConfig cfg s) = match aget k cfg with
      | some v => some v
      | none => aget k s := by
  cases h : aget k cfg with
  | none => exact aget_assignAll_none _ cfg s _ k h (applyConfig_eq cfg s)
  | some v =>
    obtain ⟨w, hw, hg⟩ := aget_assignAll_some _ cfg s _ k v hnd h (applyConfig_eq cfg s)
    cases hw
    exact hg

theorem aget_applyCli_none (cli s s' : Settings) (k : Str) (h : aget k cli = none)
    (hr : applyCli schema seps cli s = .ok s') : aget k s' = aget k s :=
  aget_assignAll_none _ cli s s' k h (applyCli_eq schema seps cli s ▸ hr)

theorem aget_applyCli_some (cli s s' : Settings) (k : Str) (v : PyVal) (t : Tag)
    (hnd : (cli.map (·.1)).Nodup) (h : aget k cli = some v) (ht : tagOf schema k = some t)
    (hr : applyCli schema seps cli s = .ok s') :
    ∃ w, convertSetting seps t k v = .ok w ∧ aget k s' = some w := by
  rw [applyCli_eq] at hr
  simpa [cliArg, ht] using aget_assignAll_some _ cli s s' k v hnd h hr

theorem cliNamespace_keys_nodup (table : List (Str × CliKind × Option PyVal)) (given : Settings)
    (h : (table.map (·.1)).Nodup) : ((cliNamespace table given).map (·.1)).Nodup := by
  -- the attribute names of the namespace are a sublist of the table's `dest`s
  refine List.Nodup.sublist ?_ h
  clear h
  induction table with
  | nil => simp [cliNamespace]
  | cons e r ih =>
    obtain ⟨d, kd, dl⟩ := e
    simp only [cliNamespace]
    split
    · simpa using ih
    · split
      · simpa using ih
      · exact List.Sublist.cons _ ih

theorem aget_cliNamespace_default (given : Settings) (k : Str) (kd : CliKind) (d : PyVal)
    (r : List (Str × CliKind × Option PyVal)) (h : aget k given = none) :
    aget k (cliNamespace ((k, kd, some d) :: r) given) = some d := by
  simp [cliNamespace, h, aget]

theorem aget_updateAll_not_mem (intrinsic : List (Str × Str)) (d : List (Str × Atom)) (k : Str)
    (h : k ∉ intrinsic.map (·.1)) : aget k (updateAll intrinsic d) = aget k d :=
  aget_assignAll_none _ _ d _ k (aget_none_of_not_mem k _ (by simpa using h)) (updateAll_eq intrinsic d)

theorem aget_updateAll_mem (intrinsic : List (Str × Str)) (d : List (Str × Atom)) (k : Str)
    (h : k ∈ intrinsic.map (·.1)) : ∃ u, (k, u) ∈ intrinsic ∧ aget k (updateAll intrinsic d) = some (.str u) := by
  obtain ⟨v, w, hm, hw, hg⟩ := aget_assignAll_mem _ _ d _ k (by simpa using h) (updateAll_eq intrinsic d)
  cases hw
  obtain ⟨⟨k', u⟩, hu, he⟩ := List.mem_map.1 hm
  cases he
  exact ⟨u, hu, hg⟩

theorem kwArg_ok (k : Str) (v w : PyVal) (h : kwArg schema k v = .ok w) :
    w = v := by
  unfold kwArg at h
  split at h <;> cases h
  rfl

theorem overlay_unknown (kw s : Settings) (k : Str)
    (hk : k ∈ kw.map (·.1)) (hs : tagOf schema k = none) : ∃ k', overlay schema kw s = .error (.unknownKw k') := by
  induction kw generalizing s with
  | nil => simp at hk
  | cons e r ih =>
    obtain ⟨k', v'⟩ := e
    simp only [overlay]
    split
    · exact ⟨_, rfl⟩
    · exact ⟨_, rfl⟩
    · rename_i t hne ht
      have : k' ≠ k := by
        intro hh; subst hh; rw [hs] at ht; cases ht
      simp at hk
      rcases hk with hk | hk
      · exact absurd hk.symm this
      · exact ih _ (by simpa using hk)


theorem convertDict_ok_dict (t : Tag) (key : Str) (xs : List Str) (w : PyVal)
    (h : convertDict seps t key xs = .ok w) : ∃ d, w = .dict d := by
  unfold convertDict convertDictF at h
  split at h
  · split at h
    · simp at h; exact ⟨_, h.symm⟩
    · simp at h
  · split at h
    · split at h
      · simp at h; exact ⟨_, h.symm⟩
      · simp at h
    · simp at h

theorem convertToBool_ok (key : Str) (v w : PyVal) (h : convertToBool key v = .ok w) : ∃ b, w = .atom (.bool b) := by
  unfold convertToBool at h
  split at h
  · split at h
    · simp at h; exact ⟨_, h.symm⟩
    · simp at h
  · simp at h; exact ⟨_, h.symm⟩
  · simp at h
  · simp at h

/-- `convert_setting` is idempotent on its own results (the code applies it twice to metadata:
    in `load_markdown_settings` and again in `from_markdown_metadata`). -/
theorem convertSetting_idem (t : Tag) (key : Str) (v w : PyVal)
    (h : convertSetting seps t key v = .ok w) : convertSetting seps t key w = .ok w := by
  -- where `convertSetting` hands the value back unchanged the hypothesis is the claim; elsewhere it builds a value of
  -- the declared type, except for the path tags, whose `str` result their own branch passes through
  have h0 := h
  unfold convertSetting at h
  split at h
  · cases h
    exact h0
  · cases t with
    | plainList =>
      cases v with
      | atom a =>
        cases h
        simp [convertSetting, sameType]
      | _ => cases h
    | bool | noInit =>
      obtain ⟨b, rfl⟩ := convertToBool_ok _ _ _ h
      simp [convertSetting, sameType]
    | int =>
      dsimp only at h
      split at h
      · split at h
        · cases h
          simp [convertSetting, sameType]
        · cases h
      · cases h
    | str | optStr | path | optPath =>
      dsimp only at h
      split at h
      · split at h
        · cases h
          simp [convertSetting, sameType]
        · cases h
      · cases h
        exact h0
    | dictStr | dictEft =>
      dsimp only at h
      split at h
      · cases h
        exact h0
      · obtain ⟨d, rfl⟩ := convertDict_ok_dict _ _ _ _ _ h
        simp [convertSetting, sameType]
      · split at h
        · obtain ⟨d, rfl⟩ := convertDict_ok_dict _ _ _ _ _ h
          simp [convertSetting, sameType]
        · cases h
      · cases h
    | listStr | listPath | other =>
      cases h
      exact h0


/-- the shape of every value that comes out of `meta_preprocessor` -/
def mdVal (xs : List Str) : PyVal := .list (xs.map .str)

theorem allStrs_map_str (xs : List Str) : allStrs (xs.map .str) = some xs := by
  induction xs with
  | nil => rfl
  | cons x r ih => simp [allStrs, ih]

theorem parseToDict_err (sep : Char) (key : Str) (xs : List Str) (acc : List (Str × Atom)) (e : Err)
    (h : parseToDict sep key xs acc = .error e) : e = .dictSep key := by
  induction xs generalizing acc with
  | nil => simp [parseToDict] at h
  | cons x r ih =>
    simp only [parseToDict] at h
    split at h
    · simp at h; exact h.symm
    · exact ih _ h

theorem eftDict_err (xs : List Str) (acc : List (Str × Atom)) (e : Err)
    (h : eftDict xs acc = .error e) : e = .eftBad := by
  induction xs generalizing acc with
  | nil => simp [eftDict] at h
  | cons x r ih =>
    simp only [eftDict] at h
    split at h
    · rename_i e' he
      simp at h; subst h
      unfold eftFromString at he
      split at he <;> simp at he
      exact he.symm
    · exact ih _ h

theorem convertDict_err (t : Tag) (key : Str) (xs : List Str) (e : Err)
    (h : convertDict seps t key xs = .error e) : e = .eftBad ∨ e.names = some key := by
  unfold convertDict convertDictF at h
  split at h
  · split at h
    · simp at h
    · rename_i e' he
      simp at h; subst h
      exact Or.inl (eftDict_err _ _ _ he)
  · split at h
    · split at h
      · simp at h
      · rename_i e' he
        simp at h; subst h
        rw [parseToDict_err _ _ _ _ _ he]
        exact Or.inr rfl
    · simp at h; subst h; exact Or.inr rfl

/-- On a metadata-shaped value (non-empty list of strings) `convert_setting` never leaves the
    modelled fragment, and every error except the two listed ones names the option. -/
theorem convertSetting_md_error (t : Tag) (key : Str) (xs : List Str) (e : Err)
    (hne : xs ≠ []) (h : convertSetting seps t key (mdVal xs) = .error e) :
    e = .intBad ∨ e = .eftBad ∨ e.names = some key := by
  cases xs with
  | nil => exact absurd rfl hne
  | cons x r =>
    cases t <;> simp only [convertSetting, mdVal, sameType, allStrs_map_str] at h
    case bool | noInit =>
      cases r <;> simp [convertToBool] at h
      · split at h <;> simp at h
        subst h
        exact Or.inr (Or.inr rfl)
      · subst h
        exact Or.inr (Or.inr rfl)
    case int =>
      simp at h
      split at h <;> simp at h
      exact Or.inl h.symm
    case dictStr | dictEft =>
      simp at h
      exact Or.inr (convertDict_err _ _ _ _ _ h)
    all_goals simp at h


/-- a proper path segment, i.e. one that `normSegs` keeps: not empty, not `.`, not `..` -/
def normalSeg (s : Str) : Bool := !(s == [] || s == ['.'] || s == ['.', '.'])

theorem splitCharAux_append (c : Char) (a b cur : Str) :
    splitCharAux c (a ++ c :: b) cur = splitCharAux c a cur ++ splitCharAux c b [] := by
  induction a generalizing cur with
  | nil => simp [splitCharAux]
  | cons x r ih =>
    by_cases hx : x = c <;> simp [splitCharAux, hx, ih]

theorem splitCharAux_no_sep (c : Char) (s cur : Str) (h : c ∉ s) :
    splitCharAux c s cur = [cur.reverse ++ s] := by
  induction s generalizing cur with
  | nil => simp [splitCharAux]
  | cons x r ih =>
    simp at h
    have hx : x ≠ c := fun hh => h.1 hh.symm
    simp [splitCharAux, hx, ih _ h.2]

theorem splitCharAux_pieces (c : Char) (s cur : Str) (hc : c ∉ cur) :
    ∀ seg ∈ splitCharAux c s cur, c ∉ seg := by
  induction s generalizing cur with
  | nil => simp [splitCharAux]; exact hc
  | cons x r ih =>
    by_cases hx : x = c
    · simp only [splitCharAux, hx, beq_self_eq_true, if_true]
      intro seg hseg
      simp at hseg
      rcases hseg with hseg | hseg
      · subst hseg; simpa using hc
      · exact ih [] (by simp) seg hseg
    · simp only [splitCharAux, hx, beq_iff_eq, if_false]
      exact ih (x :: cur) (by simp [hc, Ne.symm hx])

theorem splitChar_joinSep (c : Char) (segs : List Str) (hne : segs ≠ []) (h : ∀ seg ∈ segs, c ∉ seg) :
    splitChar c (joinSep c segs) = segs := by
  induction segs with
  | nil => exact absurd rfl hne
  | cons x r ih =>
    cases r with
    | nil => simp [joinSep, splitChar, splitCharAux_no_sep c x [] (h x (by simp))]
    | cons y r' =>
      simp only [joinSep, splitChar]
      rw [splitCharAux_append, splitCharAux_no_sep c x [] (h x (by simp))]
      have := ih (by simp) (fun seg hs => h seg (by simp [hs]))
      simp only [splitChar] at this
      simp [this]

theorem normSegs_append (xs ys acc : List Str) :
    normSegs (xs ++ ys) acc = normSegs ys (normSegs xs acc).reverse := by
  induction xs generalizing acc with
  | nil => simp [normSegs]
  | cons x r ih =>
    simp only [List.cons_append, normSegs]
    split
    · exact ih _
    · split
      · exact ih _
      · exact ih _

theorem normSegs_forall (P : Str → Prop) (segs acc : List Str) (hacc : ∀ a ∈ acc, P a)
    (hsegs : ∀ a ∈ segs, normalSeg a = true → P a) : ∀ a ∈ normSegs segs acc, P a := by
  induction segs generalizing acc with
  | nil => simpa [normSegs] using hacc
  | cons x r ih =>
    have hr : ∀ a ∈ r, normalSeg a = true → P a := fun a ha => hsegs a (by simp [ha])
    simp only [normSegs]
    split
    · exact ih _ hacc hr
    · split
      · exact ih _ (fun a ha => hacc a (List.mem_of_mem_tail ha)) hr
      · rename_i h1 h2
        refine ih _ ?_ hr
        intro a ha
        rcases List.mem_cons.1 ha with rfl | ha
        · exact hsegs a (by simp) (by simpa [normalSeg] using And.intro h1 h2)
        · exact hacc a ha

theorem normSegs_of_normal (segs acc : List Str) (h : ∀ a ∈ segs, normalSeg a = true) :
    normSegs segs acc = acc.reverse ++ segs := by
  induction segs generalizing acc with
  | nil => simp [normSegs]
  | cons x r ih =>
    have hx := h x (by simp)
    simp [normalSeg] at hx
    simp [normSegs, hx, ih _ (fun a ha => h a (by simp [ha]))]

/-- a raw sentinel test (`self.f == SENTINEL`) never fires on a string -/
theorem sentinelHit_raw_str (sent p : Str) : sentinelHit false sent (.atom (.str p)) = some false := by
  simp [sentinelHit]

theorem sentinelHit_raw_true (sent : Str) (v : PyVal) (h : sentinelHit false sent v = some true) :
    v = .atom (.path sent) := by
  unfold sentinelHit at h
  split at h <;> simp_all

/-- raw sentinel tests leave alone every field that does not hold a `Path` object (a string, a
    list, ...: anything a settings file, `--config` or the command line delivers) -/
theorem aget_applySentinels_nonpath (dir pkg : Str) (tests : List (Str × Bool × Str × SentinelRepl))
    (s s' : Settings) (k : Str) (v : PyVal) (hraw : ∀ e ∈ tests, e.2.1 = false)
    (hv : ∀ q, v ≠ .atom (.path q))
    (hk : aget k s = some v) (h : applySentinels dir pkg tests s = .ok s') :
    aget k s' = some v := by
  fun_induction applySentinels dir pkg tests s with
  | case1 s =>
    cases h
    exact hk
  | case2 f coerce sent repl rest s hh => cases h
  | case3 f coerce sent repl rest s hh ih =>
    obtain rfl : coerce = false := hraw (f, coerce, sent, repl) (by simp)
    have hne : k ≠ f := by
      rintro rfl
      rw [hk] at hh
      exact hv sent (sentinelHit_raw_true sent _ hh)
    exact ih (fun e he => hraw e (by simp [he])) (by rw [aget_aset_ne _ _ _ _ hne]; exact hk) h
  | case4 f coerce sent repl rest s hh ih => exact ih (fun e he => hraw e (by simp [he])) hk h

theorem aget_normAll (dir : Str) (s s' : Settings) (k : Str) (v : PyVal)
    (hk : aget k s = some v) (h : normAll schema dir s = .ok s') :
    ∃ v', normField dir (tagOf schema k) v = .ok v' ∧ aget k s' = some v' := by
  fun_induction normAll schema dir s generalizing s' with
  | case1 => cases hk
  | case2 k2 v2 rest e h1 => cases h
  | case3 k2 v2 rest w h1 r' h2 ih =>
    cases h
    by_cases hkk : k2 = k
    · subst hkk
      obtain rfl : v2 = v := by simpa [aget] using hk
      exact ⟨w, h1, by simp [aget]⟩
    · obtain ⟨v', hv1, hv2⟩ := ih r' (by simpa [aget, hkk] using hk) h2
      exact ⟨v', hv1, by simp [aget, hkk, hv2]⟩
  | case4 => cases h

theorem normAtoms_strs (dir : Str) (ps : List Str) :
    normAtoms dir (ps.map .str) = some (ps.map (fun p => .path (normPath dir p))) := by
  induction ps with
  | nil => rfl
  | cons p r ih => simp [normAtoms, normAtom, ih]

theorem normalisePaths_ok (tests : List (Str × Bool × Str × SentinelRepl)) (dir pkg : Str) (s s' : Settings)
    (h : normalisePaths schema tests dir pkg s = .ok s') :
    ∃ s1 s2, applySentinels dir pkg tests (aset "directory".toList (.atom (.path dir)) s) = .ok s1
      ∧ normAll schema dir s1 = .ok s2
      ∧ (s' = s2 ∨ s' = aset "project_url".toList (getD "output_dir" s2) s2) := by
  unfold normalisePaths at h
  dsimp only at h
  split at h
  · cases h
  · rename_i s1 h1
    split at h
    · cases h
    · rename_i s2 h2
      refine ⟨s1, s2, h1, h2, ?_⟩
      split at h
      · cases h
        exact Or.inr rfl
      · cases h
        exact Or.inl rfl

theorem aget_normalisePaths (tests : List (Str × Bool × Str × SentinelRepl))
    (dir pkg : Str) (s s' : Settings) (k : Str) (v : PyVal)
    (hraw : ∀ e ∈ tests, e.2.1 = false)
    (hd : k ≠ "directory".toList) (hu : k ≠ "project_url".toList)
    (hk : aget k s = some v) (hv : ∀ q, v ≠ .atom (.path q))
    (h : normalisePaths schema tests dir pkg s = .ok s') :
    ∃ v', normField dir (tagOf schema k) v = .ok v' ∧ aget k s' = some v' := by
  obtain ⟨s1, s2, h1, h2, h3⟩ := normalisePaths_ok schema tests dir pkg s s' h
  have hk1 := aget_applySentinels_nonpath dir pkg tests _ s1 k v hraw hv
    (by rw [aget_aset_ne _ _ _ _ hd]; exact hk) h1
  obtain ⟨v', hv1, hv2⟩ := aget_normAll schema dir s1 s2 k _ hk1 h2
  refine ⟨v', hv1, ?_⟩
  rcases h3 with rfl | rfl
  · exact hv2
  · rw [aget_aset_ne _ _ _ _ hu]
    exact hv2

end Ford.Settings
