/-
  Lemmas about the backtracking model (FordModel/Backtrack.lean): how many `paths` there are, and the
  loop of the matcher.
-/
import FordModel.Backtrack
namespace Ford.Rx

theorem inCls_or (a b : Nat) (c : Char) : inCls (a ||| b) c = (inCls a c || inCls b c) := by
  simp only [inCls, Nat.testBit_or]
  cases decide (c.toNat < 128) <;> simp

theorem inCls_zero (c : Char) : inCls 0 c = false := by simp [inCls]

theorem inCls_disjoint (a b : Nat) (h : a &&& b = 0) (c : Char) (ha : inCls a c = true) : inCls b c = false := by
  simp only [inCls, Bool.and_eq_true, decide_eq_true_eq] at ha
  have : (a &&& b).testBit c.toNat = false := by rw [h]; simp
  rw [Nat.testBit_and, ha.2] at this
  simp only [Bool.true_and] at this
  simp [inCls, this]

theorem length_flatMap_le_one {α β : Type} (l : List α) (f : α → List β) (hl : l.length ≤ 1)
    (hf : ∀ x, (f x).length ≤ 1) : (l.flatMap f).length ≤ 1 := by
  match l, hl with
  | [], _ => simp
  | [x], _ => simpa using hf x

/-- elements of a loop's result: either nothing was consumed and the lower bound is reached,
    or the subject starts with a character the body can start with -/
theorem iter_first (f : Str → List Str) (m : Nat) (lo : Nat) (hi : Option Nat)
    (hf : ∀ s x, x ∈ f s → x = s ∨ ∃ c t, s = c :: t ∧ inCls m c = true) :
    ∀ (fuel k : Nat) (s x : Str), x ∈ iter f lo hi fuel k s →
      (x = s ∧ lo ≤ k) ∨ ∃ c t, s = c :: t ∧ inCls m c = true := by
  intro fuel
  induction fuel with
  | zero => intro k s x h; simp [iter] at h
  | succ n _ =>
    intro k s x h
    simp only [iter, List.mem_append] at h
    rcases h with h | h
    · split at h
      · simp at h; exact .inl ⟨h, by assumption⟩
      · simp at h
    · split at h
      · simp only [List.mem_flatMap, List.mem_filter, decide_eq_true_eq] at h
        obtain ⟨t, ⟨ht, hlt⟩, _⟩ := h
        rcases hf s t ht with h1 | h1
        · subst h1; omega
        · exact .inr h1
      · simp at h

/-- **`first` and `nullable` are sound**: a way to match either consumes nothing (and the
    expression is nullable) or starts with a character of `first` -/
theorem paths_first (n0 : Nat) (r : Rx) : ∀ (s x : Str), x ∈ paths n0 r s →
    (x = s ∧ nullable r = true) ∨ ∃ c t, s = c :: t ∧ inCls (first r) c = true := by
  induction r with
  | cls m =>
    intro s x h
    match s with
    | [] => simp [paths] at h
    | c :: t =>
      simp only [paths] at h
      split at h
      · exact .inr ⟨c, t, rfl, by simpa [first]⟩
      · simp at h
  | eps | bos | eos | lookb | look =>
    intro s x h
    exact .inl ⟨by simp_all [paths], rfl⟩
  | seq a b iha ihb =>
    intro s x h
    simp only [paths, List.mem_flatMap] at h
    obtain ⟨y, hy, hx⟩ := h
    rcases iha s y hy with ⟨rfl, hna⟩ | ⟨c, t, rfl, hc⟩
    · rcases ihb y x hx with ⟨rfl, hnb⟩ | ⟨c, t, rfl, hc⟩
      · exact .inl ⟨rfl, by simp [nullable, hna, hnb]⟩
      · exact .inr ⟨c, t, rfl, by simp [first, hna, inCls_or, hc]⟩
    · refine .inr ⟨c, t, rfl, ?_⟩
      simp only [first]
      split
      · simp [inCls_or, hc]
      · exact hc
  | alt a b iha ihb =>
    intro s x h
    simp only [paths, List.mem_append] at h
    rcases h with h | h
    · rcases iha s x h with ⟨rfl, hn⟩ | ⟨c, t, rfl, hc⟩
      · exact .inl ⟨rfl, by simp [nullable, hn]⟩
      · exact .inr ⟨c, t, rfl, by simp [first, inCls_or, hc]⟩
    · rcases ihb s x h with ⟨rfl, hn⟩ | ⟨c, t, rfl, hc⟩
      · exact .inl ⟨rfl, by simp [nullable, hn]⟩
      · exact .inr ⟨c, t, rfl, by simp [first, inCls_or, hc]⟩
  | rep lo hi a iha =>
    intro s x h
    simp only [paths] at h
    have hf : ∀ s x, x ∈ paths n0 a s → x = s ∨ ∃ c t, s = c :: t ∧ inCls (first a) c = true := by
      intro s x hx
      rcases iha s x hx with ⟨h1, _⟩ | h1
      · exact .inl h1
      · exact .inr h1
    rcases iter_first _ (first a) lo hi hf _ _ _ _ h with ⟨rfl, hk⟩ | h1
    · exact .inl ⟨rfl, by simp [nullable]; left; omega⟩
    · exact .inr (by simpa [first] using h1)

/-- a non-nullable expression has no way to match where the subject starts with a character
    outside `first` (or is empty) -/
theorem paths_nil_of_not_first (n0 : Nat) (r : Rx) (hn : nullable r = false) (s : Str)
    (hs : ∀ c t, s = c :: t → inCls (first r) c = false) : paths n0 r s = [] := by
  apply List.eq_nil_iff_forall_not_mem.mpr
  intro x hx
  rcases paths_first n0 r s x hx with ⟨_, h⟩ | ⟨c, t, rfl, hc⟩
  · simp [hn] at h
  · simp [hs c t rfl] at hc

/-- a run of one character set followed by something that starts outside the set:
    there is one place where the run can stop -/
theorem run_then_le_one (m lo : Nat) (hi : Option Nat) (g : Str → List Str)
    (hg : ∀ s, (g s).length ≤ 1)
    (hg0 : ∀ c t, inCls m c = true → g (c :: t) = []) :
    ∀ (fuel k : Nat) (s : Str),
      ((iter (fun s => match s with | c :: t => if inCls m c then [t] else [] | [] => []) lo hi fuel k s).flatMap g).length ≤ 1 := by
  intro fuel
  induction fuel with
  | zero => intro k s; simp [iter]
  | succ n ih =>
    intro k s
    match s with
    | [] =>
      simp only [iter, List.filter_nil, List.flatMap_nil, List.flatMap_append, List.length_append]
      have := hg []
      split <;> split <;> simp <;> omega
    | c :: t =>
      by_cases hc : inCls m c = true
      · have h0 := hg0 c t hc
        have := ih (k + 1) t
        simp only [iter, hc, List.flatMap_append, List.length_append]
        split <;> split <;> simp [-List.length_flatMap, h0] <;> omega
      · have := hg (c :: t)
        simp only [iter, hc, List.flatMap_append, List.length_append]
        split <;> split <;> simp <;> omega

/-- **A `functional` expression has at most one way to match**, at any position of any subject. -/
theorem functional_le_one (n0 : Nat) (r : Rx) : functional r = true → ∀ s, (paths n0 r s).length ≤ 1 := by
  -- the cases are the equations of `functional` as written: 1-6 cls, eps, bos, eos, lookb, look;
  -- 7 a run closed by `b`; 8 the other sequences; 9 alternatives; 10 loops (never functional)
  fun_induction functional r with
  | case1 m => intro _ s; cases s <;> simp [paths]; split <;> simp
  | case2 | case5 => intro _ s; simp [paths]
  | case3 | case4 | case6 => intro _ s; simp only [paths]; split <;> simp
  | case7 lo hi m b ihb =>
    -- a run over the set `m` closed by `b`, which starts outside `m`: the run can stop in one place only
    intro h s
    simp only [Bool.and_eq_true, Bool.not_eq_true', beq_iff_eq] at h
    obtain ⟨⟨hfb, hnb⟩, hdis⟩ := h
    simp only [paths]
    apply run_then_le_one m lo hi (paths n0 b) (ihb hfb)
    intro c t hc
    apply paths_nil_of_not_first n0 b hnb
    intro c' t' he
    cases he
    -- `functional` tests `first b &&& m`, the lemma wants `m &&& first b`
    exact inCls_disjoint m (first b) (by rw [Nat.and_comm]; exact hdis) c hc
  | case8 a b _ iha ihb =>
    intro h s
    simp only [Bool.and_eq_true] at h
    simp only [paths]
    exact length_flatMap_le_one _ _ (iha h.1 s) (ihb h.2)
  | case9 a b iha ihb =>
    -- alternatives that start with different characters: the first character decides
    intro h s
    simp only [Bool.and_eq_true, Bool.not_eq_true', beq_iff_eq] at h
    obtain ⟨⟨⟨⟨hfa, hfb⟩, hna⟩, hnb⟩, hdis⟩ := h
    simp only [paths, List.length_append]
    match s with
    | [] =>
      rw [paths_nil_of_not_first n0 a hna [] (by simp), paths_nil_of_not_first n0 b hnb [] (by simp)]
      simp
    | c :: t =>
      by_cases hc : inCls (first a) c = true
      · rw [paths_nil_of_not_first n0 b hnb (c :: t)
            (by intro c' t' he; cases he; exact inCls_disjoint _ _ hdis c hc)]
        simpa using iha hfa (c :: t)
      · rw [paths_nil_of_not_first n0 a hna (c :: t) (by intro c' t' he; cases he; simpa using hc)]
        simpa using ihb hfb (c :: t)
  | case10 => intro h; simp at h

/-- **A loop over a body that has at most one way to match has at most `|s| + 1` ways.** -/
theorem iter_linear (f : Str → List Str) (hf : ∀ s, (f s).length ≤ 1) (lo : Nat) (hi : Option Nat) :
    ∀ (fuel k : Nat) (s : Str), (iter f lo hi fuel k s).length ≤ s.length + 1 := by
  intro fuel
  induction fuel with
  | zero => intro k s; simp [iter]
  | succ n ih =>
    intro k s
    simp only [iter, List.length_append]
    have h1 : (if lo ≤ k then [s] else []).length ≤ 1 := by split <;> simp
    have h2 : (if hiAllows hi k = true then
        ((f s).filter (fun t => decide (t.length < s.length))).flatMap (iter f lo hi n (k + 1)) else []).length
        ≤ s.length := by
      split
      · have hfs := hf s
        match hfs' : f s, hfs with
        | [], _ => simp
        | [t], _ =>
          by_cases hlt : t.length < s.length
          · have := ih (k + 1) t
            simp [hlt]; omega
          · simp [hlt]
      · simp
    omega

/-- The engine tries one more iteration before it tries to stop, `iter` lists the stop first:
    `any` does not care about the order. -/
theorem iterK_eq_any (f : Str → (Str → Bool) → Bool) (g : Str → List Str)
    (hf : ∀ s k, f s k = (g s).any k) (lo : Nat) (hi : Option Nat) :
    ∀ (fuel k : Nat) (s : Str) (kont : Str → Bool),
      iterK f lo hi fuel k s kont = (iter g lo hi fuel k s).any kont := by
  intro fuel
  induction fuel with
  | zero => intro k s kont; simp [iterK, iter]
  | succ n ih =>
    intro k s kont
    simp only [iterK, iter, List.any_append, hf]
    rw [Bool.or_comm]
    congr 1
    · split
      · simp_all
      · rename_i h; simp; intro h2; omega
    · cases hiAllows hi k
      · simp
      · simp only [Bool.true_and, if_true, List.any_flatMap, List.any_filter]
        congr 1
        funext t
        rw [ih]

end Ford.Rx
