/-
  Lemmas about the path part of the C11 model: `relpath`, `resolve` of FordModel/Links.lean, which works on
  lists of segment strings (`..` and `.` are segments) and is not the path model of FordModel/Path.lean.
-/
import FordModel.Links
namespace Ford.Links

/-- no `..` or `.` segment -/
def Plain (p : Path) : Prop := ∀ s ∈ p, s ≠ dotdot ∧ s ≠ dot

theorem Plain.nil : Plain [] := by intro s h; cases h

theorem Plain.append {a b : Path} (ha : Plain a) (hb : Plain b) : Plain (a ++ b) := by
  intro s h
  rcases List.mem_append.1 h with h | h
  · exact ha s h
  · exact hb s h

theorem Plain.drop {a : Path} (ha : Plain a) (n : Nat) : Plain (a.drop n) :=
  fun s h => ha s (List.mem_of_mem_drop h)

theorem normAux_plain (acc l : Path) (hl : Plain l) : normAux acc l = acc.reverse ++ l := by
  induction l generalizing acc with
  | nil => simp [normAux]
  | cons s rest ih =>
    have h1 := hl s (by simp)
    have hr : Plain rest := fun x hx => hl x (by simp [hx])
    have e1 : (s == dotdot) = false := by simpa using h1.1
    have e2 : (s == dot) = false := by simpa using h1.2
    simp [normAux, e1, e2, ih (s :: acc) hr]

theorem normAux_dots (acc rest : Path) (n : Nat) :
    normAux acc (List.replicate n dotdot ++ rest) = normAux (acc.drop n) rest := by
  induction n generalizing acc with
  | zero => simp
  | succ k ih =>
    simp only [List.replicate_succ, List.cons_append]
    rw [normAux]
    simp only [beq_self_eq_true, if_true]
    rw [ih]
    cases acc <;> simp

/-- `commonLen a b` is the length of a common prefix of `a` and `b` -/
theorem commonLen_spec (a b : Path) :
    commonLen a b ≤ a.length ∧ commonLen a b ≤ b.length ∧
      a.take (commonLen a b) = b.take (commonLen a b) := by
  fun_induction commonLen a b with
  | case1 a as b bs h ih => simpa [beq_iff_eq.1 h] using ih
  | case2 => simp
  | case3 => simp

theorem commonLen_le_left (a b : Path) : commonLen a b ≤ a.length := (commonLen_spec a b).1

theorem commonLen_append_left (p a b : Path) : commonLen (p ++ a) (p ++ b) = p.length + commonLen a b := by
  induction p with
  | nil => exact (Nat.zero_add _).symm
  | cons x xs ih =>
    simp only [List.cons_append, commonLen, beq_self_eq_true, if_true, ih, List.length_cons]
    exact Nat.add_right_comm ..

/-- the raw relative path (before the "empty means `.`" rule) resolves back to the target -/
theorem resolve_raw (t s : Path) (ht : Plain t) :
    normAux s.reverse (List.replicate (s.length - commonLen t s) dotdot ++ t.drop (commonLen t s)) = t := by
  obtain ⟨_, hc, htake⟩ := commonLen_spec t s
  rw [normAux_dots, normAux_plain _ _ (ht.drop _), List.drop_reverse, List.reverse_reverse,
    Nat.sub_sub_self hc, ← htake, List.take_append_drop]

theorem resolve_relpath (t s : Path) (ht : Plain t) : resolve s (relpath t s) = t := by
  have hraw := resolve_raw t s ht
  unfold resolve relpath
  simp only
  split
  · rename_i h
    -- `normAux acc [dot]` reduces to `normAux acc []`
    rw [List.isEmpty_iff.1 h] at hraw
    exact hraw
  · exact hraw

theorem relpath_common_root (b t s : Path) : relpath (b ++ t) (b ++ s) = relpath t s := by
  unfold relpath
  simp only [commonLen_append_left, List.length_append, Nat.add_sub_add_left, ← List.drop_drop,
    List.drop_left]

theorem resolve_relpath_other_root (b o t s : Path) (hp : Plain (o ++ t)) :
    resolve (o ++ s) (relpath (b ++ t) (b ++ s)) = o ++ t := by
  rw [relpath_common_root b t s, ← relpath_common_root o t s]
  exact resolve_relpath (o ++ t) (o ++ s) hp

/-- the "non-existent sibling directory" trick: a link computed relative to `base/<nd>` resolves
    correctly from *every* directory `base/<d>` one level below the base -/
theorem resolve_from_any_sibling (base : Path) (x nd d : Str) (xs : Path)
    (hx : (x == nd) = false) (hp : Plain (x :: xs)) :
    resolve (base ++ [d]) (relpath (base ++ x :: xs) (base ++ [nd])) = base ++ x :: xs := by
  have hr : relpath (x :: xs) [nd] = dotdot :: x :: xs := by simp [relpath, commonLen, hx]
  rw [relpath_common_root, hr, resolve, normAux]
  simp only [beq_self_eq_true, if_true, List.reverse_append, List.reverse_cons, List.reverse_nil,
    List.nil_append, List.singleton_append, List.tail_cons]
  rw [normAux_plain _ _ hp, List.reverse_reverse]

end Ford.Links
