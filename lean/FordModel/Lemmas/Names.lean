/-
  Lemmas about the naming model (C10).
-/
import FordModel.Names
namespace Ford.Names
open Ford

@[simp] theorem assoc_nil {α β : Type} [DecidableEq α] (k : α) : assoc k ([] : List (α × β)) = none := rfl

@[simp] theorem assoc_cons {α β : Type} [DecidableEq α] (k a : α) (b : β) (t : List (α × β)) :
    assoc k ((a, b) :: t) = if k = a then some b else assoc k t := rfl

theorem mem_of_assoc_some {α β : Type} [DecidableEq α] (k : α) (v : β) : ∀ (L : List (α × β)),
    assoc k L = some v → (k, v) ∈ L := by
  intro L
  induction L with
  | nil => intro h; cases h
  | cons x xs ih =>
    obtain ⟨a, b⟩ := x
    rw [assoc_cons]
    split
    · rename_i e
      intro h
      rw [e, Option.some.inj h]
      exact List.mem_cons_self
    · exact fun h => List.mem_cons_of_mem _ (ih h)

theorem ne_of_assoc_none {α β : Type} [DecidableEq α] (k : α) : ∀ (L : List (α × β)),
    assoc k L = none → ∀ e ∈ L, e.1 ≠ k := by
  intro L
  induction L with
  | nil => intro _ e he; cases he
  | cons x xs ih =>
    obtain ⟨a, b⟩ := x
    rw [assoc_cons]
    split
    · intro h; cases h
    · rename_i e
      intro h y hy
      rcases List.mem_cons.1 hy with rfl | hy
      · exact fun c => e c.symm
      · exact ih h y hy

theorem assoc_functional {α β : Type} [DecidableEq α] (L : List (α × β)) (e : α × β) (he : e ∈ L)
    (hf : ∀ x ∈ L, ∀ y ∈ L, x.1 = y.1 → x = y) : assoc e.1 L = some e.2 := by
  cases h : assoc e.1 L with
  | none => exact absurd rfl (ne_of_assoc_none _ L h e he)
  | some v => rw [← hf _ (mem_of_assoc_some _ _ L h) e he rfl]

theorem split_first_sep (c : Char) : ∀ (a b x y : Str), c ∉ a → c ∉ b →
    a ++ c :: x = b ++ c :: y → a = b ∧ x = y := by
  intro a
  induction a with
  | nil =>
    intro b x y _ hb h
    cases b with
    | nil => simpa using h
    | cons b0 bs =>
      simp at h
      simp [h.1] at hb
  | cons a0 as ih =>
    intro b x y ha hb h
    cases b with
    | nil =>
      simp at h
      simp [h.1] at ha
    | cons b0 bs =>
      simp at h ha hb
      obtain ⟨h0, h1⟩ := h
      have := ih bs x y ha.2 hb.2 h1
      simp [h0, this.1, this.2]

theorem sep_append_ne (c : Char) (a b x : Str) (hb : c ∉ b) : a ++ c :: x ≠ b := by
  intro h
  apply hb
  rw [← h]
  simp

/-- one step of reading a digit string from the left (`foldl decStep 0` reads `decimal n` back: `decAux_val`) -/
def decStep (a : Nat) (c : Char) : Nat := 10 * a + (c.toNat - 48)

theorem digitChar_val : ∀ n, n < 10 → (digitChar n).toNat - 48 = n := by decide +kernel

theorem decAux_val : ∀ (fuel n : Nat) (acc : Str), n < fuel →
    (decAux fuel n acc).foldl decStep 0 = acc.foldl decStep n := by
  intro fuel
  induction fuel with
  | zero => intro n acc h; cases h
  | succ f ih =>
    intro n acc h
    unfold decAux
    split
    · rename_i h10
      rw [List.foldl_cons, decStep, digitChar_val n h10, Nat.mul_zero, Nat.zero_add]
    · rw [ih (n / 10) _ (by omega), List.foldl_cons, decStep, digitChar_val _ (Nat.mod_lt n (by decide)),
        Nat.div_add_mod]

theorem decimal_inj (a b : Nat) (h : decimal a = decimal b) : a = b := by
  have ha := decAux_val (a + 1) a [] (Nat.lt_succ_self a)
  rw [← decimal, h, decimal, decAux_val (b + 1) b [] (Nat.lt_succ_self b)] at ha
  exact ha.symm

theorem isDigit_digitChar : ∀ n, n < 10 → isDigit (digitChar n) = true := by decide +kernel

theorem decAux_digits : ∀ (fuel n : Nat) (acc : Str), (∀ c ∈ acc, isDigit c = true) →
    ∀ c ∈ decAux fuel n acc, isDigit c = true := by
  intro fuel
  induction fuel with
  | zero => intro n acc h; exact h
  | succ f ih =>
    intro n acc h
    unfold decAux
    split
    · rename_i h10
      exact List.forall_mem_cons.2 ⟨isDigit_digitChar n h10, h⟩
    · exact ih _ _ (List.forall_mem_cons.2 ⟨isDigit_digitChar _ (Nat.mod_lt n (by decide)), h⟩)

theorem decimal_digits (n : Nat) : ∀ c ∈ decimal n, isDigit c = true :=
  decAux_digits _ _ [] (by simp)

theorem stemOf_inj (T : Cfg) (n1 n2 : Str) (k1 k2 : Nat)
    (h1 : T.sep ∉ baseOf T n1) (h2 : T.sep ∉ baseOf T n2) (hk1 : 1 ≤ k1) (hk2 : 1 ≤ k2)
    (h : stemOf T n1 k1 = stemOf T n2 k2) : baseOf T n1 = baseOf T n2 ∧ k1 = k2 := by
  unfold stemOf at h
  by_cases c1 : k1 > 1 <;> by_cases c2 : k2 > 1 <;> simp [c1, c2] at h
  · obtain ⟨hb, hd⟩ := split_first_sep T.sep _ _ _ _ h1 h2 h
    exact ⟨hb, decimal_inj _ _ hd⟩
  · exact absurd h (sep_append_ne _ _ _ _ h2)
  · exact absurd h.symm (sep_append_ne _ _ _ _ h1)
  · exact ⟨h, by omega⟩

/-- ghost record of one registered entity: which (dir, name) it was registered
    with and which use number it got -/
structure Ghost where
  id : Nat
  dir : Option Str
  name : Str
  k : Nat

def ghostItem (T : Cfg) (g : Ghost) : Nat × Str := (g.id, stemOf T g.name g.k)

/-- `rs` are the requests of the whole run: every ghost entry stems from one of them. -/
structure Inv (T : Cfg) (v : Variant) (rs : List Req) (ns : NS) (G : List Ghost) : Prop where
  items : ns.items = G.map (ghostItem T)
  /-- a use number never exceeds the counter of its (dir, key) -/
  bound : ∀ g ∈ G, 1 ≤ g.k ∧ g.k ≤ cnt ns (g.dir, keyOf v g.name)
  idu : ∀ a ∈ G, ∀ b ∈ G, a.id = b.id → a = b
  /-- one entity per (dir, key, use number): with `stemOf_inj` this is why stems differ -/
  slot : ∀ a ∈ G, ∀ b ∈ G, a.dir = b.dir → keyOf v a.name = keyOf v b.name → a.k = b.k → a.id = b.id
  orig : ∀ g ∈ G, ∃ r ∈ rs, g.id = r.id ∧ g.dir = r.dir ∧ g.name = r.name

theorem inv_empty (T : Cfg) (v : Variant) (rs : List Req) : Inv T v rs {} [] :=
  ⟨rfl, by simp, by simp, by simp, by simp⟩

theorem Inv.ghost_of_item {T : Cfg} {v : Variant} {rs : List Req} {ns : NS} {G : List Ghost}
    (h : Inv T v rs ns G) (i : Nat) (s : Str) (hs : assoc i ns.items = some s) :
    ∃ g ∈ G, g.id = i ∧ s = stemOf T g.name g.k := by
  rw [h.items] at hs
  obtain ⟨g, hg, e⟩ := List.mem_map.1 (mem_of_assoc_some i s _ hs)
  cases e
  exact ⟨g, hg, rfl, rfl⟩

theorem cnt_cons (ns : NS) (k k' : Option Str × Str) (n : Nat) (items : List (Nat × Str)) :
    cnt { items := items, counts := (k, n) :: ns.counts } k' = if k' = k then n else cnt ns k' := by
  unfold cnt
  by_cases e : k' = k <;> simp [e]

theorem inv_step (T : Cfg) (v : Variant) (rs : List Req) (ns : NS) (G : List Ghost) (h : Inv T v rs ns G)
    (r : Req) (hr : r ∈ rs) : ∃ G', Inv T v rs (getName T v ns r).2 G' := by
  unfold getName
  cases hlook : assoc r.id ns.items with
  | some s => exact ⟨G, h⟩
  | none =>
    simp only
    have hfresh : ∀ g ∈ G, g.id ≠ r.id := by
      rw [h.items] at hlook
      exact fun g hg => ne_of_assoc_none r.id _ hlook _ (List.mem_map_of_mem hg)
    -- one goal per field of `Inv`; the new entry gets the number `cnt + 1`, above the `bound` of every old
    -- entry with its (dir, key), so it shares a slot with none of them
    refine ⟨⟨r.id, r.dir, r.name, cnt ns (r.dir, keyOf v r.name) + 1⟩ :: G, ?_, ?_, ?_, ?_, ?_⟩
    · simp [ghostItem, h.items]
    · intro g hg
      rw [cnt_cons]
      rcases List.mem_cons.1 hg with rfl | hg
      · simp
      · have := h.bound g hg
        split
        · rename_i e
          rw [e] at this
          omega
        · exact this
    · intro a ha b hb hab
      rcases List.mem_cons.1 ha with rfl | ha <;> rcases List.mem_cons.1 hb with rfl | hb
      · rfl
      · exact absurd hab.symm (hfresh b hb)
      · exact absurd hab (hfresh a ha)
      · exact h.idu a ha b hb hab
    · intro a ha b hb hd hkey hk
      rcases List.mem_cons.1 ha with rfl | ha <;> rcases List.mem_cons.1 hb with rfl | hb
      · rfl
      · have := (h.bound b hb).2
        rw [← hd, ← hkey, ← hk] at this
        exact absurd this (Nat.not_succ_le_self _)
      · have := (h.bound a ha).2
        rw [hd, hkey, hk] at this
        exact absurd this (Nat.not_succ_le_self _)
      · exact h.slot a ha b hb hd hkey hk
    · intro g hg
      rcases List.mem_cons.1 hg with rfl | hg
      · exact ⟨r, hr, rfl, rfl, rfl⟩
      · exact h.orig g hg

theorem inv_final (T : Cfg) (v : Variant) (rs₀ : List Req) : ∀ (rs : List Req) (ns : NS) (G : List Ghost),
    (∀ r ∈ rs, r ∈ rs₀) → Inv T v rs₀ ns G → ∃ G', Inv T v rs₀ (final T v ns rs) G' := by
  intro rs
  induction rs with
  | nil => intro ns G _ h; exact ⟨G, h⟩
  | cons r rs ih =>
    intro ns G hr h
    obtain ⟨G1, h1⟩ := inv_step T v rs₀ ns G h r (hr r List.mem_cons_self)
    exact ih _ G1 (fun x hx => hr x (List.mem_cons_of_mem _ hx)) h1

theorem getName_items_self (T : Cfg) (v : Variant) (ns : NS) (r : Req) :
    assoc r.id (getName T v ns r).2.items = some (getName T v ns r).1 := by
  unfold getName
  cases hlook : assoc r.id ns.items with
  | some s => exact hlook
  | none => simp

theorem getName_items_mono (T : Cfg) (v : Variant) (ns : NS) (r : Req) (i : Nat) (s : Str)
    (h : assoc i ns.items = some s) : assoc i (getName T v ns r).2.items = some s := by
  unfold getName
  cases hlook : assoc r.id ns.items with
  | some s' => exact h
  | none =>
    simp only [assoc_cons]
    by_cases e : i = r.id
    · rw [e, hlook] at h; cases h
    · simp [e, h]

theorem final_items_mono (T : Cfg) (v : Variant) : ∀ (rs : List Req) (ns : NS) (i : Nat) (s : Str),
    assoc i ns.items = some s → assoc i (final T v ns rs).items = some s := by
  intro rs
  induction rs with
  | nil => intro ns i s h; exact h
  | cons r rs ih =>
    intro ns i s h
    exact ih _ i s (getName_items_mono T v ns r i s h)

theorem trace_mem (T : Cfg) (v : Variant) : ∀ (rs : List Req) (ns : NS) (p : Req × Str),
    p ∈ trace T v ns rs → p.1 ∈ rs ∧ assoc p.1.id (final T v ns rs).items = some p.2 := by
  intro rs
  induction rs with
  | nil => intro ns p h; cases h
  | cons r rs ih =>
    intro ns p h
    rcases List.mem_cons.1 h with rfl | h
    · exact ⟨List.mem_cons_self, final_items_mono T v rs _ _ _ (getName_items_self T v ns r)⟩
    · exact ⟨List.mem_cons_of_mem _ (ih _ p h).1, (ih _ p h).2⟩

theorem trace_length (T : Cfg) (v : Variant) : ∀ (rs : List Req) (ns : NS),
    (trace T v ns rs).length = rs.length := by
  intro rs
  induction rs with
  | nil => intro ns; rfl
  | cons r rs ih => intro ns; simp [trace, ih]

/-- every entity of a request sequence keeps one (dir, name) -/
def Consistent (rs : List Req) : Prop :=
  ∀ a ∈ rs, ∀ b ∈ rs, a.id = b.id → a.dir = b.dir ∧ a.name = b.name

/-- The core: whatever the counting key, if equal bases imply equal keys and the
    separator does not occur in bases, then different entities of one directory
    get different stems. -/
theorem stems_distinct_core (T : Cfg) (v : Variant) (rs : List Req)
    (hc : Consistent rs)
    (hsep : ∀ r ∈ rs, T.sep ∉ baseOf T r.name)
    (hbase : ∀ a ∈ rs, ∀ b ∈ rs, baseOf T a.name = baseOf T b.name →
      keyOf v a.name = keyOf v b.name) :
    ∀ p ∈ trace T v {} rs, ∀ q ∈ trace T v {} rs,
      p.1.id ≠ q.1.id → p.1.dir = q.1.dir → p.2 ≠ q.2 := by
  intro p hp q hq hid hdir heq
  obtain ⟨G, hG⟩ := inv_final T v rs rs {} [] (fun _ h => h) (inv_empty T v rs)
  have ghost : ∀ p ∈ trace T v {} rs, ∃ g ∈ G, g.id = p.1.id ∧ p.2 = stemOf T g.name g.k ∧
      g.dir = p.1.dir ∧ g.name = p.1.name ∧ p.1 ∈ rs := by
    intro p hp
    obtain ⟨hpm, hpf⟩ := trace_mem T v rs {} p hp
    obtain ⟨g, hg, e, s⟩ := hG.ghost_of_item _ _ hpf
    obtain ⟨r, hr, a, b, c⟩ := hG.orig g hg
    have := hc r hr p.1 hpm (by rw [← a, e])
    exact ⟨g, hg, e, s, by rw [b, this.1], by rw [c, this.2], hpm⟩
  obtain ⟨g1, hg1, e1, s1, d1, n1, hpm⟩ := ghost p hp
  obtain ⟨g2, hg2, e2, s2, d2, n2, hqm⟩ := ghost q hq
  have inj := stemOf_inj T g1.name g2.name g1.k g2.k
    (by rw [n1]; exact hsep _ hpm) (by rw [n2]; exact hsep _ hqm)
    (hG.bound g1 hg1).1 (hG.bound g2 hg2).1 (by rw [← s1, ← s2, heq])
  have hkey : keyOf v g1.name = keyOf v g2.name := by
    rw [n1, n2]
    apply hbase _ hpm _ hqm
    rw [← n1, ← n2]; exact inj.1
  have := hG.slot g1 hg1 g2 hg2 (by rw [d1, d2, hdir]) hkey inj.2
  exact hid (by rw [← e1, ← e2, this])

theorem trace_stable (T : Cfg) (v : Variant) (rs : List Req) :
    ∀ p ∈ trace T v {} rs, ∀ q ∈ trace T v {} rs, p.1.id = q.1.id → p.2 = q.2 := by
  intro p hp q hq hid
  have hpf := (trace_mem T v rs {} p hp).2
  rw [hid, (trace_mem T v rs {} q hq).2] at hpf
  exact (Option.some.inj hpf).symm

theorem trace_stem_form (T : Cfg) (v : Variant) (rs : List Req) :
    ∀ p ∈ trace T v {} rs, ∃ n k, p.2 = stemOf T n k := by
  intro p hp
  obtain ⟨G, hG⟩ := inv_final T v rs rs {} [] (fun _ h => h) (inv_empty T v rs)
  obtain ⟨g, _, _, s⟩ := hG.ghost_of_item _ _ (trace_mem T v rs {} p hp).2
  exact ⟨g.name, g.k, s⟩

def CaseOK (U : List Str) : Prop := ∀ a ∈ U, ∀ b ∈ U, lower a = lower b → a = b

/-- The state of `asIs` simulates the state of `repaired` on names of `U`: same answers so far, and the
    counter of a raw name equals the counter of its lower-cased form (`CaseOK U`: no two names of `U` differ
    only in letter case). -/
structure Sim (U : List Str) (n1 n2 : NS) : Prop where
  items : n1.items = n2.items
  counts : ∀ d, ∀ n ∈ U, cnt n1 (d, n) = cnt n2 (d, lower n)

theorem sim_step (T : Cfg) (U : List Str) (hU : CaseOK U) (n1 n2 : NS) (h : Sim U n1 n2)
    (r : Req) (hr : r.name ∈ U) :
    (getName T .asIs n1 r).1 = (getName T .repaired n2 r).1 ∧
      Sim U (getName T .asIs n1 r).2 (getName T .repaired n2 r).2 := by
  unfold getName
  rw [h.items]
  cases hlook : assoc r.id n2.items with
  | some s => exact ⟨rfl, h⟩
  | none =>
    simp only [keyOf]
    have hnum : cnt n1 (r.dir, r.name) = cnt n2 (r.dir, lower r.name) := h.counts r.dir r.name hr
    refine ⟨by rw [hnum], ⟨by simp [hnum], ?_⟩⟩
    intro d n hn
    rw [cnt_cons, cnt_cons, hnum]
    have hkey : (d, n) = (r.dir, r.name) ↔ (d, lower n) = (r.dir, lower r.name) := by
      simp only [Prod.mk.injEq]
      exact and_congr_right (fun _ => ⟨congrArg lower, hU n hn r.name hr⟩)
    exact ite_congr (propext hkey) (fun _ => rfl) (fun _ => h.counts d n hn)

theorem sim_trace (T : Cfg) (U : List Str) (hU : CaseOK U) : ∀ (rs : List Req) (n1 n2 : NS),
    Sim U n1 n2 → (∀ r ∈ rs, r.name ∈ U) → trace T .asIs n1 rs = trace T .repaired n2 rs := by
  intro rs
  induction rs with
  | nil => intro n1 n2 _ _; rfl
  | cons r rs ih =>
    intro n1 n2 h hr
    obtain ⟨h1, h2⟩ := sim_step T U hU n1 n2 h r (hr r (by simp))
    simp only [trace]
    rw [h1, ih _ _ h2 (fun x hx => hr x (List.mem_cons_of_mem _ hx))]

end Ford.Names
