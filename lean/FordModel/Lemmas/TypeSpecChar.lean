/-
  Lemmas for the `character` branch of FordModel/TypeSpec.lean (length / kind parameters).
-/
import FordModel.Lemmas.TypeSpec
namespace Ford.TypeSpec

/-- a length value whose spellings FORD treats alike: `*`, `:`, a number, or a name -/
inductive LenVal : Str → Prop where
  | star : LenVal ['*']
  | colon : LenVal [':']
  | number (n : Str) (hne : n ≠ []) (h : ∀ c ∈ n, isDigit c = true) : LenVal n
  | name (c : Char) (cs : Str) (hc : isAlpha c = true ∨ c = '_') (h : ∀ d ∈ cs, isWord d = true) : LenVal (c :: cs)

theorem lenVal_cases {n : Str} (h : LenVal n) : n = ['*'] ∨ n = [':'] ∨ (n ≠ [] ∧ ∀ c ∈ n, isWord c = true) := by
  cases h with
  | star => exact Or.inl rfl
  | colon => exact Or.inr (Or.inl rfl)
  | number n hne hd => exact Or.inr (Or.inr ⟨hne, fun c hc => digit_word (hd c hc)⟩)
  | name c cs hc hw =>
    refine Or.inr (Or.inr ⟨List.cons_ne_nil _ _, fun d hd => ?_⟩)
    rcases List.mem_cons.mp hd with rfl | hd
    · rcases hc with hc | rfl
      · simp [isWord, hc]
      · decide
    · exact hw d hd

theorem lenVal_kindCh {n : Str} (h : LenVal n) : ∀ c ∈ n, kindCh c = true := by
  rcases lenVal_cases h with rfl | rfl | ⟨_, hw⟩
  · decide
  · decide
  · exact fun c hc => word_kindCh (hw c hc)

theorem lenVal_ne {n : Str} (h : LenVal n) : n ≠ [] := by
  cases h <;> simp_all

/-- `LEN_RE.match("len=" ++ n)` -/
theorem lenMatch_kw (L n : Str) (hL : lower L = (chars! "len")) (h : LenVal n) :
    lenMatch (L ++ '=' :: n) = some n := by
  have h1 : skipWs ('=' :: n) = '=' :: n := skipWs_of_head _ _ (by decide)
  have : lenAlt1 (L ++ '=' :: n) = some n := by
    unfold lenAlt1
    rw [kwCI_of_lower _ L _ hL]
    simp only [h1]
    rcases lenVal_cases h with rfl | rfl | ⟨hne, hw⟩
    · rfl
    · rfl
    · cases n with
      | nil => exact absurd rfl hne
      | cons c cs =>
        have hs : skipWs (c :: cs) = c :: cs := skipWs_of_head _ _ (word_space (hw c (by simp)))
        simp [hs, takeWhile_all _ hw]
  simp [lenMatch, this]

theorem lenAlt1_no_eq (n : Str) (h : ∀ c ∈ n, c ≠ '=') : lenAlt1 n = none := by
  unfold lenAlt1
  split
  · rfl
  · split
    · rename_i hk _ _ hs
      exact absurd rfl (h '=' (eq_mem_of_kwCI hk hs))
    · rfl

/-- `LEN_RE.match(n)` for a bare value: only a number matches (second alternative) -/
theorem lenMatch_bare {n : Str} (h : LenVal n) :
    lenMatch n = none ∨ lenMatch n = some n := by
  have h1 : lenAlt1 n = none := lenAlt1_no_eq n (fun c hc => kindCh_eq (lenVal_kindCh h c hc))
  simp only [lenMatch, h1, lenAlt2]
  cases h with
  | star => left; simp [List.takeWhile, isDigit]
  | colon => left; simp [List.takeWhile, isDigit]
  | number n hne hd =>
    right
    have ht : n.takeWhile isDigit = n := takeWhile_all _ hd
    cases n with
    | nil => exact absurd rfl hne
    | cons c cs => simp [ht]
  | name c cs hc hw =>
    left
    have : isDigit c = false := by
      rcases hc with hc | rfl
      · cases hdg : isDigit c with
        | false => rfl
        | true => simp [digit_not_alpha hdg] at hc
      · decide
    simp [List.takeWhile, this]

theorem splitComma_go_nocomma (a cur : Str) (h : ∀ c ∈ a, c ≠ ',') :
    splitComma.go a cur = [cur.reverse ++ a] := by
  induction a generalizing cur with
  | nil => simp [splitComma.go]
  | cons c cs ih =>
    have hc : (c == ',') = false := by simpa using h c (by simp)
    simp only [splitComma.go, hc, Bool.false_eq_true, if_false]
    rw [ih _ (fun d hd => h d (by simp [hd]))]
    simp

theorem splitComma_one (a : Str) (h : ∀ c ∈ a, c ≠ ',') : splitComma a = [a] := by
  simp [splitComma, splitComma_go_nocomma a [] h]

theorem splitComma_go_append (a b cur : Str) (h : ∀ c ∈ a, c ≠ ',') :
    splitComma.go (a ++ ',' :: b) cur = (cur.reverse ++ a) :: splitComma.go b [] := by
  induction a generalizing cur with
  | nil => simp [splitComma.go]
  | cons c cs ih =>
    have hc : (c == ',') = false := by simpa using h c (by simp)
    simp only [List.cons_append, splitComma.go, hc, Bool.false_eq_true, if_false]
    rw [ih _ (fun d hd => h d (by simp [hd]))]
    simp

theorem splitComma_two (a b : Str) (ha : ∀ c ∈ a, c ≠ ',') (hb : ∀ c ∈ b, c ≠ ',') :
    splitComma (a ++ ',' :: b) = [a, b] := by
  simp [splitComma, splitComma_go_append a b [] ha, splitComma_go_nocomma b [] hb]

theorem kindCh_noquote {k : Str} (hk : ∀ c ∈ k, kindCh c = true) : hasQuote k = false := by
  simp only [hasQuote, List.any_eq_false]
  intro c hc
  have := hk c hc
  simp [kindCh] at this
  simp [this.2]

/-- one parameter: a bare length value -/
theorem charArgs_bare {n : Str} (h : LenVal n) : charArgs [n] none none = .ok (some n, none) := by
  have hk : kindMatch n = none := kindMatch_no_eq n (fun c hc => kindCh_eq (lenVal_kindCh h c hc))
  rcases lenMatch_bare h with hl | hl <;> simp [charArgs, hl, hk]

/-- one parameter: `len=n` -/
theorem charArgs_len (L n : Str) (hL : lower L = (chars! "len")) (h : LenVal n) :
    charArgs [L ++ '=' :: n] none none = .ok (some n, none) := by
  simp [charArgs, lenMatch_kw L n hL h]

theorem lenMatch_kindkw (K k : Str) (hK : lower K = (chars! "kind")) : lenMatch (K ++ '=' :: k) = none := by
  have h1 : lenAlt1 (K ++ '=' :: k) = none := by
    unfold lenAlt1
    rw [kwCI_diverge _ K _ (by rw [hK]; decide)]
  have h2 : lenAlt2 (K ++ '=' :: k) = none := by
    have hKa := kw_alpha K _ hK kindKw_alpha
    cases K with
    | nil => simp [lower] at hK
    | cons c cs =>
      have : isDigit c = false := by
        cases hd : isDigit c with
        | false => rfl
        | true => have := hKa c (by simp); simp [digit_not_alpha hd] at this
      simp [lenAlt2, this]
  simp [lenMatch, h1, h2]

/-- `len=n, kind=k` -/
theorem charArgs_len_kind (L K n k : Str) (hL : lower L = (chars! "len")) (hK : lower K = (chars! "kind"))
    (h : LenVal n) (hk : ∀ c ∈ k, kindCh c = true) (hne : k ≠ []) :
    charArgs [L ++ '=' :: n, K ++ '=' :: k] none none = .ok (some n, some k) := by
  simp [charArgs, lenMatch_kw L n hL h, kindMatch_kw K k hK hk hne, kindCh_noquote hk]

/-- `kind=k, len=n` -/
theorem charArgs_kind_len (L K n k : Str) (hL : lower L = (chars! "len")) (hK : lower K = (chars! "kind"))
    (h : LenVal n) (hk : ∀ c ∈ k, kindCh c = true) (hne : k ≠ []) :
    charArgs [K ++ '=' :: k, L ++ '=' :: n] none none = .ok (some n, some k) := by
  simp [charArgs, lenMatch_kindkw K k hK, lenMatch_kw L n hL h, kindMatch_kw K k hK hk hne, kindCh_noquote hk]

/-- `n, kind=k` -/
theorem charArgs_bare_kind (K n k : Str) (hK : lower K = (chars! "kind"))
    (h : LenVal n) (hk : ∀ c ∈ k, kindCh c = true) (hne : k ≠ []) :
    charArgs [n, K ++ '=' :: k] none none = .ok (some n, some k) := by
  have hkn : kindMatch n = none := kindMatch_no_eq n (fun c hc => kindCh_eq (lenVal_kindCh h c hc))
  rcases lenMatch_bare h with hl | hl <;>
    simp [charArgs, hl, hkn, kindMatch_kw K k hK hk hne, kindCh_noquote hk]

/-- `n, k` -/
theorem charArgs_bare_bare (n k : Str) (h : LenVal n) (hk : ∀ c ∈ k, kindCh c = true) :
    charArgs [n, k] none none = .ok (some n, some k) := by
  have hkn : kindMatch n = none := kindMatch_no_eq n (fun c hc => kindCh_eq (lenVal_kindCh h c hc))
  have hkk : kindMatch k = none := kindMatch_no_eq k (fun c hc => kindCh_eq (hk c hc))
  rcases lenMatch_bare h with hl | hl <;> simp [charArgs, hl, hkn, hkk]

def kwChar : Str := (chars! "character")

theorem finish_char_paren (X rest : Str) (as : List Str) (len kind : Option Str)
    (hX : ∀ c ∈ X, c ≠ ')') (hne : X ≠ [])
    (hs : splitComma (removeWs X) = as) (hl : as.length ≤ 2)
    (hc : charArgs as none none = .ok (len, kind)) :
    finish kwChar ('(' :: (X ++ [')'])) rest
      = .ok { vartype := kwChar, rest, kind, strlen := some (len.getD ['1']) } := by
  have hXne : X.isEmpty = false := by cases X <;> simp_all
  have hl' : ¬ (as.length > 2) := by omega
  unfold finish
  simp only [kwChar, vkSearch_paren _ hX, hXne]
  simp [isProtoType, removeWs_strip, hs, hl', hc]

theorem vkSearch_star_paren (X : Str) (h : ∀ c ∈ X, c ≠ ')') :
    vkSearch ('*' :: '(' :: (X ++ [')'])) = some (.g2 ('(' :: (X ++ [')']))) := by
  have hl := lastClose_append_close X h
  have ht : (X ++ [')']).take (X.length + 1) = X ++ [')'] := by
    apply List.take_of_length_le; simp
  simp [vkSearch, vkAt, skipWs, isSpace, isDigit, hl, ht]

/-- `character*(n)` -/
theorem finish_char_star_paren (w2 n w3 rest : Str) (h2 : isBlank w2 = true) (h3 : isBlank w3 = true)
    (hn : ∀ c ∈ n, kindCh c = true) (hne : n ≠ []) :
    finish kwChar ('*' :: '(' :: ((w2 ++ n ++ w3) ++ [')'])) rest
      = .ok { vartype := kwChar, rest, strlen := some n } := by
  have hX : ∀ c ∈ w2 ++ n ++ w3, c ≠ ')' := fun c hc =>
    isParen_close (padded_paren h2 (fun c hc => kindCh_paren (hn c hc)) h3 c hc)
  have hns : ∀ c ∈ n, isSpace c = false := fun c hc => kindCh_space (hn c hc)
  have hvk := vkSearch_star_paren _ hX
  have hstrip : strip ('(' :: ((w2 ++ n ++ w3) ++ [')'])) = '(' :: ((w2 ++ n ++ w3) ++ [')']) := by
    have := strip_core [] '(' (w2 ++ n ++ w3) ')' [] rfl (by decide) (by decide)
    simpa [rstrip, lstrip] using this
  have hdl : (('(' :: ((w2 ++ n ++ w3) ++ [')'])).drop 1).dropLast = w2 ++ n ++ w3 := by
    simp
  unfold finish
  simp only [kwChar, hvk, hstrip, startsWith, beq_self_eq_true, Bool.true_and, if_true, hdl, removeWs_strip,
    removeWs_padded w2 n w3 h2 h3 hns]
  simp [isProtoType]

/-- `character*digits` -/
theorem finish_char_star (ds rest : Str) (hd : ∀ c ∈ ds, isDigit c = true) (hne : ds ≠ []) :
    finish kwChar ('*' :: ds) rest = .ok { vartype := kwChar, rest, strlen := some ds } := by
  obtain ⟨hvk, hst, hpar, hrw⟩ := star_digits ds hd hne
  unfold finish
  simp only [kwChar, hvk]
  simp [isProtoType, hst, hpar, hrw]

theorem varTypeRest_char (t r : Str) (ht : lower t = kwChar) : varTypeRest (t ++ r) = some r := by
  have hd : ∀ kw, diverge kw kwChar = true → kwCI kw (t ++ r) = none :=
    fun kw h => kwCI_diverge kw t r (by rw [ht]; exact h)
  have hp := kwCI_of_lower _ t r ht
  simp only [kwChar] at hd hp
  simp only [varTypeRest, firstSome, kw2CI, hp, hd (chars! "integer") (by decide), hd (chars! "real") (by decide),
    hd (chars! "double") (by decide)]

theorem normVartype_char (t : Str) (ht : lower t = kwChar) : normVartype t = kwChar := by
  unfold normVartype
  simp only [ht]
  decide

theorem charKw_alpha : ∀ c ∈ kwChar, isAlpha c = true := by decide

theorem spells_char (t : Str) (ht : lower t = kwChar) : Spells kwChar t where
  rest r := varTypeRest_char t r ht
  norm := normVartype_char t ht
  nl := alpha_nl (kw_alpha t _ ht charKw_alpha)

/-- `get_parens` on `*( inner )` followed by a tail that ends the scan -/
theorem getParens_star_paren (inner tail : Str) (h : ∀ c ∈ inner, isParen c = false) (ht : EndsScan tail) :
    getParens ('*' :: '(' :: (inner ++ ')' :: tail)) = .ok ('*' :: '(' :: (inner ++ [')'])) := by
  have := getParensAux_copy ['*'] ('(' :: (inner ++ ')' :: tail)) 0 [] (by decide)
  simp only [List.singleton_append] at this
  rw [getParens, this, getParensAux_paren inner tail _ h ht]
  rfl

/-- a run of blanks and tabs -/
def isPad (w : Str) : Bool := w.all (fun c => c == ' ' || c == '\t')

theorem isPad_blank {w : Str} (h : isPad w = true) : isBlank w = true := by
  simp only [isPad, isBlank, List.all_eq_true] at *
  intro c hc
  have := h c hc
  simp only [Bool.or_eq_true, beq_iff_eq] at this
  rcases this with rfl | rfl <;> decide

theorem isPad_nl {w : Str} (h : isPad w = true) : w.all (fun c => c != '\n') = true := by
  simp only [isPad, List.all_eq_true] at *
  intro c hc
  have := h c hc
  simp only [Bool.or_eq_true, beq_iff_eq] at this
  rcases this with rfl | rfl <;> decide

theorem lenKw_alpha : ∀ c ∈ (chars! "len"), isAlpha c = true := by decide

theorem skipWs_pad_cons (ws : Str) (c : Char) (r : Str) (hws : isBlank ws = true) (hc : isSpace c = false) :
    skipWs (ws ++ c :: r) = c :: r := by
  rw [skipWs_blank_append _ _ hws]; exact skipWs_of_head _ _ hc

/-- `character ( X ) tail` for any parameter text `X` without parentheses -/
theorem parse_char_paren (t w1 X tail : Str) (as : List Str) (len kind : Option Str)
    (ht : lower t = kwChar) (h1 : isPad w1 = true)
    (hXp : ∀ c ∈ X, isParen c = false) (hXn : X.all (fun c => c != '\n') = true) (hXne : X ≠ [])
    (htail : EndsScan tail) (htn : tail.all (fun c => c != '\n') = true)
    (hs : splitComma (removeWs X) = as) (hl : as.length ≤ 2)
    (hc : charArgs as none none = .ok (len, kind)) :
    parseType (t ++ (w1 ++ (('(' :: X ++ [')']) ++ tail)))
      = .ok { vartype := kwChar, rest := strip tail, kind, strlen := some (len.getD ['1']) } := by
  rw [parseType_paren (spells_char t ht) w1 X tail (isPad_blank h1) hXp htail
    (by simp [List.all_append, isPad_nl h1, hXn, htn])]
  exact finish_char_paren X _ as len kind (fun c hc => isParen_close (hXp c hc)) hXne hs hl hc

/-- `character * ( n ) tail` (blanks allowed after the asterisk) -/
theorem parse_char_star_paren (t w1 ws w2 n w3 tail : Str)
    (ht : lower t = kwChar) (h1 : isPad w1 = true) (hws : isPad ws = true) (h2 : isPad w2 = true)
    (h3 : isPad w3 = true) (hn : ∀ c ∈ n, kindCh c = true) (hne : n ≠ [])
    (htail : EndsScan tail) (htn : tail.all (fun c => c != '\n') = true) :
    parseType (t ++ (w1 ++ (('*' :: (ws ++ '(' :: (w2 ++ n ++ w3) ++ [')'])) ++ tail)))
      = .ok { vartype := kwChar, rest := strip tail, strlen := some n } := by
  have hN := allNotNl n (fun c hc => nospace_ne_nl (kindCh_space (hn c hc)))
  have hin := padded_paren (isPad_blank h2) (fun c hc => kindCh_paren (hn c hc)) (isPad_blank h3)
  have hgp : getParens (('*' :: '(' :: (w2 ++ n ++ w3) ++ [')']) ++ rstrip tail)
      = .ok ('*' :: '(' :: (w2 ++ n ++ w3) ++ [')']) := by
    have := getParens_star_paren (w2 ++ n ++ w3) (rstrip tail) hin (endsScan_rstrip _ htail)
    simpa using this
  have hnorm : starNorm (strip (w1 ++ (('*' :: (ws ++ '(' :: (w2 ++ n ++ w3) ++ [')'])) ++ tail)))
      = ('*' :: '(' :: (w2 ++ n ++ w3) ++ [')']) ++ rstrip tail := by
    have h := strip_core w1 '*' (ws ++ '(' :: (w2 ++ n ++ w3)) ')' tail (isPad_blank h1) (by decide) (by decide)
    have e1 : '*' :: (ws ++ '(' :: (w2 ++ n ++ w3)) ++ [')'] = '*' :: (ws ++ '(' :: (w2 ++ n ++ w3) ++ [')']) := by simp
    rw [e1] at h
    rw [h]
    simp only [List.append_assoc, List.cons_append, List.nil_append, starNorm]
    rw [skipWs_pad_cons ws '(' _ (isPad_blank hws) (by decide)]
  rw [parseType_front (spells_char t ht) _ _ tail
    (by simp [List.all_append, isPad_nl h1, isPad_nl hws, isPad_nl h2, isPad_nl h3, hN, htn]) hnorm hgp]
  exact finish_char_star_paren w2 n w3 _ (isPad_blank h2) (isPad_blank h3) hn hne

/-- `character * digits tail` -/
theorem parse_char_star (t w1 ws n tail : Str) (ht : lower t = kwChar) (h1 : isPad w1 = true)
    (hws : isPad ws = true) (hn : ∀ c ∈ n, isDigit c = true) (hne : n ≠ [])
    (htail : EndsScan tail) (htn : tail.all (fun c => c != '\n') = true) :
    parseType (t ++ (w1 ++ (('*' :: (ws ++ n)) ++ tail)))
      = .ok { vartype := kwChar, rest := strip tail, strlen := some n } := by
  rw [parseType_star_digits (spells_char t ht) w1 ws n tail (isPad_blank h1) (isPad_blank hws) hn hne htail
    (by simp [List.all_append, isPad_nl h1, isPad_nl hws, htn]), finish_char_star n _ hn hne]

/-- characters of one parameter text: no blank, parenthesis, bracket or comma -/
def argCh (c : Char) : Bool := !isSpace c && !isParen c && c != ','

theorem argCh_space {c : Char} (h : argCh c = true) : isSpace c = false := by
  simp [argCh] at h; exact h.1.1

theorem argCh_paren {c : Char} (h : argCh c = true) : isParen c = false := by
  simp [argCh] at h; exact h.1.2

theorem argCh_comma {c : Char} (h : argCh c = true) : c ≠ ',' := by
  simp [argCh] at h; exact h.2

theorem kindCh_argCh {c : Char} (h : kindCh c = true) : argCh c = true := by
  simp [argCh, kindCh_space h, kindCh_paren h, kindCh_comma h]

theorem alpha_argCh {c : Char} (h : isAlpha c = true) : argCh c = true := by
  simp [argCh, alpha_space h, alpha_paren h, alpha_ne h (show isAlpha ',' = false by decide)]

/-- `kw=value` written without blanks is one parameter text -/
theorem kwArg_argCh (K k : Str) (kw : Str) (hK : lower K = kw) (hkw : ∀ c ∈ kw, isAlpha c = true)
    (hk : ∀ c ∈ k, kindCh c = true) : ∀ c ∈ K ++ '=' :: k, argCh c = true := by
  intro c hc
  simp only [List.mem_append, List.mem_cons] at hc
  rcases hc with hc | rfl | hc
  · exact alpha_argCh (kw_alpha K kw hK hkw c hc)
  · decide
  · exact kindCh_argCh (hk c hc)

/-- `character ( A ) tail` with blanks around the parameter -/
theorem parse_char_one (t w1 w2 A w3 tail : Str) (len kind : Option Str)
    (ht : lower t = kwChar) (h1 : isPad w1 = true) (h2 : isPad w2 = true) (h3 : isPad w3 = true)
    (hA : ∀ c ∈ A, argCh c = true) (hne : A ≠ [])
    (htail : EndsScan tail) (htn : tail.all (fun c => c != '\n') = true)
    (hc : charArgs [A] none none = .ok (len, kind)) :
    parseType (t ++ (w1 ++ (('(' :: (w2 ++ A ++ w3) ++ [')']) ++ tail)))
      = .ok { vartype := kwChar, rest := strip tail, kind, strlen := some (len.getD ['1']) } := by
  have hAs : ∀ c ∈ A, isSpace c = false := fun c hc => argCh_space (hA c hc)
  apply parse_char_paren t w1 (w2 ++ A ++ w3) tail [A] len kind ht h1 _ _ _ htail htn _ (by simp) hc
  · exact padded_paren (isPad_blank h2) (fun c hc => argCh_paren (hA c hc)) (isPad_blank h3)
  · have hAn := allNotNl A (fun c hc => nospace_ne_nl (hAs c hc))
    simp [List.all_append, isPad_nl h2, isPad_nl h3, hAn]
  · cases A <;> simp_all
  · rw [removeWs_padded w2 A w3 (isPad_blank h2) (isPad_blank h3) hAs]
    exact splitComma_one A (fun c hc => argCh_comma (hA c hc))

/-- `character ( K = v ) tail`: one keyword parameter (`len = n`, `kind = k`), blanks allowed around the `=` -/
theorem parse_char_kw (t w1 w2 K wa wb v w3 tail : Str) (len kind : Option Str)
    (ht : lower t = kwChar) (h1 : isPad w1 = true) (h2 : isPad w2 = true) (h3 : isPad w3 = true)
    (ha : isPad wa = true) (hb : isPad wb = true)
    (hK : ∀ c ∈ K, isAlpha c = true) (hv : ∀ c ∈ v, kindCh c = true)
    (htail : EndsScan tail) (htn : tail.all (fun c => c != '\n') = true)
    (hc : charArgs [K ++ '=' :: v] none none = .ok (len, kind)) :
    parseType (t ++ (w1 ++ (('(' :: (w2 ++ (K ++ wa ++ '=' :: (wb ++ v)) ++ w3) ++ [')']) ++ tail)))
      = .ok { vartype := kwChar, rest := strip tail, kind, strlen := some (len.getD ['1']) } := by
  have hKs : ∀ c ∈ K, isSpace c = false := fun c hc => alpha_space (hK c hc)
  have hvs : ∀ c ∈ v, isSpace c = false := fun c hc => kindCh_space (hv c hc)
  have hA : ∀ c ∈ K ++ '=' :: v, argCh c = true := by
    intro c hc
    rcases List.mem_append.mp hc with hc | hc
    · exact alpha_argCh (hK c hc)
    · rcases List.mem_cons.mp hc with rfl | hc
      · decide
      · exact kindCh_argCh (hv c hc)
  apply parse_char_paren t w1 _ tail [K ++ '=' :: v] len kind ht h1 _ _ _ htail htn _ (by simp) hc
  · have := kwArg_paren hK (isPad_blank h2) (isPad_blank ha) (isPad_blank hb) (isPad_blank h3)
      (fun c hc => kindCh_paren (hv c hc))
    intro c hc
    exact this c (by simpa [List.append_assoc] using hc)
  · have hKn := allNotNl K (fun c hc => nospace_ne_nl (hKs c hc))
    have hvn := allNotNl v (fun c hc => nospace_ne_nl (hvs c hc))
    simp [List.all_append, isPad_nl h2, isPad_nl h3, isPad_nl ha, isPad_nl hb, hKn, hvn]
  · simp
  · have e : removeWs (w2 ++ (K ++ wa ++ '=' :: (wb ++ v)) ++ w3) = K ++ '=' :: v := by
      rw [show '=' :: (wb ++ v) = ['='] ++ (wb ++ v) from rfl]
      simp only [removeWs_append, removeWs_blank _ (isPad_blank h2), removeWs_blank _ (isPad_blank h3),
        removeWs_blank _ (isPad_blank ha), removeWs_blank _ (isPad_blank hb),
        removeWs_nospace K hKs, removeWs_nospace v hvs, List.nil_append, List.append_nil]
      rfl
    rw [e]
    exact splitComma_one _ (fun c hc => argCh_comma (hA c hc))

/-- `character ( A , B ) tail` with blanks around the parameters -/
theorem parse_char_two (t w1 w2 A w3 w4 B w5 tail : Str) (len kind : Option Str)
    (ht : lower t = kwChar) (h1 : isPad w1 = true) (h2 : isPad w2 = true) (h3 : isPad w3 = true)
    (h4 : isPad w4 = true) (h5 : isPad w5 = true)
    (hA : ∀ c ∈ A, argCh c = true) (hB : ∀ c ∈ B, argCh c = true) (hne : A ≠ [])
    (htail : EndsScan tail) (htn : tail.all (fun c => c != '\n') = true)
    (hc : charArgs [A, B] none none = .ok (len, kind)) :
    parseType (t ++ (w1 ++ (('(' :: (w2 ++ A ++ w3 ++ ',' :: (w4 ++ B ++ w5)) ++ [')']) ++ tail)))
      = .ok { vartype := kwChar, rest := strip tail, kind, strlen := some (len.getD ['1']) } := by
  have hAs : ∀ c ∈ A, isSpace c = false := fun c hc => argCh_space (hA c hc)
  have hBs : ∀ c ∈ B, isSpace c = false := fun c hc => argCh_space (hB c hc)
  apply parse_char_paren t w1 (w2 ++ A ++ w3 ++ ',' :: (w4 ++ B ++ w5)) tail [A, B] len kind ht h1 _ _ _ htail htn _
    (by simp) hc
  · intro c hc
    rcases List.mem_append.mp hc with hc | hc
    · exact padded_paren (isPad_blank h2) (fun c hc => argCh_paren (hA c hc)) (isPad_blank h3) c hc
    · rcases List.mem_cons.mp hc with rfl | hc
      · decide
      · exact padded_paren (isPad_blank h4) (fun c hc => argCh_paren (hB c hc)) (isPad_blank h5) c hc
  · have hAn := allNotNl A (fun c hc => nospace_ne_nl (hAs c hc))
    have hBn := allNotNl B (fun c hc => nospace_ne_nl (hBs c hc))
    simp [List.all_append, isPad_nl h2, isPad_nl h3, isPad_nl h4, isPad_nl h5, hAn, hBn]
  · cases A <;> simp_all
  · have e : removeWs (w2 ++ A ++ w3 ++ ',' :: (w4 ++ B ++ w5)) = A ++ ',' :: B := by
      rw [removeWs_append, removeWs_padded w2 A w3 (isPad_blank h2) (isPad_blank h3) hAs,
        show ',' :: (w4 ++ B ++ w5) = [','] ++ (w4 ++ B ++ w5) from rfl, removeWs_append,
        removeWs_padded w4 B w5 (isPad_blank h4) (isPad_blank h5) hBs]
      rfl
    rw [e]
    exact splitComma_two A B (fun c hc => argCh_comma (hA c hc)) (fun c hc => argCh_comma (hB c hc))

/-- `kw1\s*kw2` on a spelling of `kw1`, blanks and a word: what is left to decide is whether the word is `kw2` -/
theorem kw2CI_words (k1 k2 t1 ws t2 r : Str) (h1 : lower t1 = k1) (hws : isBlank ws = true) (hne : t2 ≠ [])
    (ha : ∀ c ∈ t2, isSpace c = false) : kw2CI k1 k2 (t1 ++ (ws ++ (t2 ++ r))) = kwCI k2 (t2 ++ r) := by
  unfold kw2CI
  rw [kwCI_of_lower _ t1 _ h1]
  simp only
  rw [skipWs_blank_append _ _ hws]
  cases t2 with
  | nil => exact absurd rfl hne
  | cons c cs => rw [List.cons_append, skipWs_of_head _ _ (ha c (by simp))]

/-- the two-word types: which word follows `double` -/
inductive DblT where
  | precision | complex
  deriving DecidableEq, Repr

def DblT.second : DblT → Str
  | .precision => (chars! "precision") | .complex => (chars! "complex")
def DblT.norm : DblT → Str
  | .precision => (chars! "double precision") | .complex => (chars! "double complex")

theorem dbl_second_alpha (d : DblT) : ∀ c ∈ d.second, isAlpha c = true := by cases d <;> decide
theorem dbl_first_alpha : ∀ c ∈ (chars! "double"), isAlpha c = true := by decide

theorem varTypeRest_dbl (d : DblT) (t1 ws t2 r : Str) (h1 : lower t1 = (chars! "double"))
    (h2 : lower t2 = d.second) (hws : isBlank ws = true) :
    varTypeRest (t1 ++ (ws ++ (t2 ++ r))) = some r := by
  have h2a := kw_alpha t2 _ h2 (dbl_second_alpha d)
  have hne : t2 ≠ [] := by
    intro e; subst e; cases d <;> simp [lower, DblT.second] at h2
  have hd : ∀ kw, diverge kw (chars! "double") = true → kwCI kw (t1 ++ (ws ++ (t2 ++ r))) = none :=
    fun kw h => kwCI_diverge kw t1 _ (by rw [h1]; exact h)
  have hw : ∀ k2, kw2CI (chars! "double") k2 (t1 ++ (ws ++ (t2 ++ r))) = kwCI k2 (t2 ++ r) :=
    fun k2 => kw2CI_words _ k2 t1 ws t2 r h1 hws hne (fun c hc => alpha_space (h2a c hc))
  have hp := kwCI_of_lower _ t2 r h2
  cases d <;> simp only [DblT.second] at hp h2
  · simp only [varTypeRest, firstSome, hw, hp, hd (chars! "integer") (by decide), hd (chars! "real") (by decide)]
  · -- `double\s*precision` is tried first and must fail on the word `complex`
    have hprec : kwCI (chars! "precision") (t2 ++ r) = none := kwCI_diverge _ _ _ (by rw [h2]; decide)
    simp only [varTypeRest, firstSome, hw, hp, hprec, hd (chars! "integer") (by decide),
      hd (chars! "real") (by decide), hd (chars! "character") (by decide), hd (chars! "complex") (by decide)]

theorem lowerChar_space {c : Char} (h : isSpace c = true) : lowerChar c = c := by
  rcases space_cases h with h' | h' | h' | h' | h' | h' <;> subst h' <;> decide

theorem lower_blank (w : Str) (hw : isBlank w = true) : lower w = w := by
  induction w with
  | nil => rfl
  | cons c cs ih =>
    simp [isBlank] at hw
    simp only [lower, List.map_cons, lowerChar_space hw.1]
    congr 1
    exact ih (by simp [isBlank]; exact hw.2)

theorem strip_idem (t : Str) : strip (strip t) = strip t := by
  simp only [strip]
  rw [lstrip_rstrip_comm, lstrip_idem, rstrip_idem]

theorem normVartype_dbl (d : DblT) (t1 ws t2 : Str) (h1 : lower t1 = (chars! "double"))
    (h2 : lower t2 = d.second) (hws : isBlank ws = true) :
    normVartype (t1 ++ (ws ++ t2)) = d.norm := by
  have hl : lower (t1 ++ (ws ++ t2)) = (chars! "double") ++ (ws ++ (d.second ++ [])) := by
    simp [lower_append, h1, h2, lower_blank ws hws]
  have hw : ∀ k2, kw2CI (chars! "double") k2 ((chars! "double") ++ (ws ++ (d.second ++ []))) = kwCI k2 (d.second ++ []) :=
    fun k2 => kw2CI_words _ k2 _ ws _ [] (by decide) hws (by cases d <;> decide) (by cases d <;> decide)
  unfold normVartype
  simp only [hl, hw]
  cases d <;> rfl

/-- `double precision` / `double complex` followed by something `get_parens` stops at at once -/
theorem parseType_dbl (d : DblT) (t1 ws t2 tail : Str) (h1 : lower t1 = (chars! "double"))
    (h2 : lower t2 = d.second) (hws : isPad ws = true)
    (htail : EndsScan (strip tail)) (htn : tail.all (fun c => c != '\n') = true) :
    parseType (t1 ++ (ws ++ (t2 ++ tail))) = .ok { vartype := d.norm, rest := strip tail } := by
  have h1a := kw_alpha t1 _ h1 dbl_first_alpha
  have h2a := kw_alpha t2 _ h2 (dbl_second_alpha d)
  have hT1 := allNotNl t1 (fun c hc => nospace_ne_nl (alpha_space (h1a c hc)))
  have hT2 := allNotNl t2 (fun c hc => nospace_ne_nl (alpha_space (h2a c hc)))
  have hcont : (t1 ++ (ws ++ (t2 ++ tail))).contains '\n' = false := by
    apply contains_nl_false
    simp [List.all_append, hT1, hT2, isPad_nl hws, htn]
  have hsn : starNorm (strip tail) = strip tail := by
    rcases htail with h | ⟨c, cs, h, hs, _⟩
    · rw [h]; rfl
    · rw [h]
      have : c ≠ '*' := by intro e; subst e; simp [isStop, isAlpha] at hs
      unfold starNorm; split
      · rename_i heq; simp at heq; exact absurd heq.1 this
      · rfl
  have hgp : getParens (strip tail) = .ok [] := by
    simpa [getParens] using getParensAux_end (strip tail) [] htail
  unfold parseType
  simp only [hcont, Bool.false_eq_true, if_false, varTypeRest_dbl d t1 ws t2 tail h1 h2 (isPad_blank hws)]
  have htake : (t1 ++ (ws ++ (t2 ++ tail))).take ((t1 ++ (ws ++ (t2 ++ tail))).length - tail.length)
      = t1 ++ (ws ++ t2) := by
    have e : (t1 ++ (ws ++ (t2 ++ tail))) = (t1 ++ (ws ++ t2)) ++ tail := by simp
    rw [e, List.length_append, Nat.add_sub_cancel]
    exact List.take_left'  rfl
  simp only [htake, normVartype_dbl d t1 ws t2 h1 h2 (isPad_blank hws), hsn, hgp]
  have hnt : (d.norm == (chars! "type") || d.norm == (chars! "class") || d.norm == (chars! "character")) = false := by
    cases d <;> decide
  simp [finish, hnt, startsWith, strip_idem]

end Ford.TypeSpec
