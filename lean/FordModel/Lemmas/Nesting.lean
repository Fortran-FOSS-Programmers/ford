import FordModel.Nesting
namespace Ford

/-- the statement loop on statements that are all followed by another one -/
def runMid (cfg : Cfg) : MS → List Stmt → Except Raise MS
  | st, [] => .ok st
  | st, s :: rest =>
    match step cfg st s false with
    | .error e => .error e
    | .ok st' => runMid cfg st' rest

theorem run_append_cons (cfg : Cfg) (st : MS) (pre : List Stmt) (s : Stmt) (suf : List Stmt) :
    run cfg st (pre ++ s :: suf)
      = match runMid cfg st pre with
        | .error e => .error e
        | .ok st' => run cfg st' (s :: suf) := by
  induction pre generalizing st with
  | nil => rfl
  | cons p ps ih =>
    have hne : (ps ++ s :: suf).isEmpty = false := by cases ps <;> rfl
    simp only [List.cons_append, run, runMid, hne]
    cases step cfg st p false with
    | error e => rfl
    | ok st' => exact ih st'

/-- `st'` can be reached from `st` in `n` successful steps as far as the depth of the stack and the
    report list are concerned: each step opens at most one container, never pops the last frame, and
    only ever appends reports (none at all without `dbg`). -/
structure Within (cfg : Cfg) (n : Nat) (st st' : MS) : Prop where
  depth : st'.stack.length ≤ st.stack.length + n
  nonempty : st.stack ≠ [] → st'.stack ≠ []
  reps : ∃ extra, st'.reps = st.reps ++ extra
  nodbg : cfg.dbg = false → st'.reps = st.reps

section
variable {cfg : Cfg} {m n : Nat} {st st1 st2 : MS}

theorem Within.refl : Within cfg n st st :=
  ⟨Nat.le_add_right _ _, id, ⟨[], (List.append_nil _).symm⟩, fun _ => rfl⟩

theorem Within.of_stack {stack stack' : List Frame} {reps : List Rep}
    (hlen : stack'.length ≤ stack.length + n) (hne : stack' ≠ []) :
    Within cfg n ⟨stack, reps⟩ ⟨stack', reps⟩ :=
  ⟨hlen, fun _ => hne, ⟨[], (List.append_nil _).symm⟩, fun _ => rfl⟩

theorem Within.trans (h1 : Within cfg m st st1) (h2 : Within cfg n st1 st2) : Within cfg (n + m) st st2 := by
  obtain ⟨e1, he1⟩ := h1.reps
  obtain ⟨e2, he2⟩ := h2.reps
  refine ⟨?_, fun h => h2.nonempty (h1.nonempty h), ⟨e1 ++ e2, ?_⟩, fun hd => ?_⟩
  · have := h1.depth
    have := h2.depth
    omega
  · rw [he2, he1, List.append_assoc]
  · rw [h2.nodbg hd, h1.nodbg hd]

theorem report_dbg (cfg : Cfg) (hd : cfg.dbg = true) (r : Rep) (st : MS) :
    report cfg r st = .ok { st with reps := st.reps ++ [r] } := by
  simp only [report, hd, if_true]

/-- `print_error` comes back only with the stack as it was -/
theorem report_ok {r : Rep} {st' : MS} (h : report cfg r st = .ok st') :
    ∃ reps', st' = ⟨st.stack, reps'⟩ ∧ Within cfg n st st' := by
  unfold report at h
  split at h
  · rename_i hd
    cases h
    exact ⟨_, rfl, Nat.le_add_right _ _, id, ⟨[r], rfl⟩, fun h => by rw [hd] at h; cases h⟩
  · split at h
    · cases h
      exact ⟨_, rfl, .refl⟩
    · cases h

/-- Every state in which the computation `r` can end is within `n` steps of `st`.  The lemmas below
    say so for each kind of result that `step` is made of. -/
def OkWithin (cfg : Cfg) (n : Nat) (st : MS) (r : Except Raise MS) : Prop :=
  ∀ st', r = .ok st' → Within cfg n st st'

theorem okWithin_error {e : Raise} : OkWithin cfg n st (.error e) :=
  fun _ h => nomatch h

theorem okWithin_top {f f' : Frame} {rest : List Frame} {reps : List Rep} :
    OkWithin cfg n ⟨f :: rest, reps⟩ (.ok ⟨f' :: rest, reps⟩) :=
  fun _ h => Except.ok.inj h ▸ .of_stack (Nat.le_add_right _ _) (List.cons_ne_nil _ _)

theorem okWithin_report {r : Rep} : OkWithin cfg n st (report cfg r st) :=
  fun _ h => (report_ok h).elim fun _ h' => h'.2

theorem okWithin_openChild {last : Bool} {c : Frame} : OkWithin cfg (n + 1) st (openChild st last c) := by
  intro st' h
  unfold openChild at h
  split at h
  · cases h
  · split at h
    · cases h
    · cases h
      exact .of_stack (Nat.add_le_add_left (Nat.le_add_left 1 n) _) (List.cons_ne_nil _ _)

/-- a finished child is attached: its frame is gone, its parent is on top -/
theorem okWithin_attachChild {c p : Frame} {rest : List Frame} {reps : List Rep} :
    OkWithin cfg n ⟨c :: p :: rest, reps⟩ (attachChild cfg c p rest reps) := by
  intro st' h
  have hpop {k : Nat} : Within cfg k ⟨c :: p :: rest, reps⟩ ⟨attachFrame c p :: rest, reps⟩ :=
    .of_stack (Nat.le_add_right_of_le (Nat.le_succ _)) (List.cons_ne_nil _ _)
  unfold attachChild at h
  split at h
  · obtain ⟨_, _, hw⟩ := report_ok (n := n) h
    exact (hpop (k := 0)).trans hw
  · cases h
    exact hpop

/-- One successful step: the stack grows by at most one frame and does not become empty, reports are
    only appended.  `step` is a tree of `if`s whose leaves are the results treated above; only the END
    and PROGRAM branches, which go on after a report, are followed by hand. -/
theorem step_inv (cfg : Cfg) (st : MS) (s : Stmt) (last : Bool) (st' : MS)
    (h : step cfg st s last = .ok st') : Within cfg 1 st st' := by
  revert st' h
  change OkWithin cfg 1 st (step cfg st s last)
  obtain ⟨stack, reps⟩ := st
  cases stack with
  | nil => exact okWithin_error
  | cons f rest =>
    simp only [step]
    cases select f s with
    | none => exact okWithin_top
    | some b =>
      cases b with
      | end_ =>
        cases rest with
        | nil =>
          simp only [List.isEmpty_nil, if_true]
          split
          · exact okWithin_error
          · rename_i st1 hrep
            obtain ⟨reps1, rfl, hw⟩ := report_ok (n := 0) hrep
            suffices h : OkWithin cfg 1 ⟨[f], reps1⟩ _ from fun st' h' => hw.trans (h st' h')
            simp only [apply_ite (OkWithin cfg 1 _), okWithin_error, okWithin_top, ite_self]
        | cons p rest' =>
          simp only [List.isEmpty_cons, Bool.false_eq_true, if_false, apply_ite (OkWithin cfg 1 _), okWithin_error,
            okWithin_top, okWithin_attachChild, ite_self]
      | program =>
        simp only []  -- reduces the match on the selected branch
        split
        · exact okWithin_openChild
        · split
          · exact okWithin_error
          · exact okWithin_error
      | _ =>
        simp only [apply_ite (OkWithin cfg 1 _), okWithin_error, okWithin_top, okWithin_report, okWithin_openChild,
          ite_self]

theorem run_inv (cfg : Cfg) (st : MS) (ss : List Stmt) (st' : MS) (h : run cfg st ss = .ok st') :
    Within cfg ss.length st st' := by
  induction ss generalizing st with
  | nil => cases h; exact .refl
  | cons s rest ih =>
    simp only [run] at h
    split at h
    · cases h
    · rename_i st1 h1
      exact (step_inv _ _ _ _ _ h1).trans (ih _ h)

theorem runMid_inv (cfg : Cfg) (st : MS) (ss : List Stmt) (st' : MS) (h : runMid cfg st ss = .ok st') :
    Within cfg ss.length st st' := by
  induction ss generalizing st with
  | nil => cases h; exact .refl
  | cons s rest ih =>
    simp only [runMid] at h
    split at h
    · cases h
    · rename_i st1 h1
      exact (step_inv _ _ _ _ _ h1).trans (ih _ h)

/-- a file is registered only when the loop came through with its reports, and under `skipReported`
    only when there are none -/
theorem parseFile_registered {ss : List Stmt} {paths : List Str} {reps : List Rep}
    (h : parseFile cfg ss = .registered paths reps) :
    ∃ st, run cfg initMS ss = .ok st ∧ st.reps = reps ∧ (cfg.skipReported = true → reps = []) := by
  simp only [parseFile, parseFrom] at h
  split at h
  · cases h
  · rename_i st hrun
    refine ⟨st, hrun, ?_⟩
    unfold finish at h
    split at h
    · split at h
      · cases h
      · rename_i hc
        cases h
        exact ⟨rfl, fun hr => by simpa [hr] using hc⟩
    · cases h

end

theorem selectIn_mem (row : List Branch) (f : Frame) (cascade : List (Branch × Guard)) (b : Branch)
    (h : selectIn row f cascade = some b) : b ∈ row := by
  induction cascade with
  | nil => cases h
  | cons bg rest ih =>
    simp only [selectIn] at h
    split at h
    · rename_i hc
      cases h
      exact List.contains_iff_mem.mp (Bool.and_eq_true_iff.mp hc).1
    · exact ih h

theorem isEndUnit_cases {k : SK} (h : isEndUnit k = true) : k = .endUnit ∨ k = .endUnitSub ∨ k = .endUnitFun := by
  simpa only [isEndUnit, Bool.or_eq_true, beq_iff_eq, or_assoc] using h

/-- an END statement always selects the END branch, whatever the container: no recogniser that
    stands before END in the cascade matches it, and END has no guard -/
theorem select_endUnit (f : Frame) (s : Stmt) (h : isEndUnit s.kind = true) : select f s = some .end_ := by
  obtain ⟨k, n⟩ := s
  obtain rfl | rfl | rfl := isEndUnit_cases h
  · rfl
  · rfl
  · rfl

/-- Under `dbg` an END of a unit met at file level outside any BLOCK is reported, and then the file
    object turns out to have no `_cleanup`. -/
theorem step_endUnit_file (cfg : Cfg) (hd : cfg.dbg = true) (f : Frame) (reps : List Rep) (s : Stmt)
    (hb : f.blocklevel = 0) (hend : isEndUnit s.kind = true) (last : Bool) :
    step cfg ⟨[f], reps⟩ s last = .error (.notImplemented, reps ++ [.endOutside]) := by
  have hk : (s.kind == .endBlock) = false ∧ (s.kind == .endAssociate) = false := by
    obtain e | e | e := isEndUnit_cases hend
    all_goals rw [e]; exact ⟨rfl, rfl⟩
  simp only [step, select_endUnit f s hend, List.isEmpty_nil, if_true, report_dbg cfg hd, hk.1, hk.2, hb,
    Bool.false_eq_true, if_false, beq_self_eq_true, Gen.fileHasCleanup]

/-- statements that neither open nor close a container and never raise under `dbg` -/
def neutral (k : SK) : Bool :=
  k == .perm || k == .use || k == .callParen || k == .callBare || k == .other || k == .attrib
    || k == .dataStmt || k == .contains || k == .block || k == .format || k == .arithGoto

/-- branches of the cascade whose code neither opens nor closes a container and raises only through
    `print_error` -/
def Branch.quiet : Branch → Bool
  | .contains | .perm | .sequence | .format | .attrib | .block | .boundproc | .final | .use | .arithgoto
  | .call => true
  | _ => false

theorem neutral_quiet (k : SK) (h : neutral k = true) : ∀ b ∈ matchRow k, b.quiet = true := by
  have hk : k ∈ [SK.perm, .use, .callParen, .callBare, .other, .attrib, .dataStmt, .contains, .block, .format,
      .arithGoto] := by
    simpa only [neutral, Bool.or_eq_true, beq_iff_eq, List.mem_cons, List.not_mem_nil, or_false, or_assoc] using h
  clear h
  revert k
  decide +kernel

/-- the computation succeeds and leaves everything below the innermost frame as it is -/
def KeepsRest (rest : List Frame) (r : Except Raise MS) : Prop :=
  ∃ f' reps', r = .ok ⟨f' :: rest, reps'⟩

theorem keepsRest_ok (f' : Frame) (rest : List Frame) (reps' : List Rep) :
    KeepsRest rest (.ok ⟨f' :: rest, reps'⟩) :=
  ⟨_, _, rfl⟩

/-- Under `dbg` a statement that takes a quiet branch (or none) changes at most the innermost frame
    and the report list. -/
theorem step_quiet (cfg : Cfg) (hd : cfg.dbg = true) (f : Frame) (rest : List Frame) (reps : List Rep)
    (s : Stmt) (last : Bool) (hq : ∀ b, select f s = some b → b.quiet = true) :
    ∃ f' reps', step cfg { stack := f :: rest, reps := reps } s last = .ok { stack := f' :: rest, reps := reps' } := by
  change KeepsRest rest _
  simp only [step, report_dbg cfg hd]
  cases hsel : select f s with
  | none => exact keepsRest_ok _ _ _
  | some b =>
    have hb := hq b hsel
    cases b with
    | contains | attrib | use | call => simp only [apply_ite (KeepsRest rest), keepsRest_ok, ite_self]
    | perm | sequence | format | block | boundproc | final | arithgoto => exact keepsRest_ok _ _ _
    | _ => cases hb

theorem step_neutral (cfg : Cfg) (hd : cfg.dbg = true) (f : Frame) (rest : List Frame) (reps : List Rep)
    (s : Stmt) (hn : neutral s.kind = true) (last : Bool) :
    ∃ f' reps', step cfg { stack := f :: rest, reps := reps } s last = .ok { stack := f' :: rest, reps := reps' } :=
  step_quiet cfg hd f rest reps s last fun b hb => neutral_quiet s.kind hn b (selectIn_mem _ _ _ b hb)

theorem run_neutral (cfg : Cfg) (hd : cfg.dbg = true) (body : List Stmt)
    (hn : ∀ s ∈ body, neutral s.kind = true) (f : Frame) (rest : List Frame) (reps : List Rep) :
    ∃ f' reps', run cfg { stack := f :: rest, reps := reps } body = .ok { stack := f' :: rest, reps := reps' } := by
  induction body generalizing f reps with
  | nil => exact ⟨f, reps, rfl⟩
  | cons s ss ih =>
    obtain ⟨f1, r1, h1⟩ := step_neutral cfg hd f rest reps s (hn s List.mem_cons_self) ss.isEmpty
    obtain ⟨f2, r2, h2⟩ := ih (fun x hx => hn x (List.mem_cons_of_mem _ hx)) f1 r1
    exact ⟨f2, r2, by simp only [run, h1, h2]⟩

end Ford
