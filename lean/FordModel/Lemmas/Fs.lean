import FordModel.Fs
import FordModel.Lemmas.Chars
namespace Ford.Fs
open Ford

/-! ### the three kinds of segment

`normAux`, `resolveAux` and `safe` all branch the same way on a segment: `..`, a segment that is
skipped (`.` or empty), or a clean one. -/

theorem seg_cases (s : Seg) : s = dotdot ∨ (s = dot ∨ s = []) ∨ Clean s := by
  by_cases h1 : s = dotdot
  · exact Or.inl h1
  · by_cases h2 : s = dot ∨ s = []
    · exact Or.inr (Or.inl h2)
    · exact Or.inr (Or.inr ⟨h1, not_or.1 h2⟩)

theorem ne_dotdot_of_skipped {s : Seg} (h : s = dot ∨ s = []) : s ≠ dotdot := by
  rcases h with rfl | rfl <;> decide

theorem normAux_dotdot (st r : List Seg) : normAux st (dotdot :: r) = normAux st.tail r := by
  rw [normAux, if_pos rfl]

theorem normAux_skipped {s : Seg} (h : s = dot ∨ s = []) (st r : List Seg) :
    normAux st (s :: r) = normAux st r := by
  rw [normAux, if_neg (ne_dotdot_of_skipped h), if_pos h]

theorem normAux_clean {s : Seg} (h : Clean s) (st r : List Seg) : normAux st (s :: r) = normAux (s :: st) r := by
  rw [normAux, if_neg h.1, if_neg (not_or.2 h.2)]

theorem safe_dotdot_zero (r : List Seg) : safe 0 (dotdot :: r) = false := by
  simp [safe]

theorem safe_dotdot_succ (k : Nat) (r : List Seg) : safe (k + 1) (dotdot :: r) = safe k r := by
  simp [safe]

theorem safe_skipped {s : Seg} (h : s = dot ∨ s = []) (k : Nat) (r : List Seg) : safe k (s :: r) = safe k r := by
  simp [safe, ne_dotdot_of_skipped h, h]

theorem safe_clean {s : Seg} (h : Clean s) (k : Nat) (r : List Seg) : safe k (s :: r) = safe (k + 1) r := by
  simp [safe, h.1, h.2]

theorem normal_tail {st : List Seg} (h : Normal st) : Normal st.tail :=
  fun s hs => h s (List.mem_of_mem_tail hs)

theorem normal_cons {st : List Seg} {s : Seg} (h : Normal st) (hs : Clean s) : Normal (s :: st) :=
  List.forall_mem_cons.2 ⟨hs, h⟩

theorem normal_reverse {st : List Seg} (h : Normal st) : Normal st.reverse :=
  fun s hs => h s (List.mem_reverse.1 hs)

theorem normAux_normal (st x : List Seg) (h : Normal st) : Normal (normAux st x) := by
  fun_induction normAux st x with
  | case1 st => exact normal_reverse h
  | case2 st r ih => exact ih (normal_tail h)
  | case3 st s r h1 h2 ih => exact ih h
  | case4 st s r h1 h2 ih => exact ih (normal_cons h ⟨h1, not_or.1 h2⟩)

theorem norm_normal (x : List Seg) : Normal (norm x) :=
  normAux_normal [] x (fun _ hs => nomatch hs)

/-- the table of symbolic links through which the settings paths are resolved (`Cfg.links`: link ↦ target):
    every target is itself a resolved path -/
def LinksOk (links : List (Path × Path)) : Prop := ∀ e ∈ links, Normal e.2

theorem resolveAux_normal (links : List (Path × Path)) (hl : LinksOk links) (st x : List Seg)
    (h : Normal st) : Normal (resolveAux links st x) := by
  fun_induction resolveAux links st x with
  | case1 st => exact normal_reverse h
  | case2 st r ih => exact ih (normal_tail h)
  | case3 st s r h1 h2 ih => exact ih h
  | case4 st s r h1 h2 t ht ih => exact ih (normal_reverse (hl _ (lookup_mem ht)))
  | case5 st s r h1 h2 ht ih => exact ih (normal_cons h ⟨h1, not_or.1 h2⟩)

theorem resolve_normal (links : List (Path × Path)) (hl : LinksOk links) (x : List Seg) :
    Normal (resolve links x) :=
  resolveAux_normal links hl [] x (fun _ hs => nomatch hs)

theorem normAux_append (st a b : List Seg) : normAux st (a ++ b) = normAux (normAux st a).reverse b := by
  fun_induction normAux st a with
  | case1 st => rw [List.nil_append, List.reverse_reverse]
  | case2 st r ih => rw [List.cons_append, normAux_dotdot, ih]
  | case3 st s r h1 h2 ih => rw [List.cons_append, normAux_skipped h2, ih]
  | case4 st s r h1 h2 ih => rw [List.cons_append, normAux_clean ⟨h1, not_or.1 h2⟩, ih]

theorem norm_append (a b : List Seg) : norm (a ++ b) = normAux (norm a).reverse b :=
  normAux_append [] a b

theorem normAux_of_normal (o : Path) (ho : Normal o) (st : List Seg) : normAux st o = st.reverse ++ o := by
  induction o generalizing st with
  | nil => rw [normAux, List.append_nil]
  | cons s o ih =>
    obtain ⟨hs, ho⟩ := List.forall_mem_cons.1 ho
    rw [normAux_clean hs, ih ho, List.reverse_cons, List.append_assoc, List.singleton_append]

theorem norm_of_normal {o : Path} (ho : Normal o) : norm o = o :=
  normAux_of_normal o ho []

theorem norm_snoc_clean (a : List Seg) (x : Seg) (hx : Clean x) : norm (a ++ [x]) = norm a ++ [x] := by
  rw [norm_append, normAux_clean hx, normAux, List.reverse_cons, List.reverse_reverse]

/-- walking `x` from `y.length` segments below `o` with `safe` never leaves `o` -/
theorem normAux_under (o : Path) (x : List Seg) :
    ∀ y : List Seg, safe y.length x = true → o <+: normAux (y ++ o.reverse) x := by
  induction x with
  | nil =>
    intro y _
    rw [normAux, List.reverse_append, List.reverse_reverse]
    exact List.prefix_append _ _
  | cons s r ih =>
    intro y hy
    rcases seg_cases s with rfl | hs | hs
    · cases y with
      | nil => rw [List.length_nil, safe_dotdot_zero] at hy; cases hy
      | cons a y =>
        rw [normAux_dotdot]
        exact ih y (by rwa [List.length_cons, safe_dotdot_succ] at hy)
    · rw [normAux_skipped hs]
      exact ih y (by rwa [safe_skipped hs] at hy)
    · rw [normAux_clean hs]
      exact ih (s :: y) (by rwa [safe_clean hs] at hy)

theorem norm_append_safe (o x : List Seg) (hx : safe 0 x = true) : norm o <+: norm (o ++ x) := by
  rw [norm_append]
  exact normAux_under (norm o) x [] hx

/-- **prefix lemma**: joining a non-climbing relative path to a normal base and
    resolving it lexically stays below the base. -/
theorem under_of_safe (o : Path) (ho : Normal o) (x : List Seg) (hx : safe 0 x = true) :
    o <+: norm (o ++ x) := by
  have := norm_append_safe o x hx
  rwa [norm_of_normal ho] at this

theorem under_sub (o : Path) (ho : Normal o) (rel : Str) (h : safeRel rel = true) : o <+: sub o rel :=
  under_of_safe o ho _ h

theorem safe_mono (x : List Seg) (k k' : Nat) (hk : k ≤ k') (h : safe k x = true) : safe k' x = true := by
  fun_induction safe k x generalizing k' with
  | case1 => rfl
  | case2 => cases h
  | case3 r k ih =>
    cases k' with
    | zero => exact absurd hk (Nat.not_succ_le_zero k)
    | succ j =>
      rw [safe_dotdot_succ]
      exact ih j (Nat.le_of_succ_le_succ hk) h
  | case4 k s r h1 h2 ih =>
    rw [safe_skipped h2]
    exact ih k' hk h
  | case5 k s r h1 h2 ih =>
    rw [safe_clean ⟨h1, not_or.1 h2⟩]
    exact ih _ (Nat.succ_le_succ hk) h

theorem safe_append (x y : List Seg) (k : Nat) (h : safe k x = true) (hy : safe 0 y = true) :
    safe k (x ++ y) = true := by
  fun_induction safe k x with
  | case1 k => exact safe_mono y 0 k (Nat.zero_le k) hy
  | case2 => cases h
  | case3 r k ih =>
    rw [List.cons_append, safe_dotdot_succ]
    exact ih h
  | case4 k s r h1 h2 ih =>
    rw [List.cons_append, safe_skipped h2]
    exact ih h
  | case5 k s r h1 h2 ih =>
    rw [List.cons_append, safe_clean ⟨h1, not_or.1 h2⟩]
    exact ih h

theorem safe_append_left (a b : List Seg) (k : Nat) (h : safe k (a ++ b) = true) : safe k a = true := by
  fun_induction safe k a with
  | case1 => rfl
  | case2 r =>
    rw [List.cons_append, safe_dotdot_zero] at h
    cases h
  | case3 r k ih =>
    rw [List.cons_append, safe_dotdot_succ] at h
    exact ih h
  | case4 k s r h1 h2 ih =>
    rw [List.cons_append, safe_skipped h2] at h
    exact ih h
  | case5 k s r h1 h2 ih =>
    rw [List.cons_append, safe_clean ⟨h1, not_or.1 h2⟩] at h
    exact ih h

theorem safe_of_normal (x : List Seg) (h : Normal x) : ∀ k, safe k x = true := by
  induction x with
  | nil => intro _; rfl
  | cons s r ih =>
    intro k
    obtain ⟨hs, hr⟩ := List.forall_mem_cons.1 h
    rw [safe_clean hs]
    exact ih hr _

theorem safe_single (s : Seg) (h : s ≠ dotdot) (k : Nat) : safe k [s] = true := by
  rcases seg_cases s with rfl | hs | hs
  · exact absurd rfl h
  · rw [safe_skipped hs]; rfl
  · rw [safe_clean hs]; rfl

theorem safe_cons (s : Seg) (hs : s ≠ dotdot) (x : List Seg) (hx : safe 0 x = true) : safe 0 (s :: x) = true :=
  safe_append [s] x 0 (safe_single s hs 0) hx

theorem safe_snoc (x : List Seg) (hx : safe 0 x = true) (s : Seg) (hs : s ≠ dotdot) : safe 0 (x ++ [s]) = true :=
  safe_append x [s] 0 hx (safe_single s hs 0)

/-- one step down and then any single component (even `..`) does not climb above the start -/
theorem safe_two (a b : Seg) (ha : Clean a) : safe 0 [a, b] = true := by
  rw [safe_clean ha]
  by_cases hb : b = dotdot
  · rw [hb, safe_dotdot_succ]; rfl
  · exact safe_single b hb 1

theorem splitSlashAux_no_slash (s cur : Str) (h : '/' ∉ s) : splitSlashAux s cur = [cur.reverse ++ s] := by
  induction s generalizing cur with
  | nil => simp [splitSlashAux]
  | cons c cs ih =>
    rw [List.mem_cons, not_or] at h
    obtain ⟨hc, hcs⟩ := h
    simp [splitSlashAux, Ne.symm hc, ih _ hcs]

theorem splitSlash_no_slash (s : Str) (h : '/' ∉ s) : splitSlash s = [s] :=
  splitSlashAux_no_slash s [] h

theorem safeRel_of_no_slash (s : Str) (h : '/' ∉ s) (h2 : s ≠ dotdot) : safeRel s = true := by
  rw [safeRel, splitSlash_no_slash s h]
  exact safe_single s h2 0

/-- A string literal is `String.ofList` of its characters.  Through this lemma a closed `safeRel` fact
    about a literal is evaluated on the character list; evaluating `"…".toList` itself takes time
    quadratic in the length of the literal.  (`simp -index only [String.toList_ofList]` before an
    evaluation serves the same purpose.) -/
theorem safeRel_lit (l : List Char) (h : safeRel l = true) : safeRel (String.ofList l).toList = true := by
  rwa [String.toList_ofList]

theorem mem_replaceChar (c d : Char) (r s : Str) (h : d ∈ replaceChar c r s) : d ∈ r ∨ (d ∈ s ∧ d ≠ c) := by
  fun_induction replaceChar c r s with
  | case1 => cases h
  | case2 xs ih =>
    rcases List.mem_append.1 h with h | h
    · exact Or.inl h
    · exact (ih h).imp_right fun h => ⟨List.mem_cons_of_mem _ h.1, h.2⟩
  | case3 x xs hx ih =>
    rcases List.mem_cons.1 h with rfl | h
    · exact Or.inr ⟨List.mem_cons_self, hx⟩
    · exact (ih h).imp_right fun h => ⟨List.mem_cons_of_mem _ h.1, h.2⟩

theorem mem_sanitize (tbl : List (Char × Str)) (d : Char) (s : Str) (h : d ∈ sanitize tbl s) :
    (∃ e ∈ tbl, d ∈ e.2) ∨ (d ∈ s ∧ ∀ e ∈ tbl, e.1 ≠ d) := by
  induction tbl generalizing s with
  | nil => exact Or.inr ⟨h, fun _ he => nomatch he⟩
  | cons e r ih =>
    rcases ih _ h with ⟨e', he', hd⟩ | ⟨hd, hr⟩
    · exact Or.inl ⟨e', List.mem_cons_of_mem _ he', hd⟩
    · rcases mem_replaceChar _ _ _ _ hd with hd | ⟨hd, hne⟩
      · exact Or.inl ⟨e, List.mem_cons_self, hd⟩
      · exact Or.inr ⟨hd, List.forall_mem_cons.2 ⟨hne.symm, hr⟩⟩

theorem sanitize_removes (tbl : List (Char × Str)) (d : Char) (h : ∀ e ∈ tbl, d ∉ e.2)
    (hk : ∃ e ∈ tbl, e.1 = d) (s : Str) : d ∉ sanitize tbl s := by
  intro hd
  obtain ⟨e, he, hed⟩ := hk
  rcases mem_sanitize tbl d s hd with ⟨e', he', h'⟩ | ⟨_, hne⟩
  · exact h e' he' h'
  · exact hne e he hed

theorem natStr_no_slash (n : Nat) : '/' ∉ natStr n := by
  intro h
  rw [natStr, Nat.toString_eq_ofList_toDigits, String.toList_ofList] at h
  exact absurd (Nat.isDigit_of_mem_toDigits (b := 10) (by decide) (by decide) h) (by decide)

/-- the file stem of an entity page is a single path segment (rests on the generated replacement
    table: it replaces `/`, and by nothing that contains `/`) -/
theorem ident_no_slash (name : Str) (num : Nat) : '/' ∉ ident name num := by
  have hsfx : ∀ n : Str, '/' ∉ n → '/' ∉ (if num > 1 then n ++ '~' :: natStr num else n) := by
    intro n hn
    split
    · rw [List.mem_append, List.mem_cons, not_or, not_or]
      exact ⟨hn, by decide, natStr_no_slash num⟩
    · exact hn
  apply hsfx
  split
  · rw [String.toList_ofList]
    decide
  · refine sanitize_removes _ '/' ?_ (by decide) _
    simp -index only [Generated.C19.symbolReplacements, String.toList_ofList]
    decide

theorem append_ne_dotdot (s ext : Str) (h : 2 < ext.length) : s ++ ext ≠ dotdot := by
  intro he
  have := congrArg List.length he
  rw [List.length_append] at this
  exact absurd this (by simp only [dotdot, List.length_cons, List.length_nil]; omega)

theorem append_html_ne_dotdot (s : Str) : s ++ ".html".toList ≠ dotdot := append_ne_dotdot s _ (by decide)

theorem identFile_ne_dotdot (n : Str) (k : Nat) : identFile n k ≠ dotdot := append_html_ne_dotdot _

def Under (o : Path) (l : List Prim) : Prop := ∀ p ∈ l, o <+: p.path

theorem Under.append {o : Path} {a b : List Prim} (ha : Under o a) (hb : Under o b) : Under o (a ++ b) :=
  List.forall_mem_append.2 ⟨ha, hb⟩

theorem Under.nil {o : Path} : Under o [] := fun _ hp => nomatch hp

theorem Under.cons {o : Path} {p : Prim} {l : List Prim} (hp : o <+: p.path) (hl : Under o l) : Under o (p :: l) :=
  List.forall_mem_cons.2 ⟨hp, hl⟩

theorem Under.trans {o d : Path} {l : List Prim} (h : o <+: d) (hl : Under d l) : Under o l :=
  fun p hp => h.trans (hl p hp)

theorem Under.flatMap {α} {o : Path} {xs : List α} {f : α → List Prim} (h : ∀ x ∈ xs, Under o (f x)) :
    Under o (xs.flatMap f) :=
  List.forall_mem_flatMap.2 h

theorem Under.map {α} {o : Path} {xs : List α} {f : α → Prim} (h : ∀ x ∈ xs, o <+: (f x).path) :
    Under o (xs.map f) :=
  List.forall_mem_map.2 h

theorem Under.ite {o : Path} {c : Prop} [Decidable c] {a b : List Prim} (ha : Under o a) (hb : Under o b) :
    Under o (if c then a else b) := by
  split <;> assumption

def TreeOk (t : Tree) : Prop := (∀ e ∈ t.walk, safeRel e.2 = true) ∧ ∀ e ∈ t.touch, safeRel e = true

theorem mem_walkOps_entry (dst : Path) (e : Nat × Str) (p : Prim) (hp : p ∈ walkOps dst [e]) :
    p.path = sub dst e.2 ∧
      ((e.1 = 0 ∧ (p.kind = .wr ∨ p.kind = .chmod)) ∨ (e.1 = 1 ∧ p.kind = .mk) ∨
       (e.1 = 2 ∧ (p.kind = .utime ∨ p.kind = .chmod))) := by
  obtain ⟨k, rel⟩ := e
  simp only [walkOps, List.append_nil] at hp
  by_cases h0 : k = 0
  · rw [if_pos h0, List.mem_cons, List.mem_singleton] at hp
    rcases hp with rfl | rfl
    · exact ⟨rfl, Or.inl ⟨h0, Or.inl rfl⟩⟩
    · exact ⟨rfl, Or.inl ⟨h0, Or.inr rfl⟩⟩
  rw [if_neg h0] at hp
  by_cases h1 : k = 1
  · rw [if_pos h1, List.mem_singleton] at hp
    exact hp ▸ ⟨rfl, Or.inr (Or.inl ⟨h1, rfl⟩)⟩
  rw [if_neg h1] at hp
  by_cases h2 : k = 2
  · rw [if_pos h2, List.mem_cons, List.mem_singleton] at hp
    rcases hp with rfl | rfl
    · exact ⟨rfl, Or.inr (Or.inr ⟨h2, Or.inl rfl⟩)⟩
    · exact ⟨rfl, Or.inr (Or.inr ⟨h2, Or.inr rfl⟩)⟩
  rw [if_neg h2] at hp
  cases hp

theorem walkOps_cons (dst : Path) (e : Nat × Str) (r : List (Nat × Str)) :
    walkOps dst (e :: r) = walkOps dst [e] ++ walkOps dst r := by
  simp [walkOps]

theorem mem_walkOps_iff (dst : Path) (w : List (Nat × Str)) (p : Prim) :
    p ∈ walkOps dst w ↔ ∃ e ∈ w, p ∈ walkOps dst [e] := by
  induction w with
  | nil => simp [walkOps]
  | cons e r ih =>
    simp only [walkOps_cons dst e r, List.mem_append, ih, List.mem_cons, or_and_right, exists_or, exists_eq_left]

theorem walkOps_file (dst : Path) (w : List (Nat × Str)) (rel : Str) (h : (0, rel) ∈ w) :
    ⟨.wr, sub dst rel⟩ ∈ walkOps dst w :=
  (mem_walkOps_iff dst w _).2 ⟨_, h, List.mem_cons_self⟩

theorem walkOps_dir (dst : Path) (w : List (Nat × Str)) (rel : Str) (h : (1, rel) ∈ w) :
    ⟨.mk, sub dst rel⟩ ∈ walkOps dst w :=
  (mem_walkOps_iff dst w _).2 ⟨_, h, List.mem_cons_self⟩

theorem walkOps_under (dst : Path) (hN : Normal dst) (w : List (Nat × Str)) (h : ∀ e ∈ w, safeRel e.2 = true) :
    Under dst (walkOps dst w) := by
  intro p hp
  obtain ⟨e, he, hpe⟩ := (mem_walkOps_iff dst w p).1 hp
  rw [(mem_walkOps_entry dst e p hpe).1]
  exact under_sub dst hN _ (h e he)

theorem copyTreeDeref_under (dst : Path) (hN : Normal dst) (t : Tree) (ht : TreeOk t) :
    Under dst (copyTreeDeref dst t) := by
  have hd : dst <+: dst := List.prefix_refl _
  refine .append (.append (.cons hd (walkOps_under dst hN t.walk ht.1)) (.cons hd (.cons hd .nil))) ?_
  exact .ite .nil (.map fun r hr => under_sub dst hN r (ht.2 r hr))

/-- the attempts of a copy: on the destination directory itself, those of the walk, and the `touch` pass -/
theorem mem_copyTreeDeref (dst : Path) (t : Tree) (p : Prim) (h : p ∈ copyTreeDeref dst t) :
    (p.path = dst ∧ (p.kind = .mk ∨ p.kind = .utime ∨ p.kind = .chmod)) ∨ (∃ e ∈ t.walk, p ∈ walkOps dst [e]) ∨
    ∃ r ∈ t.touch, p = ⟨.utime, sub dst r⟩ := by
  simp only [copyTreeDeref, List.mem_cons, List.mem_append, List.not_mem_nil, or_false] at h
  rcases h with ((rfl | h) | rfl | rfl) | h
  · exact Or.inl ⟨rfl, Or.inl rfl⟩
  · exact Or.inr (Or.inl ((mem_walkOps_iff dst t.walk p).1 h))
  · exact Or.inl ⟨rfl, Or.inr (Or.inl rfl)⟩
  · exact Or.inl ⟨rfl, Or.inr (Or.inr rfl)⟩
  · split at h
    · cases h
    · obtain ⟨r, hr, rfl⟩ := List.mem_map.1 h
      exact Or.inr (Or.inr ⟨r, hr, rfl⟩)

/-- the copy dereferences symbolic links (generated constant: `symlinks=` of the `shutil.copytree`
    call): it is the link-free copy, whatever the `links` table of the tree says -/
theorem copyTree_eq_deref (dst : Path) (t : Tree) : copyTree dst t = copyTreeDeref dst t := by
  simp [copyTree, Generated.C19.copytreeSymlinks]

theorem copyTree_under (dst : Path) (hN : Normal dst) (t : Tree) (ht : TreeOk t) : Under dst (copyTree dst t) := by
  rw [copyTree_eq_deref]
  exact copyTreeDeref_under dst hN t ht

theorem copyFile_under (o dst : Path) (h : o <+: dst) : Under o (copyFile dst) :=
  .cons h (.cons h .nil)

/-- `incl_src` places a source file under its last path component only -/
theorem srcCopy_under (o : Path) (ho : Normal o) (path : Str) :
    Under o (copyFile (norm (o ++ ["src".toList] ++ [baseName path]))) := by
  apply copyFile_under
  rw [List.append_assoc]
  exact under_of_safe o ho _ (safe_two "src".toList (baseName path) ⟨by decide +kernel, by decide +kernel, by decide +kernel⟩)

theorem mem_mkdirP (k : Nat) : ∀ (p : Path), ∀ q ∈ mkdirP p k, q.kind = .mk ∧ q.path <+: p := by
  induction k with
  | zero =>
    intro p q hq
    rw [mkdirP, List.mem_singleton] at hq
    exact hq ▸ ⟨rfl, List.prefix_refl _⟩
  | succ k ih =>
    intro p q hq
    rw [mkdirP, List.mem_append, List.mem_cons, List.mem_singleton] at hq
    rcases hq with (rfl | h) | rfl
    · exact ⟨rfl, List.prefix_refl _⟩
    · exact (ih _ q h).imp_right (·.trans (List.dropLast_prefix p))
    · exact ⟨rfl, List.prefix_refl _⟩

theorem getLastD_ne_dotdot (p : Path) (hp : Normal p) : p.getLastD [] ≠ dotdot := by
  rw [List.getLastD_eq_getLast?]
  cases h : p.getLast? with
  | none => decide
  | some x => exact (hp x (List.mem_of_getLast? h)).1

/-- `o in d.parents` (pathlib) is strict containment, component by component -/
theorem mem_parents_iff_proper (o d : Path) : o ∈ parents d ↔ o <+: d ∧ o ≠ d := by
  have hp : o ∈ parents d ↔ ∃ n, n < d.length ∧ d.take n = o := by simp [parents]
  rw [hp]
  constructor
  · rintro ⟨n, hn, rfl⟩
    refine ⟨List.take_prefix n d, fun h => ?_⟩
    have := congrArg List.length h
    rw [List.length_take] at this
    omega
  · rintro ⟨h, hne⟩
    have hlen := h.length_le
    have ht := List.prefix_iff_eq_take.1 h
    refine ⟨o.length, ?_, ht.symm⟩
    rcases Nat.lt_or_ge o.length d.length with hl | hl
    · exact hl
    · exact absurd (ht.trans (List.take_of_length_le hl)) hne

/-- `o in (d, *d.parents)` is containment -/
theorem self_or_parent_iff (o d : Path) : (d :: parents d).contains o = true ↔ o <+: d := by
  rw [List.contains_iff_mem, List.mem_cons, mem_parents_iff_proper]
  constructor
  · rintro (rfl | h)
    · exact List.prefix_refl _
    · exact h.1
  · intro h
    by_cases he : o = d
    · exact Or.inl he
    · exact Or.inr ⟨h, he⟩

theorem joinRaw_rel (base : Path) (s : Str) (h : s.head? ≠ some '/') : joinRaw base s = base ++ splitSlash s := by
  unfold joinRaw
  split
  · simp at h
  · rfl

theorem pcopyOps_under (c : Cfg) (o : Path) (to : List Seg) (created : List Path) (pc : PCopy)
    (hd : c.repaired = true ∨ o <+: norm (joinRaw to pc.item))
    (ht : ∀ t, pc.tree = some t → TreeOk t) : Under o (pcopyOps c o to created pc) := by
  unfold pcopyOps
  simp only   -- substitutes the `let dst`
  split
  · exact Under.nil
  · rename_i hg
    -- the guard, where it is in force, says that the target is below the output directory
    have ho : o <+: norm (joinRaw to pc.item) := by
      rcases hd with h | h
      · have hga : guardAccepts o (norm (joinRaw to pc.item)) = true := by simpa [h] using hg
        exact ((mem_parents_iff_proper _ _).1 (List.contains_iff_mem.1 hga)).1
      · exact h
    split
    · exact Under.nil
    · rename_i t htree
      exact .ite (.cons ho .nil) (.trans ho (copyTree_under _ (norm_normal _) t (ht t htree)))

theorem pcopiesOps_under (c : Cfg) (o : Path) (to : List Seg) (created : List Path) (cs : List PCopy)
    (h : ∀ pc ∈ cs, (c.repaired = true ∨ o <+: norm (joinRaw to pc.item)) ∧ ∀ t, pc.tree = some t → TreeOk t) :
    Under o (pcopiesOps c o to created cs) := by
  fun_induction pcopiesOps c o to created cs with
  | case1 => exact Under.nil
  | case2 created pc r ops ih =>
    obtain ⟨hpc, hr⟩ := List.forall_mem_cons.1 h
    exact Under.append (pcopyOps_under c o to created pc hpc.1 hpc.2) (ih hr)

def PageOk (c : Cfg) (pg : Page) : Prop :=
  safe 0 pg.loc = true ∧ (∀ f ∈ pg.files, safeRel f = true) ∧
  (∀ pc ∈ pg.copies, ∀ t, pc.tree = some t → TreeOk t) ∧
  (c.repaired = true ∨ ∀ pc ∈ pg.copies, copyEscapes pg pc = false)

theorem pageOps_under (c : Cfg) (o : Path) (ho : Normal o) (created : List Path) (pg : Page) (h : PageOk c pg) :
    Under o (pageOps c o created pg) := by
  obtain ⟨hloc, hfiles, htrees, hesc⟩ := h
  have hrel : safe 0 ("page".toList :: pg.loc) = true := safe_cons _ (by decide +kernel) _ hloc
  -- everything is joined to `to`; below it, what is joined must not climb
  have hto : ∀ x, safe 0 ("page".toList :: pg.loc ++ x) = true → o <+: norm (o ++ ["page".toList] ++ pg.loc ++ x) := by
    intro x hx
    rw [List.append_assoc, List.append_assoc]
    exact under_of_safe o ho _ hx
  unfold pageOps
  refine .append (.append (.append (.ite (.cons ?_ .nil) .nil) (.cons ?_ .nil)) (pcopiesOps_under c o _ _ _ ?_))
    (.flatMap fun f hf => copyFile_under _ _ (hto _ (safe_append _ _ 0 hrel (hfiles f hf))))
  · simpa using hto [] (by simpa using hrel)
  · exact hto _ (safe_snoc _ hrel _ (append_html_ne_dotdot _))
  · intro pc hpc
    refine ⟨hesc.imp_right fun h => ?_, htrees pc hpc⟩
    have he := h pc hpc
    simp only [copyEscapes, Bool.or_eq_false_iff, Bool.not_eq_false', decide_eq_false_iff_not] at he
    obtain ⟨hrel, hsafe⟩ := he
    rw [joinRaw_rel _ _ hrel]
    exact hto _ hsafe

theorem pagesOps_under (c : Cfg) (o : Path) (ho : Normal o) (created : List Path) (pgs : List Page)
    (h : ∀ pg ∈ pgs, PageOk c pg) : Under o (pagesOps c o created pgs) := by
  fun_induction pagesOps c o created pgs with
  | case1 => exact Under.nil
  | case2 created pg r ops ih =>
    obtain ⟨hpg, hr⟩ := List.forall_mem_cons.1 h
    exact Under.append (pageOps_under c o ho created pg hpg) (ih hr)

def AllAllowed (o : Path) (g : Option Path) (l : List Prim) : Prop := ∀ p ∈ l, Allowed o g p

theorem AllAllowed.append {o g} {a b : List Prim} (ha : AllAllowed o g a) (hb : AllAllowed o g b) :
    AllAllowed o g (a ++ b) :=
  List.forall_mem_append.2 ⟨ha, hb⟩

theorem AllAllowed.nil {o g} : AllAllowed o g [] := fun _ hp => nomatch hp

theorem AllAllowed.of_under {o g} {l : List Prim} (h : Under o l) : AllAllowed o g l :=
  fun p hp => Or.inl (h p hp)

theorem mkdirP_allowed {o : Path} {g : Option Path} (d : Path) (k : Nat) (h : d = o ∨ g = some d) :
    AllAllowed o g (mkdirP d k) := by
  intro p hp
  obtain ⟨hk, hpre⟩ := mem_mkdirP k d p hp
  rcases h with rfl | rfl
  · exact Or.inr (Or.inr ⟨hk, Or.inl hpre⟩)
  · exact Or.inr (Or.inr ⟨hk, Or.inr ⟨d, rfl, hpre⟩⟩)

theorem AllAllowed.of_under_g {o gd} {l : List Prim} (h : Under gd l) : AllAllowed o (some gd) l :=
  fun p hp => Or.inr (Or.inl ⟨gd, rfl, h p hp⟩)

theorem not_allowed_of_outside {o : Path} {g : Option Path} {p : Prim} (hg : g = none) (ho : ¬ o <+: p.path)
    (hk : p.kind ≠ .mk) : ¬ Allowed o g p := by
  subst hg
  rintro (h | ⟨gd, hg, _⟩ | ⟨h, _⟩)
  · exact ho h
  · cases hg
  · exact hk h

theorem tables_safe : (∀ d ∈ Generated.C19.outDirs, safeRel d = true) ∧ (∀ d ∈ Generated.C19.libDirs, safeRel d = true) ∧
    (∀ d ∈ Generated.C19.listPages, safeRel d = true) ∧ (∀ d ∈ Generated.C19.fixedNames, safeRel d = true) := by
  simp -index only [Generated.C19.outDirs, Generated.C19.libDirs, Generated.C19.listPages, Generated.C19.fixedNames,
    String.toList_ofList]
  decide +kernel

theorem graphOps_under (skip : List Path) (g : Path) (hg : Normal g) (n : Str) (h1 : '/' ∉ n) (h2 : n ≠ dotdot) :
    Under g (graphOps skip g n) := by
  have hn : g <+: sub g n := under_sub g hg n (safeRel_of_no_slash n h1 h2)
  -- `n` with an extension: still one segment, and too long to be `..`
  have hx : ∀ ext : Str, 2 < ext.length → '/' ∉ ext → g <+: sub g (n ++ ext) := fun ext hl he =>
    under_sub g hg _ (safeRel_of_no_slash _ (by simp [h1, he]) (append_ne_dotdot n ext hl))
  exact .ite .nil (.cons (List.prefix_refl _) (.cons hn (.cons (hx _ (by decide) (by decide)) (.cons hn
    (.cons (hx _ (by decide) (by decide)) .nil)))))

theorem graphDir_normal (c : Cfg) (hl : LinksOk c.links) (g : Path) (hg : graphDir c = some g) : Normal g := by
  simp only [graphDir, Option.map_eq_some_iff] at hg
  obtain ⟨raw, _, rfl⟩ := hg
  exact resolve_normal _ hl _

theorem writeOpsW_allowed (sk : Bool) (c : Cfg) (s : Site) (hl : LinksOk c.links) (hs : SiteOk s)
    (hv : c.repaired = true ∨ noEscape s = true) :
    AllAllowed (outDir c) (graphDir c) (writeOpsW sk c s) := by
  have ho : Normal (outDir c) := resolve_normal _ hl _
  have hsub : ∀ rel, safeRel rel = true → outDir c <+: sub (outDir c) rel := under_sub _ ho
  have hct : ∀ rel t, safeRel rel = true → TreeOk t → Under (outDir c) (copyTree (sub (outDir c) rel) t) :=
    fun rel t h ht => .trans (hsub rel h) (copyTree_under _ (norm_normal _) t ht)
  unfold writeOpsW
  -- block by block, in the order of `Documentation.writeout`
  repeat apply AllAllowed.append
  -- clean-up of the output directory
  · exact .of_under (.ite (.cons (List.prefix_refl _) .nil) (.cons (List.prefix_refl _) .nil))
  -- `mkdir` of the output directory and its missing ancestors
  · exact mkdirP_allowed _ _ (Or.inl rfl)
  -- fixed sub-directories
  · exact .of_under (.map fun d hd => hsub _ (tables_safe.1 d hd))
  -- installation directories (css, js, webfonts)
  · refine .of_under (.flatMap fun l hl' => ?_)
    obtain ⟨hz1, hz2⟩ := List.of_mem_zip hl'
    exact hct _ _ (tables_safe.2.1 _ hz1) (hs.libs _ hz2)
  -- graphs
  · split
    · cases hg : graphDir c with
      | none => exact AllAllowed.nil
      | some g =>
        have hgN := graphDir_normal c hl g hg
        apply AllAllowed.append
        · exact mkdirP_allowed _ _ (Or.inr rfl)
        · exact .of_under_g (.flatMap fun n hn => graphOps_under _ g hgN n (hs.graphs n hn).1 (hs.graphs n hn).2)
    · exact AllAllowed.nil
  -- search
  · exact .of_under (.ite (.append (hct _ _ (safeRel_lit _ (by decide +kernel)) hs.search)
      (.cons (hsub _ (safeRel_lit _ (by decide +kernel))) .nil)) .nil)
  -- media
  · apply AllAllowed.of_under
    split
    · rename_i t ht
      exact hct _ t (safeRel_lit _ (by decide +kernel)) (hs.media t ht)
    · exact Under.nil
  -- css/user.css
  · exact .of_under (.ite (copyFile_under _ _ (hsub _ (safeRel_lit _ (by decide +kernel)))) .nil)
  -- favicon
  · exact .of_under (copyFile_under _ _ (hsub _ (safeRel_lit _ (by decide +kernel))))
  -- source files (`incl_src`)
  · exact .of_under (.ite (.flatMap fun n _ => srcCopy_under _ ho n) .nil)
  -- MathJax configuration
  · apply AllAllowed.of_under
    split
    · have hmj := hsub "js/MathJax-config".toList (safeRel_lit _ (by decide +kernel))
      -- the file is copied under its last component: a segment of a resolved path, hence not `..`
      refine .cons hmj (copyFile_under _ _ (hmj.trans ?_))
      exact under_of_safe _ (norm_normal _) _ (safe_single _ (getLastD_ne_dotdot _ (resolve_normal _ hl _)) 0)
    · exact Under.nil
  -- entity pages
  · refine .of_under (.map fun d hd => ?_)
    rw [List.append_assoc]
    exact under_of_safe _ ho _ (safe_snoc _ (hs.docs d hd) _ (identFile_ne_dotdot _ _))
  -- list pages
  · refine .of_under (.map fun l hl' => ?_)
    rw [List.append_assoc]
    exact under_of_safe _ ho _ (safe_cons "lists".toList (by decide +kernel) _ (hs.lists l hl'))
  -- static pages
  · refine .of_under (pagesOps_under _ _ ho _ _ fun pg hpg => ?_)
    obtain ⟨h1, h3, h4⟩ := hs.pages pg hpg
    refine ⟨h1, h3, h4, hv.imp_right fun h pc hpc => ?_⟩
    simp only [noEscape, List.all_eq_true, Bool.not_eq_true'] at h
    exact h pg hpg pc hpc
  -- index.html, search.html
  · exact .of_under (.cons (hsub _ (safeRel_lit _ (by decide +kernel))) (.cons (hsub _ (safeRel_lit _ (by decide +kernel))) .nil))
  -- modules.json (`externalize`)
  · exact .of_under (.ite (.cons (hsub _ (safeRel_lit _ (by decide +kernel))) .nil) .nil)

theorem writeOps_allowed (c : Cfg) (s : Site) (hl : LinksOk c.links) (hs : SiteOk s)
    (hv : c.repaired = true ∨ noEscape s = true) :
    AllAllowed (outDir c) (graphDir c) (writeOps c s) := writeOpsW_allowed _ c s hl hs hv

theorem runW_allowed (sk : Bool) (c : Cfg) (s : Site) (hl : LinksOk c.links) (hs : SiteOk s)
    (hv : c.repaired = true ∨ noEscape s = true) :
    AllAllowed (outDir c) (graphDir c) (runW sk c s) := by
  unfold runW
  split
  · exact AllAllowed.nil
  · exact writeOpsW_allowed sk c s hl hs hv

theorem followAux_nil (st r : List Seg) : followAux [] st r = st.reverse ++ r := by
  induction r generalizing st with
  | nil => simp [followAux]
  | cons s r ih => simp [followAux, ih]

theorem physical_nil (k : PK) (p : Path) : physical [] k p = p := by
  unfold physical
  simp only [List.map_nil, followAux_nil, List.reverse_nil, List.nil_append]
  split
  · rfl
  · split
    · rename_i last h
      rw [List.getLast?_eq_some_iff] at h
      obtain ⟨ys, rfl⟩ := h
      simp
    · rename_i h
      exact (List.getLast?_eq_none_iff.1 h).symm

/-- `whole = true`: the clean-up is `rmtree` on the output directory itself -/
theorem survivorsW_whole (c : Cfg) (hin : ∀ l ∈ c.old, outDir c <+: l.loc) (hk : ∀ l ∈ c.old, l.kept = false) :
    survivorsW true c = [] := by
  unfold survivorsW
  rw [List.filter_eq_nil_iff]
  intro l hl
  have h1 : (outDir c).isPrefixOf l.loc = true := List.isPrefixOf_iff_prefix.2 (hin l hl)
  simp [h1, hk l hl]

theorem map_physical_nil (r : List Prim) : r.map (fun p => (⟨p.kind, physical [] p.kind p.path⟩ : Prim)) = r := by
  induction r with
  | nil => rfl
  | cons p r ih => simp [physical_nil]

theorem runPhysW_whole (fatal sk : Bool) (c : Cfg) (s : Site) (hin : ∀ l ∈ c.old, outDir c <+: l.loc)
    (hk : ∀ l ∈ c.old, l.kept = false) : runPhysW true fatal sk c s = runW sk c s := by
  have hany : c.old.any (fun l => (outDir c).isPrefixOf l.loc && l.kept) = false := by
    rw [List.any_eq_false]
    intro l hl
    simp [hk l hl]
  unfold runPhysW
  split
  · rename_i h
    rw [h]
  · rename_i w r h
    rw [h, hany, survivorsW_whole c hin hk, map_physical_nil]
    simp

/-- `fatal = true`: after a failed removal the run ends with the `mkdir` of the output directory, so nothing is
    attempted through a surviving link -/
theorem runPhysW_fatal_subset (sk : Bool) (c : Cfg) (s : Site) (hin : ∀ l ∈ c.old, outDir c <+: l.loc) :
    ∀ p ∈ runPhysW true true sk c s, p ∈ runW sk c s := by
  by_cases hk : ∃ l ∈ c.old, l.kept = true
  · obtain ⟨l, hl, hkl⟩ := hk
    have hany : c.old.any (fun l => (outDir c).isPrefixOf l.loc && l.kept) = true :=
      List.any_eq_true.2 ⟨l, hl, by rw [List.isPrefixOf_iff_prefix.2 (hin l hl), hkl]; rfl⟩
    unfold runPhysW
    split
    · nofun
    · rename_i w r h
      rw [h, hany]
      intro p hp
      rcases List.mem_cons.1 hp with rfl | hp
      · exact List.mem_cons_self
      · exact List.mem_cons_of_mem _ (List.mem_of_mem_take hp)
  · rw [runPhysW_whole true sk c s hin fun l hl => Bool.eq_false_iff.2 fun h => hk ⟨l, hl, h⟩]
    exact fun _ hp => hp

end Ford.Fs
