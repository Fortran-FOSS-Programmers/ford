/-
  Lemmas about the text-level alias model (FordModel/PageAlias.lean) for Props/C17.lean.
-/
import FordModel.PageAlias
import FordModel.PageTree
namespace Ford.PA
open Ford

variable (al : List (Str × Str))

/-- the loop of `run` replaces line `i` by its image and leaves the others alone -/
theorem runGo_eq (rest pre : List Str) :
    runGo al pre.length rest (pre ++ rest) = pre ++ rest.map (aliasLine al) := by
  induction rest generalizing pre with
  | nil => simp [runGo]
  | cons l rest ih =>
    have h := ih (pre ++ [aliasLine al l])
    simp only [List.length_append, List.length_cons, List.length_nil, List.append_assoc,
      List.cons_append, List.nil_append] at h
    simp [runGo, h]

theorem aliasRun_eq_map (lines : List Str) :
    aliasRun al lines = lines.map (aliasLine al) := by
  have := runGo_eq al lines []
  simpa [aliasRun] using this

/-- while a match is being passed over nothing is emitted -/
theorem subGo_skip (k : Nat) (b : Bool) (s : Str) :
    subGo al (k + 1) b s = subGo al 0 false (s.drop (k + 1)) := by
  induction k generalizing s b with
  | zero =>
    cases s with
    | nil => simp [subGo]
    | cons c t => cases t <;> simp [subGo]
  | succ k ih =>
    cases s with
    | nil => simp [subGo]
    | cons c t => simp [subGo, ih]

theorem bsAfter_cons (b : Bool) (c : Char) (pre : Str) : bsAfter b (c :: pre) = bsAfter (c == '\\') pre := by
  cases pre with
  | nil => simp [bsAfter]
  | cons d r =>
    simp only [bsAfter, List.getLast?_cons_cons]
    cases h : (d :: r).getLast? with
    | none => simp at h
    | some x => rfl

/-- text without a pipe is copied, whatever it is (blanks, tabs, list markers, link text, ...) -/
theorem subGo_prefix (pre s : Str) (b : Bool) (hp : '|' ∉ pre) :
    subGo al 0 b (pre ++ s) = pre ++ subGo al 0 (bsAfter b pre) s := by
  induction pre generalizing b with
  | nil => simp [bsAfter]
  | cons c pre ih =>
    have hc : c ≠ '|' := fun h => hp (by simp [h])
    have hp' : '|' ∉ pre := fun h => hp (by simp [h])
    simp [subGo, hc, ih _ hp', bsAfter_cons]

theorem subGo_nil (k : Nat) (b : Bool) : subGo al k b [] = [] := by
  cases k <;> simp [subGo]

theorem subGo_no_pipe (s : Str) (b : Bool) (hp : '|' ∉ s) : subGo al 0 b s = s := by
  have := subGo_prefix al s [] b hp
  simpa [subGo_nil] using this

/-- a name without blank and pipe that is followed by a single pipe is found whole -/
theorem closeTail_name (g post : Str) (hs : ' ' ∉ g) (hp : '|' ∉ g) (hpost : post.head? ≠ some '|') :
    closeTail (g ++ '|' :: post) = some (g, g.length + 1) := by
  induction g with
  | nil =>
    cases post with
    | nil => simp [closeTail]
    | cons y r =>
      have hy : y ≠ '|' := by simpa using hpost
      simp [closeTail, hy]
  | cons x g ih =>
    have hx1 : x ≠ ' ' := fun h => hs (by simp [h])
    have hx2 : x ≠ '|' := fun h => hp (by simp [h])
    have hs' : ' ' ∉ g := fun h => hs (by simp [h])
    have hp' : '|' ∉ g := fun h => hp (by simp [h])
    cases g with
    | nil => simp [closeTail, hx1]
    | cons y g' =>
      have hy : y ≠ '|' := fun h => hp' (by simp [h])
      have := ih hs' hp'
      simp only [List.cons_append] at this ⊢
      simp [closeTail, hy, hx2, this]

theorem aliasAt_name (c : Char) (g post : Str) (hc : c ≠ ' ') (hs : ' ' ∉ g) (hp : '|' ∉ g)
    (hpost : post.head? ≠ some '|') :
    aliasAt (c :: g ++ '|' :: post) = some (c :: g, g.length + 2) := by
  simp [aliasAt, hc, closeTail_name g post hs hp hpost]

/-- the substitution of one alias: whatever precedes it on the line (not ending in the escape
    character), the alias is replaced by its value and the scan goes on behind it -/
theorem subGo_alias (pre name post : Str) (b : Bool)
    (hpre : '|' ∉ pre) (hb : bsAfter b pre = false)
    (hne : name ≠ []) (hs : ' ' ∉ name) (hp : '|' ∉ name) (hpost : post.head? ≠ some '|') :
    subGo al 0 b (pre ++ '|' :: name ++ '|' :: post) = pre ++ lookupAlias al name ++ subGo al 0 false post := by
  cases name with
  | nil => exact absurd rfl hne
  | cons c g =>
    have hc : c ≠ ' ' := fun h => hs (by simp [h])
    have hs' : ' ' ∉ g := fun h => hs (by simp [h])
    have hp' : '|' ∉ g := fun h => hp (by simp [h])
    have h1 := subGo_prefix al pre ('|' :: (c :: g) ++ '|' :: post) b hpre
    simp only [List.cons_append, List.append_assoc] at h1 ⊢
    rw [h1, hb]
    have h2 := aliasAt_name c g post hc hs' hp' hpost
    simp only [List.cons_append] at h2
    simp only [subGo, beq_self_eq_true, Bool.not_false, Bool.and_self, ↓reduceIte, h2]
    rw [subGo_skip]
    simp

theorem unescGo_prefix (pre s : Str) (h : '\\' ∉ pre) : unescGo 0 (pre ++ s) = pre ++ unescGo 0 s := by
  induction pre with
  | nil => simp
  | cons c t ih =>
    have hc : c ≠ '\\' := fun hh => h (by simp [hh])
    have ht : '\\' ∉ t := fun hh => h (by simp [hh])
    simp [unescGo, hc, ih ht]

theorem unescGo_no_bs (s : Str) (h : '\\' ∉ s) : unescGo 0 s = s := by
  have := unescGo_prefix s [] h
  rwa [List.append_nil, unescGo, List.append_nil] at this

theorem bsAfter_no_bs (pre : Str) (h : '\\' ∉ pre) : bsAfter false pre = false := by
  unfold bsAfter
  cases hl : pre.getLast? with
  | none => rfl
  | some c =>
    have : c ∈ pre := List.mem_of_getLast? hl
    have hc : c ≠ '\\' := fun hh => h (hh ▸ this)
    simp [hc]

/-- text without pipe and backslash in front of a line is copied and plays no role in what follows -/
theorem aliasLine_prefix (pre s : Str) (hp : '|' ∉ pre) (hb : '\\' ∉ pre) :
    aliasLine al (pre ++ s) = pre ++ aliasLine al s := by
  unfold aliasLine
  rw [subGo_prefix al pre s false hp, bsAfter_no_bs pre hb, unescGo_prefix pre _ hb]

/-- one alias on a line: whatever stands before it and after it (no further pipe, no backslash anywhere
    in the result), the line `pre|name|post` becomes `pre<what the dictionary gives for name>post` -/
theorem aliasLine_alias (pre name post : Str)
    (hpre : '|' ∉ pre) (hne : name ≠ []) (hs : ' ' ∉ name) (hp : '|' ∉ name) (hpost : '|' ∉ post)
    (hbs : '\\' ∉ pre ++ lookupAlias al name ++ post) :
    aliasLine al (pre ++ '|' :: name ++ '|' :: post) = pre ++ lookupAlias al name ++ post := by
  have hpreb : '\\' ∉ pre := fun h => hbs (by simp [h])
  have hhead : post.head? ≠ some '|' := fun h => hpost (List.mem_of_mem_head? h)
  unfold aliasLine
  rw [subGo_alias al pre name post false hpre (bsAfter_no_bs pre hpreb) hne hs hp hhead,
    subGo_no_pipe al post false hpost]
  exact unescGo_no_bs _ hbs

theorem lookup_map_snd {β γ : Type} (f : β → γ) (a : Str) (l : List (Str × β)) :
    (l.map (fun p => (p.1, f p.2))).lookup a = (l.lookup a).map f := by
  induction l with
  | nil => rfl
  | cons x xs ih =>
    obtain ⟨k, v⟩ := x
    simp only [List.map_cons, List.lookup_cons]
    cases h : (a == k) <;> simp [ih]

/-- looking a name up in the dictionary built by `ford.main` is `PageTree.aliasText` -/
theorem lookupAlias_main (base : PT.PathS) (a : Str) :
    lookupAlias (PT.mainAliases base) a =
      match PT.aliasText base a with
      | some t => t
      | none => '|' :: a ++ ['|'] := by
  unfold lookupAlias PT.mainAliases PT.aliasText
  rw [lookup_map_snd (fun segs => PT.showAbs (base ++ segs))]
  cases Gen.C17.aliasTable.lookup a <;> rfl

/-- ... and the text that replaces `|a|`, followed by the rest of the link, is `PageTree.linkHref` -/
theorem lookupAlias_linkHref (base : PT.PathS) (l : PT.Link) (h : l.alias ≠ []) :
    lookupAlias (PT.mainAliases base) l.alias ++ l.rest = PT.linkHref base l := by
  rw [lookupAlias_main]
  unfold PT.linkHref
  have : l.alias.isEmpty = false := by
    cases hl : l.alias with
    | nil => exact absurd hl h
    | cons _ _ => rfl
  rw [this]
  cases PT.aliasText base l.alias <;> simp

end Ford.PA
