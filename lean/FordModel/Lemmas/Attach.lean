import FordModel.Attach
namespace Ford

theorem modifyLast_length (f : Ent → Ent) (k : Nat) (es : List Ent) : (modifyLast f k es).length = es.length := by
  simp [modifyLast]

theorem modifyLast_append (f : Ent → Ent) (es new : List Ent) :
    modifyLast f new.length (es ++ new) = es ++ new.map f := by
  simp [modifyLast]

theorem modifyLast_comp (f g : Ent → Ent) (k : Nat) (es : List Ent) :
    modifyLast f k (modifyLast g k es) = modifyLast (f ∘ g) k es := by
  have hl := modifyLast_length g k es
  unfold modifyLast at hl ⊢
  rw [hl]
  have h1 : (es.take (es.length - k)).length = es.length - k := by simp
  rw [List.take_left' h1, List.drop_left' h1]
  simp

theorem modifyLast_append_nil (k : Nat) (es : List Ent) :
    modifyLast (fun e => { e with init := e.init ++ [] }) k es = es := by
  simp [modifyLast]

theorem modifyLast_take (f : Ent → Ent) (k n : Nat) (es : List Ent) (h : k + n ≤ es.length) :
    (modifyLast f k es).take n = es.take n := by
  have hn : n ≤ es.length - k := by omega
  unfold modifyLast
  rw [List.take_append_of_le_length (by rw [List.length_take]; omega), List.take_take, Nat.min_eq_left hn]

theorem length_mkEnts (ns : List Str) (sp : Bool) : (mkEnts ns sp).length = ns.length :=
  List.length_map _

theorem modifyAt_init (f : Ent → Ent) (hf : ∀ e, (f e).init = e.init) (i : Nat) (es : List Ent) :
    (modifyAt f i es).map (·.init) = es.map (·.init) := by
  induction es generalizing i with
  | nil => cases i <;> rfl
  | cons e es ih =>
    cases i with
    | zero => simp [modifyAt, hf]
    | succ i => simp [modifyAt, ih]

theorem modifyAt_length (f : Ent → Ent) (i : Nat) (es : List Ent) : (modifyAt f i es).length = es.length := by
  induction es generalizing i with
  | nil => cases i <;> rfl
  | cons e es ih => cases i <;> simp [modifyAt, ih]

/-- a run of doc items while `read_docstring` is active goes, in order, to the entities being read -/
theorem attach_doc_run (c : Char) (ds rest : List Str) (s : ASt) (hr : s.reading > 0) :
    attachFrom [c] s (ds.map (fun d => '!' :: c :: d) ++ rest) =
      attachFrom [c] { s with ents := modifyLast (fun e => { e with init := e.init ++ ds }) s.reading s.ents } rest := by
  induction ds generalizing s with
  | nil =>
    simp only [List.map_nil, List.nil_append]
    rw [modifyLast_append_nil]
  | cons d ds ih =>
    simp only [List.map_cons, List.cons_append, attachFrom]
    have hstep : attachStep [c] s ('!' :: c :: d) =
        { s with ents := modifyLast (fun e => { e with init := e.init ++ [d] }) s.reading s.ents } := by
      simp [attachStep, hr, startsWith]
    rw [hstep]
    -- `by exact`: `hr` speaks of `s.reading`, the goal of the `reading` field of the updated record
    refine (ih _ (by exact hr)).trans ?_
    -- both sides add to the same entities: first `[d]` then `ds`, or `d :: ds` at once
    simp only [modifyLast_comp]
    congr 2
    congr 1
    funext e
    simp [Function.comp]

theorem startsWith_two (it : Str) (a b : Char) : startsWith it [a, b] = (it.take 2 == [a, b]) := by
  cases it with
  | nil => rfl
  | cons x xs =>
    cases xs with
    | nil => rfl
    | cons y ys => simp [startsWith]

theorem attachStep_stmt (c : Char) (s : ASt) (it : Str) (hnd : it.take 2 ≠ ['!', c]) :
    attachStep [c] s it =
      match classify it with
      | .openE n => { stack := s.ents.length :: s.stack, reading := 1, ents := s.ents ++ mkEnts [n] true }
      | .leafAll ns sp => { s with reading := ns.length, ents := s.ents ++ mkEnts ns sp }
      | .leafLast ns sp => { s with reading := min 1 ns.length, ents := s.ents ++ mkEnts ns sp }
      | .close => { s with reading := 0, stack := s.stack.drop 1 }
      | .other => { s with reading := 0 } := by
  have h2 : (it.take 2 == ['!', c]) = false := by simpa using hnd
  simp only [attachStep, startsWith_two, h2, Bool.and_false, Bool.false_eq_true, ↓reduceIte, attachStmt]
  cases classify it <;> rfl

end Ford
