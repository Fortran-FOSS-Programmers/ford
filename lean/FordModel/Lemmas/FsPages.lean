import FordModel.FsPages
import FordModel.Lemmas.Fs
namespace Ford.Fs
open Ford

theorem normal_drop (x : List Seg) (h : Normal x) (n : Nat) : Normal (x.drop n) :=
  fun s hs => h s (List.mem_of_mem_drop hs)

theorem commonLen_le_right (a b : List Seg) : commonLen a b ≤ b.length := by
  fun_induction commonLen a b with
  | case1 a as bs ih => exact Nat.succ_le_succ ih
  | case2 => exact Nat.zero_le _
  | case3 => exact Nat.zero_le _

theorem commonLen_eq_right (a b : List Seg) (h : commonLen a b = b.length) : b <+: a := by
  fun_induction commonLen a b with
  | case1 a as bs ih => exact List.cons_prefix_cons.2 ⟨rfl, ih (Nat.succ.inj h)⟩
  | case2 => cases h
  | case3 a b => exact List.eq_nil_of_length_eq_zero h.symm ▸ List.nil_prefix

theorem commonLen_append_self (s z : List Seg) : commonLen (s ++ z) s = s.length := by
  induction s with
  | nil => cases z <;> rfl
  | cons a r ih => rw [List.cons_append, commonLen, if_pos rfl, ih, List.length_cons]

theorem relpath_of_prefix (p start : List Seg) (h : norm start <+: norm p) :
    relpath p start = (norm p).drop (norm start).length := by
  obtain ⟨z, hz⟩ := h
  simp [relpath, ← hz, commonLen_append_self]

theorem relpath_normal_of_prefix (p start : List Seg) (h : norm start <+: norm p) : Normal (relpath p start) := by
  rw [relpath_of_prefix p start h]
  exact normal_drop _ (norm_normal p) _

theorem relOutside_false_iff (p start : List Seg) :
    relOutside p start = false ↔ norm start <+: norm p ∧ norm start ≠ norm p := by
  constructor
  · intro h
    have hle := commonLen_le_right (norm p) (norm start)
    by_cases hc : commonLen (norm p) (norm start) = (norm start).length
    · have hpre := commonLen_eq_right _ _ hc
      refine ⟨hpre, ?_⟩
      intro heq
      rw [relOutside, relpath_of_prefix p start hpre, ← heq] at h
      simp at h
    · exfalso
      -- the common part is shorter than `start`, so `relpath` begins with `..`
      obtain ⟨k, hk⟩ := Nat.exists_eq_add_one.2 (show 0 < (norm start).length - commonLen (norm p) (norm start) by omega)
      simp [relOutside, relpath, hk, List.replicate_succ] at h
  · rintro ⟨hpre, hne⟩
    obtain ⟨z, hz⟩ := hpre
    rw [relOutside, relpath_of_prefix p start ⟨z, hz⟩, ← hz]
    simp
    cases z with
    | nil => exact absurd (by simpa using hz) hne
    | cons a r =>
      simp
      have : a ∈ norm p := by rw [← hz]; simp
      exact (norm_normal p a this).1

theorem splitSlashAux_slash_free (s cur : Str) (hc : '/' ∉ cur) : ∀ x ∈ splitSlashAux s cur, '/' ∉ x := by
  fun_induction splitSlashAux s cur with
  | case1 cur =>
    intro x hx
    rwa [List.mem_singleton.1 hx, List.mem_reverse]
  | case2 cs cur ih => exact List.forall_mem_cons.2 ⟨by rwa [List.mem_reverse], ih List.not_mem_nil⟩
  | case3 c cs cur hne ih => exact ih (by rw [List.mem_cons, not_or]; exact ⟨Ne.symm hne, hc⟩)

theorem splitSlash_slash_free (s : Str) : ∀ x ∈ splitSlash s, '/' ∉ x :=
  splitSlashAux_slash_free s [] (by simp)

theorem mem_pathlibSegs (s : Str) (x : Seg) (h : x ∈ pathlibSegs s) : x ≠ [] ∧ x ≠ dot ∧ '/' ∉ x := by
  obtain ⟨hmem, hkeep⟩ := List.mem_filter.1 h
  obtain ⟨h1, h2⟩ := of_decide_eq_true hkeep
  exact ⟨h1, h2, splitSlash_slash_free s x hmem⟩

theorem isMdName_ne_dotdot (x : Seg) (h : isMdName x = true) : x ≠ dotdot := by
  intro e; subst e; revert h; decide

theorem mem_dedupStr (l : List Str) (x : Str) (h : x ∈ dedupStr l) : x ∈ l := by
  fun_induction dedupStr l with
  | case1 => cases h
  | case2 a r ih =>
    rcases List.mem_cons.1 h with rfl | h
    · exact List.mem_cons_self
    · exact List.mem_cons_of_mem _ (ih (List.mem_filter.1 h).1)

theorem mem_mergedNames (ordered names : List Str) (x : Str) (h : x ∈ mergedNames ordered names) :
    x ∈ ordered ∨ x ∈ names := by
  unfold mergedNames at h
  simp only at h
  split at h
  · exact Or.inr (List.mem_of_mem_erase h)
  · have := mem_dedupStr _ _ h
    rcases List.mem_append.1 this with h' | h'
    · exact Or.inl (List.mem_filter.1 h').1
    · exact Or.inr (List.mem_of_mem_erase h')

theorem locate_mem (pin : PageIn) (phys : Path) (name : Str) (p : Path) (nd : FsNode)
    (h : locate pin phys name = some (p, nd)) : (p, nd) ∈ pin.nodes := by
  unfold locate at h
  split at h
  · cases h
  · obtain ⟨n, hn, hpn⟩ := Option.map_eq_some_iff.1 h
    cases hpn
    exact lookup_mem hn

/-- what is known about a name of the merged list: the containment test is in force, or the name
    is relative and does not climb -/
def NameOk (g : Bool) (name : Str) : Prop := g = true ∨ entryStays name = true

theorem joinLex_dir_inside (g : Bool) (lex : List Seg) (name : Str) (hn : NameOk g name)
    (hg : (g && relOutside (joinLex lex name) lex) = false) : norm lex <+: norm (joinLex lex name) := by
  rcases hn with rfl | hs
  · rw [Bool.true_and] at hg
    exact ((relOutside_false_iff _ _).1 hg).1
  · simp only [entryStays, Bool.and_eq_true, Bool.not_eq_true'] at hs
    obtain ⟨hrel, hsafe⟩ := hs
    simp only [joinLex, hrel, Bool.false_eq_true, if_false]
    exact norm_append_safe _ _ hsafe

theorem joinLex_file_inside (g : Bool) (lex : List Seg) (name : Str) (last : Seg) (hn : NameOk g name)
    (hg : (g && relOutside (joinLex lex name) lex) = false) (hl : (pathlibSegs name).getLast? = some last)
    (hd : last ≠ dotdot) : norm lex <+: norm (joinLex lex name).dropLast := by
  obtain ⟨init, hinit⟩ := List.getLast?_eq_some_iff.1 hl
  have hmem := mem_pathlibSegs name last (by rw [hinit]; simp)
  have hclean : Clean last := ⟨hd, hmem.2.1, hmem.1⟩
  -- the joined path ends in `last`; it starts with `lex` unless the name is absolute
  have hj : joinLex lex name = (if isAbs name then [] else lex) ++ init ++ [last] := by
    unfold joinLex
    split <;> simp [hinit]
  rw [hj, List.dropLast_concat]
  rcases hn with rfl | hs
  · obtain ⟨hpre, hne⟩ := (relOutside_false_iff _ _).1 (by simpa using hg)
    rw [hj, norm_snoc_clean _ _ hclean] at hpre hne
    exact (List.prefix_concat_iff.1 hpre).resolve_left hne
  · simp only [entryStays, Bool.and_eq_true, Bool.not_eq_true', hinit] at hs
    obtain ⟨hrel, hsafe⟩ := hs
    simp only [hrel, Bool.false_eq_true, if_false]
    exact norm_append_safe _ _ (safe_append_left _ _ 0 hsafe)

theorem entry_locs (g : Bool) (pin : PageIn) (recur : List Seg → Path → List Str → List PNode)
    (lex : List Seg) (phys : Path) (pcopy own : List Str) (name : Str)
    (hsub : ∀ lex' p o, norm pin.pageDir <+: norm lex' → ∀ n ∈ recur lex' p o, Normal n.loc)
    (hlex : norm pin.pageDir <+: norm lex) (hn : NameOk g name) :
    ∀ n ∈ entPages (entry g pin recur lex phys pcopy own name), Normal n.loc := by
  -- along the branches of `entry`; pages come from two of them only: a directory and an `.md` file
  intro n hn'
  simp only [entry] at hn'
  by_cases hs : skipName name = true
  · rw [if_pos hs] at hn'; cases hn'           -- a name starting with `.` or ending in `~`: skipped
  rw [if_neg hs] at hn'
  by_cases hg : (g && relOutside (joinLex lex name) lex) = true
  · rw [if_pos hg] at hn'; cases hn'           -- the containment test rejects the entry: skipped
  rw [if_neg hg] at hn'
  have hg' := Bool.eq_false_iff.2 hg
  cases hloc : locate pin phys name with
  | none => rw [hloc] at hn'; cases hn'          -- `if not filename.exists()`
  | some pn =>
    obtain ⟨p, nd⟩ := pn
    rw [hloc] at hn'
    cases nd with
    | dir names =>
      by_cases hc : pcopy.contains name = true
      · simp only [hc, if_true] at hn'; cases hn'   -- a directory the parent copies verbatim is no section
      · simp only [hc] at hn'
        -- the pages of the sub-directory, which lies inside
        exact hsub _ _ _ (hlex.trans (joinLex_dir_inside g lex name hn hg')) n hn'
    | file md =>
      cases hlast : (pathlibSegs name).getLast? with
      | none => simp only [hlast] at hn'; cases hn'   -- a name without components
      | some last =>
        simp only [hlast] at hn'
        by_cases hmd : isMdName last = true
        · rw [if_pos hmd] at hn'
          cases md with
          | none => cases hn'                          -- an `.md` file that does not parse as a page
          | some m =>
            by_cases hok : m.ok = true
            · simp only [hok, if_true, entPages, List.mem_singleton] at hn'
              subst hn'
              -- one page, located in the directory of the file, which lies inside
              exact relpath_normal_of_prefix _ _
                (hlex.trans (joinLex_file_inside g lex name last hn hg' hlast (isMdName_ne_dotdot _ hmd)))
            · simp only [hok] at hn'; cases hn'        -- `except ValueError: warn; continue`
        · rw [if_neg hmd] at hn'; cases hn'           -- any other file: copied, not a page

theorem pageTreeAux_locs (g : Bool) (pin : PageIn) (hv : g = true ∨ noSubpageEscape pin = true) :
    ∀ (fuel : Nat) (lex : List Seg) (phys : Path) (pcopy : List Str), norm pin.pageDir <+: norm lex →
      ∀ n ∈ pageTreeAux g pin fuel lex phys pcopy, Normal n.loc := by
  intro fuel
  induction fuel with
  | zero => intro _ _ _ _ n hn; simp [pageTreeAux] at hn
  | succ fuel ih =>
    intro lex phys pcopy hlex n hn
    unfold pageTreeAux at hn
    split at hn
    · rename_i q m hloc
      split at hn
      · cases hn
      · split at hn
        · rename_i names hnames
          simp only [List.mem_cons, List.mem_flatMap, List.mem_map] at hn
          rcases hn with rfl | ⟨e, ⟨name, hname, rfl⟩, hne⟩
          · exact relpath_normal_of_prefix _ _ hlex
          · apply entry_locs g pin (pageTreeAux g pin fuel) lex phys pcopy m.copy name (fun lex' p o h => ih lex' p o h) hlex ?_ n hne
            refine hv.imp_right fun h => ?_
            -- the name is an `ordered_subpage` entry of this `index.md` or a name of this directory's listing
            simp only [noSubpageEscape, List.all_eq_true] at h
            rcases mem_mergedNames _ _ _ hname with ho | hl
            · exact List.all_eq_true.1 (h _ (locate_mem pin phys indexMd q _ hloc)) name ho
            · exact List.all_eq_true.1 (h _ (lookup_mem hnames)) name hl
        · cases hn
    · cases hn

theorem pageTree_locs (g : Bool) (pin : PageIn) (hv : g = true ∨ noSubpageEscape pin = true) :
    ∀ n ∈ pageTree g pin, Normal n.loc :=
  pageTreeAux_locs g pin hv _ _ _ _ (List.prefix_refl _)

/-- names that come from the listings of the directories `copy_subdir` items name do not climb -/
def TreesOk (pin : PageIn) : Prop := ∀ e ∈ pin.trees, ∀ t, e.2 = some t → TreeOk t

theorem fileCopyName_safe (pin : PageIn) (o : Path) (loc : List Seg) (item f : Str)
    (h : fileCopyName pin o loc item = some f) : safeRel f = true := by
  unfold fileCopyName at h
  split at h
  · cases h
  · split at h
    · rename_i last _ hlast
      split at h
      · cases h
      · rename_i hc
        cases h
        have hmem := mem_pathlibSegs item f (List.mem_of_getLast? hlast)
        rw [Bool.or_eq_true, not_or, decide_eq_true_eq] at hc
        exact safeRel_of_no_slash _ hmem.2.2 hc.1
    · cases h

theorem pagesOf_ok (g : Bool) (pin : PageIn) (o : Path) (hv : g = true ∨ noSubpageEscape pin = true)
    (ht : TreesOk pin) : ∀ pg ∈ pagesOf g pin o, safe 0 pg.loc = true ∧ (∀ f ∈ pg.files, safeRel f = true) ∧
      ∀ pc ∈ pg.copies, ∀ t, pc.tree = some t → TreeOk t := by
  intro pg hpg
  simp only [pagesOf, List.mem_map] at hpg
  obtain ⟨n, hn, rfl⟩ := hpg
  refine ⟨safe_of_normal _ (pageTree_locs g pin hv n hn) 0, ?_, ?_⟩
  · intro f hf
    simp only [toPage, List.mem_filterMap] at hf
    obtain ⟨item, _, hi⟩ := hf
    exact fileCopyName_safe pin o n.loc item f hi
  · intro pc hpc t htree
    simp only [toPage, List.mem_map] at hpc
    obtain ⟨it, _, rfl⟩ := hpc
    exact ht _ (lookup_mem (Option.join_eq_some_iff.1 htree)) t rfl

theorem siteOk_withPages (g : Bool) (o : Path) (s : Site) (pin : Option PageIn) (hs : SiteOk s)
    (hp : ∀ p, pin = some p → (g = true ∨ noSubpageEscape p = true) ∧ TreesOk p) : SiteOk (withPages g o s pin) := by
  cases pin with
  | none => exact ⟨hs.libs, hs.search, hs.media, hs.docs, hs.lists, hs.graphs, fun _ h => nomatch h⟩
  | some p =>
    exact ⟨hs.libs, hs.search, hs.media, hs.docs, hs.lists, hs.graphs, pagesOf_ok g p o (hp p rfl).1 (hp p rfl).2⟩

end Ford.Fs
