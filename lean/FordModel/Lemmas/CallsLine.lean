/- Lemmas about `FordModel/CallsLine.lean`: `quote_split(";", ·)` on a line of `;`-joined statement texts
   (`CallsSpec.StmtText`), through the specification `splitSpec` of the splitter (Lemmas/Reader.lean). -/
import FordModel.CallsLine
import FordModel.Spec.CallsLine
import FordModel.Lemmas.Reader
namespace Ford.Calls
open Ford Ford.CallsSpec

/-- inside a literal opened by `q` nothing but `q` matters -/
theorem splitSpec_body (sep q : Char) (body rest cur : Str) (h : q ∉ body) :
    splitSpec sep (body ++ rest) (.inq q) cur = splitSpec sep rest (.inq q) (body.reverse ++ cur) := by
  induction body generalizing cur with
  | nil => simp
  | cons b bs ih =>
    have hb : (b == q) = false := by
      simp at h; simp [Ne.symm h.1]
    have hq : q ∉ bs := by simp at h; exact h.2
    simp only [List.cons_append]
    rw [splitSpec_ne _ _ _ _ _ (by simp)]
    simp only [qstep, hb, Bool.false_eq_true, ↓reduceIte]
    rw [ih _ hq]
    simp

/-- a statement text is consumed whole: the scanner is outside a literal before and after -/
theorem splitSpec_stmt (s : Str) (h : StmtText s) (rest cur : Str) :
    splitSpec ';' (s ++ rest) .out cur = splitSpec ';' rest .out (s.reverse ++ cur) := by
  induction h generalizing cur with
  | nil => simp
  | plain c r hq hc _ ih =>
    have hc' : (c == ';') = false := by simp [hc]
    simp only [List.cons_append]
    rw [splitSpec_ne _ _ _ _ _ (by simp [hc'])]
    simp only [qstep, hq, Bool.false_eq_true, ↓reduceIte]
    rw [ih]
    simp
  | lit q body r hq hb _ ih =>
    have hq' : (q == ';') = false := by
      simp [isQuote] at hq; rcases hq with h | h <;> simp [h]
    simp only [List.cons_append, List.append_assoc]
    rw [splitSpec_ne _ _ _ _ _ (by simp [hq'])]
    simp only [qstep, hq, ↓reduceIte]
    rw [splitSpec_body _ _ _ _ _ hb]
    rw [splitSpec_ne _ _ _ _ _ (by simp)]
    simp only [qstep, beq_self_eq_true, ↓reduceIte]
    rw [ih]
    simp

theorem stmtText_append (a b : Str) (ha : StmtText a) (hb : StmtText b) : StmtText (a ++ b) := by
  induction ha with
  | nil => simpa using hb
  | plain c r hq hc _ ih => exact .plain c _ hq hc ih
  | lit q body r hq hbody _ ih =>
    have : q :: (body ++ q :: r) ++ b = q :: (body ++ q :: (r ++ b)) := by simp
    rw [this]
    exact .lit q body _ hq hbody ih

theorem splitSpec_join (s : Str) (ss : List Str) (h : ∀ t ∈ s :: ss, StmtText t) :
    splitSpec ';' (joinSep ';' (s :: ss)) .out [] = s :: ss := by
  induction ss generalizing s with
  | nil =>
    have := splitSpec_stmt s (h s (by simp)) [] []
    simpa [joinSep, splitSpec] using this
  | cons y r ih =>
    have h1 := splitSpec_stmt s (h s (by simp)) (';' :: joinSep ';' (y :: r)) []
    simp only [joinSep]
    rw [h1, splitSpec_sep _ _ _ _ (by simp)]
    simp only [List.append_nil, List.reverse_reverse]
    rw [ih y (fun t ht => h t (by simp at ht ⊢; right; exact ht))]

theorem quoteSplit_join_stmts (ss : List Str) (hne : ss ≠ []) (h : ∀ t ∈ ss, StmtText t) :
    quoteSplit ';' (joinSep ';' ss) = ss := by
  cases ss with
  | nil => exact absurd rfl hne
  | cons s r =>
    have hs : isQuote ';' = false := by decide
    rw [show quoteSplit ';' (joinSep ';' (s :: r)) = splitSpec ';' (joinSep ';' (s :: r)) .out [] from
      qsplitAux_eq_spec ';' hs _ false false [] .out .out]
    exact splitSpec_join s r h

theorem lineStatements_join (ss : List Str) (h : ∀ t ∈ ss, StmtText t) :
    lineStatements (joinSep ';' ss) = (ss.filter (fun f => !f.isEmpty)).map strip := by
  cases ss with
  | nil => simp [lineStatements, joinSep, quoteSplit, qsplitAux]
  | cons s r => simp only [lineStatements, quoteSplit_join_stmts (s :: r) (by simp) h]

theorem unitStatements_join (groups : List (List Str)) (h : ∀ g ∈ groups, ∀ t ∈ g, StmtText t) :
    unitStatements (groups.map (joinSep ';')) = (groups.flatten.filter (fun f => !f.isEmpty)).map strip := by
  induction groups with
  | nil => simp [unitStatements]
  | cons g gs ih =>
    have hg := lineStatements_join g (h g (by simp))
    have := ih (fun g' hg' => h g' (by simp [hg']))
    simp only [unitStatements] at this ⊢
    simp [hg, this]

end Ford.Calls
