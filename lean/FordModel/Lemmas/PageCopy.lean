/-
  C17 - lemmas about the per-page copy loops of `PagetreePage.writeout` (`copyItems`, `writeNode`, `outputs`)
  and about the project's `copy_subdir` handed down the walk (`projL`).
-/
import FordModel.PageTree
import FordModel.PageTreeSpec
import FordModel.Lemmas.PageTree
namespace Ford.PT
open Ford Ford.Gen.C17

theorem gen_copyRec (pcs nc : List Str) : CallSites.gen.copyRec pcs nc = pcs := rfl
theorem gen_copyIndex (pcs : List Str) : CallSites.gen.copyIndex pcs = pcs := rfl
theorem gen_copySubNode (pcs nc : List Str) : CallSites.gen.copySubNode pcs nc = pcs := rfl

/-- call sites that hand the project's list on unchanged, at the recursive call and at both `PageNode(...)` calls,
    give every page at every depth its own option or else the project's list -/
theorem proj_of_forwards (c : CallSites) (hr : ∀ pcs nc, c.copyRec pcs nc = pcs) (hi : ∀ pcs, c.copyIndex pcs = pcs)
    (hs : ∀ pcs nc, c.copySubNode pcs nc = pcs) (pcs : List Str) :
    (∀ e nc, projE c pcs nc e = withProjE pcs e) ∧ ∀ l nc, projL c pcs nc l = withProjL pcs l := by
  have he : ∀ e nc, projE c pcs nc e = withProjE pcs e := by
    intro e
    induction e using Entry.rec (motive_2 := fun l => ∀ nc, projL c pcs nc l = withProjL pcs l) with
    | dir n cs ih => exact fun nc => by rw [projE, withProjE, hr, ih]
    | file n m => exact fun nc => by rw [projE, withProjE, hi, hs, ite_self]
    | nil => rfl
    | cons e es ihe ihes => rw [projL, withProjL, ihe, ihes]
  refine ⟨he, fun l nc => ?_⟩
  induction l with
  | nil => rfl
  | cons e es ih => rw [projL, withProjL, he, ih]

theorem projE_gen (pcs nc : List Str) : (e : Entry) → projE CallSites.gen pcs nc e = withProjE pcs e :=
  fun e => (proj_of_forwards _ gen_copyRec gen_copyIndex gen_copySubNode pcs).1 e nc

theorem projL_gen (pcs nc : List Str) (l : List Entry) : projL CallSites.gen pcs nc l = withProjL pcs l :=
  (proj_of_forwards _ gen_copyRec gen_copyIndex gen_copySubNode pcs).2 l nc

section CopyLoops
variable {loc : PathS} {st st' : List (PathS × Bool)} {items : List (Str × Option (List (PathS × Bool)))}
  {it : Str} {listing : List (PathS × Bool)} {fs : List Str} {n : Node}

theorem addNew_subset (q : PathS × Bool) : st ⊆ addNew st q := by
  unfold addNew
  split
  · exact List.Subset.refl st
  · exact List.subset_append_left st _

theorem copyItems_subset : st ⊆ copyItems loc items st := by
  induction items generalizing st with
  | nil => exact List.Subset.refl st
  | cons hd tl ih =>
    obtain ⟨i, _ | l⟩ := hd
    · exact ih
    · simp only [copyItems]
      split
      · exact ih
      · exact (List.subset_append_left st _).trans ih

theorem foldFiles_subset : st ⊆ fs.foldl (fun s f => addNew s (loc ++ [f], false)) st := by
  induction fs generalizing st with
  | nil => exact List.Subset.refl st
  | cons f fs ih => exact (addNew_subset _).trans ih

theorem writeNode_subset : st ⊆ writeNode st n := by
  unfold writeNode
  refine List.Subset.trans ?_ (((addNew_subset _).trans copyItems_subset).trans foldFiles_subset)
  split
  · exact addNew_subset _
  · exact List.Subset.refl st

theorem foldl_writeNode_subset {ns : List Node} : st ⊆ ns.foldl writeNode st := by
  induction ns generalizing st with
  | nil => exact List.Subset.refl st
  | cons n ns ih => exact writeNode_subset.trans ih

theorem paths_subset (h : st ⊆ st') : paths st ⊆ paths st' :=
  List.map_subset _ h

theorem any_path_mem {p : PathS} (h : st.any (fun q => q.1 == p) = true) : p ∈ paths st := by
  obtain ⟨q, hq, hp⟩ := List.any_eq_true.mp h
  exact List.mem_map.mpr ⟨q, hq, eq_of_beq hp⟩

theorem addNew_has (q : PathS × Bool) : q.1 ∈ paths (addNew st q) := by
  unfold addNew
  split
  · rename_i h
    exact any_path_mem h
  · exact List.mem_map.mpr ⟨q, List.mem_append_right _ List.mem_cons_self, rfl⟩

theorem foldFiles_has {f : Str} (hf : f ∈ fs) :
    loc ++ [f] ∈ paths (fs.foldl (fun s f => addNew s (loc ++ [f], false)) st) := by
  induction fs generalizing st with
  | nil => cases hf
  | cons g gs ih =>
    rw [List.foldl_cons]
    rcases List.mem_cons.mp hf with rfl | hg
    · exact paths_subset foldFiles_subset (addNew_has _)
    · exact ih hg

/-- every item of the list whose source is a directory is attempted, whatever happened to the items before it:
    afterwards its directory exists next to the page -/
theorem copyItems_attempts (hm : (it, some listing) ∈ items) (hroot : ([it], true) ∈ listing) :
    loc ++ [it] ∈ paths (copyItems loc items st) := by
  induction items generalizing st with
  | nil => cases hm
  | cons hd tl ih =>
    rcases List.mem_cons.mp hm with rfl | h
    · simp only [copyItems]
      split
      · rename_i hex
        exact paths_subset copyItems_subset (any_path_mem hex)
      · apply paths_subset copyItems_subset
        simp only [paths, List.map_append, List.mem_append, List.mem_map]
        exact Or.inr ⟨(loc ++ [it], true), ⟨([it], true), hroot, rfl⟩, rfl⟩
    · obtain ⟨i, _ | l⟩ := hd
      · exact ih h
      · simp only [copyItems]
        split
        · exact ih h
        · exact ih h

/-- a directory whose place is still free, in a list of distinct names whose listings are rooted at their own
    names, is copied completely -/
theorem copyItems_complete (hm : (it, some listing) ∈ items) (hnd : (items.map Prod.fst).Nodup)
    (hrooted : ∀ i l, (i, some l) ∈ items → ∀ p ∈ l, p.1.head? = some i)
    (hfree : loc ++ [it] ∉ paths st) :
    ∀ p ∈ listing, (loc ++ p.1, p.2) ∈ copyItems loc items st := by
  induction items generalizing st with
  | nil => cases hm
  | cons hd tl ih =>
    rw [List.map_cons, List.nodup_cons] at hnd
    rcases List.mem_cons.mp hm with rfl | h
    · intro p hp
      simp only [copyItems]
      split
      · rename_i hex
        exact absurd (any_path_mem hex) hfree
      · exact copyItems_subset (List.mem_append_right _ (List.mem_map.mpr ⟨p, hp, rfl⟩))
    · have ih' := fun {st} => ih (st := st) h hnd.2 (fun i l h => hrooted i l (List.mem_cons_of_mem _ h))
      obtain ⟨i, _ | l⟩ := hd
      · exact ih' hfree
      · simp only [copyItems]
        split
        · exact ih' hfree
        · -- the directory copied for `i` lies below `loc/i`, so the place `loc/it` is still free
          apply ih'
          intro hc
          simp only [paths, List.map_append, List.mem_append, List.mem_map] at hc
          rcases hc with hc | ⟨q, ⟨r, hr, rfl⟩, hq⟩
          · exact hfree (List.mem_map.mpr hc)
          · have hh := hrooted i l List.mem_cons_self r hr
            rw [List.append_cancel_left hq] at hh
            exact hnd.1 (Option.some.inj hh ▸ List.mem_map.mpr ⟨(it, some listing), h, rfl⟩)

theorem writeNode_has_path : n.path ∈ paths (writeNode st n) :=
  paths_subset (copyItems_subset.trans foldFiles_subset) (addNew_has (n.path, false))

theorem writeNode_has_file {f : Str} (hf : f ∈ n.files) : n.loc ++ [f] ∈ paths (writeNode st n) :=
  foldFiles_has hf

theorem writeNode_has_copy (hm : (it, some listing) ∈ n.copies) (hroot : ([it], true) ∈ listing) :
    n.loc ++ [it] ∈ paths (writeNode st n) :=
  paths_subset foldFiles_subset (copyItems_attempts hm hroot)

/-- what one node's `writeout` leaves behind is still there after all later nodes -/
theorem foldl_writeNode_of_mem {ns : List Node} {p : PathS} (hn : n ∈ ns)
    (hp : ∀ st, p ∈ paths (writeNode st n)) : p ∈ paths (ns.foldl writeNode st) := by
  induction ns generalizing st with
  | nil => cases hn
  | cons m ms ih =>
    rw [List.foldl_cons]
    rcases List.mem_cons.mp hn with rfl | h
    · exact paths_subset foldl_writeNode_subset (hp st)
    · exact ih h

theorem addNew_paths {q : PathS × Bool} {p : PathS} (h : p ∈ paths (addNew st q)) : p ∈ paths st ∨ p = q.1 := by
  unfold addNew at h
  split at h
  · exact Or.inl h
  · rw [paths, List.map_append, List.mem_append] at h
    exact h.imp id List.mem_singleton.mp

/-- one page: a directory of its `copy_subdir` whose place is free when the page's `writeout` starts is copied
    completely by that `writeout` -/
theorem writeNode_copies_whole (hm : (it, some listing) ∈ n.copies) (hnd : (n.copies.map Prod.fst).Nodup)
    (hrooted : ∀ i l, (i, some l) ∈ n.copies → ∀ p ∈ l, p.1.head? = some i)
    (hfree : n.loc ++ [it] ∉ paths st) (hne : it ≠ n.file) :
    ∀ p ∈ listing, (n.loc ++ p.1, p.2) ∈ writeNode st n := by
  intro p hp
  unfold writeNode
  apply foldFiles_subset
  apply copyItems_complete hm hnd hrooted _ p hp
  -- the page's own directory and file, created first, are not the place `n.loc/it`
  intro hc
  rcases addNew_paths hc with hc | hc
  · split at hc
    · rcases addNew_paths hc with hc | hc
      · exact hfree hc
      · exact absurd (congrArg List.length hc) (by simp)
    · exact hfree hc
  · exact hne (by simpa [Node.path] using hc)

/-- all pages: a directory of the `copy_subdir` of page `n` whose place is free after the pages before `n` were
    written is copied completely, and stays -/
theorem outputs_copies_whole {top : Node} {pre post : List Node} (hsplit : preorder top = pre ++ n :: post)
    (hm : (it, some listing) ∈ n.copies) (hnd : (n.copies.map Prod.fst).Nodup)
    (hrooted : ∀ i l, (i, some l) ∈ n.copies → ∀ p ∈ l, p.1.head? = some i)
    (hfree : n.loc ++ [it] ∉ paths (pre.foldl writeNode [])) (hne : it ≠ n.file) :
    ∀ p ∈ listing, (n.loc ++ p.1, p.2) ∈ outputs top := by
  intro p hp
  unfold outputs
  rw [hsplit, List.foldl_append, List.foldl_cons]
  exact foldl_writeNode_subset (writeNode_copies_whole hm hnd hrooted hfree hne p hp)

end CopyLoops

theorem copyListing_some {sibs : List Entry} {item : Str} {l : List (PathS × Bool)}
    (h : copyListing sibs item = (item, some l)) : ∃ cs, l = listAll (.dir item cs) := by
  unfold copyListing at h
  split at h
  · rename_i n cs hf
    cases (findEntry_some hf).2
    cases h
    exact ⟨cs, rfl⟩
  · cases h

theorem copyListing_rooted (sibs : List Entry) (item : Str) (l : List (PathS × Bool))
    (h : copyListing sibs item = (item, some l)) : ([item], true) ∈ l := by
  obtain ⟨cs, rfl⟩ := copyListing_some h
  exact List.mem_cons_self

theorem copyListing_all_rooted {sibs : List Entry} {item : Str} {l : List (PathS × Bool)}
    (h : copyListing sibs item = (item, some l)) : ∀ p ∈ l, p.1.head? = some item := by
  obtain ⟨cs, rfl⟩ := copyListing_some h
  intro p hp
  simp only [listAll, List.mem_cons, List.mem_map] at hp
  rcases hp with rfl | ⟨q, _, rfl⟩
  · rfl
  · rfl

/-- what the walk guarantees about the copy loop of a node it builds: the loop runs over exactly the items of the
    page's `copy_subdir`, and the listing attached to an item is rooted at the item's own directory: it contains
    that directory (so every item is attempted) and nothing outside it (so no other item takes its place) -/
def CopyOk (n : Node) : Prop :=
  n.copies.map Prod.fst = n.copySub ∧ (∀ it l, (it, some l) ∈ n.copies → ([it], true) ∈ l) ∧
  ∀ it l, (it, some l) ∈ n.copies → ∀ p ∈ l, p.1.head? = some it

/-- `P` holds of every node of the tree a result carries (trivially when it carries none) -/
def ResAll (P : Node → Prop) : Res → Prop
  | .page nd => ∀ n ∈ preorder nd, P n
  | _ => True

theorem copyListing_fst (sibs : List Entry) (x : Str) : (copyListing sibs x).1 = x := by
  unfold copyListing
  split
  · rfl
  · rfl

/-- a node whose copy loop runs over `nd.copySub.map (copyListing sibs)` (as every node the walk builds does) -/
theorem copyOk_of_copyListing {nd : Node} {sibs : List Entry} (h : nd.copies = nd.copySub.map (copyListing sibs)) :
    CopyOk nd := by
  have key : ∀ it l, (it, some l) ∈ nd.copies → copyListing sibs it = (it, some l) := by
    intro it l hm
    obtain ⟨x, _, hx⟩ := List.mem_map.mp (h ▸ hm)
    have hfst := copyListing_fst sibs x
    rw [hx] at hfst
    cases hfst
    exact hx
  refine ⟨?_, fun it l hm => copyListing_rooted sibs it l (key it l hm),
    fun it l hm => copyListing_all_rooted (key it l hm)⟩
  rw [h, List.map_map]
  exact (List.map_congr_left (fun x _ => copyListing_fst sibs x)).trans (List.map_id _)

theorem dirRes_copyOk {v : Variant} {pc : Option (List Str)} {loc : PathS} {src : Str} {hier : List (PathS × Str)}
    {cs : List Entry} (ih : ∀ c ∈ cs, ∀ o hier, ResAll CopyOk (entryRes v o hier loc cs c)) :
    ResAll CopyOk (dirRes v pc loc src hier cs) := by
  unfold dirRes
  cases indexMeta cs with
  | none => trivial
  | some mt =>
    simp only [walk_eq]
    cases List.findSome? _ _ with
    | some q => trivial
    | none =>
      intro x hx
      rcases mem_preorder.mp hx with rfl | ⟨s', hs', hxs⟩
      · exact copyOk_of_copyListing (sibs := cs) rfl
      · obtain ⟨nm, _, hp⟩ := List.mem_filterMap.mp hs'
        obtain ⟨c, hc, _, hr⟩ := pageAt_some hp
        exact (hr ▸ ih c hc _ _ : ResAll CopyOk (.page s')) x hxs

theorem entryRes_copyOk (v : Variant) (e : Entry) :
    ∀ own hier loc sibs, ResAll CopyOk (entryRes v own hier loc sibs e) := by
  induction e using entry_ind_aux with
  | hf n m =>
    intro own hier loc sibs
    simp only [entryRes]
    split
    · split
      · trivial
      · intro x hx
        rcases mem_preorder.mp hx with rfl | ⟨s', hs', _⟩
        · exact copyOk_of_copyListing (sibs := sibs) rfl
        · cases hs'
    · trivial
  | hd n cs ih =>
    intro own hier loc sibs
    rw [entryRes_dir]
    exact dirRes_copyOk (fun c hc o hier => ih c hc o hier _ _)

theorem getPageTree_copyOk (v : Variant) (cs : List Entry) : ResAll CopyOk (getPageTree v cs) := by
  rw [getPageTree_eq_dirRes]
  exact dirRes_copyOk (fun c _ o hier => entryRes_copyOk v c o hier _ _)

theorem copyOk_of_getPageTree {v : Variant} {cs : List Entry} {top n : Node} (h : getPageTree v cs = .page top)
    (hn : n ∈ preorder top) : CopyOk n := by
  have hall := getPageTree_copyOk v cs
  rw [h] at hall
  exact hall n hn

end Ford.PT
