/-
  C07 - submodules.  With its local declarations merged OVER its parent's tables a submodule is an
  ordinary nested scope: `corrSub repaired false` is `corr repaired` by unfolding.
-/
import FordModel.ScopeSub
import FordModel.Lemmas.Scope
namespace Ford.Scope
open Ford

theorem corrSub_repaired (env : ModEnv) (host : Tabs) (ch : List Frame) (h : Rep host.p host.a host.t ch)
    (s : Scope) (ok : treeOK env ch s = true) :
    (corrSub repaired false env host s).2 = specScope env ch s ∧
      Rep (corrSub repaired false env host s).1.p (corrSub repaired false env host s).1.a
        (corrSub repaired false env host s).1.t (frameOf env s :: ch) := by
  cases s with
  | mk n e f us ds ss ks =>
    -- by unfolding, `corrSub repaired false` returns the slots of `corr repaired` and the tables `unitTabs repaired`
    exact ⟨congrArg (·.2.2) (corr_repaired env _ host.p host.a host.t ch h ok),
      unitTabs_rep env host.p host.a host.t ch h n e f us ds ss ks⟩

/-- the pairing of the separate module procedures (independent of the merge order) -/
theorem pairSlots_spec (pairable : List Ent) (host : Tabs) (ch : List Frame) (h : Rep host.p host.a host.t ch)
    (decls : List Decl) (kids : Kids) (ps : List (Nat × Str)) :
    pairSlots pairable host decls kids ps = specPairs pairable ch (localProcs decls kids) ps := by
  induction ps with
  | nil => rfl
  | cons p r ih =>
    obtain ⟨i, n⟩ := p
    simp only [pairSlots, specPairs, pairLookup, tget_append, h.p, ih]
    rfl

theorem corrProjectS_plain (v : Variant) (sv : SVariant) (pairable order : List Ent) (us : List (UKind × Scope))
    (h : ∀ u ∈ us, kindIsSub u.1 = false) (st : PState) :
    corrProjectS v sv pairable order st us = corrProject v st.env (us.map fun u => (kindIsMod u.1, u.2)) := by
  induction us generalizing st with
  | nil => rfl
  | cons u us ih =>
    obtain ⟨k, s⟩ := u
    have hr : ∀ u ∈ us, kindIsSub u.1 = false := fun x hx => h x (List.mem_cons_of_mem _ hx)
    cases k with
    | mod => simp only [corrProjectS, corrProject, List.map_cons, kindIsMod, ↓reduceIte, ih hr]
    | other => simp only [corrProjectS, corrProject, List.map_cons, kindIsMod, Bool.false_eq_true, ↓reduceIte, ih hr]
    | sub i => cases h (.sub i, s) List.mem_cons_self

end Ford.Scope
