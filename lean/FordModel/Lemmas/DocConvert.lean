import FordModel.DocConvert
namespace Ford

def docAttr : Str := ['d', 'o', 'c']

theorem attrs_inheritStep (fix : Bool) (ph : List Str) (e : CEnt) : (inheritStep fix ph e).attrs = e.attrs := by
  unfold inheritStep
  cases e.doc <;> rfl

theorem hasAttr_of_ne_doc (e : CEnt) (a : Str) (ha : a ≠ docAttr) : e.hasAttr a = e.attrs.contains a := by
  simp [CEnt.hasAttr, show (a == ['d', 'o', 'c']) = false from beq_false_of_ne ha]

theorem hasAttr_inheritStep (fix : Bool) (ph : List Str) (e : CEnt) (a : Str) (ha : a ≠ docAttr) :
    (inheritStep fix ph e).hasAttr a = e.hasAttr a := by
  rw [hasAttr_of_ne_doc _ a ha, hasAttr_of_ne_doc _ a ha, attrs_inheritStep]

theorem keeps_inheritStep (fix : Bool) (skip : List Str) (hs : docAttr ∉ skip) (ph : List Str) (e : CEnt) :
    (inheritStep fix ph e).keeps skip = e.keeps skip := by
  unfold CEnt.keeps
  congr 1
  induction skip with
  | nil => rfl
  | cons a as ih =>
    have h1 : a ≠ docAttr := fun h => hs (by simp [h])
    have h2 : docAttr ∉ as := fun h => hs (by simp [h])
    simp only [List.any_cons, hasAttr_inheritStep fix ph e a h1, ih h2]

theorem docList_inheritStep (fix : Bool) (ph : List Str) (e : CEnt) : (inheritStep fix ph e).docList = e.docList := by
  unfold inheritStep
  cases e.doc <;> rfl

theorem keeps_of_no_skip_attr (skip : List Str) (hs : docAttr ∉ skip) (e : CEnt)
    (hk : ∀ a ∈ skip, a ∉ e.attrs) : e.keeps skip = true := by
  simp only [CEnt.keeps, Bool.not_eq_true', List.any_eq_false]
  intro a ha
  rw [hasAttr_of_ne_doc e a fun h => hs (h ▸ ha)]
  simpa using hk a ha

theorem convertAll_getElem? (skip : List Str) (conv : List Str → List Str) (reg : List CEnt) (i : Nat) :
    (convertAll skip conv reg)[i]? =
      (reg[i]?).map (fun e => if e.keeps skip then { e with doc := some (conv e.docList) } else e) := by
  simp [convertAll]

theorem convIdxFrom_mem (skip : List Str) (reg : List CEnt) (k i : Nat) :
    i ∈ convIdxFrom skip k reg ↔ ∃ e, k ≤ i ∧ reg[i - k]? = some e ∧ e.keeps skip = true := by
  induction reg generalizing k with
  | nil => simp [convIdxFrom]
  | cons e es ih =>
    have step : i ∈ convIdxFrom skip k (e :: es) ↔
        (i = k ∧ e.keeps skip = true) ∨ i ∈ convIdxFrom skip (k + 1) es := by
      by_cases hk : e.keeps skip = true <;> simp [convIdxFrom, hk]
    rw [step, ih]
    constructor
    · rintro (⟨rfl, hk⟩ | ⟨e', h1, h2, h3⟩)
      · exact ⟨e, Nat.le_refl _, by simp, hk⟩
      · refine ⟨e', by omega, ?_, h3⟩
        rw [show i - k = (i - (k + 1)) + 1 by omega]
        exact h2
    · rintro ⟨e', h1, h2, h3⟩
      by_cases hik : i = k
      · subst hik
        simp only [Nat.sub_self, List.getElem?_cons_zero, Option.some.injEq] at h2
        exact Or.inl ⟨rfl, h2 ▸ h3⟩
      · refine Or.inr ⟨e', by omega, ?_, h3⟩
        rw [show i - k = (i - (k + 1)) + 1 by omega] at h2
        exact h2

/-- any number of `correlate` steps (one per extending type) -/
def inheritSteps (fix : Bool) (phs : List (List Str)) (e : CEnt) : CEnt :=
  phs.foldl (fun x p => inheritStep fix p x) e

theorem meta_inheritStep_fixed (ph : List Str) (e : CEnt) : (inheritStep true ph e).md = e.md := by
  unfold inheritStep
  cases e.doc <;> rfl

theorem inheritSteps_inv {α : Type} (g : CEnt → α) (fix : Bool) (h : ∀ p e, g (inheritStep fix p e) = g e)
    (phs : List (List Str)) (e : CEnt) : g (inheritSteps fix phs e) = g e := by
  induction phs generalizing e with
  | nil => rfl
  | cons p ps ih => exact (ih (inheritStep fix p e)).trans (h p e)

theorem convertAll_meta (skip : List Str) (conv : List Str → List Str) (reg : List CEnt) :
    (convertAll skip conv reg).map (·.md) = reg.map (·.md) := by
  simp only [convertAll, List.map_map]
  apply List.map_congr_left
  intro e _
  simp only [Function.comp]
  split <;> rfl

end Ford
