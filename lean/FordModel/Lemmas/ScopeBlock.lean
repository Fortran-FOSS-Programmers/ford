/-
  C07 - BLOCK constructs.  When the dispatcher files no declaration of a BLOCK in the enclosing unit, and
  no USE statement either (or there is none), `flatten` is `eraseBlocks`.
-/
import FordModel.ScopeBlock
import FordModel.Lemmas.Scope
namespace Ford.Scope
open Ford

theorem filter_regDecl_none (reg : BlockReg) (ht : reg.ty = false) (hi : reg.ifc = false) (ds : List Decl) :
    ds.filter (regDecl reg) = [] := by
  induction ds with
  | nil => rfl
  | cons d ds ih =>
    have : regDecl reg d = false := by
      unfold regDecl; cases d.ns <;> simp [ht, hi]
    simp [List.filter, this, ih]

mutual
theorem blockDecls_none (reg : BlockReg) (ht : reg.ty = false) (hi : reg.ifc = false) (b : Block) :
    blockDecls reg b = [] := by
  match b with
  | .mk us ds inner =>
    simp only [blockDecls, filter_regDecl_none reg ht hi ds, blocksDecls_none reg ht hi inner, List.append_nil]
theorem blocksDecls_none (reg : BlockReg) (ht : reg.ty = false) (hi : reg.ifc = false) (bs : Blocks) :
    blocksDecls reg bs = [] := by
  match bs with
  | .nil => rfl
  | .cons b r =>
    simp only [blocksDecls, blockDecls_none reg ht hi b, blocksDecls_none reg ht hi r, List.append_nil]
end

mutual
theorem blockUses_noUse (b : Block) (h : blockNoUse b = true) : blockUses b = [] := by
  match b with
  | .mk us ds inner =>
    simp only [blockNoUse, Bool.and_eq_true, List.isEmpty_iff] at h
    simp only [blockUses, h.1, blocksUses_noUse inner h.2, List.append_nil]
theorem blocksUses_noUse (bs : Blocks) (h : blocksNoUse bs = true) : blocksUses bs = [] := by
  match bs with
  | .nil => rfl
  | .cons b r =>
    simp only [blocksNoUse, Bool.and_eq_true] at h
    simp only [blocksUses, blockUses_noUse b h.1, blocksUses_noUse r h.2, List.append_nil]
end

mutual
/-- every branch guarded: the parser builds the object tree of the program without its BLOCKs -/
theorem flatten_none (reg : BlockReg) (hu : reg.use = false) (ht : reg.ty = false) (hi : reg.ifc = false)
    (s : BScope) : flatten reg s = eraseBlocks s := by
  match s with
  | .mk n e f us ds ss bs ks =>
    simp only [flatten, eraseBlocks, hu, Bool.false_eq_true, ↓reduceIte, List.append_nil,
      blocksDecls_none reg ht hi bs, flattenKids_none reg hu ht hi ks]
theorem flattenKids_none (reg : BlockReg) (hu : reg.use = false) (ht : reg.ty = false) (hi : reg.ifc = false)
    (ks : BKids) : flattenKids reg ks = eraseKids ks := by
  match ks with
  | .nil => rfl
  | .cons s r =>
    simp only [flattenKids, eraseKids, flatten_none reg hu ht hi s, flattenKids_none reg hu ht hi r]
end

mutual
/-- USE branch unguarded or not: without a USE statement in any BLOCK of the tree the parser
    builds the object tree of the program without its BLOCKs -/
theorem flatten_noBlockUse (reg : BlockReg) (ht : reg.ty = false) (hi : reg.ifc = false)
    (s : BScope) (h : noBlockUse s = true) : flatten reg s = eraseBlocks s := by
  match s with
  | .mk n e f us ds ss bs ks =>
    simp only [noBlockUse, Bool.and_eq_true] at h
    simp only [flatten, eraseBlocks, blocksUses_noUse bs h.1, ite_self, List.append_nil,
      blocksDecls_none reg ht hi bs, flattenKids_noBlockUse reg ht hi ks h.2]
theorem flattenKids_noBlockUse (reg : BlockReg) (ht : reg.ty = false) (hi : reg.ifc = false)
    (ks : BKids) (h : kidsNoBlockUse ks = true) : flattenKids reg ks = eraseKids ks := by
  match ks with
  | .nil => rfl
  | .cons s r =>
    simp only [kidsNoBlockUse, Bool.and_eq_true] at h
    simp only [flattenKids, eraseKids, flatten_noBlockUse reg ht hi s h.1, flattenKids_noBlockUse reg ht hi r h.2]
end

mutual
theorem registered_none (reg : BlockReg) (ht : reg.ty = false) (hi : reg.ifc = false) (s : BScope) :
    registered reg s = [] := by
  match s with
  | .mk n e f us ds ss bs ks =>
    simp only [registered, blocksDecls_none reg ht hi bs, List.map_nil, List.nil_append,
      registeredKids_none reg ht hi ks]
theorem registeredKids_none (reg : BlockReg) (ht : reg.ty = false) (hi : reg.ifc = false) (ks : BKids) :
    registeredKids reg ks = [] := by
  match ks with
  | .nil => rfl
  | .cons s r =>
    simp only [registeredKids, registered_none reg ht hi s, registeredKids_none reg ht hi r, List.append_nil]
end

end Ford.Scope
