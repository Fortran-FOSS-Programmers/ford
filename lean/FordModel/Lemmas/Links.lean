/-
  Lemmas relating the mechanism (`lookup`, FordModel/Links.lean) to the
  documented lookup (`lookupSpec`, FordModel/LinksSpec.lean).
-/
import FordModel.LinksSpec
import FordModel.Lemmas.Chars
namespace Ford.Links

theorem findInList_nil (P : Project) (n : Str) : findInList P n [] = none := rfl

theorem findInList_append (P : Project) (n : Str) (a b : List Item) :
    findInList P n (a ++ b) = orElse' (findInList P n a) (findInList P n b) := by
  induction a with
  | nil => simp [findInList, orElse']
  | cons x xs ih =>
    cases x with
    | other => simpa [findInList] using ih
    | ent id =>
      simp only [List.cons_append, findInList]
      split
      · simp [orElse']
      · exact ih

theorem findInList_mem (P : Project) (n : Str) (l : List Item) (id : Nat)
    (h : findInList P n l = some id) : Item.ent id ∈ l ∧ nameMatches P n id = true := by
  induction l with
  | nil => simp [findInList] at h
  | cons x xs ih =>
    cases x with
    | other =>
      simp only [findInList] at h
      have := ih h
      exact ⟨List.mem_cons_of_mem _ this.1, this.2⟩
    | ent j =>
      simp only [findInList] at h
      split at h
      · rename_i hm
        cases h
        exact ⟨by simp, hm⟩
      · have := ih h
        exact ⟨List.mem_cons_of_mem _ this.1, this.2⟩

theorem findInList_none_of_no_match (P : Project) (n : Str) (l : List Item)
    (h : ∀ id, Item.ent id ∈ l → nameMatches P n id = false) : findInList P n l = none := by
  induction l with
  | nil => rfl
  | cons x xs ih =>
    cases x with
    | other => simp only [findInList]; exact ih (fun id hid => h id (List.mem_cons_of_mem _ hid))
    | ent j =>
      simp only [findInList, h j (by simp)]
      exact ih (fun id hid => h id (List.mem_cons_of_mem _ hid))

theorem nameMatches_get (P : Project) (n : Str) (id : Nat) (h : nameMatches P n id = true) :
    ∃ e, P.get id = some e ∧ lower n = lower e.name := by
  unfold nameMatches at h
  split at h
  · rename_i e he
    exact ⟨e, he, by simpa using h⟩
  · cases h

theorem get_mem (P : Project) (id : Nat) (e : Ent) (h : P.get id = some e) : e ∈ P.ents := by
  unfold Project.get at h
  exact List.mem_of_getElem? h

theorem bind_get_mem (P : Project) (o : Option Nat) (e : Ent) (h : o.bind P.get = some e) : e ∈ P.ents := by
  cases o with
  | none => cases h
  | some i => exact get_mem P i e h

/-- `find_child` in the terms of the documented lookup: a TypeError where the kind names a single
    object or `None`, the first match in the list the kind designates where the entity has one,
    else a ValueError (unknown kind, or no such list) -/
theorem findChild_eq (P : Project) (e : Ent) (n : Str) (q : Option Str) :
    findChild P e n q =
      match raisesTypeError e q, canHold e q with
      | true, _ => .error .notIterable
      | false, true => .ok (findInList P n (itemsOf e q))
      | false, false =>
        .error (if (q.bind fun k => sublinkTypes.lookup (kindKey k)).isSome then .cannotHaveChild
          else .unknownEntity) := by
  cases q with
  | none => rfl
  | some k =>
    simp only [findChild, raisesTypeError, canHold, itemsOf, Option.bind_some]
    split
    · rename_i h1
      simp only [h1]
      rfl
    · rename_i attr h1
      simp only [h1]
      cases List.lookup attr e.attrs with
      | none => rfl
      | some v => cases v <;> rfl

theorem itemsOf_eq_nil (e : Ent) (q : Option Str) (h : canHold e q = false) : itemsOf e q = [] := by
  cases q with
  | none => cases h
  | some k =>
    simp only [canHold, itemsOf] at h ⊢
    split
    · rename_i attr h1
      simp only [h1, Option.isSome_eq_false_iff, Option.isNone_iff_eq_none] at h
      simp [h]
    · rfl

theorem suppress_findChild (P : Project) (e : Ent) (n : Str) (q : Option Str)
    (hT : raisesTypeError e q = false) :
    suppressVE (findChild P e n q) = .ok (findInList P n (itemsOf e q)) := by
  rw [findChild_eq, hT]
  cases hH : canHold e q with
  | true => rfl
  | false =>
    rw [itemsOf_eq_nil e q hH]
    cases (q.bind fun k => sublinkTypes.lookup (kindKey k)).isSome <;> rfl

theorem findChild_ok (P : Project) (e : Ent) (n : Str) (q : Option Str)
    (hT : raisesTypeError e q = false) (hH : canHold e q = true) :
    findChild P e n q = .ok (findInList P n (itemsOf e q)) := by
  rw [findChild_eq, hT, hH]

theorem findChild_some (P : Project) (e : Ent) (n : Str) (q : Option Str) (id : Nat)
    (h : findChild P e n q = .ok (some id)) : findInList P n (itemsOf e q) = some id := by
  rw [findChild_eq] at h
  split at h
  · cases h
  · exact Except.ok.inj h
  · cases h

theorem projectColl_ok (P : Project) (q : Option Str) (h : knownComponentKind q = true) :
    projectColl P q = .ok (projItems P q) := by
  cases q with
  | none => rfl
  | some k =>
    simp only [projectColl, projItems, knownComponentKind] at *
    cases h1 : linkTypes.lookup (kindKey k) with
    | none => simp [h1] at h
    | some attr => rfl

theorem localCandidates_some (P : Project) (ctx : Option Nat) (c : Ent) (k : Option Str)
    (hc : ctx.bind P.get = some c) :
    localCandidates P ctx k =
      itemsOf c k ++ (match c.parent.bind P.get with | some p => itemsOf p k | none => []) := by
  simp only [localCandidates, hc]
  cases c.parent.bind P.get <;> rfl

/-- the item step of `convert_link` (`if item: ... find_child(item)`) on a component hit `i` of name `n`
    that can hold the item kind: the item inside the hit; without item part, or without hit, `i` itself -/
theorem itemStep_eq (P : Project) (n : Str) (child ck : Option Str) (i : Option Nat)
    (hC : ∀ e ∈ P.ents, raisesTypeError e ck = false)
    (hi : ∀ id, i = some id → nameMatches P n id = true ∧
      ∀ e, P.get id = some e → canHold e ck = true) :
    (match child, i.bind P.get with
      | some ch, some e => findChild P e ch ck
      | _, _ => Except.ok i) =
    .ok (match child with
      | none => i
      | some ch => childIn P i ch ck) := by
  cases child with
  | none => rfl
  | some ch =>
    cases i with
    | none => rfl
    | some id =>
      obtain ⟨e, he, _⟩ := nameMatches_get P n id (hi id rfl).1
      simp only [Option.bind_some, he, childIn]
      exact findChild_ok P e ch ck (hC e (get_mem P id e he)) ((hi id rfl).2 e he)

/-- the context part of `convert_link` = first match over (own contents ++ parent's contents),
    then the item inside that hit -/
theorem localLookup_eq (P : Project) (ctx : Option Nat) (c : Ent) (r : Ref)
    (hc : ctx.bind P.get = some c)
    (hK : ∀ e ∈ P.ents, raisesTypeError e r.kind = false)
    (hC : ∀ e ∈ P.ents, raisesTypeError e r.childKind = false)
    (hH : ∀ id e, P.get id = some e →
        findInList P r.name (localCandidates P ctx r.kind) = some id → canHold e r.childKind = true) :
    localLookup P c r = .ok
      (match r.child with
       | none => findInList P r.name (localCandidates P ctx r.kind)
       | some ch => childIn P (findInList P r.name (localCandidates P ctx r.kind)) ch r.childKind) := by
  rw [localCandidates_some P ctx c r.kind hc, findInList_append] at *
  unfold localLookup
  rw [suppress_findChild P c r.name r.kind (hK c (bind_get_mem P ctx c hc))]
  simp only
  cases h1 : findInList P r.name (itemsOf c r.kind) with
  | some i1 =>
    simp only [orElse', h1] at hH ⊢
    exact itemStep_eq P r.name r.child r.childKind (some i1) hC fun id hid =>
      ⟨Option.some.inj hid ▸ (findInList_mem P _ _ _ h1).2, fun e he => hH id e he hid⟩
  | none =>
    simp only [orElse', h1] at hH ⊢
    cases hp : c.parent.bind P.get with
    | none => exact itemStep_eq P r.name r.child r.childKind none hC (fun id hid => nomatch hid)
    | some p =>
      simp only [hp] at hH ⊢
      rw [suppress_findChild P p r.name r.kind (hK p (bind_get_mem P c.parent p hp))]
      exact itemStep_eq P r.name r.child r.childKind _ hC fun id hid => ⟨(findInList_mem P _ _ _ hid).2, fun e he => hH id e he hid⟩

theorem projectFind_eq (P : Project) (n : Str) (k : Option Str) (child ck : Option Str)
    (hP : knownComponentKind k = true)
    (hC : ∀ e ∈ P.ents, raisesTypeError e ck = false)
    (hH : ∀ id e, P.get id = some e → findInList P n (projItems P k) = some id → canHold e ck = true) :
    projectFind P n k child ck = .ok
      (match child with
       | none => findInList P n (projItems P k)
       | some ch => childIn P (findInList P n (projItems P k)) ch ck) := by
  unfold projectFind
  rw [projectColl_ok P k hP]
  simp only
  cases h1 : findInList P n (projItems P k) with
  | none => cases child <;> simp [childIn]
  | some i =>
    obtain ⟨e, he, _⟩ := nameMatches_get P n i (findInList_mem P _ _ _ h1).2
    cases child with
    | none => simp
    | some ch =>
      simp only [he, childIn, Option.bind_some]
      exact findChild_ok P e ch ck (hC e (get_mem P i e he)) (hH i e he h1)

theorem iterItems_mem (e : Ent) (names : List String) (id : Nat) (h : Item.ent id ∈ iterItems e names) :
    ∃ a l, (a, AttrVal.many l) ∈ e.attrs ∧ Item.ent id ∈ l := by
  induction names with
  | nil => simp [iterItems] at h
  | cons a rest ih =>
    simp only [iterItems, List.mem_append] at h
    rcases h with h | h
    · split at h
      · rename_i l hl
        exact ⟨a, l, lookup_mem hl, h⟩
      · simp at h
    · exact ih h

theorem singleItems_mem (e : Ent) (names : List String) (id : Nat) (h : Item.ent id ∈ singleItems e names) :
    ∃ a, (a, AttrVal.one id) ∈ e.attrs := by
  induction names with
  | nil => simp [singleItems] at h
  | cons a rest ih =>
    simp only [singleItems, List.mem_append] at h
    rcases h with h | h
    · split at h
      · rename_i j hj
        have : id = j := by simpa using h
        subst this
        exact ⟨a, lookup_mem hj⟩
      · simp at h
      · simp at h
    · exact ih h

theorem children_listed (P : Project) (e : Ent) (he : e ∈ P.ents) (id : Nat) (h : Item.ent id ∈ children e) :
    Listed P id := by
  simp only [children, List.mem_append] at h
  rcases h with h | h
  · obtain ⟨a, l, h1, h2⟩ := iterItems_mem e _ id h
    exact Or.inl ⟨e, he, a, l, h1, h2⟩
  · obtain ⟨a, h1⟩ := singleItems_mem e _ id h
    exact Or.inr (Or.inl ⟨e, he, a, h1⟩)

theorem itemsOf_listed (P : Project) (e : Ent) (he : e ∈ P.ents) (q : Option Str) (id : Nat)
    (h : Item.ent id ∈ itemsOf e q) : Listed P id := by
  cases q with
  | none => exact children_listed P e he id h
  | some k =>
    simp only [itemsOf] at h
    split at h
    · rename_i attr _
      split at h
      · rename_i l hl
        exact Or.inl ⟨e, he, attr, l, lookup_mem hl, h⟩
      · cases h
    · cases h

theorem findChild_listed (P : Project) (e : Ent) (he : e ∈ P.ents) (n : Str) (q : Option Str) (id : Nat)
    (h : findChild P e n q = .ok (some id)) : Listed P id ∧ nameMatches P n id = true :=
  (findInList_mem P n _ id (findChild_some P e n q id h)).imp_left (itemsOf_listed P e he q id)

theorem suppressVE_some (x : Except Err (Option Nat)) (id : Nat) (h : suppressVE x = .ok (some id)) :
    x = .ok (some id) := by
  cases x with
  | error e => simp only [suppressVE] at h; split at h <;> simp at h
  | ok r => simpa [suppressVE] using h

theorem coll_listed (P : Project) (attr : String) (id : Nat) (h : Item.ent id ∈ P.coll attr) : Listed P id := by
  unfold Project.coll at h
  cases hl : P.lists.lookup attr with
  | none => simp [hl] at h
  | some l =>
    simp only [hl, Option.getD_some] at h
    exact Or.inr (Or.inr ⟨attr, l, lookup_mem hl, h⟩)

theorem projectColl_listed (P : Project) (q : Option Str) (coll : List Item) (h : projectColl P q = .ok coll)
    (id : Nat) (hm : Item.ent id ∈ coll) : Listed P id := by
  cases q with
  | none =>
    simp only [projectColl, Except.ok.injEq] at h
    subst h
    obtain ⟨kv, _, h2⟩ := List.mem_flatMap.1 hm
    exact coll_listed P kv.2 id h2
  | some k =>
    simp only [projectColl] at h
    split at h
    · cases h
    · simp only [Except.ok.injEq] at h
      subst h
      exact coll_listed P _ id hm

theorem projectFind_listed (P : Project) (n : Str) (k child ck : Option Str) (id : Nat)
    (h : projectFind P n k child ck = .ok (some id)) :
    Listed P id ∧ (nameMatches P n id = true ∨ ∃ ch, child = some ch ∧ nameMatches P ch id = true) := by
  unfold projectFind at h
  split at h
  · cases h
  · rename_i coll hcoll
    split at h
    · rename_i j c hj
      obtain ⟨hm, hn⟩ := findInList_mem P n coll j hj
      split at h
      · rename_i e he
        obtain ⟨h1, h2⟩ := findChild_listed P e (get_mem P j e he) c ck id h
        exact ⟨h1, Or.inr ⟨c, rfl, h2⟩⟩
      · simp at h
    · simp only [Except.ok.injEq] at h
      obtain ⟨hm, hn⟩ := findInList_mem P n coll id h
      exact ⟨projectColl_listed P k coll hcoll id hm, Or.inl hn⟩

/-- the item step keeps "listed and named": from a listed component hit `i` of name `n`, what comes out is an
    item found inside it (listed, carries the item's name) or the hit itself -/
theorem itemStep_listed (P : Project) (n : Str) (child ck : Option Str) (i : Option Nat) (id : Nat)
    (hi : ∀ j, i = some j → Listed P j ∧ nameMatches P n j = true)
    (h : (match child, i.bind P.get with
      | some ch, some e => findChild P e ch ck
      | _, _ => Except.ok i) = .ok (some id)) :
    Listed P id ∧ (nameMatches P n id = true ∨ ∃ ch, child = some ch ∧ nameMatches P ch id = true) := by
  split at h
  · rename_i ch e he
    cases i with
    | none => cases he
    | some j =>
      obtain ⟨a, b⟩ := findChild_listed P e (get_mem P j e he) ch ck id h
      exact ⟨a, Or.inr ⟨ch, rfl, b⟩⟩
  · obtain ⟨a, b⟩ := hi id (Except.ok.inj h)
    exact ⟨a, Or.inl b⟩

theorem localLookup_listed (P : Project) (c : Ent) (hc : c ∈ P.ents) (r : Ref) (id : Nat)
    (h : localLookup P c r = .ok (some id)) :
    Listed P id ∧ (nameMatches P r.name id = true ∨ ∃ ch, r.child = some ch ∧ nameMatches P ch id = true) := by
  unfold localLookup at h
  split at h
  · cases h
  · rename_i i1 h1
    simp only at h
    split at h
    · cases h
    · rename_i i2 h2
      refine itemStep_listed P r.name r.child r.childKind i2 id ?_ h
      intro j hj
      subst hj
      split at h2
      · rename_i p hp
        exact findChild_listed P p (bind_get_mem P c.parent p hp) r.name r.kind j (suppressVE_some _ _ h2)
      · simp only [Except.ok.injEq] at h2
        subst h2
        exact findChild_listed P c hc r.name r.kind j (suppressVE_some _ _ h1)

theorem lookup_listed (P : Project) (ctx : Option Nat) (r : Ref) (id : Nat) (h : lookup P ctx r = .ok (some id)) :
    Listed P id ∧ (nameMatches P r.name id = true ∨ ∃ ch, r.child = some ch ∧ nameMatches P ch id = true) := by
  unfold lookup at h
  simp only [] at h
  split at h
  · cases h
  · rename_i i hloc
    simp only [Except.ok.injEq, Option.some.injEq] at h
    subst h
    split at hloc
    · cases hloc
    · rename_i c hc
      exact localLookup_listed P c (bind_get_mem P ctx c hc) r i hloc
  · split at h
    · cases h
    · rename_i i hp
      simp only [Except.ok.injEq, Option.some.injEq] at h
      subst h
      exact projectFind_listed P r.name r.kind r.child r.childKind i hp
    · split at h
      · obtain ⟨a, b⟩ := projectFind_listed P r.name r.kind none none id h
        refine ⟨a, ?_⟩
        rcases b with b | ⟨ch, hch, _⟩
        · exact Or.inl b
        · cases hch
      · cases h

theorem keepItems_mem (keep : Nat → Bool) (l : List Item) (id : Nat) (h : Item.ent id ∈ keepItems keep l) :
    keep id = true := by
  simp only [keepItems, List.mem_filter] at h
  exact h.2

/-- an attribute value of a pruned entity is the pruned form of some value -/
theorem mem_pruneEnt_attrs (keep : Nat → Bool) (e : Ent) (a : String) (v : AttrVal)
    (h : (a, v) ∈ (pruneEnt keep e).attrs) : ∃ v0, pruneAttr keep v0 = v := by
  obtain ⟨⟨_, v0⟩, _, hv⟩ := List.mem_map.1 h
  exact ⟨v0, (Prod.mk.inj hv).2⟩

theorem listed_prune (keep : Nat → Bool) (P : Project) (id : Nat) (h : Listed (prune keep P) id) :
    keep id = true := by
  rcases h with ⟨e', he', a, l, hal, hid⟩ | ⟨e', he', a, ha⟩ | ⟨a, l, hal, hid⟩
  · obtain ⟨e, _, rfl⟩ := List.mem_map.1 he'
    obtain ⟨v0, hv⟩ := mem_pruneEnt_attrs keep e a _ hal
    cases v0 with
    | many l0 =>
      rw [← AttrVal.many.inj hv] at hid
      exact keepItems_mem keep l0 id hid
    | one j => simp only [pruneAttr] at hv; split at hv <;> cases hv
    | noneVal => cases hv
    | otherVal => cases hv
  · obtain ⟨e, _, rfl⟩ := List.mem_map.1 he'
    obtain ⟨v0, hv⟩ := mem_pruneEnt_attrs keep e a _ ha
    cases v0 with
    | many l0 => cases hv
    | one j =>
      simp only [pruneAttr] at hv
      split at hv
      · rename_i hk
        cases hv
        exact hk
      · cases hv
    | noneVal => cases hv
    | otherVal => cases hv
  · obtain ⟨⟨a0, l0⟩, _, hv⟩ := List.mem_map.1 hal
    cases hv
    exact keepItems_mem keep l0 id hid

theorem currentPath_entity (env : Env) (P : Project) (ctx : Option Nat) (c : Ent) (u : Url)
    (hc : ctx.bind P.get = some c) (he : c.extUrl = none) (hu : urlOfChain c.chain = some u) :
    currentPath env P ctx none = some (env.base ++ [nonExistentDir]) := by
  simp [currentPath, hc, he, hu, Url.segs]

end Ford.Links
