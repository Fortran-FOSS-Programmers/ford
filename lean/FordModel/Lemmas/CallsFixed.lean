/-
  C08, fixed-form source: a card with text in columns 73+ as the reader sees it after the
  converter (limit on), and the join of a continued card with its continuation card.
-/
import FordModel.CallsLine
import FordModel.FixedSpec
import FordModel.Lemmas.Fixed
import FordModel.Lemmas.ReaderLayout
import FordModel.Lemmas.ReaderQuote
import FordModel.Lemmas.ReaderDoc
namespace Ford.Calls
open Ford Ford.Fixed

theorem atoms_lits (p : Str) (h : Atoms p) : Lits p := by
  induction h with
  | nil => exact .nil
  | plain c rest hq _ _ ih => exact .plain c rest hq ih
  | quoted q body rest hq hb _ ih => exact .quoted q body rest hq hb ih

theorem dropNL_snoc (s : Str) : dropNL (s ++ ['\n']) = s := by simp [dropNL]

/-- the converted line of a card with text beyond column 72, limit on (code after C14's repair:
    the overflow stands behind `! `) -/
theorem freeCode_long (v : Variant) (hv : v.spacedExcess = true) (lab body : Str) (amp : Bool)
    (hl : body.length > 66) :
    dropNL (freeCode v true lab body amp) =
      ljust 72 (if amp then rstrip (lab ++ body.take 66) ++ [' ', '&'] else rstrip (lab ++ body.take 66))
        ++ '!' :: ' ' :: body.drop 66 := by
  rw [freeCode_cut v lab body amp hl, excessMark_cons, hv, ← List.append_assoc, ← List.append_assoc, dropNL_snoc]
  simp

theorem lstrip_ind (ind : Str) (x : Char) (t : Str) (hi : isBlank ind = true) (hx : isSpace x = false) :
    lstrip (ind ++ x :: t) = x :: t := by
  rw [lstrip_blank_append _ _ hi]; simp [lstrip, hx]

theorem strip_ind_ljust (n : Nat) (ind : Str) (x : Char) (t : Str) (hi : isBlank ind = true)
    (hx : isSpace x = false) (ht : rstrip (x :: t) = x :: t) :
    strip (ljust n (ind ++ x :: t)) = x :: t := by
  have e : ljust n (ind ++ x :: t) = ind ++ x :: (t ++ List.replicate (n - (ind ++ x :: t).length) ' ') := by
    simp [ljust]
  rw [e, strip, lstrip_ind _ _ _ hi hx]
  have e2 : x :: (t ++ List.replicate (n - (ind ++ x :: t).length) ' ') =
      (x :: t) ++ List.replicate (n - (ind ++ x :: t).length) ' ' := by simp
  rw [e2, rstrip_append_blanks, ht]

/-- a card with text beyond column 72 as the reader sees it: no doc comment, and its code part is
    the visible part (label + columns 7-72, plus ` &` when continued) without the indentation -/
theorem long_card_code (v : Variant) (hv : v.spacedExcess = true) (lab body : Str) (amp : Bool)
    (ind : Str) (x : Char) (t : Str) (hl : body.length > 66)
    (hA : (if amp then rstrip (lab ++ body.take 66) ++ [' ', '&'] else rstrip (lab ++ body.take 66)) = ind ++ x :: t)
    (hi : isBlank ind = true) (hx : isSpace x = false) (hxh : x ≠ '#') (ht : rstrip (x :: t) = x :: t)
    (ha : Atoms (x :: t)) :
    NoDoc Marks.default false (dropNL (freeCode v true lab body amp)) ∧
      codeOf false (dropNL (freeCode v true lab body amp)) = x :: t := by
  rw [freeCode_long v hv lab body amp hl, hA]
  have hP : Atoms (ljust 72 (ind ++ x :: t)) := atoms_ljust _ _ (atoms_append _ _ (atoms_of_blank ind hi) ha)
  have hfirst : firstStripped (ljust 72 (ind ++ x :: t) ++ '!' :: ' ' :: body.drop 66) ≠ some '#' := by
    have e : ljust 72 (ind ++ x :: t) ++ '!' :: ' ' :: body.drop 66 =
        ind ++ x :: (t ++ List.replicate (72 - (ind ++ x :: t).length) ' ' ++ '!' :: ' ' :: body.drop 66) := by
      simp [ljust]
    simpa [e, firstStripped, lstrip_ind _ _ _ hi hx] using hxh
  refine ⟨⟨hfirst, ?_, ?_, ?_, ?_⟩, by rw [codeOf_outside_comment _ _ hP, strip_ind_ljust 72 ind x t hi hx ht]⟩
  -- none of the four doc marks starts the overflow comment `! …`
  all_goals exact matchDocmark_comment _ _ _ hP (by simp [startsWith, Marks.default])

theorem plain_line_code (x : Char) (t : Str) (hx : isSpace x = false) (hxh : x ≠ '#')
    (ht : rstrip (x :: t) = x :: t) (ha : Atoms (x :: t)) :
    NoDoc Marks.default false (x :: t) ∧ codeOf false (x :: t) = x :: t := by
  refine ⟨⟨?_, matchDocmark_plain _ _ ha, matchDocmark_plain _ _ ha, matchDocmark_plain _ _ ha,
    matchDocmark_plain _ _ ha⟩, ?_⟩
  · simp [firstStripped, lstrip, hx, hxh]
  · rw [codeOf_outside_plain _ ha]
    simp [strip, lstrip, hx, ht]

theorem strip_padded_one (x : Char) (r0 : Str) (hx : isSpace x = false) (hr0 : rstrip (x :: r0) = x :: r0) :
    strip (' ' :: x :: (r0 ++ [' '])) = x :: r0 := by
  have e : x :: (r0 ++ [' ']) = (x :: r0) ++ [' '] := by simp
  have hs : isSpace ' ' = true := by decide
  simp only [strip, lstrip, hs, hx, if_true, Bool.false_eq_true, if_false]
  rw [e, rstrip_snoc_space _ _ hs, hr0]

/-- two physical lines `x r0 &` / `y b0` (whatever spelling gives these code parts) are read as the
    one statement line `x r0 y b0` -/
theorem two_line_join (l0 l1 : Str) (x y : Char) (r0 b0 : Str) (rest : List Str)
    (hn0 : NoDoc Marks.default false l0) (hc0 : codeOf false l0 = x :: (r0 ++ [' ', '&']))
    (hn1 : NoDoc Marks.default false l1) (hc1 : codeOf false l1 = y :: b0)
    (hx : isSpace x = false) (hxa : x ≠ '&') (hr0 : rstrip (x :: r0) = x :: r0) (ha0 : Atoms (x :: r0))
    (hy : isSpace y = false) (hya : y ≠ '&') (hlast : (y :: b0).getLast? ≠ some '&')
    (hJ : itemsOf (x :: r0 ++ ' ' :: y :: b0) ≠ []) :
    readFrom Marks.default (qs [] false) (l0 :: l1 :: rest) =
      (readFrom Marks.default (qs [] false) rest).map (fun more => itemsOf (x :: r0 ++ ' ' :: y :: b0) ++ more) := by
  have hu : unterminated (' ' :: x :: (r0 ++ [' '])) = false := by
    apply unterminated_lits
    have : ' ' :: x :: (r0 ++ [' ']) = [' '] ++ ((x :: r0) ++ [' ']) := by simp
    rw [this]
    exact atoms_lits _ (atoms_append _ _ (.plain ' ' [] (by decide) (by decide) .nil)
      (atoms_append _ _ ha0 (.plain ' ' [] (by decide) (by decide) .nil)))
  have hb : isBlank (y :: b0) = false := by simp [isBlank, hy]
  have hjoin : Mid.join (' ' :: x :: (r0 ++ [' '])) (.cont false (y :: b0)) = x :: r0 ++ ' ' :: y :: b0 := by
    simp [Mid.join, strip_padded_one x r0 hx hr0]
  -- `continuation_join` with no lines in between (`mids`, `lines` empty): first line `x r0 ␣&`, last line
  -- `y b0` without a leading `&` (`lead = false`), so the reader joins the two with one blank
  have h := continuation_join Marks.default l0 x (r0 ++ [' ']) [] [] l1 false (y :: b0) rest hn0
    (by rw [hc0]; simp) hxa (by simp [Rendered])
    (by simpa [hu] using hn1) (by simpa [hu, lastCode] using hc1) hb hlast
    (fun _ => ⟨y, b0, rfl, hya⟩) (by simpa [hjoin] using hJ)
  have e : l0 :: l1 :: rest = l0 :: [] ++ l1 :: rest := rfl
  rw [e, h, List.foldl_nil, hjoin]
  cases readFrom Marks.default (qs [] false) rest <;> rfl

end Ford.Calls
