/-
  C07 - FORD's name tables (Scope.lean) against the chain of frames of the specification
  (ScopeSpec.lean).  Merged tables REPRESENT a chain of frames (`Rep`) when every lookup in them is
  the innermost-first search of the chain.  With copied host tables and local-over-host merging the
  tables of a unit are its frame in front of its host's (`unitTabs_repaired`), so representation is
  handed down the scope tree (`Rep.cons`) and `corr` computes the specification (`corr_repaired`).
-/
import FordModel.Scope
import FordModel.ScopeSpec
namespace Ford.Scope
open Ford

theorem tget_append (u d : Table) (k : Str) :
    tget (u ++ d) k = match tget u k with
      | some e => some e
      | none => tget d k := by
  induction u with
  | nil => simp [tget]
  | cons x xs ih =>
    obtain ⟨k', e⟩ := x
    by_cases h : k' = k <;> simp [tget, h, ih]

theorem tget_mem {L : Table} {n : Str} {e : Ent} (h : tget L n = some e) : (n, e) ∈ L := by
  induction L with
  | nil => cases h
  | cons x xs ih =>
    obtain ⟨k, v⟩ := x
    simp only [tget] at h
    split at h
    · cases h
      simp [*]
    · exact List.mem_cons_of_mem _ (ih h)

theorem tget_exists_of_mem {L : Table} {n : Str} {e : Ent} (h : (n, e) ∈ L) : ∃ e', tget L n = some e' := by
  induction L with
  | nil => cases h
  | cons x xs ih =>
    obtain ⟨k, v⟩ := x
    simp only [tget]
    split
    · exact ⟨v, rfl⟩
    · rename_i hk
      rcases List.mem_cons.1 h with h | h
      · cases h
        exact absurd rfl hk
      · exact ih h

theorem tget_append_comm (l h : Table) (hd : ∀ k ∈ l, tget h k.1 = none) (n : Str) :
    tget (h ++ l) n = tget (l ++ h) n := by
  simp only [tget_append]
  cases h1 : tget h n with
  | none => cases tget l n <;> rfl
  | some x =>
    cases h2 : tget l n with
    | none => rfl
    | some y => cases h1.symm.trans (hd _ (tget_mem h2))

def Same (x y : Table) : Prop := ∀ k, tget x k = tget y k

theorem Same.append {x y : Table} (u : Table) (h : Same x y) : Same (u ++ x) (u ++ y) := by
  intro k; simp [tget_append, h k]

theorem applyUses_append (env : ModEnv) (us : List Use) (x y z hp ha ht : Table) :
    applyUses env us ⟨x ++ hp, y ++ ha, z ++ ht⟩ =
      ⟨(applyUses env us ⟨x, y, z⟩).p ++ hp, (applyUses env us ⟨x, y, z⟩).a ++ ha,
       (applyUses env us ⟨x, y, z⟩).t ++ ht⟩ := by
  induction us generalizing x y z with
  | nil => rfl
  | cons u us ih =>
    simp only [applyUses]
    cases findMod env (lower u.mod) with
    | none => exact ih x y z
    | some ex =>
      simp only [← List.append_assoc]
      exact ih _ _ _

/-- USE imports go in front of all three tables alike, so they respect lookup equivalence -/
theorem applyUses_same (env : ModEnv) (us : List Use) {x x' y y' z z' : Table}
    (hx : Same x x') (hy : Same y y') (hz : Same z z') :
    Same (applyUses env us ⟨x, y, z⟩).p (applyUses env us ⟨x', y', z'⟩).p ∧
      Same (applyUses env us ⟨x, y, z⟩).a (applyUses env us ⟨x', y', z'⟩).a ∧
      Same (applyUses env us ⟨x, y, z⟩).t (applyUses env us ⟨x', y', z'⟩).t := by
  induction us generalizing x x' y y' z z' with
  | nil => exact ⟨hx, hy, hz⟩
  | cons u us ih =>
    simp only [applyUses]
    cases findMod env (lower u.mod) with
    | none => exact ih hx hy hz
    | some ex => exact ih (hx.append _) (hy.append _) (hz.append _)

/-- the merged tables of a unit answer like the innermost-first search of the chain -/
structure Rep (hostP a t : Table) (ch : List Frame) : Prop where
  p : ∀ n, tget hostP n = chainGet (·.p) ch n
  a : ∀ n, tget a n = chainGet (·.a) ch n
  t : ∀ n, tget t n = chainGet (·.t) ch n

theorem Rep.nil : Rep [] [] [] [] := ⟨fun _ => rfl, fun _ => rfl, fun _ => rfl⟩

theorem Rep.cons {hostP a t : Table} {ch : List Frame} (h : Rep hostP a t ch) (f : Frame) :
    Rep (f.p ++ hostP) (f.a ++ a) (f.t ++ t) (f :: ch) :=
  ⟨fun n => by rw [tget_append, h.p]; rfl, fun n => by rw [tget_append, h.a]; rfl,
   fun n => by rw [tget_append, h.t]; rfl⟩

/-- copied host tables, local over host: the tables of a unit are its frame in front of the host's -/
theorem unitTabs_repaired (env : ModEnv) (hostP a t : Table) (n : Str) (e : Ent) (f : Bool) (uses : List Use)
    (decls : List Decl) (slots : List Slot) (kids : Kids) :
    unitTabs repaired env hostP a t uses decls kids =
      ⟨(frameOf env (.mk n e f uses decls slots kids)).p ++ hostP,
       (frameOf env (.mk n e f uses decls slots kids)).a ++ a,
       (frameOf env (.mk n e f uses decls slots kids)).t ++ t⟩ :=
  applyUses_append env uses _ _ _ hostP a t

theorem chainGet_none (sel : Frame → Table) (ch : List Frame) (n : Str) (h : ∀ f ∈ ch, tget (sel f) n = none) :
    chainGet sel ch n = none := by
  induction ch with
  | nil => rfl
  | cons f r ih =>
    rw [chainGet, h f List.mem_cons_self]
    exact ih fun g hg => h g (List.mem_cons_of_mem _ hg)

theorem chainGetPA_none (ch : List Frame) (n : Str) (h : ∀ f ∈ ch, tget f.p n = none ∧ tget f.a n = none) :
    chainGetPA ch n = none := by
  induction ch with
  | nil => rfl
  | cons f r ih =>
    rw [chainGetPA, (h f List.mem_cons_self).1, (h f List.mem_cons_self).2]
    exact ih fun g hg => h g (List.mem_cons_of_mem _ hg)

/-- exclusion for procedure prototypes: no abstract interface of an inner frame
    has the name of a procedure of an outer frame -/
def paOK : List Frame → Str → Bool
  | [], _ => true
  | f :: r, n =>
    if (tget f.p n).isSome then true
    else if (tget f.a n).isSome then (chainGet (·.p) r n).isNone
    else paOK r n

theorem pa_lookup (ch : List Frame) (n : Str) (h : paOK ch n = true) :
    (match chainGet (·.p) ch n with
      | some e => some e
      | none => chainGet (·.a) ch n) = chainGetPA ch n := by
  induction ch with
  | nil => rfl
  | cons f r ih =>
    simp only [chainGet, chainGetPA]
    cases hp : tget f.p n with
    | some e => rfl
    | none =>
      rw [paOK, hp] at h
      cases ha : tget f.a n with
      | some e =>
        rw [ha] at h
        rw [Option.isNone_iff_eq_none.1 h]
      | none =>
        rw [ha] at h
        exact ih h

def slotsOK (ch : List Frame) : List Slot → Bool
  | [] => true
  | s :: ss => (if s.kind = .pa then paOK ch (lower s.name) else true) && slotsOK ch ss

theorem lookup_rep (tb : Tabs) (ch : List Frame) (h : Rep tb.p tb.a tb.t ch) (s : Slot)
    (hs : (if s.kind = .pa then paOK ch (lower s.name) else true) = true) :
    lookupSlot tb s = specLookup ch s := by
  unfold lookupSlot specLookup
  cases hk : s.kind with
  | ty => exact h.t _
  | pr => exact h.p _
  | pa =>
    rw [hk] at hs
    simp only [h.p, h.a]
    exact pa_lookup ch _ hs
  | bn => rfl
theorem resolvePhase_rep (ph : Phase) (tb : Tabs) (ch : List Frame) (h : Rep tb.p tb.a tb.t ch)
    (ss : List Slot) (hs : slotsOK ch ss = true) :
    resolvePhase ph tb ss = specPhase ph ch ss := by
  induction ss with
  | nil => rfl
  | cons s ss ih =>
    simp only [slotsOK, Bool.and_eq_true] at hs
    simp only [resolvePhase, specPhase, lookup_rep tb ch h s hs.1, ih hs.2]

mutual
/-- exclusion of the prototype shadowing class over a whole scope tree -/
def treeOK (env : ModEnv) (ch : List Frame) : Scope → Bool
  | .mk n e f uses decls slots kids =>
    slotsOK (frameOf env (.mk n e f uses decls slots kids) :: ch) slots &&
      kidsOK env (frameOf env (.mk n e f uses decls slots kids) :: ch) kids
def kidsOK (env : ModEnv) (ch : List Frame) : Kids → Bool
  | .nil => true
  | .cons s rest => treeOK env ch s && kidsOK env ch rest
end

theorem unitTabs_rep (env : ModEnv) (hostP a t : Table) (ch : List Frame) (h : Rep hostP a t ch)
    (n : Str) (e : Ent) (f : Bool) (uses : List Use) (decls : List Decl) (slots : List Slot) (kids : Kids) :
    Rep (unitTabs repaired env hostP a t uses decls kids).p (unitTabs repaired env hostP a t uses decls kids).a
      (unitTabs repaired env hostP a t uses decls kids).t
      (frameOf env (.mk n e f uses decls slots kids) :: ch) := by
  rw [unitTabs_repaired env hostP a t n e f uses decls slots kids]
  exact h.cons _

mutual
theorem corr_repaired (env : ModEnv) (s : Scope) (hostP a t : Table) (ch : List Frame)
    (h : Rep hostP a t ch) (ok : treeOK env ch s = true) :
    corr repaired env hostP a t s = (a, t, specScope env ch s) := by
  match s with
  | .mk n e f uses decls slots kids =>
    simp only [treeOK, Bool.and_eq_true] at ok
    have hr := h.cons (frameOf env (.mk n e f uses decls slots kids))
    -- `hr`: the unit's tables represent the chain extended by its frame; the nested scopes and the slots get them
    simp only [corr, specScope, unitTabs_repaired env hostP a t n e f uses decls slots kids,
      corrKids_repaired env kids _ _ _ _ _ hr ok.2, resolvePhase_rep _ ⟨_, _, _⟩ _ hr slots ok.1,
      show repaired.alias = false from rfl, Bool.false_eq_true, ↓reduceIte]

theorem corrKids_repaired (env : ModEnv) (ks : Kids) (hostP a t : Table) (ch : List Frame) (wf : Bool)
    (h : Rep hostP a t ch) (ok : kidsOK env ch ks = true) :
    corrKids repaired env hostP wf a t ks = (a, t, specKids env ch wf ks) := by
  match ks with
  | .nil => rfl
  | .cons (.mk n e f us ds ss kk) rest =>
    simp only [kidsOK, Bool.and_eq_true] at ok
    simp only [corrKids, specKids]
    split
    · simp only [corr_repaired env (.mk n e f us ds ss kk) hostP a t ch h ok.1,
        corrKids_repaired env rest hostP a t ch wf h ok.2]
    · exact corrKids_repaired env rest hostP a t ch wf h ok.2
end

mutual
/-- the scope and everything nested in it declares no derived type, no abstract
    interface and has no USE statement -/
def quiet : Scope → Bool
  | .mk _ _ _ uses decls _ kids =>
    uses.isEmpty && (declsOf .ty decls).isEmpty && (declsOf .ab decls).isEmpty && quietKids kids
def quietKids : Kids → Bool
  | .nil => true
  | .cons s rest => quiet s && quietKids rest
end

theorem corrKids_copy_tables (h : Bool) (env : ModEnv) (hostP : Table) (wf : Bool) (ks : Kids) (a t : Table) :
    (corrKids ⟨false, h⟩ env hostP wf a t ks).1 = a ∧ (corrKids ⟨false, h⟩ env hostP wf a t ks).2.1 = t := by
  match ks with
  | .nil => exact ⟨rfl, rfl⟩
  | .cons (.mk n e f us ds ss kk) rest =>
    simp only [corrKids]
    split
    · simp only [corrKids_copy_tables h env hostP wf rest]
      exact ⟨rfl, rfl⟩
    · exact corrKids_copy_tables h env hostP wf rest a t

theorem unitTabs_alias (al h : Bool) (env : ModEnv) (hostP a t : Table) (us : List Use) (ds : List Decl) (ks : Kids) :
    unitTabs ⟨al, h⟩ env hostP a t us ds ks = unitTabs ⟨false, h⟩ env hostP a t us ds ks := rfl

theorem unitTabs_quiet (v : Variant) (env : ModEnv) (hostP a t : Table) (us : List Use) (ds : List Decl) (ks : Kids)
    (hu : us.isEmpty = true) (ht : (declsOf .ty ds).isEmpty = true) (ha : (declsOf .ab ds).isEmpty = true) :
    (unitTabs v env hostP a t us ds ks).a = a ∧ (unitTabs v env hostP a t us ds ks).t = t := by
  simp only [List.isEmpty_iff] at hu ht ha
  simp only [unitTabs, hu, ht, ha, applyUses, List.nil_append, and_self]

mutual
theorem corr_quiet (h : Bool) (env : ModEnv) (s : Scope) (hostP a t : Table) (hq : quiet s = true) :
    corr ⟨true, h⟩ env hostP a t s = corr ⟨false, h⟩ env hostP a t s := by
  match s with
  | .mk n e f us ds ss ks =>
    simp only [quiet, Bool.and_eq_true] at hq
    obtain ⟨⟨⟨hu, ht⟩, ha⟩, hk⟩ := hq
    -- the nested scopes hand the shared tables back as they got them, and the unit added nothing
    simp only [corr, unitTabs_alias true h, corrKids_quiet h env ks _ _ _ _ hk, corrKids_copy_tables,
      unitTabs_quiet ⟨false, h⟩ env hostP a t us ds ks hu ht ha, ↓reduceIte, Bool.false_eq_true]

theorem corrKids_quiet (h : Bool) (env : ModEnv) (ks : Kids) (hostP a t : Table) (wf : Bool)
    (hq : quietKids ks = true) :
    corrKids ⟨true, h⟩ env hostP wf a t ks = corrKids ⟨false, h⟩ env hostP wf a t ks := by
  match ks with
  | .nil => rfl
  | .cons (.mk n e f us ds ss kk) rest =>
    simp only [quietKids, Bool.and_eq_true] at hq
    simp only [corrKids]
    split
    · rw [corr_quiet h env (.mk n e f us ds ss kk) hostP a t hq.1, corrKids_quiet h env rest hostP _ _ wf hq.2]
    · exact corrKids_quiet h env rest hostP a t wf hq.2
end

end Ford.Scope
