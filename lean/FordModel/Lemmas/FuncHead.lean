/-
  Lemmas about the model of the statement that opens a function (FordModel/FuncHead.lean).
-/
import FordModel.FuncHead
import FordModel.Lemmas.TypeHead
import FordModel.Lemmas.Entity
namespace Ford.FuncHead
open Ford Ford.TypeSpec Ford.TypeHead

/-- a match further to the right wins -/
theorem lastMatch_append_some (f : Str → Option Str) (a s : Str) (x : Str) (h : lastMatch f s = some x) :
    lastMatch f (a ++ s) = some x := by
  induction a with
  | nil => simpa using h
  | cons c cs ih => simp [lastMatch, ih]

/-- positions at which `X` cannot begin do not matter -/
theorem lastMatch_skip (f : Str → Option Str) (a s : Str) (ha : ∀ c ∈ a, ∀ t, f (c :: t) = none) :
    lastMatch f (a ++ s) = lastMatch f s := by
  induction a with
  | nil => rfl
  | cons c cs ih =>
    have ih' := ih (fun d hd => ha d (by simp [hd]))
    have hc := ha c (by simp)
    cases h : lastMatch f s with
    | none => simp [lastMatch, ih', h, hc]
    | some x => simp [lastMatch, ih', h]

/-- `X` matches where `c` stands, cannot begin at a character of `mid`, and is not found in `tl`:
    the last match is the one at `c` -/
theorem lastMatch_here (f : Str → Option Str) (pre : Str) (c : Char) (mid tl x : Str)
    (hat : f (c :: (mid ++ tl)) = some x) (hmid : ∀ d ∈ mid, ∀ t, f (d :: t) = none)
    (htl : lastMatch f tl = none) : lastMatch f (pre ++ c :: (mid ++ tl)) = some x := by
  apply lastMatch_append_some
  simp only [lastMatch, lastMatch_skip f mid tl hmid, htl, hat]

theorem lastMatch_none (f : Str → Option Str) (s : Str)
    (h : ∀ p q, s = p ++ q → f q = none) : lastMatch f s = none := by
  induction s with
  | nil => simpa [lastMatch] using h [] [] rfl
  | cons c cs ih =>
    have := ih (fun p q hpq => h (c :: p) q (by simp [hpq]))
    simp [lastMatch, this, h [] (c :: cs) rfl]

theorem resultAt_spelled (k w1 w2 r w3 rest : Str) (hk : lower k = (chars! "result")) (h1 : isBlank w1 = true)
    (h2 : isBlank w2 = true) (hr : ∀ c ∈ r, isWord c = true) (hne : r ≠ []) (h3 : isBlank w3 = true) :
    resultAt (k ++ (w1 ++ '(' :: (w2 ++ (r ++ (w3 ++ ')' :: rest))))) = some r := by
  obtain ⟨c, r', rfl⟩ := List.exists_cons_of_ne_nil hne
  simp only [resultAt, kwCI_of_lower _ k _ hk, skipWs_blank_cons w1 '(' _ h1 (by decide), List.cons_append,
    skipWs_blank_cons w2 c _ h2 (word_space (hr c (by simp)))]
  rw [← List.cons_append,
    spanWord_append (c :: r') (w3 ++ ')' :: rest) hr (blank_cons_head_not_word w3 ')' rest h3 (by decide))]
  simp [skipWs_blank_cons w3 ')' rest h3 (by decide)]

/-- the pattern needs an opening parenthesis -/
theorem resultAt_noparen (s : Str) (h : ∀ c ∈ s, c ≠ '(') : resultAt s = none := by
  unfold resultAt
  split
  · rfl
  · rename_i r hk
    split
    · rename_i r1 hs
      exact absurd rfl (h '(' (paren_after_kw hk hs))
    · rfl

theorem lastResult_noparen (s : Str) (h : ∀ c ∈ s, c ≠ '(') : lastMatch resultAt s = none :=
  lastMatch_none _ s fun p q hpq => resultAt_noparen q fun c hc => h c (hpq ▸ List.mem_append_right p hc)

/-- the pattern begins with the letter r -/
theorem resultAt_head (c : Char) (t : Str) (hc : lowerChar c ≠ 'r') : resultAt (c :: t) = none := by
  simp [resultAt, kwCI, hc]

theorem bindAt_noparen (s : Str) (h : ∀ c ∈ s, c ≠ '(') : bindAt s = none := by
  unfold bindAt
  split
  · rfl
  · rename_i r hk
    split
    · rename_i r1 hs
      exact absurd rfl (h '(' (paren_after_kw hk hs))
    · rfl

theorem lastBind_noparen (s : Str) (h : ∀ c ∈ s, c ≠ '(') : lastMatch bindAt s = none :=
  lastMatch_none _ s fun p q hpq => bindAt_noparen q fun c hc => h c (hpq ▸ List.mem_append_right p hc)

theorem bindAt_head (c : Char) (t : Str) (hc : lowerChar c ≠ 'b') : bindAt (c :: t) = none := by
  simp [bindAt, kwCI, hc]

/-- everything in front of the last `)` -/
theorem uptoLastClose_last (b w : Str) (hw : ∀ c ∈ w, c ≠ ')') : uptoLastClose (b ++ ')' :: w) = some b := by
  have hnone : uptoLastClose w = none := by
    induction w with
    | nil => rfl
    | cons a as ih =>
      have := ih (fun d hd => hw d (by simp [hd]))
      have ha : a ≠ ')' := hw a (by simp)
      simp [uptoLastClose, this, ha]
  induction b with
  | nil => simp [uptoLastClose, hnone]
  | cons a as ih => simp [uptoLastClose, ih]

theorem bindAt_spelled (k w1 w2 b w : Str) (hk : lower k = (chars! "bind")) (h1 : isBlank w1 = true)
    (h2 : isBlank w2 = true) (hb : ∀ c r, b = c :: r → isSpace c = false) (hw : ∀ c ∈ w, c ≠ ')') :
    bindAt (k ++ (w1 ++ '(' :: (w2 ++ (b ++ ')' :: w)))) = some b := by
  have hs2 : skipWs (w2 ++ (b ++ ')' :: w)) = b ++ ')' :: w := by
    cases b with
    | nil => exact skipWs_blank_cons _ _ _ h2 (by decide)
    | cons c r => exact skipWs_blank_cons _ _ _ h2 (hb c r rfl)
  simp only [bindAt, kwCI_of_lower _ k _ hk, skipWs_blank_cons w1 '(' _ h1 (by decide), hs2]
  exact uptoLastClose_last b w hw

theorem lower_mem_ne (k kw : Str) (x : Char) (hk : lower k = kw) (hx : ∀ c ∈ kw, c ≠ x) :
    ∀ c ∈ k, lowerChar c ≠ x := by
  intro c hc
  have : lowerChar c ∈ lower k := List.mem_map_of_mem hc
  rw [hk] at this
  exact hx _ this

theorem blank_lower_ne (w : Str) (x : Char) (hx : isAlpha x = true) (hw : isBlank w = true) :
    ∀ c ∈ w, lowerChar c ≠ x := by
  intro c hc
  have hs : isSpace c = true := by
    simp [isBlank] at hw; exact hw c hc
  exact lowerChar_ne_of_not_word c x hx (space_not_word hs)

/-- A pattern that begins with the letter `x` (either case) matches where the keyword `k` stands.  If no character
    between the keyword's first letter and `tl` lower-cases to `x`, and the pattern is not found in `tl`, that is the
    last match: what `.*` in front of the pattern finds. -/
theorem lastMatch_keyword (f : Str → Option Str) (x : Char) (hf : ∀ c t, lowerChar c ≠ x → f (c :: t) = none)
    (pre k kw mid tl g : Str) (hk : lower k = x :: kw) (hkw : ∀ c ∈ kw, c ≠ x)
    (hat : f (k ++ (mid ++ tl)) = some g) (hmid : ∀ c ∈ mid, lowerChar c ≠ x)
    (htl : lastMatch f tl = none) : lastMatch f (pre ++ (k ++ (mid ++ tl))) = some g := by
  cases k with
  | nil => simp [lower] at hk
  | cons c0 k' =>
    have hk' : lower k' = kw := (List.cons.inj hk).2
    have := lastMatch_here f pre c0 (k' ++ mid) tl g (by simpa using hat) ?_ htl
    · simpa using this
    · intro d hd t
      rcases List.mem_append.mp hd with hd | hd
      · exact hf d t (lower_mem_ne k' kw x hk' hkw d hd)
      · exact hf d t (hmid d hd)

end Ford.FuncHead
