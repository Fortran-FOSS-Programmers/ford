/-
  Lemmas for C02: the initial-value pipeline on a masked expression (code pieces and
  placeholders) puts every literal back whole.
-/
import FordModel.InitialValue
import FordModel.Lemmas.Show
namespace Ford.InitialValue
open Ford.Show

/-! ### `QUOTES_RE.search` skips text without quotes -/

def shift (k : Nat) : Option (Nat × Nat) → Option (Nat × Nat)
  | some (i, n) => some (i + k, n)
  | none => none

theorem searchQuote_cons (c : Char) (s : Str) (hc : isQuote c = false) :
    searchQuote (c :: s) = shift 1 (searchQuote s) := by
  cases h : searchQuote s with
  | none => simp [searchQuote, hc, h, shift]
  | some p => obtain ⟨i, n⟩ := p; simp [searchQuote, hc, h, shift]

/-- one character that is not a quote in front of the text is carried over unchanged: one iteration of the loop is
    unfolded on both sides, every index found by the search being one higher on the left -/
theorem reinsertGo_cons (nb dbl : Bool) (strings : List Str) (c : Char) (hc : isQuote c = false)
    (fuel : Nat) (s : Str) :
    reinsertGo nb dbl strings fuel (c :: s) =
      (match reinsertGo nb dbl strings fuel s with
        | .ok r => .ok (c :: r)
        | .error e => .error e) := by
  cases fuel with
  | zero => simp [reinsertGo]
  | succ fuel =>
    simp only [reinsertGo, searchQuote_cons c s hc]
    cases h : searchQuote s with
    | none => simp [shift]
    | some p =>
      obtain ⟨i, n⟩ := p
      simp only [shift, List.drop_succ_cons, List.take_succ_cons]
      cases parseNat? (List.take (n - 2) (List.drop (i + 1) s)) with
      | none => rfl
      | some num =>
        simp only
        cases strings[num]? with
        | none => rfl
        | some lit =>
          simp only
          cases tmplExpand (if dbl = true then doubleBs (if nb = true then nbsp lit else lit)
              else if nb = true then nbsp lit else lit) with
          | error e => rfl
          | ok e =>
            simp only [List.cons_append, searchQuote_cons c _ hc]
            have e1 : i + 1 + n = (i + n) + 1 := by omega
            rw [e1, List.drop_succ_cons]
            cases searchQuote (List.take i s ++ e ++ List.drop (i + n) s) with
            | none => rfl
            | some p2 =>
              obtain ⟨j, m⟩ := p2
              simp only [shift]
              have e2 : j + 1 + m = (j + m) + 1 := by omega
              rw [e2, List.drop_succ_cons, List.take_succ_cons]
              cases reinsertGo nb dbl strings fuel
                  (List.drop (j + m) (List.take i s ++ e ++ List.drop (i + n) s)) with
              | error e => rfl
              | ok t => rfl

/-- ... and so is any run of such characters -/
theorem reinsertGo_code_prefix (nb dbl : Bool) (strings : List Str) (t : Str)
    (ht : ∀ c ∈ t, isQuote c = false) (fuel : Nat) (s : Str) :
    reinsertGo nb dbl strings fuel (t ++ s) =
      (match reinsertGo nb dbl strings fuel s with
        | .ok r => .ok (t ++ r)
        | .error e => .error e) := by
  induction t with
  | nil =>
    simp only [List.nil_append]
    cases reinsertGo nb dbl strings fuel s <;> rfl
  | cons c cs ih =>
    have hc := ht c (by simp)
    have hcs : ∀ c' ∈ cs, isQuote c' = false := fun c' h => ht c' (by simp [h])
    rw [List.cons_append, reinsertGo_cons nb dbl strings c hc, ih hcs]
    cases reinsertGo nb dbl strings fuel s <;> rfl

/-! ### placeholders and literals are found whole -/

theorem litTail_noquote (q : Char) (ds : Str) (h : ∀ c ∈ ds, c ≠ q) : litTail q (ds ++ [q]) = true := by
  induction ds with
  | nil => simp [litTail]
  | cons c cs ih =>
    have hc : (c == q) = false := by simpa using h c (by simp)
    have hcs : ∀ c' ∈ cs, c' ≠ q := fun c' h' => h c' (by simp [h'])
    cases cs with
    | nil => simp [litTail, hc]
    | cons d r => simpa [litTail, hc] using ih hcs

/-- `QUOTES_RE.search` at a placeholder `"ds"` (digits) that is not followed by `"` -/
theorem searchQuote_placeholder (ds rest : Str) (hd : ∀ c ∈ ds, c ≠ '"') (hr : rest.head? ≠ some '"') :
    searchQuote ('"' :: ds ++ '"' :: rest) = some (0, ds.length + 2) := by
  have h := litEnd_of_litTail '"' (ds ++ ['"']) rest (litTail_noquote '"' ds hd) hr
  have e : ds ++ '"' :: rest = (ds ++ ['"']) ++ rest := by simp
  simp only [List.cons_append, searchQuote, isQuote, beq_self_eq_true, Bool.or_true, ↓reduceIte, e, h]
  simp

/-- a well-formed literal (any contents), NBSPs substituted, not followed by its own quote -/
theorem searchQuote_literal (q : Char) (hq : isQuote q = true) (body rest : Str)
    (hb : litTail q body = true) (hr : rest.head? ≠ some q) :
    searchQuote (q :: nbsp body ++ rest) = some (0, body.length + 1) := by
  have h1 := litTail_nbspGo q hq body false hb
  have h2 := litEnd_of_litTail q (nbsp body) rest h1 hr
  simp only [nbsp] at h2 ⊢
  simp [searchQuote, hq, h2, nbspGo_length]

theorem nbsp_cons (q : Char) (body : Str) (hq : q ≠ ' ') (hb : body ≠ []) :
    nbsp (q :: body) = q :: nbsp body := by
  cases body with
  | nil => exact absurd rfl hb
  | cons d r => simp [nbsp, nbspGo, hq]

/-! ### masked expressions: code pieces and placeholders -/

/-- a masked initial-value expression is a sequence of code pieces and placeholders `"ds"` -/
inductive Piece where
  | code (t : Str)
  | ph (ds : Str)
  deriving Repr

def Piece.masked : Piece → Str
  | .code t => t
  | .ph ds => '"' :: ds ++ ['"']

/-- the text FORD parses -/
def maskedText : List Piece → Str
  | [] => []
  | p :: r => p.masked ++ maskedText r

/-- the literal a placeholder stands for -/
def litOf (strings : List Str) (ds : Str) : Str :=
  match parseNat? ds with
  | some k => (strings[k]?).getD []
  | none => []

/-- the expression with every placeholder replaced by its literal (NBSPs substituted), code
    pieces untouched -/
def restoredText (strings : List Str) : List Piece → Str
  | [] => []
  | .code t :: r => t ++ restoredText strings r
  | .ph ds :: r => nbsp (litOf strings ds) ++ restoredText strings r

/-- what may follow a placeholder: the end, or a non-empty code piece (two literals are never
    adjacent in a Fortran expression) -/
def startsClean : List Piece → Prop
  | [] => True
  | .code (_ :: _) :: _ => True
  | _ => False

/-- code pieces contain no quote; placeholders are numbers of well-formed literals -/
def WellMasked (strings : List Str) : List Piece → Prop
  | [] => True
  | .code t :: r => (∀ c ∈ t, isQuote c = false) ∧ WellMasked strings r
  | .ph ds :: r =>
    (∃ k q body, parseNat? ds = some k ∧ strings[k]? = some (q :: body) ∧ isQuote q = true ∧
      litTail q body = true) ∧ startsClean r ∧ WellMasked strings r

/-- the fuel `reinsertGo` needs: one iteration per placeholder (`countPh_le`: `reinsert` supplies enough) -/
def countPh : List Piece → Nat
  | [] => 0
  | .code _ :: r => countPh r
  | .ph _ :: r => countPh r + 1

theorem head_maskedText (strings : List Str) (r : List Piece) (q : Char) (hq : isQuote q = true)
    (hs : startsClean r) (hw : WellMasked strings r) : (maskedText r).head? ≠ some q := by
  cases r with
  | nil => simp [maskedText]
  | cons p r' =>
    cases p with
    | ph ds => simp [startsClean] at hs
    | code t =>
      cases t with
      | nil => simp [startsClean] at hs
      | cons c cs =>
        have := hw.1 c (by simp)
        simp only [maskedText, Piece.masked, List.cons_append, List.head?_cons]
        intro h
        have : c = q := by simpa using h
        subst this
        simp_all

/-- `int()` accepts digits only -/
theorem parseNat?_isDigit (ds : Str) (k : Nat) (h : parseNat? ds = some k) : ∀ c ∈ ds, isDigit c = true := by
  unfold parseNat? at h
  split at h
  · simp at h
  · rename_i hcond
    simp only [Bool.or_eq_true, Bool.not_eq_true', not_or, Bool.not_eq_false] at hcond
    exact List.all_eq_true.mp hcond.2

theorem parseNat?_noquote (ds : Str) (k : Nat) (h : parseNat? ds = some k) : ∀ c ∈ ds, c ≠ '"' := by
  rintro c hc rfl
  exact absurd (parseNat?_isDigit ds k h _ hc) (by decide)

theorem litTail_ne_nil (q : Char) (body : Str) (h : litTail q body = true) : body ≠ [] := by
  intro e; subst e; simp [litTail] at h

/-- one iteration of the loop at a placeholder: the search finds the placeholder at 0, the literal is put in, and
    the second search finds that literal whole at 0, so the loop goes on behind it -/
theorem reinsertGo_placeholder (strings : List Str) (ds : Str) (k : Nat) (q : Char) (body rest : Str)
    (fuel : Nat) (hk : parseNat? ds = some k) (hs : strings[k]? = some (q :: body))
    (hq : isQuote q = true) (hb : litTail q body = true)
    (h1 : rest.head? ≠ some '"') (h2 : rest.head? ≠ some q) :
    reinsertGo true true strings (fuel + 1) ('"' :: (ds ++ '"' :: rest)) =
      match reinsertGo true true strings fuel rest with
      | .ok t => .ok (nbsp (q :: body) ++ t)
      | .error e => .error e := by
  have hsp : q ≠ ' ' := by rintro rfl; simp [isQuote] at hq
  have hsq := searchQuote_placeholder ds rest (parseNat?_noquote ds k hk) h1
  have hsl := searchQuote_literal q hq body rest hb h2
  have hlen : (nbsp body).length = body.length := by simp [nbsp, nbspGo_length]
  simp only [List.cons_append] at hsq
  simp only [reinsertGo, hsq, Nat.zero_add, List.drop_succ_cons, List.drop_zero, Nat.add_sub_cancel,
    List.take_left', hk, hs, if_true, tmplExpand_doubleBs, List.take_zero, List.nil_append]
  rw [show List.drop (ds.length + 1) (ds ++ '"' :: rest) = rest by simp, nbsp_cons q body hsp (litTail_ne_nil q body hb)]
  simp only [List.cons_append] at hsl
  simp only [List.cons_append, hsl, Nat.zero_add]
  simp only [← hlen, List.drop_succ_cons, List.take_succ_cons, List.drop_left, List.take_left]
  rfl

/-- **the re-insertion loop puts every literal back whole** - whatever the literals contain -/
theorem reinsertGo_pieces (strings : List Str) (ps : List Piece) :
    ∀ fuel, WellMasked strings ps → countPh ps < fuel →
      reinsertGo true true strings fuel (maskedText ps) = .ok (restoredText strings ps) := by
  induction ps with
  | nil =>
    intro fuel _ hf
    cases fuel with
    | zero => omega
    | succ f => simp [reinsertGo, maskedText, searchQuote, restoredText]
  | cons p r ih =>
    intro fuel hw hf
    cases p with
    | code t =>
      simp only [maskedText, Piece.masked, restoredText]
      rw [reinsertGo_code_prefix true true strings t hw.1, ih fuel hw.2 (by simpa [countPh] using hf)]
    | ph ds =>
      obtain ⟨⟨k, q, body, hk, hs, hq, hb⟩, hc, hw'⟩ := hw
      cases fuel with
      | zero => omega
      | succ f =>
        simp only [maskedText, Piece.masked, restoredText, litOf, hk, hs, Option.getD_some, List.append_assoc, List.cons_append,
          List.nil_append]
        rw [reinsertGo_placeholder strings ds k q body _ f hk hs hq hb
            (head_maskedText strings r '"' (by decide) hc hw') (head_maskedText strings r q hq hc hw'),
          ih f hw' (by simp only [countPh] at hf; omega)]

theorem countPh_le (ps : List Piece) : countPh ps ≤ (maskedText ps).length := by
  induction ps with
  | nil => simp [countPh]
  | cons p r ih =>
    cases p with
    | code t => simp only [countPh, maskedText, Piece.masked, List.length_append]; omega
    | ph ds => simp only [countPh, maskedText, Piece.masked, List.length_append, List.length_cons]; omega

theorem reinsert_pieces (strings : List Str) (ps : List Piece) (hw : WellMasked strings ps) :
    reinsert true true strings (maskedText ps) = .ok (restoredText strings ps) :=
  reinsertGo_pieces strings ps _ hw (by have := countPh_le ps; omega)

/-! ### the comma tidy-up on the masked text touches code pieces only -/

theorem commaSpace_cons_ne (c : Char) (s : Str) (h : c ≠ ',') : commaSpace (c :: s) = c :: commaSpace s := by
  cases s with
  | nil => simp [commaSpace, h]
  | cons d r => simp [commaSpace, h]

/-- `COMMA_RE.sub` works piece by piece as long as the next piece does not start with white space -/
theorem commaSpace_append (t rest : Str) (h : ∀ c, rest.head? = some c → isSpace c = false) :
    commaSpace (t ++ rest) = commaSpace t ++ commaSpace rest := by
  induction t with
  | nil => simp [commaSpace]
  | cons c cs ih =>
    cases cs with
    | nil =>
      cases rest with
      | nil => simp [commaSpace]
      | cons d r =>
        have hd := h d (by simp)
        by_cases hc : c = ','
        · subst hc; simp [commaSpace, hd]
        · simp [commaSpace, hc]
    | cons d r =>
      have e : c :: d :: r ++ rest = c :: d :: (r ++ rest) := by simp
      rw [e]
      simp only [commaSpace]
      have ih' : commaSpace (d :: (r ++ rest)) = commaSpace (d :: r) ++ commaSpace rest := by
        simpa using ih
      rw [ih']
      split <;> simp

theorem mem_commaSpace (s : Str) : ∀ c ∈ commaSpace s, c ∈ s ∨ c = ' ' := by
  fun_induction commaSpace s
  · simp
  · intro x hx; simp at hx; rcases hx with hx | hx <;> simp_all
  · intro x hx; simp at hx; simp [hx]
  · rename_i c d r _ ih
    intro x hx
    simp only [List.mem_cons] at hx
    rcases hx with hx | hx | hx
    · simp_all
    · simp [hx]
    · rcases ih x hx with h | h
      · left; simp only [List.mem_cons] at h ⊢; exact Or.inr h
      · exact Or.inr h
  · rename_i c d r _ ih
    intro x hx
    simp only [List.mem_cons] at hx
    rcases hx with hx | hx
    · simp [hx]
    · rcases ih x hx with h | h
      · left; simp only [List.mem_cons] at h ⊢; exact Or.inr h
      · exact Or.inr h

def Piece.tidy : Piece → Piece
  | .code t => .code (commaSpace t)
  | .ph ds => .ph ds

/-- the masked text as `line_to_variables` sees it: blanks were removed from the declaration -/
def NoBlank : List Piece → Prop
  | [] => True
  | .code t :: r => (∀ c ∈ t, isSpace c = false) ∧ NoBlank r
  | .ph _ :: r => NoBlank r

theorem head_maskedText_nospace (ps : List Piece) (hn : NoBlank ps) :
    ∀ c, (maskedText ps).head? = some c → isSpace c = false := by
  induction ps with
  | nil => simp [maskedText]
  | cons p r ih =>
    cases p with
    | ph ds => intro c hc; simp [maskedText, Piece.masked] at hc; subst hc; decide
    | code t =>
      cases t with
      | nil => simpa [maskedText, Piece.masked] using ih hn.2
      | cons x xs =>
        intro c hc
        simp [maskedText, Piece.masked] at hc
        subst hc
        exact hn.1 x (by simp)

theorem commaSpace_placeholder (ds rest : Str) (hd : ∀ c ∈ ds, c ≠ ',') :
    commaSpace ('"' :: ds ++ '"' :: rest) = '"' :: ds ++ '"' :: commaSpace rest := by
  have hq : '"' ≠ ',' := by decide
  rw [List.cons_append, commaSpace_cons_ne _ _ hq]
  congr 1
  induction ds with
  | nil => simp [commaSpace_cons_ne _ _ hq]
  | cons c cs ih =>
    rw [List.cons_append, commaSpace_cons_ne _ _ (hd c (by simp)), ih (fun c' h => hd c' (by simp [h]))]
    rfl

theorem parseNat?_nocomma (ds : Str) (k : Nat) (h : parseNat? ds = some k) : ∀ c ∈ ds, c ≠ ',' := by
  rintro c hc rfl
  exact absurd (parseNat?_isDigit ds k h _ hc) (by decide)

theorem commaSpace_maskedText (strings : List Str) (ps : List Piece) (hw : WellMasked strings ps)
    (hn : NoBlank ps) : commaSpace (maskedText ps) = maskedText (ps.map Piece.tidy) := by
  induction ps with
  | nil => simp [maskedText, commaSpace]
  | cons p r ih =>
    cases p with
    | code t =>
      simp only [maskedText, Piece.masked, List.map_cons, Piece.tidy]
      rw [commaSpace_append t _ (head_maskedText_nospace r hn.2), ih hw.2 hn.2]
    | ph ds =>
      obtain ⟨⟨k, q, body, hk, _⟩, _, hw'⟩ := hw
      simp only [maskedText, Piece.masked, List.map_cons, Piece.tidy, List.cons_append, List.append_assoc,
        List.nil_append]
      have := commaSpace_placeholder ds (maskedText r) (parseNat?_nocomma ds k hk)
      simp only [List.cons_append] at this
      rw [this, ih hw' hn]

theorem wellMasked_tidy (strings : List Str) (ps : List Piece) (hw : WellMasked strings ps) :
    WellMasked strings (ps.map Piece.tidy) := by
  induction ps with
  | nil => simp [WellMasked]
  | cons p r ih =>
    cases p with
    | code t =>
      refine ⟨?_, ih hw.2⟩
      intro c hc
      rcases mem_commaSpace t c hc with h | h
      · exact hw.1 c h
      · subst h; decide
    | ph ds =>
      obtain ⟨h1, hc, hw'⟩ := hw
      refine ⟨h1, ?_, ih hw'⟩
      cases r with
      | nil => simp [startsClean]
      | cons p' r' =>
        cases p' with
        | ph _ => simp [startsClean] at hc
        | code t =>
          cases t with
          | nil => simp [startsClean] at hc
          | cons x xs =>
            cases xs with
            | nil => simp only [List.map_cons, Piece.tidy, commaSpace]; split <;> simp [startsClean]
            | cons y ys => simp only [List.map_cons, Piece.tidy, commaSpace]; split <;> simp [startsClean]

end Ford.InitialValue
