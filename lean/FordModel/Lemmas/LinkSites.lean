/-
  Lemmas for C11: the lookup does not depend on the classes of the entities (`reclass`).
-/
import FordModel.Lemmas.Links
namespace Ford.Links

theorem reclass_get (f : List Anc → List Anc) (P : Project) (id : Nat) :
    (reclass f P).get id = (P.get id).map (reclassEnt f) := by
  simp [reclass, Project.get]

theorem reclass_coll (f : List Anc → List Anc) (P : Project) (a : String) :
    (reclass f P).coll a = P.coll a := rfl

theorem reclass_nameMatches (f : List Anc → List Anc) (P : Project) (n : Str) (id : Nat) :
    nameMatches (reclass f P) n id = nameMatches P n id := by
  unfold nameMatches
  rw [reclass_get]
  cases P.get id <;> simp [reclassEnt]

theorem reclass_findInList (f : List Anc → List Anc) (P : Project) (n : Str) (l : List Item) :
    findInList (reclass f P) n l = findInList P n l := by
  induction l with
  | nil => rfl
  | cons x xs ih =>
    cases x with
    | other => simpa [findInList] using ih
    | ent id => simp only [findInList, reclass_nameMatches, ih]

theorem reclass_findChild (f : List Anc → List Anc) (P : Project) (e : Ent) (n : Str) (k : Option Str) :
    findChild (reclass f P) (reclassEnt f e) n k = findChild P e n k := by
  -- the attributes, hence the list the kind designates, are those of `e`
  rw [findChild_eq, findChild_eq, reclass_findInList]
  rfl

theorem reclass_projectColl (f : List Anc → List Anc) (P : Project) (k : Option Str) :
    projectColl (reclass f P) k = projectColl P k := by
  cases k <;> simp [projectColl, reclass_coll]

theorem reclass_projectFind (f : List Anc → List Anc) (P : Project) (n : Str) (k c ck : Option Str) :
    projectFind (reclass f P) n k c ck = projectFind P n k c ck := by
  unfold projectFind
  rw [reclass_projectColl]
  cases projectColl P k with
  | error e => rfl
  | ok coll =>
    simp only [reclass_findInList]
    cases hfi : findInList P n coll with
    | none => rfl
    | some id =>
      cases c with
      | none => rfl
      | some ch =>
        simp only [reclass_get]
        cases P.get id with
        | none => rfl
        | some e => simp [reclass_findChild]

theorem reclass_bind_get (f : List Anc → List Anc) (P : Project) (o : Option Nat) :
    o.bind (reclass f P).get = (o.bind P.get).map (reclassEnt f) := by
  cases o <;> simp [reclass_get]

theorem reclass_localLookup (f : List Anc → List Anc) (P : Project) (c : Ent) (r : Ref) :
    localLookup (reclass f P) (reclassEnt f c) r = localLookup P c r := by
  unfold localLookup
  have hp : (reclassEnt f c).parent = c.parent := rfl
  simp only [reclass_findChild, reclass_bind_get, hp]
  cases suppressVE (findChild P c r.name r.kind) with
  | error e => rfl
  | ok i1 =>
    cases i1 with
    | some x =>
      cases c.parent.bind P.get <;> cases r.child <;> cases hx : P.get x <;>
        simp [hx, reclass_findChild]
    | none =>
      cases c.parent.bind P.get with
      | none => cases r.child <;> simp
      | some p =>
        simp only [Option.map_some, reclass_findChild]
        cases suppressVE (findChild P p r.name r.kind) with
        | error e => rfl
        | ok i2 =>
          cases i2 with
          | none => cases r.child <;> simp
          | some j => cases r.child <;> cases hj : P.get j <;> simp [hj, reclass_findChild]

end Ford.Links
