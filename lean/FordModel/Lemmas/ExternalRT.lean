/-
  Round trip lemmas: importing what was exported gives the specified objects.
-/
import FordModel.ExternalSpec
import FordModel.Lemmas.External
namespace Ford.Ext
open Ford

theorem exportAttrs_eq_map (attrs : List (Str × Attr)) :
    exportAttrs attrs = attrs.map (fun kv => (kv.1, exportAttr kv.2)) := by
  induction attrs with
  | nil => rfl
  | cons x r ih => simp only [exportAttrs, List.map_cons, ih]

theorem importPairs_eq_map (b : Base) (p : Option Json) (kvs : List (Str × Json)) :
    importPairs b p kvs = kvs.map (fun kv => (kv.1, importAttr b p kv.2)) := by
  induction kvs with
  | nil => rfl
  | cons x r ih => simp only [importPairs, List.map_cons, ih]

theorem specAttrs_eq_map (b : Base) (p : Option Json) (attrs : List (Str × Attr)) :
    specAttrs b p attrs = attrs.map (fun kv => (kv.1, specAttr b p kv.2)) := by
  induction attrs with
  | nil => rfl
  | cons x r ih => simp only [specAttrs, List.map_cons, ih]

theorem specList_eq (b : Base) (q : Option Json) (xs : List Ent) :
    specList b q xs = (xs.filter keep).map (specE b q) := by
  induction xs with
  | nil => rfl
  | cons y r ih => cases hy : keep y <;> simp only [specList, List.filter_cons, hy, ih] <;> rfl

theorem specDict_eq (b : Base) (q : Option Json) (kvs : List (Str × Ent)) :
    specDict b q kvs = (kvs.filter (fun kv => keep kv.2)).map (fun kv => (kv.1, specE b q kv.2)) := by
  induction kvs with
  | nil => rfl
  | cons y r ih => cases hy : keep y.2 <;> simp only [specDict, List.filter_cons, hy, ih] <;> rfl

theorem lookup_specAttrs (b : Base) (q : Option Json) (attrs : List (Str × Attr)) (k : Str) :
    (specAttrs b q attrs).lookup k = (attrs.lookup k).map (specAttr b q) := by
  rw [specAttrs_eq_map, lookup_map_snd]

theorem hdr_keys_not_attrs : ∀ a ∈ Gen.attributes,
    (a == kName) = false ∧ (a == kUrl) = false ∧ (a == kObj) = false ∧ (a == kProctype) = false := by
  decide +kernel

theorem kProctype_not_attr : kProctype ∉ Gen.attributes :=
  fun h => by simpa using (hdr_keys_not_attrs _ h).2.2.2

theorem header_lookup_attr (name : Str) (url : Option Str) (obj : Str) (pt : Option Str) (a : Str)
    (ha : a ∈ Gen.attributes) : (header name url obj pt).lookup a = none := by
  obtain ⟨h1, h2, h3, h4⟩ := hdr_keys_not_attrs a ha
  cases pt <;> simp only [header, List.cons_append, List.nil_append, List.lookup, h1, h2, h3, h4]

/-- The four fixed keys are found in the header, whatever follows it (the four keys are distinct: the
    look-ups are evaluated). -/
theorem header_lookups (name : Str) (url : Option Str) (obj : Str) (pt : Option Str)
    (rest : List (Str × Json)) (h : rest.lookup kProctype = none) :
    (header name url obj pt ++ rest).lookup kName = some (.str name) ∧
    (header name url obj pt ++ rest).lookup kUrl = some (.str ('.' :: '/' :: urlText url)) ∧
    (header name url obj pt ++ rest).lookup kObj = some (.str obj) ∧
    (header name url obj pt ++ rest).lookup kProctype = pt.map Json.str := by
  refine ⟨rfl, rfl, rfl, ?_⟩
  cases pt with
  | none => exact h
  | some p => rfl

theorem lookup_kProctype_orderByTable {α : Type} (xs : List (Str × α)) :
    (orderByTable Gen.attributes xs).lookup kProctype = none := by
  rw [lookup_orderByTable, if_neg kProctype_not_attr]

/-- `dump_modules` writes the metadata entry, so the loader takes the `modules` entry of the document -/
theorem importDoc_dumpModules (b : Base) (version : Str) (mods : List Ent) :
    importDoc b (dumpModules version mods) = importTop b (exportList mods) := rfl

theorem docModules_dumpModules (version : Str) (mods : List Ent) :
    docModules (dumpModules version mods) = exportList mods := rfl

theorem truthy_export (e : Ent) : truthy (exportE e) = keep e := by
  cases e with
  | ext => rfl
  | text s => rfl
  | node name url obj pt attrs => rfl

theorem attrs_roundtrip (b : Base) (q : Option Json) (hdr : List (Str × Json)) (attrs : List (Str × Attr))
    (hh : ∀ a ∈ Gen.attributes, hdr.lookup a = none)
    (hattrs : importPairs b q (exportAttrs attrs)
                = (specAttrs b q attrs).map (fun kv => (kv.1, (Except.ok kv.2 : Except XErr XAttr)))) :
    sequencePairs (orderByTable Gen.attributes
        (importPairs b q (hdr ++ orderByTable Gen.attributes (exportAttrs attrs))))
      = .ok (orderByTable Gen.attributes (specAttrs b q attrs)) := by
  rw [importPairs_eq_map, List.map_append, ← orderByTable_map_snd,
    orderByTable_append_orderByTable, ← importPairs_eq_map, hattrs, orderByTable_map_snd,
    sequencePairs_ok]
  intro a ha
  rw [lookup_map_snd, hh a ha]
  rfl

theorem dict2obj_export_node (b : Base) (p : Option Json) (name : Str) (url : Option Str) (obj : Str)
    (pt : Option Str) (attrs : List (Str × Attr))
    (hv1 : (Gen.entities.lookup (kindOf obj pt)).isSome = true)
    (hv2 : (kindOf obj pt != kInterface || pt.isSome) = true)
    (hattrs : importPairs b (some (.str name)) (exportAttrs attrs)
                = (specAttrs b (some (.str name)) attrs).map
                    (fun kv => (kv.1, (Except.ok kv.2 : Except XErr XAttr)))) :
    dict2obj b p (exportE (.node name url obj pt attrs)) = .ok (specE b p (.node name url obj pt attrs)) := by
  obtain ⟨ent, hent⟩ := Option.isSome_iff_exists.mp hv1
  obtain ⟨hname, hurl, hobj, hpt⟩ :=
    header_lookups name url obj pt _ (lookup_kProctype_orderByTable (exportAttrs attrs))
  have hstrip : afterFirstSlash ('.' :: '/' :: urlText url) = urlText url := rfl
  have hlow : lowerJson ((pt.map Json.str).getD (.str obj)) = .ok (kindOf obj pt) := by
    cases pt <;> rfl
  simp only [exportE, dict2obj, hname, attrs_roundtrip b _ _ attrs (header_lookup_attr name url obj pt) hattrs, buildNode,
    hurl, hobj, hpt, truthy, hstrip, hlow, hent, specE]
  -- what is left is the `proctype` an interface carries
  cases hi : kindOf obj pt == kInterface with
  | false => rfl
  | true =>
    cases pt with
    | none => simp [bne, hi] at hv2
    | some pv => rfl

/- `rt_attrs` gives the pairs as `(k, .ok v)` so that `attrs_roundtrip` can push `orderByTable` through the map and
   finish with `sequencePairs_ok`. -/
mutual
theorem rt_ent (b : Base) : ∀ (e : Ent), validE e = true → ∀ p, keep e = true →
    dict2obj b p (exportE e) = .ok (specE b p e)
  | .ext, _, _, h => nomatch h
  | .text s, _, _, _ => rfl
  | .node name url obj pt attrs, hv, p, _ => by
    simp only [validE, Bool.and_eq_true] at hv
    exact dict2obj_export_node b p name url obj pt attrs hv.1.1 hv.1.2
      (rt_attrs b attrs hv.2 (some (.str name)))
theorem rt_attrs (b : Base) : ∀ (attrs : List (Str × Attr)), validAttrs attrs = true → ∀ q,
    importPairs b q (exportAttrs attrs)
      = (specAttrs b q attrs).map (fun kv => (kv.1, (Except.ok kv.2 : Except XErr XAttr)))
  | [], _, _ => rfl
  | (k, a) :: r, hv, q => by
    simp only [validAttrs, Bool.and_eq_true] at hv
    simp only [exportAttrs, importPairs, specAttrs, List.map_cons, rt_attr b a hv.1 q, rt_attrs b r hv.2 q]
theorem rt_attr (b : Base) : ∀ (a : Attr), validAttr a = true → ∀ q,
    importAttr b q (exportAttr a) = .ok (specAttr b q a)
  | .list xs, hv, q => by simp only [exportAttr, importAttr, specAttr, rt_list b xs hv q]
  | .dict kvs, hv, q => by simp only [exportAttr, importAttr, specAttr, rt_dict b kvs hv q]
  | .scalar s, _, _ => rfl
theorem rt_list (b : Base) : ∀ (xs : List Ent), validList xs = true → ∀ q,
    importList b q (exportList xs) = .ok (specList b q xs)
  | [], _, _ => rfl
  | e :: r, hv, q => by
    simp only [validList, Bool.and_eq_true] at hv
    simp only [exportList, importList, specList, truthy_export, rt_list b r hv.2 q]
    cases hk : keep e with
    | false => rfl
    | true => simp only [rt_ent b e hv.1 q hk, if_true]
theorem rt_dict (b : Base) : ∀ (kvs : List (Str × Ent)), validDict kvs = true → ∀ q,
    importDict b q (exportDict kvs) = .ok (specDict b q kvs)
  | [], _, _ => rfl
  | (k, e) :: r, hv, q => by
    simp only [validDict, Bool.and_eq_true] at hv
    simp only [exportDict, importDict, specDict, truthy_export, rt_dict b r hv.2 q]
    cases hk : keep e with
    | false => rfl
    | true => simp only [rt_ent b e hv.1 q hk, if_true]
end

end Ford.Ext
