/-
  C09 — `normpath`, `relpath` and `resolve` on normal paths.

  `norm` is a left fold of `normStep` over a stack; everything here follows from what that fold
  does on a normal path (pushes it) and on a run of `..` (pops).  The central fact is
  `foldl_relpath`; the `resolve_*` lemmas below it are what the other files use.
-/
import FordModel.Path
namespace Ford.Path

theorem normal_cons_iff {x : Seg} {xs : List Seg} : Normal (x :: xs) ↔ NormalSeg x ∧ Normal xs :=
  List.forall_mem_cons

theorem normal_cons {x : Seg} {xs : List Seg} (h : Normal (x :: xs)) : NormalSeg x ∧ Normal xs :=
  normal_cons_iff.1 h

theorem normal_singleton {d : Seg} (hd : NormalSeg d) : Normal [d] :=
  normal_cons_iff.2 ⟨hd, fun _ h => by cases h⟩

theorem normal_append {a b : List Seg} (ha : Normal a) (hb : Normal b) : Normal (a ++ b) :=
  List.forall_mem_append.2 ⟨ha, hb⟩

theorem normal_of_append_left {a b : List Seg} (h : Normal (a ++ b)) : Normal a :=
  (List.forall_mem_append.1 h).1

theorem normal_of_append_right {a b : List Seg} (h : Normal (a ++ b)) : Normal b :=
  (List.forall_mem_append.1 h).2

theorem normal_dropLast {p : List Seg} (h : Normal p) : Normal (dirOf p) :=
  fun s hs => h s (List.dropLast_subset p hs)

theorem normStep_normal (st : List Seg) (s : Seg) (h : NormalSeg s) : normStep st s = s :: st := by
  obtain ⟨h1, h2, h3⟩ := h
  simp [normStep, h1, h2, h3]

theorem normStep_up (st : List Seg) : normStep st up = st.tail := by
  simp [normStep, up, cur]

theorem foldl_normal (a : List Seg) (st : List Seg) (h : Normal a) :
    a.foldl normStep st = a.reverse ++ st := by
  induction a generalizing st with
  | nil => rfl
  | cons x xs ih =>
    obtain ⟨hx, hxs⟩ := normal_cons h
    rw [List.foldl_cons, normStep_normal st x hx, ih _ hxs, List.reverse_cons, List.append_assoc]
    rfl

theorem foldl_ups (n : Nat) (st : List Seg) : (ups n).foldl normStep st = st.drop n := by
  induction n generalizing st with
  | zero => rfl
  | succ k ih =>
    rw [ups, List.replicate_succ, List.foldl_cons, normStep_up]
    exact (ih st.tail).trans List.drop_tail

theorem norm_normal (a : List Seg) (h : Normal a) : norm a = a := by
  rw [norm, foldl_normal a [] h, List.append_nil, List.reverse_reverse]

/-- climbing out of `a` (normal) from below `pre ++ a` gets back to `pre` -/
theorem foldl_climb (pre a : List Seg) (ha : Normal a) (rest : List Seg) :
    (a ++ ups a.length ++ rest).foldl normStep pre = rest.foldl normStep pre := by
  simp [List.foldl_append, foldl_normal a pre ha, foldl_ups]

/-- Key invariant of `relpath`: walking `start`, then `relpath target start`, from
    any stack, ends on `target` pushed on that stack. -/
theorem foldl_relpath (t s : List Seg) (ht : Normal t) (hs : Normal s) (st : List Seg) :
    (s ++ relpath t s).foldl normStep st = t.reverse ++ st := by
  fun_induction relpath t s generalizing st with
  | case1 tl x ss ih =>
    obtain ⟨ht1, ht2⟩ := normal_cons ht
    obtain ⟨_, hs2⟩ := normal_cons hs
    simp [List.foldl_cons, normStep_normal st x ht1, ih ht2 hs2]
  | case2 t ts s ss hne =>
    have h := foldl_climb st (s :: ss) hs (t :: ts)
    simp only [List.length_cons, List.append_assoc] at h
    rw [h, foldl_normal _ _ ht]
  | case3 ts =>
    simp [foldl_normal ts st ht]
  | case4 s ss =>
    have h := foldl_climb st (s :: ss) hs []
    simp only [List.length_cons, List.append_nil] at h
    rw [h]
    simp

theorem resolve_normal (d r : List Seg) (hd : Normal d) (hr : Normal r) : resolve d r = d ++ r :=
  norm_normal _ (normal_append hd hr)

theorem resolve_append_normal (d r tgt : List Seg) (ht : Normal tgt) :
    resolve d (r ++ tgt) = resolve d r ++ tgt := by
  simp only [resolve, norm, ← List.append_assoc, List.foldl_append]
  rw [foldl_normal tgt _ ht, List.reverse_append, List.reverse_reverse]

theorem resolve_up (base : List Seg) (d : Seg) (u : List Seg)
    (hb : Normal base) (hd : NormalSeg d) (hu : Normal u) :
    resolve (base ++ [d]) (up :: u) = base ++ u := by
  rw [resolve, norm, List.append_assoc, List.foldl_append, foldl_normal base [] hb, List.singleton_append,
    List.foldl_cons, List.foldl_cons, normStep_normal _ d hd, normStep_up, List.tail_cons,
    foldl_normal u _ hu]
  simp

theorem resolve_relpath (t s : List Seg) (ht : Normal t) (hs : Normal s) :
    resolve s (relpath t s) = t := by
  rw [resolve, norm, foldl_relpath t s ht hs [], List.append_nil, List.reverse_reverse]

theorem resolve_relpathPy (t s : List Seg) (ht : Normal t) (hs : Normal s) :
    resolve s (relpathPy t s) = t := by
  simp only [relpathPy, norm_normal t ht, norm_normal s hs]
  split
  · -- `relpath t s = []`: the reference is `.`, which `normpath` drops like the empty one
    rename_i h
    have := resolve_relpath t s ht hs
    rw [h] at this
    rw [← this]
    simp [resolve, norm, List.foldl_append, normStep, cur]
  · exact resolve_relpath t s ht hs

theorem relpath_self (t : List Seg) : relpath t t = [] := by
  induction t with
  | nil => simp [relpath]
  | cons x xs ih => simp [relpath, ih]

theorem relpath_prefix (b t s : List Seg) : relpath (b ++ t) (b ++ s) = relpath t s := by
  induction b with
  | nil => rfl
  | cons x xs ih => simp [relpath, ih]

/-- unless `s` is a prefix of `t`, the way from `s` to `t` starts by leaving the last directory of `s` -/
theorem relpath_head_up (t s : List Seg) (h : ¬ s <+: t) : ∃ r, relpath t s = up :: r := by
  fun_induction relpath t s with
  | case1 tl x ss ih => exact ih (fun hp => h (List.cons_prefix_cons.mpr ⟨rfl, hp⟩))
  | case2 t ts s ss hne => exact ⟨ups ss.length ++ t :: ts, rfl⟩
  | case3 ts => exact absurd (List.nil_prefix) h
  | case4 s ss => exact ⟨ups ss.length, rfl⟩

end Ford.Path
