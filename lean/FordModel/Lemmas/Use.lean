import FordModel.Lemmas.UseSpec
import FordModel.Lemmas.UseAccess
namespace Ford.Use

/-! ### association lists

  Every table of the model is built by `aset`, and every loop that fills one is an `update`
  with the list of entries it writes; the lemmas about `update` carry all of them. -/

theorem aget_mem {α : Type} {t : AList α} {l : Str} {e : α} (h : aget t l = some e) : (l, e) ∈ t := by
  induction t with
  | nil => cases h
  | cons p t ih =>
    obtain ⟨k, v⟩ := p
    unfold aget at h
    split at h
    · cases h
      subst k
      exact .head _
    · exact .tail _ (ih h)

theorem hasKey_of_mem {α : Type} {t : AList α} {l : Str} {e : α} (h : (l, e) ∈ t) : hasKey t l := by
  induction t with
  | nil => cases h
  | cons p t ih =>
    obtain ⟨k, v⟩ := p
    unfold hasKey aget
    split
    · rfl
    · rcases List.mem_cons.1 h with h | h
      · cases h
        contradiction
      · exact ih h

theorem hasKey_mem {α : Type} {t : AList α} {l : Str} (h : hasKey t l) : ∃ e, (l, e) ∈ t ∧ aget t l = some e :=
  let ⟨e, he⟩ := Option.isSome_iff_exists.1 h
  ⟨e, aget_mem he, he⟩

/-- a table whose entries lie in a functional relation `R`, and whose keys cover the domain of `R`,
    is `R` -/
theorem aget_eq_some_iff {α : Type} {t : AList α} {R : Str → α → Prop}
    (hs : ∀ l e, aget t l = some e → R l e) (hc : ∀ l e, R l e → hasKey t l)
    (hf : ∀ l e e', R l e → R l e' → e = e') (l : Str) (e : α) : aget t l = some e ↔ R l e := by
  refine ⟨hs l e, fun h => ?_⟩
  obtain ⟨e', _, he'⟩ := hasKey_mem (hc l e h)
  rw [he', hf l e e' h (hs l e' he')]

theorem aget_aset {α : Type} (t : AList α) (n : Str) (v : α) (l : Str) :
    aget (aset t n v) l = if n = l then some v else aget t l := by
  induction t with
  | nil => rfl
  | cons p t ih =>
    obtain ⟨k, w⟩ := p
    by_cases hk : k = n
    · subst hk
      by_cases hl : k = l <;> simp [aset, aget, hl]
    · by_cases hl : k = l
      · subst hl
        simp [aset, aget, hk, Ne.symm hk]
      · simp [aset, aget, hk, hl, ih]

theorem mem_aset {α : Type} {t : AList α} {n : Str} {v : α} {p : Str × α} (h : p ∈ aset t n v) :
    p ∈ t ∨ p = (n, v) := by
  induction t with
  | nil => exact Or.inr (List.mem_singleton.1 h)
  | cons q t ih =>
    obtain ⟨k, w⟩ := q
    unfold aset at h
    split at h
    · rcases List.mem_cons.1 h with h | h
      · subst k
        exact Or.inr h
      · exact Or.inl (.tail _ h)
    · rcases List.mem_cons.1 h with h | h
      · exact Or.inl (h ▸ .head _)
      · exact (ih h).imp_left (.tail _)

theorem hasKey_aset {α : Type} (t : AList α) (n : Str) (v : α) (l : Str) :
    hasKey (aset t n v) l ↔ (n = l ∨ hasKey t l) := by
  unfold hasKey
  rw [aget_aset]
  by_cases h : n = l <;> simp [h]

theorem mem_update {α : Type} {t o : AList α} {p : Str × α} (h : p ∈ update t o) : p ∈ t ∨ p ∈ o := by
  induction o generalizing t with
  | nil => exact Or.inl h
  | cons q o ih =>
    rcases ih h with h | h
    · rcases mem_aset h with h | h
      · exact Or.inl h
      · exact Or.inr (h ▸ .head _)
    · exact Or.inr (.tail _ h)

theorem aget_update_of_not_hasKey {α : Type} (t o : AList α) (l : Str) (h : ¬ hasKey o l) :
    aget (update t o) l = aget t l := by
  induction o generalizing t with
  | nil => rfl
  | cons p o ih =>
    obtain ⟨k, v⟩ := p
    have hk : k ≠ l := fun hk => h (hasKey_of_mem (e := v) (hk ▸ .head _))
    have ho : ¬ hasKey o l := fun ho => h (let ⟨e, he, _⟩ := hasKey_mem ho; hasKey_of_mem (.tail _ he))
    exact (ih (aset t k v) ho).trans ((aget_aset t k v l).trans (if_neg hk))

/-- whatever `t` holds under `l`, afterwards `l` denotes an entry of `o` -/
theorem aget_update_of_hasKey {α : Type} (t o : AList α) (l : Str) (h : hasKey o l) :
    ∃ e, (l, e) ∈ o ∧ aget (update t o) l = some e := by
  induction o generalizing t with
  | nil => cases h
  | cons p o ih =>
    obtain ⟨k, v⟩ := p
    by_cases ho : hasKey o l
    · obtain ⟨e, he, hg⟩ := ih (aset t k v) ho
      exact ⟨e, .tail _ he, hg⟩
    · have hk : k = l := by
        obtain ⟨e, he, _⟩ := hasKey_mem h
        rcases List.mem_cons.1 he with he | he
        · cases he
          rfl
        · exact absurd (hasKey_of_mem he) ho
      exact ⟨v, hk ▸ .head _,
        (aget_update_of_not_hasKey (aset t k v) o l ho).trans ((aget_aset t k v l).trans (if_pos hk))⟩

/-- where an entry of `update t o` comes from: `o` answers for the keys it has, `t` for the rest -/
theorem aget_update_cases {α : Type} {t o : AList α} {l : Str} {e : α} (h : aget (update t o) l = some e) :
    (l, e) ∈ o ∨ (¬ hasKey o l ∧ aget t l = some e) := by
  by_cases ho : hasKey o l
  · obtain ⟨e', he', hg⟩ := aget_update_of_hasKey t o l ho
    cases hg.symm.trans h
    exact Or.inl he'
  · exact Or.inr ⟨ho, (aget_update_of_not_hasKey t o l ho).symm.trans h⟩

theorem hasKey_update {α : Type} (t o : AList α) (l : Str) :
    hasKey (update t o) l ↔ hasKey t l ∨ hasKey o l := by
  by_cases ho : hasKey o l
  · obtain ⟨e, _, he⟩ := aget_update_of_hasKey t o l ho
    exact ⟨fun _ => Or.inr ho, fun _ => Option.isSome_iff_exists.2 ⟨e, he⟩⟩
  · unfold hasKey at ho ⊢
    rw [aget_update_of_not_hasKey t o l ho]
    exact ⟨Or.inl, fun h => h.resolve_right ho⟩

theorem aget_update_of_nodup {α : Type} (t o : AList α) (hn : (o.map Prod.fst).Nodup) (k : Str) (v : α)
    (h : (k, v) ∈ o) : aget (update t o) k = some v := by
  induction o generalizing t with
  | nil => cases h
  | cons q o ih =>
    rw [List.map_cons, List.nodup_cons] at hn
    rcases List.mem_cons.1 h with h | h
    · subst h
      have : ¬ hasKey o k := fun hk => let ⟨e, he, _⟩ := hasKey_mem hk; hn.1 (List.mem_map.2 ⟨_, he, rfl⟩)
      exact (aget_update_of_not_hasKey (aset t k v) o k this).trans ((aget_aset t k v k).trans (if_pos rfl))
    · exact ih _ hn.2 h

theorem tableOf_eq (m : Scope) (ds : List Decl) :
    tableOf m ds = update [] (ds.map fun d => (d.name, (m.name, d.name))) := by
  unfold tableOf update
  rw [List.foldl_map]

theorem mem_tableOf {m : Scope} {ds : List Decl} {p : Str × Ent} (h : p ∈ tableOf m ds) :
    ∃ d ∈ ds, p = (d.name, (m.name, d.name)) := by
  rw [tableOf_eq] at h
  rcases mem_update h with h | h
  · cases h
  · obtain ⟨d, hd, hp⟩ := List.mem_map.1 h
    exact ⟨d, hd, hp.symm⟩

theorem hasKey_tableOf {m : Scope} {ds : List Decl} {d : Decl} (hd : d ∈ ds) :
    hasKey (tableOf m ds) d.name := by
  rw [tableOf_eq]
  exact (hasKey_update _ _ _).2 (Or.inr (hasKey_of_mem (List.mem_map.2 ⟨d, hd, rfl⟩)))

/-- a declaration overlaid on any table is found under its name -/
theorem aget_update_tableOf (t : Table) {m : Scope} {ds : List Decl} {d : Decl} (hd : d ∈ ds) :
    aget (update t (tableOf m ds)) d.name = some (m.name, d.name) := by
  obtain ⟨e, he, hg⟩ := aget_update_of_hasKey t _ d.name (hasKey_tableOf hd)
  obtain ⟨d', _, hp⟩ := mem_tableOf he
  obtain ⟨h1, h2⟩ := Prod.mk.inj hp
  rw [hg, h2, ← h1]

def UItem.loc : UItem → Str
  | .plain n => n
  | .ren l _ => l

theorem usedNames_eq (items : List UItem) :
    usedNames items = update [] (items.map fun it => (it.remote, it.loc)) := by
  unfold usedNames update
  rw [List.foldl_map]
  congr
  funext u it
  cases it <;> rfl

theorem mem_usedNames {items : List UItem} {r l : Str} (h : (r, l) ∈ usedNames items) :
    UItem.ren l r ∈ items ∨ (l = r ∧ UItem.plain r ∈ items) := by
  rw [usedNames_eq] at h
  rcases mem_update h with h | h
  · cases h
  · obtain ⟨it, hit, hp⟩ := List.mem_map.1 h
    cases it with
    | plain n =>
      cases hp
      exact Or.inr ⟨rfl, hit⟩
    | ren a b =>
      cases hp
      exact Or.inl hit

theorem aget_usedNames_of_mem {items : List UItem} (hn : (items.map UItem.remote).Nodup) {it : UItem}
    (hit : it ∈ items) : aget (usedNames items) it.remote = some it.loc := by
  rw [usedNames_eq]
  exact aget_update_of_nodup [] _ (by rwa [List.map_map]) _ _ (List.mem_map.2 ⟨it, hit, rfl⟩)

/-- how the code decides the local name: `used_names[name]` with ONLY, the
    remote name itself without (`used_names.get(name, name)` in the variant `renAll`) -/
def AdmitsCode (u : UseA) (r l : Str) : Prop :=
  if u.only then aget (usedNames u.items) r = some l
  else l = (if u.renAll then (aget (usedNames u.items) r).getD r else r)

/-- the key under which `get_used_entities` stores what the module exports as `r`, if it does -/
def localName (u : UseA) (r : Str) : Option Str :=
  if u.only then aget (usedNames u.items) r
  else some (if u.renAll then (aget (usedNames u.items) r).getD r else r)

theorem admitsCode_iff (u : UseA) (r l : Str) : AdmitsCode u r l ↔ localName u r = some l := by
  unfold AdmitsCode localName
  cases u.only
  · exact ⟨fun h => congrArg some h.symm, fun h => (Option.some.inj h).symm⟩
  · exact Iff.rfl

theorem localName_plain {u : UseA} (h : u.only = false ∧ u.items = []) (r : Str) : localName u r = some r := by
  simp [localName, h.1, h.2, usedNames, aget]

theorem getUsed_eq (u : UseA) (pub : Table) :
    getUsed u pub = if u.only = false ∧ u.items = [] then pub
      else update [] (pub.filterMap fun p => (localName u p.1).map (·, p.2)) := by
  unfold getUsed update
  rw [List.foldl_filterMap]
  congr
  funext res p
  unfold usedStep localName
  cases u.only
  · rfl
  · cases aget (usedNames u.items) p.1 <;> rfl

theorem mem_getUsed {u : UseA} {pub : Table} {p : Str × Ent} (h : p ∈ getUsed u pub) :
    ∃ r, (r, p.2) ∈ pub ∧ AdmitsCode u r p.1 := by
  rw [getUsed_eq] at h
  split at h
  · next hc => exact ⟨p.1, h, (admitsCode_iff u _ _).2 (localName_plain hc _)⟩
  · rcases mem_update h with h | h
    · cases h
    · obtain ⟨q, hq, hl⟩ := List.mem_filterMap.1 h
      obtain ⟨l, hl', rfl⟩ := Option.map_eq_some_iff.1 hl
      exact ⟨q.1, hq, (admitsCode_iff u _ _).2 hl'⟩

theorem hasKey_getUsed {u : UseA} {pub : Table} {r l : Str} {e : Ent} (hm : (r, e) ∈ pub)
    (ha : AdmitsCode u r l) : hasKey (getUsed u pub) l := by
  rw [admitsCode_iff] at ha
  rw [getUsed_eq]
  split
  · next hc =>
    cases (localName_plain hc r).symm.trans ha
    exact hasKey_of_mem hm
  · refine (hasKey_update _ _ _).2 (Or.inr (hasKey_of_mem (e := e) (List.mem_filterMap.2 ⟨(r, e), hm, ?_⟩)))
    rw [ha]
    rfl

theorem admits_of_code (u : UseA) (r l : Str) (hc : u.only = false → u.items = [])
    (h : AdmitsCode u r l) : Admits u r l := by
  rw [admitsCode_iff] at h
  unfold Admits
  cases ho : u.only with
  | true =>
    rw [localName, ho, if_pos rfl] at h
    exact (mem_usedNames (aget_mem h)).imp_right fun h => ⟨h.1, h.2⟩
  | false =>
    cases (localName_plain ⟨ho, hc ho⟩ r).symm.trans h
    refine Or.inr ⟨rfl, fun l' hm => ?_⟩
    rw [hc ho] at hm
    cases hm

theorem code_of_admits (u : UseA) (r l : Str) (hc : u.only = false → u.items = [])
    (hn : u.only = true → (u.items.map UItem.remote).Nodup) (h : Admits u r l) : AdmitsCode u r l := by
  rw [admitsCode_iff]
  unfold Admits at h
  cases ho : u.only with
  | true =>
    rw [ho, if_pos rfl] at h
    rw [localName, ho, if_pos rfl]
    rcases h with h | ⟨rfl, h⟩
    · exact aget_usedNames_of_mem (hn ho) h
    · exact aget_usedNames_of_mem (hn ho) h
  | false =>
    rw [hc ho] at h
    rcases h with h | ⟨rfl, _⟩
    · cases h
    · exact localName_plain ⟨ho, hc ho⟩ l

theorem getTabs_aset (st : State) (n : Str) (t : Tabs) (x : Str) :
    getTabs (aset st n t) x = if n = x then t else getTabs st x := by
  unfold getTabs
  rw [aget_aset]
  split <;> rfl

theorem findMod_some {g : List Scope} {x : Str} {n : Scope} (h : findMod g x = some n) :
    n ∈ g ∧ n.isMod = true ∧ n.name = x := by
  have h2 := List.find?_some h
  rw [Bool.and_eq_true, beq_iff_eq] at h2
  exact ⟨List.mem_of_find?_eq_some h, h2⟩

theorem findScope_some {g : List Scope} {x : Str} {n : Scope} (h : findScope g x = some n) :
    n ∈ g ∧ n.name = x := by
  have h2 := List.find?_some h
  exact ⟨List.mem_of_find?_eq_some h, beq_iff_eq.1 h2⟩

theorem find?_of_unique {α : Type} (p : α → Bool) (l : List α) (a : α) (ha : a ∈ l) (hp : p a = true)
    (hu : ∀ b ∈ l, p b = true → b = a) : l.find? p = some a := by
  cases hf : l.find? p with
  | none => exact absurd hp (List.find?_eq_none.1 hf a ha)
  | some b => rw [hu b (List.mem_of_find?_eq_some hf) (List.find?_some hf)]

theorem findMod_of_mem (g : List Scope) (hu : UniqueNames g) (n : Scope) (hn : n ∈ g)
    (hm : n.isMod = true) : findMod g n.name = some n :=
  find?_of_unique _ g n hn (by simp [hm]) fun b hb hp =>
    hu b hb n hn (beq_iff_eq.1 (Bool.and_eq_true _ _ ▸ hp).2)

theorem findScope_of_mem (g : List Scope) (hu : UniqueNames g) (n : Scope) (hn : n ∈ g) :
    findScope g n.name = some n :=
  find?_of_unique _ g n hn (beq_self_eq_true _) fun b hb hp => hu b hb n hn (beq_iff_eq.1 hp)

theorem init_eq (k : Nat) (g : List Scope) : init k g = update [] (g.map fun m => (m.name, cleanup k m)) := by
  unfold init update
  rw [List.foldl_map]

theorem getTabs_init (k : Nat) (g : List Scope) (hu : UniqueNames g) (m : Scope) (hm : m ∈ g) :
    getTabs (init k g) m.name = cleanup k m := by
  obtain ⟨e, he, hg⟩ := aget_update_of_hasKey [] (g.map fun m => (m.name, cleanup k m)) m.name
    (hasKey_of_mem (List.mem_map.2 ⟨m, hm, rfl⟩))
  obtain ⟨m', hm', hp⟩ := List.mem_map.1 he
  obtain ⟨hname, hc⟩ := Prod.mk.inj hp
  rw [init_eq, getTabs, hg, ← hc, hu m' hm' m hm hname]
  rfl

/-! ### `correlate`: a scope's tables are updated with what its USE statements supply -/

/-- what one USE statement contributes to `all_*` -/
def impTable (g : List Scope) (st : State) (u : UseA) : Table :=
  match findMod g u.mod with
  | none => []
  | some n => getUsed u (getTabs st n.name).pub

theorem mem_impTable {g : List Scope} {st : State} {u : UseA} {p : Str × Ent} (h : p ∈ impTable g st u) :
    ∃ n, findMod g u.mod = some n ∧ p ∈ getUsed u (getTabs st n.name).pub := by
  unfold impTable at h
  split at h
  · cases h
  · next n hn => exact ⟨n, hn, h⟩

theorem update_append {α : Type} (t a b : AList α) : update t (a ++ b) = update (update t a) b :=
  List.foldl_append

theorem useFold_all (g : List Scope) (st : State) (m : Scope) (us : List UseA) (t : Tabs) :
    (us.foldl (useStep g st m) t).all = update t.all (us.flatMap (impTable g st)) := by
  induction us generalizing t with
  | nil => rfl
  | cons u us ih =>
    rw [List.foldl_cons, ih, List.flatMap_cons, update_append]
    unfold useStep impTable
    cases findMod g u.mod <;> rfl

theorem useFold_pub (g : List Scope) (st : State) (m : Scope) (us : List UseA) (t : Tabs) :
    (us.foldl (useStep g st m) t).pub = if m.isMod then
      update t.pub ((us.flatMap (impTable g st)).filter fun p => shouldBePublic m p.1) else t.pub := by
  induction us generalizing t with
  | nil => cases m.isMod <;> rfl
  | cons u us ih =>
    rw [List.foldl_cons, ih, List.flatMap_cons, List.filter_append, update_append]
    unfold useStep impTable
    cases findMod g u.mod <;> cases m.isMod <;> rfl

theorem mem_imports {g : List Scope} {st : State} {us : List UseA} {u : UseA} {n : Scope} {p : Str × Ent}
    (hu : u ∈ us) (hn : findMod g u.mod = some n) (hp : p ∈ getUsed u (getTabs st n.name).pub) :
    p ∈ us.flatMap (impTable g st) := by
  refine List.mem_flatMap.2 ⟨u, hu, ?_⟩
  unfold impTable
  rw [hn]
  exact hp

theorem getTabs_step (g : List Scope) (hu : UniqueNames g) (st : State) (nm : Str) (m : Scope) (hm : m ∈ g) :
    getTabs (step g st nm) m.name = if nm = m.name then correlate g st m else getTabs st m.name := by
  unfold step
  split
  · next hf =>
    refine (if_neg fun h => ?_).symm
    rw [h, findScope_of_mem g hu m hm] at hf
    cases hf
  · next m0 hf =>
    rw [getTabs_aset]
    split
    · next h =>
      rw [h, findScope_of_mem g hu m hm] at hf
      cases hf
      rfl
    · rfl

def Holds (g : List Scope) (P : Scope → Tabs → Prop) (st : State) : Prop :=
  ∀ m ∈ g, P m (getTabs st m.name)

theorem holds_step {g : List Scope} (hu : UniqueNames g) {P : Scope → Tabs → Prop} {st : State}
    (h : Holds g P st) (hc : ∀ m ∈ g, P m (correlate g st m)) (nm : Str) : Holds g P (step g st nm) := by
  intro m hm
  rw [getTabs_step g hu st nm m hm]
  split
  · exact hc m hm
  · exact h m hm

/-- what `_cleanup` establishes and every `correlate` preserves holds after the ranklist loop,
    in whatever order the scopes are taken -/
theorem holds_run {g : List Scope} {k : Nat} (hu : UniqueNames g) {P : Scope → Tabs → Prop}
    (h0 : ∀ m ∈ g, P m (cleanup k m)) (hc : ∀ st, Holds g P st → ∀ m ∈ g, P m (correlate g st m))
    (order : List Str) : Holds g P (run k g order) := by
  have : ∀ st, Holds g P st → Holds g P (order.foldl (step g) st) := by
    induction order with
    | nil => exact fun _ h => h
    | cons a as ih => exact fun st h => ih _ (holds_step hu h (hc st h) a)
  exact this _ fun m hm => getTabs_init k g hu m hm ▸ h0 m hm

theorem mem_declsOf {k : Nat} {m : Scope} {d : Decl} : d ∈ declsOf k m ↔ d ∈ m.decls ∧ d.kind = k := by
  simp [declsOf]

theorem publicList_cases (m : Scope) (l : Str) (h : (publicList m).contains l = true) :
    (∃ d ∈ m.decls, d.name = l) ∨ l ∈ m.pubNames := by
  simp only [publicList, List.contains_eq_mem, List.mem_append, List.mem_map, List.mem_filter, beq_iff_eq,
    decide_eq_true_eq] at h
  rcases h with ⟨d, hd, hl⟩ | h
  · exact Or.inl ⟨d, hd.1, hl⟩
  · exact Or.inr h

/-! ### what USE statements supply against the specification

  `ImportsU g k us` is `Imports g k s` for a scope `s` of the project whose USE statements are `us`. -/

theorem Imports.importsU {g : List Scope} {k : Nat} {s : Scope} {l : Str} {e : Ent} (h : Imports g k s l e) :
    ImportsU g k s.uses l e := by
  cases h with
  | mk _ hu hn hmod hname hex hadm => exact .mk hu hn hmod hname hex hadm

theorem ImportsU.imports {g : List Scope} {k : Nat} {s : Scope} {l : Str} {e : Ent} (hs : s ∈ g)
    (h : ImportsU g k s.uses l e) : Imports g k s l e := by
  cases h with
  | mk hu hn hmod hname hex hadm => exact .mk hs hu hn hmod hname hex hadm

theorem importsU_of_mem {g : List Scope} {k : Nat} {st : State} {us : List UseA}
    (hb : ∀ u ∈ us, u.only = false → u.items = [])
    (hsd : ∀ u ∈ us, ∀ n, findMod g u.mod = some n → ∀ q ∈ (getTabs st n.name).pub, Exports g k n q.1 q.2)
    {l : Str} {e : Ent} (h : (l, e) ∈ us.flatMap (impTable g st)) : ImportsU g k us l e := by
  obtain ⟨u, hu, h⟩ := List.mem_flatMap.1 h
  obtain ⟨n, hf, h⟩ := mem_impTable h
  obtain ⟨hng, hnmod, hnname⟩ := findMod_some hf
  obtain ⟨r, hr, hadm⟩ := mem_getUsed h
  exact ImportsU.mk hu hng hnmod hnname (hsd u hu n hf (r, e) hr) (admits_of_code u r l (hb u hu) hadm)

theorem hasKey_of_importsU {g : List Scope} {k : Nat} {st : State} {us : List UseA} (hun : UniqueNames g)
    (hb : ∀ u ∈ us, u.only = false → u.items = [])
    (hr : ∀ u ∈ us, u.only = true → (u.items.map UItem.remote).Nodup)
    (hcp : ∀ u ∈ us, ∀ n, findMod g u.mod = some n → ∀ r e, Exports g k n r e → hasKey (getTabs st n.name).pub r)
    {l : Str} {e : Ent} (h : ImportsU g k us l e) : hasKey (us.flatMap (impTable g st)) l := by
  cases h with
  | mk hu hng hnmod hnname hex hadm =>
    rename_i n u r
    have hfm : findMod g u.mod = some n := hnname ▸ findMod_of_mem g hun n hng hnmod
    obtain ⟨e', he', _⟩ := hasKey_mem (hcp u hu n hfm r e hex)
    obtain ⟨e'', he'', _⟩ := hasKey_mem (hasKey_getUsed he' (code_of_admits u r l (hb u hu) (hr u hu) hadm))
    exact hasKey_of_mem (mem_imports hu hfm he'')

/-- A property of the entries of `pub_*` (`A`) and `all_*` (`B`) tables that holds of a scope's own
    declarations and of whatever its USE statements supply - given it of every table before - holds of
    every table after the ranklist loop. -/
theorem entries_run {g : List Scope} {k : Nat} (hu : UniqueNames g) (A B : Scope → Str × Ent → Prop)
    (hown : ∀ m ∈ g, ∀ d ∈ m.decls, d.kind = k → B m (d.name, (m.name, d.name)) ∧
      (m.isMod = true → declPerm m d ≠ .priv → A m (d.name, (m.name, d.name))))
    (himp : ∀ st, Holds g (fun m t => (∀ p ∈ t.pub, A m p) ∧ ∀ p ∈ t.all, B m p) st →
      ∀ m ∈ g, ∀ p ∈ m.uses.flatMap (impTable g st),
        B m p ∧ (m.isMod = true → shouldBePublic m p.1 = true → A m p))
    (order : List Str) :
    Holds g (fun m t => (∀ p ∈ t.pub, A m p) ∧ ∀ p ∈ t.all, B m p) (run k g order) := by
  refine holds_run hu (fun m hm => ?_) (fun st h m hm => ?_) order
  -- `_cleanup`
  · unfold cleanup
    constructor
    -- `pub_*` of a module: the declarations whose slot is not "private"
    · intro p hpp
      split at hpp
      · next hmod =>
        obtain ⟨d, hd, rfl⟩ := mem_tableOf hpp
        rw [List.mem_filter, mem_declsOf] at hd
        exact (hown m hm d hd.1.1 hd.1.2).2 hmod ((declExported_iff m d).1 hd.2)
      · cases hpp
    -- `all_*`: every declaration of the kind
    · intro p hpp
      obtain ⟨d, hd, rfl⟩ := mem_tableOf hpp
      rw [mem_declsOf] at hd
      exact (hown m hm d hd.1 hd.2).1
  -- `correlate`
  · unfold correlate
    constructor
    -- `pub_*` of a module: the old entries and what is supplied and passes `should_be_public`
    · intro p hpp
      rw [useFold_pub] at hpp
      split at hpp
      · next hmod =>
        rcases mem_update hpp with hold | hnew
        · exact (h m hm).1 p hold
        · exact (himp st h m hm p (List.mem_filter.1 hnew).1).2 hmod (List.mem_filter.1 hnew).2
      · exact (h m hm).1 p hpp
    -- `all_*`: the old entries and everything supplied
    · intro p hpp
      rw [useFold_all] at hpp
      rcases mem_update hpp with hold | hnew
      · exact (h m hm).2 p hold
      · exact (himp st h m hm p hnew).1

def SoundSt (g : List Scope) (k : Nat) : State → Prop :=
  Holds g fun m t => (∀ p ∈ t.pub, Exports g k m p.1 p.2) ∧ (∀ p ∈ t.all, Sees g k m p.1 p.2)

theorem sound_run (g : List Scope) (k : Nat) (hu : UniqueNames g) (hb : NoBareRename g)
    (hp : NoEffectivePrivate g) (hs : NoShadow g k) (hq : NoProtectedOverPrivate g) (order : List Str) :
    SoundSt g k (run k g order) := by
  -- own declarations: the slot against the standard's accessibility (`NoProtectedOverPrivate`)
  refine entries_run hu (fun m p => Exports g k m p.1 p.2) (fun m p => Sees g k m p.1 p.2)
    (fun m hm d hd hk => ⟨Sees.decl hm hd hk, fun hmod hperm =>
      Exports.decl hm hmod hd hk (accessible_of_exported m d (hq m hm d hd) hperm)⟩)
    (fun st h m hm p hpp => ?_) order
  have hi := (importsU_of_mem (hb m hm) (fun u _ n hf q hq => (h n (findMod_some hf).1).1 q hq) hpp).imports hm
  refine ⟨Sees.imp hi, fun hmod hpub => ?_⟩
  -- `should_be_public` also admits the names of public declarations: `NoShadow` rules that case out
  have hpub' : m.defPub = true ∨ p.1 ∈ m.pubNames := by
    unfold shouldBePublic at hpub
    rcases Bool.or_eq_true _ _ ▸ hpub with h1 | h1
    · exact Or.inl h1
    · rcases publicList_cases m p.1 h1 with ⟨d, hd, hdl⟩ | h2
      · exact absurd hdl (hs m hm p.1 p.2 hi d hd)
      · exact Or.inr h2
  cases hi with
  | mk _ hu' hng hnmod hnname hex hadm =>
    -- FORD ignores `private ::` about an imported name: `NoEffectivePrivate`
    refine Exports.reexp hm hmod hu' hng hnmod hnname hex hadm (fun hin => ?_) hpub'
    obtain ⟨h1, h2⟩ := hp m hm p.1 hin
    rcases hpub' with h3 | h3
    · rw [h1] at h3
      cases h3
    · exact h2 h3

theorem exports_inv {g : List Scope} {k : Nat} {m : Scope} {l : Str} {e : Ent} (h : Exports g k m l e) :
    (∃ d, m ∈ g ∧ m.isMod = true ∧ d ∈ m.decls ∧ d.kind = k ∧ declAccessible m d = true ∧ l = d.name ∧ e = (m.name, d.name)) ∨
    (m.isMod = true ∧ Imports g k m l e ∧ l ∉ m.privNames ∧ (m.defPub = true ∨ l ∈ m.pubNames)) := by
  cases h with
  | decl hm hmod hd hk hacc => exact Or.inl ⟨_, hm, hmod, hd, hk, hacc, rfl, rfl⟩
  | reexp hm hmod hu hn hnmod hname hex hadm hpriv hpub =>
    exact Or.inr ⟨hmod, Imports.mk hm hu hn hnmod hname hex hadm, hpriv, hpub⟩

/-- Completeness needs two invariants.  This one holds of every scope at all times: its own
    declarations are keys of its tables (and `correlate` only adds keys). -/
def BaseSt (g : List Scope) (k : Nat) : State → Prop :=
  Holds g fun m t => ∀ d ∈ m.decls, d.kind = k →
    hasKey t.all d.name ∧ (m.isMod = true → declPerm m d ≠ .priv → hasKey t.pub d.name)

/-- ... and this one only of the scopes correlated so far (`done`), which is why it is not a `Holds`:
    every identifier the standard makes accessible is a key. -/
def CompleteSt (g : List Scope) (k : Nat) (st : State) (done : List Str) : Prop :=
  ∀ m ∈ g, m.name ∈ done →
    (∀ l e, Exports g k m l e → hasKey (getTabs st m.name).pub l) ∧
    (∀ l e, Sees g k m l e → hasKey (getTabs st m.name).all l)

theorem hasKey_correlate_mono (g : List Scope) (st : State) (m : Scope) (l : Str) :
    (hasKey (getTabs st m.name).pub l → hasKey (correlate g st m).pub l) ∧
    (hasKey (getTabs st m.name).all l → hasKey (correlate g st m).all l) := by
  unfold correlate
  rw [useFold_pub, useFold_all]
  refine ⟨fun h => ?_, fun h => (hasKey_update _ _ _).2 (Or.inl h)⟩
  split
  · exact (hasKey_update _ _ _).2 (Or.inl h)
  · exact h

theorem base_init (g : List Scope) (k : Nat) (hu : UniqueNames g) : BaseSt g k (init k g) := by
  intro m hm d hd hk
  rw [getTabs_init k g hu m hm]
  unfold cleanup
  refine ⟨hasKey_tableOf (mem_declsOf.2 ⟨hd, hk⟩), fun hmod hperm => ?_⟩
  rw [if_pos hmod]
  exact hasKey_tableOf (List.mem_filter.2 ⟨mem_declsOf.2 ⟨hd, hk⟩, (declExported_iff m d).2 hperm⟩)

theorem base_step (g : List Scope) (k : Nat) (hu : UniqueNames g) (st : State) (nm : Str)
    (h : BaseSt g k st) : BaseSt g k (step g st nm) :=
  holds_step hu h (fun m hm d hd hk =>
    ⟨(hasKey_correlate_mono g st m _).2 (h m hm d hd hk).1,
     fun h1 h2 => (hasKey_correlate_mono g st m _).1 ((h m hm d hd hk).2 h1 h2)⟩) nm

theorem usesDone_spec {g : List Scope} {done : List Str} {m : Scope} (h : usesDone g done m = true)
    {u : UseA} (hu : u ∈ m.uses) {n : Scope} (hn : findMod g u.mod = some n) : n.name ∈ done := by
  have := List.all_eq_true.1 h u hu
  rw [hn] at this
  exact List.contains_iff_mem.1 this

theorem complete_step (g : List Scope) (k : Nat) (hu : UniqueNames g) (hb : NoBareRename g)
    (hr : NoRepeatedRemote g) (hl : LegalAccess g) (st : State) (nm : Str) (done : List Str)
    (hbase : BaseSt g k st) (hc : CompleteSt g k st done)
    (hud : ∀ m, findScope g nm = some m → usesDone g done m = true) :
    CompleteSt g k (step g st nm) (nm :: done) := by
  intro m hm hin
  rw [getTabs_step g hu st nm m hm]
  split
  -- the scope correlated in this step
  · next heq =>
    subst heq
    have hdone := hud m (findScope_of_mem g hu m hm)
    -- an import of the specification is supplied by one of the USE statements
    have himp : ∀ l e, Imports g k m l e → hasKey (m.uses.flatMap (impTable g st)) l := fun l e hi =>
      hasKey_of_importsU hu (hb m hm) (hr m hm)
        (fun u hu' n hn => (hc n (findMod_some hn).1 (usesDone_spec hdone hu' hn)).1) hi.importsU
    constructor
    -- `pub_*`: an accessible declaration was a key already, a re-export passes `should_be_public`
    · intro l e hex
      rcases exports_inv hex with ⟨d, _, hmod, hd, hk, hperm, rfl, _⟩ | ⟨hmod, hi, _, hpub⟩
      · exact (hasKey_correlate_mono g st m _).1 ((hbase m hm _ hd hk).2 hmod
          (exported_of_accessible m d (hl m hm d hd) hperm))
      · obtain ⟨e', he', _⟩ := hasKey_mem (himp l e hi)
        unfold correlate
        rw [useFold_pub, if_pos hmod]
        refine (hasKey_update _ _ _).2 (Or.inr (hasKey_of_mem (List.mem_filter.2 ⟨he', ?_⟩)))
        unfold shouldBePublic
        rcases hpub with h1 | h1
        · simp [h1]
        · simp [publicList, h1]
    -- `all_*`: own declarations were keys already, an import is supplied by a USE statement
    · intro l e hs
      cases hs with
      | decl _ hd hk => exact (hasKey_correlate_mono g st m _).2 (hbase m hm _ hd hk).1
      | imp hi =>
        unfold correlate
        rw [useFold_all]
        exact (hasKey_update _ _ _).2 (Or.inr (himp l e hi))
  -- another scope: its tables are untouched, and it was done before
  · next heq =>
    rcases List.mem_cons.1 hin with h | h
    · exact absurd h.symm heq
    · exact hc m hm h

/-- what `isTopo` asks of the next name: if it is a scope, its modules are done and it is new -/
theorem isTopo_cons (g : List Scope) (done : List Str) (nm : Str) (rest : List Str) :
    isTopo g done (nm :: rest) = true ↔
      (∀ m, findScope g nm = some m → usesDone g done m = true ∧ nm ∉ done) ∧
      isTopo g (nm :: done) rest = true := by
  rw [isTopo, Bool.and_eq_true]
  cases findScope g nm with
  | none => simp only [true_and, reduceCtorEq, false_implies, implies_true]
  | some m => simp only [List.contains_eq_mem, Bool.and_eq_true, Bool.not_eq_eq_eq_not, Bool.not_true,
      decide_eq_false_iff_not, Option.some.injEq, forall_eq']

theorem complete_fold (g : List Scope) (k : Nat) (hu : UniqueNames g) (hb : NoBareRename g)
    (hr : NoRepeatedRemote g) (hl : LegalAccess g) (order : List Str) :
    ∀ (st : State) (done : List Str), isTopo g done order = true → BaseSt g k st →
      CompleteSt g k st done → CompleteSt g k (order.foldl (step g) st) (order.reverse ++ done) := by
  induction order with
  | nil => exact fun st done _ _ hc => hc
  | cons nm rest ih =>
    intro st done ht hbase hc
    rw [isTopo_cons] at ht
    have := ih (step g st nm) (nm :: done) ht.2 (base_step g k hu st nm hbase)
      (complete_step g k hu hb hr hl st nm done hbase hc fun m hf => (ht.1 m hf).1)
    rwa [List.reverse_cons, List.append_assoc]

theorem complete_run (g : List Scope) (k : Nat) (hu : UniqueNames g) (hb : NoBareRename g)
    (hr : NoRepeatedRemote g) (hl : LegalAccess g) (order : List Str) (ht : isTopo g [] order = true) :
    CompleteSt g k (run k g order) order := by
  intro m hm hin
  refine complete_fold g k hu hb hr hl order (init k g) [] ht (base_init g k hu) (fun _ _ hin => ?_)
    m hm ?_
  · cases hin
  · rw [List.append_nil]
    exact List.mem_reverse.2 hin

/-! ### only non-private declarations ever travel -/

/-- `e` is a declaration of kind `k` of a project module whose accessibility is not private -/
def PubEnt (g : List Scope) (k : Nat) (e : Ent) : Prop :=
  ∃ n ∈ g, n.isMod = true ∧ n.name = e.1 ∧ ∃ d ∈ n.decls, d.kind = k ∧ d.name = e.2 ∧ declPerm n d ≠ .priv

/-- `e` is a declaration of kind `k` of scope `m` itself -/
def OwnEnt (k : Nat) (m : Scope) (e : Ent) : Prop :=
  e.1 = m.name ∧ ∃ d ∈ m.decls, d.kind = k ∧ d.name = e.2

def PrivSt (g : List Scope) (k : Nat) : State → Prop :=
  Holds g fun m t => (∀ p ∈ t.pub, PubEnt g k p.2) ∧ (∀ p ∈ t.all, PubEnt g k p.2 ∨ OwnEnt k m p.2)

theorem priv_run (g : List Scope) (k : Nat) (hu : UniqueNames g) (order : List Str) :
    PrivSt g k (run k g order) := by
  refine entries_run hu (fun _ p => PubEnt g k p.2) (fun m p => PubEnt g k p.2 ∨ OwnEnt k m p.2)
    (fun m hm d hd hk => ⟨Or.inr ⟨rfl, d, hd, hk, rfl⟩, fun hmod hperm => ⟨m, hm, hmod, rfl, d, hd, hk, rfl, hperm⟩⟩)
    (fun st h m hm p hpp => ?_) order
  -- what a USE statement supplies sits in a `pub_*` table already
  obtain ⟨u, _, hpu⟩ := List.mem_flatMap.1 hpp
  obtain ⟨n, hn, hpu⟩ := mem_impTable hpu
  obtain ⟨r, hr, _⟩ := mem_getUsed hpu
  have := (h n (findMod_some hn).1).1 (r, p.2) hr
  exact ⟨Or.inl this, fun _ _ => this⟩

/-- `e` is a declaration of kind `k` of a project module that the standard makes accessible -/
def AccessibleEnt (g : List Scope) (k : Nat) (e : Ent) : Prop :=
  ∃ n ∈ g, n.isMod = true ∧ n.name = e.1 ∧ ∃ d ∈ n.decls, d.kind = k ∧ d.name = e.2 ∧ declAccessible n d = true

theorem accessibleEnt_of_pubEnt (g : List Scope) (k : Nat) (e : Ent) (hq : NoProtectedOverPrivate g)
    (h : PubEnt g k e) : AccessibleEnt g k e := by
  obtain ⟨n, hn, hmod, hname, d, hd, hk, hdn, hperm⟩ := h
  exact ⟨n, hn, hmod, hname, d, hd, hk, hdn, accessible_of_exported n d (hq n hn d hd) hperm⟩

end Ford.Use
