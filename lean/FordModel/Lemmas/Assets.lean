/-
  C09 — a write that covers an asset link creates the file the link names; the relative links to the copies that
  `PagetreePage.writeout` makes next to a static page resolve to those copies.
-/
import FordModel.Assets
import FordModel.Lemmas.Nav
import FordModel.Lemmas.PageName
namespace Ford.Assets
open Ford.Path Ford.Nav

theorem flatMap_ch (ρ : Str → Str) (l : Str) : (l.map Tok.ch).flatMap (tokStr ρ) = l := by
  induction l with
  | nil => rfl
  | cons c cs ih => simp [tokStr, ih]

theorem covers_mem (ρ : Str → Str) (w : Write) (l : Link) (h : covers w l = true) :
    inst ρ l.path ∈ writeFiles ρ w := by
  rw [covers] at h
  rw [writeFiles]
  cases hs : w.src with
  | file | page =>
    rw [hs] at h
    exact List.mem_singleton.2 (congrArg (List.flatMap (tokStr ρ)) (of_decide_eq_true h).symm)
  | shipped fs =>
    rw [hs] at h
    obtain ⟨f, hf, he⟩ := List.any_eq_true.1 h
    refine List.mem_map.2 ⟨f, hf, ?_⟩
    rw [inst, inst, of_decide_eq_true he, List.flatMap_append, flatMap_ch]
  | user =>
    rw [hs] at h
    cases h

theorem outPath_mem_pageWrites (T : PageTables) (p : PageNode) :
    PageName.outPath T.names p.loc p.stem ∈ pageWrites T p :=
  List.mem_cons_self

theorem resolve_pageDir (p : PageNode) (base r : List Seg) (hb : Normal base) (hl : Normal p.loc)
    (hr : Normal r) : resolve (base ++ pageDirOf p) r = base ++ (pageSeg :: p.loc ++ r) := by
  have hp : Normal (pageDirOf p) := normal_cons_iff.2 ⟨PageName.pageSeg_normalSeg, hl⟩
  rw [resolve_normal _ _ (normal_append hb hp) hr, List.append_assoc]
  rfl

/-- when the `copy_subdir` loop runs for a page, the relative link `<dir>/<file>` written on that page
    resolves to a file the page's `writeout` creates -/
theorem copy_link_written (T : PageTables) (p : PageNode) (hrun : T.copyGuard.runs p.isIndex = true)
    (base : List Seg) (d : Seg) (fs : List (List Seg)) (f : List Seg)
    (hmem : (d, fs) ∈ p.copySubdir) (hf : f ∈ fs)
    (hb : Normal base) (hl : Normal p.loc) (hd : NormalSeg d) (hfn : Normal f) :
    resolve (base ++ pageDirOf p) (d :: f) ∈ (pageWrites T p).map (base ++ ·) := by
  rw [resolve_pageDir p base _ hb hl (normal_cons_iff.2 ⟨hd, hfn⟩)]
  refine List.mem_map_of_mem ?_
  rw [pageWrites, hrun]
  exact List.mem_cons_of_mem _ (List.mem_append_left _
    (List.mem_flatMap.2 ⟨(d, fs), hmem, List.mem_map.2 ⟨f, hf, rfl⟩⟩))

/-- the same for the other files of a page directory, carried by the node of its `index.md` -/
theorem file_link_written (T : PageTables) (p : PageNode) (hrun : T.filesGuard.runs p.isIndex = true)
    (base : List Seg) (f : Seg) (hf : f ∈ p.files)
    (hb : Normal base) (hl : Normal p.loc) (hfn : NormalSeg f) :
    resolve (base ++ pageDirOf p) [f] ∈ (pageWrites T p).map (base ++ ·) := by
  rw [resolve_pageDir p base _ hb hl (normal_singleton hfn)]
  refine List.mem_map_of_mem ?_
  rw [pageWrites, hrun]
  exact List.mem_cons_of_mem _ (List.mem_append_right _ (List.mem_map.2 ⟨f, hf, rfl⟩))

end Ford.Assets
