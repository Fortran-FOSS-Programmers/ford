/-
  C07 - lemmas about use association: what `FortranModule.get_used_entities`
  (`importTable` / `usedObjects` of the model) hands to the using scope; Props/C07.lean sets it
  against Fortran's rule `useDenotes` (ScopeSpec.lean).
-/
import FordModel.Scope
import FordModel.ScopeSpec
import FordModel.Lemmas.Scope
import FordModel.Lemmas.Chars
namespace Ford.Scope
open Ford

theorem mem_dictKeys (tb : Table) (k : Str) : k ∈ dictKeys tb ↔ ∃ e, (k, e) ∈ tb := by
  induction tb generalizing k with
  | nil => simp [dictKeys]
  | cons x xs ih =>
    obtain ⟨k', v⟩ := x
    simp only [dictKeys, List.mem_cons, Prod.mk.injEq, exists_or, exists_and_left, exists_eq, and_true]
    split
    · rename_i hm
      rw [ih]
      constructor
      · exact Or.inr
      · rintro (rfl | h)
        · exact (ih k).1 hm
        · exact h
    · rw [List.mem_append, List.mem_singleton, ih, or_comm]

theorem mem_dictItems (tb : Table) (k : Str) (e : Ent) : (k, e) ∈ dictItems tb ↔ tget tb k = some e := by
  simp only [dictItems, List.mem_filterMap, Option.map_eq_some_iff, Prod.mk.injEq]
  constructor
  · rintro ⟨k', _, e', he', rfl, rfl⟩; exact he'
  · intro h
    exact ⟨k, (mem_dictKeys tb k).2 ⟨e, tget_mem h⟩, e, h, rfl, rfl⟩

theorem mem_usedObjects (pub : Table) (only : Bool) (un : List (Str × Str)) (n : Str) (e : Ent) :
    (n, e) ∈ usedObjects pub only un ↔ ∃ k, tget pub k = some e ∧ localName only un k = some n := by
  simp only [usedObjects, List.mem_reverse, List.mem_filterMap, Option.map_eq_some_iff, Prod.mk.injEq,
    Prod.exists, mem_dictItems]
  constructor
  · rintro ⟨k, e', hk, n', hn, rfl, rfl⟩; exact ⟨k, hk, hn⟩
  · rintro ⟨k, hk, hn⟩; exact ⟨k, e, hk, n, hn, rfl, rfl⟩

theorem importTable_sound (pub : Table) (u : Use) (n : Str) (e : Ent)
    (h : tget (importTable pub u) n = some e) :
    ∃ k, tget pub k = some e ∧ localName u.only (usedNames u.items) k = some n := by
  unfold importTable at h
  split at h
  · rename_i hc
    simp only [Bool.and_eq_true, List.isEmpty_iff, Bool.not_eq_eq_eq_not, Bool.not_true] at hc
    refine ⟨n, h, ?_⟩
    rw [hc.1, hc.2]
    rfl
  · exact (mem_usedObjects pub u.only _ n e).1 (tget_mem h)

theorem importTable_found (pub : Table) (u : Use) (n k : Str) (e : Ent)
    (hk : tget pub k = some e) (hn : localName u.only (usedNames u.items) k = some n) :
    ∃ e', tget (importTable pub u) n = some e' := by
  unfold importTable
  split
  · rename_i hc
    simp only [Bool.and_eq_true, List.isEmpty_iff, Bool.not_eq_eq_eq_not, Bool.not_true] at hc
    rw [hc.1, hc.2] at hn
    obtain rfl : k = n := Option.some.inj hn
    exact ⟨e, hk⟩
  · exact tget_exists_of_mem ((mem_usedObjects pub u.only _ n e).2 ⟨k, hk, hn⟩)

theorem importTable_unique (pub : Table) (u : Use) (n k : Str)
    (hn : localName u.only (usedNames u.items) k = some n)
    (huniq : ∀ k' e', tget pub k' = some e' → localName u.only (usedNames u.items) k' = some n → k' = k) :
    tget (importTable pub u) n = tget pub k := by
  cases hi : tget (importTable pub u) n with
  | some e' =>
    obtain ⟨k', hk', hn'⟩ := importTable_sound pub u n e' hi
    rw [← huniq k' e' hk' hn', hk']
  | none =>
    cases hk : tget pub k with
    | none => rfl
    | some e =>
      obtain ⟨e', he'⟩ := importTable_found pub u n k e hk hn
      rw [hi] at he'
      cases he'

theorem importTable_none (pub : Table) (u : Use) (n : Str)
    (h : ∀ k, localName u.only (usedNames u.items) k ≠ some n) : tget (importTable pub u) n = none := by
  cases hi : tget (importTable pub u) n with
  | none => rfl
  | some e =>
    obtain ⟨k, _, hn⟩ := importTable_sound pub u n e hi
    exact absurd hn (h k)

theorem sget_append (u d : List (Str × Str)) (k : Str) :
    sget (u ++ d) k = match sget u k with
      | some e => some e
      | none => sget d k := by
  induction u with
  | nil => rfl
  | cons x xs ih =>
    obtain ⟨k', e⟩ := x
    by_cases h : k' = k <;> simp [sget, h, ih]

theorem useItems_cons (m : Str) (o : Bool) (l r : Str) (rest : List (Str × Str)) :
    useItems ⟨m, o, (l, r) :: rest⟩ = (lower l, lower r) :: useItems ⟨m, o, rest⟩ := rfl

theorem sget_usedNames (m : Str) (o : Bool) (items : List (Str × Str)) (k : Str) :
    match sget (usedNames items) k with
    | some l => (l, k) ∈ useItems ⟨m, o, items⟩
    | none => ∀ l, (l, k) ∉ useItems ⟨m, o, items⟩ := by
  induction items with
  | nil => exact fun _ h => nomatch h
  | cons x xs ih =>
    obtain ⟨loc, rem⟩ := x
    simp only [usedNames, sget_append, useItems_cons, sget]
    cases hs : sget (usedNames xs) k with
    | some l =>
      rw [hs] at ih
      exact List.mem_cons_of_mem _ ih
    | none =>
      rw [hs] at ih
      by_cases hk : lower rem = k
      · simp [hk]
      · simpa [hk, Ne.symm hk] using ih

theorem localName_cases (m : Str) (o : Bool) (items : List (Str × Str)) (k n : Str)
    (h : localName o (usedNames items) k = some n) :
    (n, k) ∈ useItems ⟨m, o, items⟩ ∨
      (o = false ∧ k = n ∧ ∀ l, (l, k) ∉ useItems ⟨m, o, items⟩) := by
  have hs := sget_usedNames m o items k
  unfold localName at h
  cases hg : sget (usedNames items) k with
  | some l =>
    rw [hg] at hs h
    cases h
    exact Or.inl hs
  | none =>
    rw [hg] at hs h
    cases o with
    | true => cases h
    | false =>
      cases h
      exact Or.inr ⟨rfl, rfl, hs⟩

theorem localName_of_mem (m : Str) (o : Bool) (items : List (Str × Str)) (k l : Str)
    (nd : ((useItems ⟨m, o, items⟩).map (·.2)).Nodup) (h : (l, k) ∈ useItems ⟨m, o, items⟩) :
    localName o (usedNames items) k = some l := by
  have hs := sget_usedNames m o items k
  unfold localName
  cases hg : sget (usedNames items) k with
  | none =>
    rw [hg] at hs
    exact absurd h (hs l)
  | some l' =>
    rw [hg] at hs
    rw [(Prod.mk.inj (eq_of_nodup_map (·.2) nd hs h rfl)).1]

theorem localName_self (m : Str) (items : List (Str × Str)) (n : Str)
    (h : ∀ l, (l, n) ∉ useItems ⟨m, false, items⟩) : localName false (usedNames items) n = some n := by
  have hs := sget_usedNames m false items n
  unfold localName
  cases hg : sget (usedNames items) n with
  | none => rfl
  | some l =>
    rw [hg] at hs
    exact absurd hs (h l)

end Ford.Scope
