/-
  The converter `convertToFree` against the line-by-line rendering `renderFree`: what `analyse`
  yields on each class of line of a well-formed file (`analyse_item`), then the hold-back loop
  (`convGo_sim`); at the end, how the reader's comment scanner sees converted lines.  The facts
  about `rstrip`/`ljust` and the closure lemmas of `Atoms` that these need stand here too;
  `Lemmas/CallsFixed.lean` and `Props/C08.lean` use them and `convGo_sim`.
-/
import FordModel.Fixed
import FordModel.FixedSpec
import FordModel.Reader
import FordModel.Lemmas.Reader
import FordModel.Generated.C14
namespace Ford.Fixed
open Ford

/-- The variant of the code under test: the flags and the overflow literal that
    `translate/c14.py` derives by running the real `FortranLine` on probe lines
    (`Generated/C14.lean`); the harness probes once more and both must agree. -/
def sourceVariant : Variant :=
  { blankShort := Gen.blankShort, col7Comment := Gen.col7Comment,
    spacedExcess := Gen.excessLiteral == ['!', ' '] }

theorem fieldOk_asIs (lab5 : Str) (c6 : Char) (body : Str) : fieldOk Variant.asIs lab5 c6 body = true := by
  simp [fieldOk, Variant.asIs]

theorem excessMark_cons (v : Variant) :
    excessMark v = '!' :: (if v.spacedExcess then [' '] else []) := by
  cases h : v.spacedExcess <;> simp [excessMark, h]

theorem freeCode_cut (v : Variant) (lab body : Str) (amp : Bool) (h : body.length > 66) :
    freeCode v true lab body amp =
      ljust 72 (if amp then rstrip (lab ++ body.take 66) ++ [' ', '&'] else rstrip (lab ++ body.take 66))
        ++ (excessMark v ++ (body.drop 66 ++ ['\n'])) := by
  simp [freeCode, h]

theorem dropNL_freeCode_amp (v : Variant) (lim : Bool) (lab body : Str) (h : lim = false ∨ body.length ≤ 66) :
    dropNL (freeCode v lim lab body true) = rstrip (lab ++ body) ++ [' ', '&'] := by
  have hc : (lim && decide (body.length > 66)) = false := by
    rcases h with h | h
    · simp [h]
    · simp [Nat.not_lt.mpr h]
  -- grouped so that the terminator is the single last element that `dropNL` takes off
  have e : rstrip (lab ++ body) ++ [' ', '&', '\n'] = (rstrip (lab ++ body) ++ [' ', '&']) ++ ['\n'] := by simp
  simp only [freeCode, hc, Bool.false_eq_true, ↓reduceIte, e]
  simp [dropNL]

theorem contHead_length (s : List FLine) : (contHead s).length = s.length := by
  cases s <;> rfl

theorem convGo_length (v : Variant) (lim : Bool) (stack : List FLine) (ls : List Str) :
    (convGo v lim stack ls).length = stack.length + ls.length := by
  induction ls generalizing stack with
  | nil => simp [convGo]
  | cons l ls ih =>
    simp only [convGo]
    split
    · split <;> simp [ih, contHead_length] <;> omega
    · simp [ih]; omega

theorem rstrip_snoc_space (s : Str) (c : Char) (h : isSpace c = true) :
    rstrip (s ++ [c]) = rstrip s := by
  simp [rstrip, lstrip, h]

theorem rstrip_append_blanks (s : Str) (k : Nat) :
    rstrip (s ++ List.replicate k ' ') = rstrip s := by
  induction k with
  | zero => simp
  | succ k ih =>
    rw [List.replicate_succ', ← List.append_assoc, rstrip_snoc_space _ _ (by decide), ih]

theorem lstrip_length_le (s : Str) : (lstrip s).length ≤ s.length := by
  induction s with
  | nil => simp [lstrip]
  | cons c cs ih =>
    simp only [lstrip]
    split <;> simp <;> omega

theorem rstrip_length_le (s : Str) : (rstrip s).length ≤ s.length := by
  have := lstrip_length_le s.reverse
  simpa [rstrip] using this

theorem rstrip_ljust (n : Nat) (s : Str) : rstrip (ljust n s) = rstrip s := by
  simp [ljust, rstrip_append_blanks]

theorem labelOut_length_le (lab5 : Str) (h : lab5.length = 5) : (labelOut lab5).length ≤ 6 := by
  have h1 : (strip lab5).length ≤ (lstrip lab5).length := rstrip_length_le _
  have h2 := lstrip_length_le lab5
  simp only [labelOut]
  split <;> simp [lower] <;> omega

theorem take_ljust (n : Nat) (s t : Str) (h : s.length ≤ n) :
    (ljust n s ++ t).take n = ljust n s :=
  List.take_left' (by simp only [ljust, List.length_append, List.length_replicate]; omega)

theorem isBlank_of_subset {s t : Str} (h : s ⊆ t) (ht : isBlank t = true) : isBlank s = true := by
  simp only [isBlank, List.all_eq_true] at ht ⊢
  exact fun c hc => ht c (h hc)

theorem rstrip_blank (s : Str) (h : isBlank s = true) : rstrip s = [] := Ford.rstrip_blank s h

theorem strip_blank (s : Str) (h : isBlank s = true) : strip s = [] := Ford.strip_blank s h

/-- `line[6:].lstrip()[:1] == "!"` does not depend on the line terminator -/
theorem lstrip_nl_head (body : Str) :
    ((lstrip (body ++ ['\n'])).head? == some '!') = ((lstrip body).head? == some '!') := by
  induction body with
  | nil => decide
  | cons c cs ih =>
    by_cases hc : isSpace c = true
    · simp only [List.cons_append, lstrip, hc, ↓reduceIte, ih]
    · simp [lstrip, hc]

theorem not_isSpace_of_commentHead (c : Char) (h : commentHead (some c) = true) : isSpace c = false := by
  simp only [commentHead, Bool.or_eq_true, beq_iff_eq] at h
  rcases h with ((rfl | rfl) | rfl) | rfl <;> rfl

theorem analyse_held (v : Variant) (lim : Bool) (l : Str) (h : (analyse v lim l).regular = false) :
    (analyse v lim l).cont = false ∧ (analyse v lim l).long = false ∧ (analyse v lim l).excess = [] := by
  -- unfolding and then inlining the `let`s is much faster to check than `simp only [analyse]`
  unfold analyse at h ⊢
  simp only [] at h ⊢
  simp only [h, Bool.and_false, Bool.false_and, Bool.false_eq_true, ↓reduceIte, and_self, and_true]
  split <;> rfl

theorem analyse_cont (v : Variant) (lim : Bool) (l : Str) (c6 : Char) (rest : Str) (h : l.drop 5 = c6 :: rest) :
    (analyse v lim l).cont = ((analyse v lim l).regular && !(isSpace c6 || c6 == '0')) := by
  simp only [analyse, h]

theorem analyse_comment (v : Variant) (lim : Bool) (c : Char) (rest : Str)
    (hc : commentHead (some c) = true) (ho : lower (rest.take 4) ≠ ['$', 'o', 'm', 'p']) :
    (analyse v lim (c :: rest)).conv = '!' :: rest ∧ (analyse v lim (c :: rest)).regular = false := by
  simp [analyse, hc, ho]

theorem analyse_bang (v : Variant) (lim : Bool) (l : Str)
    (hc : commentHead l.head? = false) (hb : bangLine v l = true) :
    (analyse v lim l).conv = l ∧ (analyse v lim l).regular = false := by
  simp [analyse, hc, hb]

theorem analyse_cpp (v : Variant) (lim : Bool) (rest : Str) :
    (analyse v lim ('#' :: rest)).conv = '#' :: rest ∧ (analyse v lim ('#' :: rest)).regular = false := by
  simp [analyse, commentHead]

theorem analyse_blank_line (v : Variant) (lim : Bool) (l : Str) (hl : l ≠ []) (hb : isBlank l = true)
    (hs : isShortLine v l = true) :
    (analyse v lim l).conv = (if l.length > 6 then l.drop 6 else ['\n']) ∧
    (analyse v lim l).regular = false := by
  obtain ⟨c, t, rfl⟩ := List.exists_cons_of_ne_nil hl
  have hc : isSpace c = true := List.all_eq_true.mp hb c (by simp)
  have ht : isBlank t = true := isBlank_of_subset (by simp) hb
  have hcom : commentHead (some c) = false :=
    Bool.eq_false_iff.mpr fun h => Bool.false_ne_true ((not_isSpace_of_commentHead c h).symm.trans hc)
  have hcpp : (c == '#') = false := beq_false_of_ne fun h => absurd (h ▸ hc) (by decide)
  have hbang : bangLine v (c :: t) = false := by
    have h1 : '!' ∉ t.take 4 := fun hm =>
      absurd (List.all_eq_true.mp ht _ (List.take_subset _ _ hm)) (by decide)
    simp [bangLine, h1, lstrip_blank_nil _ (isBlank_of_subset (List.drop_subset 5 t) ht)]
  have hlab : strip (c :: t.take 4) = [] :=
    strip_blank _ (by simpa [isBlank, hc] using isBlank_of_subset (List.take_subset 4 t) ht)
  simp [analyse, hs, hcom, hcpp, hbang, labelText, hlab, lower]

theorem analyse_blank (v : Variant) (lim : Bool) (n : Nat) (h : (decide (n ≤ 5) || v.blankShort) = true) :
    (analyse v lim (List.replicate n ' ' ++ ['\n'])).conv = List.replicate (n - 6) ' ' ++ ['\n'] ∧
    (analyse v lim (List.replicate n ' ' ++ ['\n'])).regular = false := by
  have hb : isBlank (List.replicate n ' ' ++ ['\n']) = true := by
    rw [isBlank_append, isBlank_replicate]; rfl
  have hs : isShortLine v (List.replicate n ' ' ++ ['\n']) = true := by
    simpa [isShortLine, hb] using h
  obtain ⟨hconv, hreg⟩ := analyse_blank_line v lim _ (by simp) hb hs
  refine ⟨?_, hreg⟩
  rw [hconv]
  simp only [List.length_append, List.length_replicate, List.length_singleton]
  split
  · rw [List.drop_append_of_le_length (by simp; omega), List.drop_replicate]
  · rw [Nat.sub_eq_zero_of_le (by omega)]; rfl

theorem analyse_bang7 (v : Variant) (lim : Bool) (k : Nat) (rest : Str) (hv : v.col7Comment = true) :
    (analyse v lim (List.replicate (6 + k) ' ' ++ '!' :: rest)).conv = List.replicate (6 + k) ' ' ++ '!' :: rest ∧
    (analyse v lim (List.replicate (6 + k) ' ' ++ '!' :: rest)).regular = false := by
  have e : List.replicate (6 + k) ' ' ++ '!' :: rest =
      ' ' :: ' ' :: ' ' :: ' ' :: ' ' :: ' ' :: (List.replicate k ' ' ++ '!' :: rest) := by
    rw [Nat.add_comm]; rfl
  rw [e]
  refine analyse_bang v lim _ rfl ?_
  simp [bangLine, hv, isBlank, isSpace, lstrip_blank_append _ _ (isBlank_replicate k), lstrip]

theorem analyse_stmt (v : Variant) (lim : Bool) (l : Str)
    (hc : commentHead l.head? = false) (hp : (l.head? == some '#') = false)
    (hs : isShortLine v l = false) (hb : bangLine v l = false) :
    (analyse v lim l).regular = true ∧
    (analyse v lim l).long = (decide (l.length > 73) && lim) ∧
    (analyse v lim l).excess = (if decide (l.length > 73) && lim then excessMark v ++ l.drop 72 else []) ∧
    (analyse v lim l).conv = if decide (l.length > 73) && lim
      then ljust 72 (rstrip (labelText l false ++ (l.take 72 ++ ['\n']).drop 6)) ++ (excessMark v ++ l.drop 72)
      else labelText l false ++ l.drop 6 := by
  have h6 : 6 < l.length := by simpa [isShortLine] using (Bool.or_eq_false_iff.mp hs).1
  by_cases hl : 73 < l.length ∧ lim = true
  · have h72 : 6 < min 72 l.length + 1 := by omega
    simp [analyse, hc, hp, hs, hb, hl, h72]
  · simp [analyse, hc, hp, hs, hb, hl, h6]

theorem exists_five_of_length (l : Str) (h : l.length = 5) : ∃ a b c d e, l = [a, b, c, d, e] := by
  match l, h with
  | [a, b, c, d, e], _ => exact ⟨a, b, c, d, e, rfl⟩

theorem labelText_five (a b c d e x : Char) (rest : Str) :
    labelText (a :: b :: c :: d :: e :: x :: rest) false = labelOut [a, b, c, d, e] := by
  simp [labelText, labelOut]

theorem analyse_code (v : Variant) (lim : Bool) (lab5 : Str) (c6 : Char) (body l : Str)
    (hl : l = lab5 ++ c6 :: (body ++ ['\n'])) (h5 : lab5.length = 5)
    (ha : commentHead lab5.head? = false) (ha' : lab5.head? ≠ some '#')
    (hb : (lab5.drop 1).contains '!' = false) (hf : fieldOk v lab5 c6 body = true) :
    (analyse v lim l).conv = freeCode v lim (labelOut lab5) body false ∧
    (analyse v lim l).regular = true ∧
    (analyse v lim l).cont = !(isSpace c6 || c6 == '0') ∧
    (analyse v lim l).long = (lim && decide (body.length > 66)) ∧
    (analyse v lim l).excess =
      if lim && decide (body.length > 66) then excessMark v ++ (body.drop 66 ++ ['\n']) else [] := by
  -- with the five characters of the label field spelled out, `take` and `drop` of the line compute
  obtain ⟨a, b, c, d, e, rfl⟩ := exists_five_of_length lab5 h5
  replace hl : l = a :: b :: c :: d :: e :: c6 :: (body ++ ['\n']) := hl
  replace hb : [b, c, d, e].contains '!' = false := hb
  -- `l` is kept a variable until its fields are rewritten (`subst hl` below): the rewrites then
  -- need not match the spelled-out line.  73 = 66 + 7: six columns and the line terminator.
  have hlong : (decide (l.length > 73) && lim) = (lim && decide (body.length > 66)) := by
    simp only [hl, List.length_cons, List.length_append, List.length_nil, Nat.zero_add, gt_iff_lt, Bool.and_comm,
      Nat.add_assoc, Nat.reduceAdd]
    exact congrArg _ (decide_eq_decide.mpr (Nat.add_lt_add_iff_right (k := 7) (n := 66)))
  simp only [fieldOk, Bool.and_eq_true, Bool.not_eq_true'] at hf
  have hs : isShortLine v l = false := by
    have : isBlank l = isBlank ([a, b, c, d, e] ++ c6 :: body) :=
      hl ▸ (isBlank_append ([a, b, c, d, e] ++ c6 :: body) ['\n']).trans (Bool.and_true _)
    rw [isShortLine, this, hf.1, Bool.or_false]
    simp only [hl, List.length_cons, List.length_append, List.length_nil, decide_eq_false_iff_not]
    omega
  have hbang : bangLine v l = false := by
    simp only [hl, bangLine, List.drop_succ_cons, List.drop_zero, List.take_succ_cons, List.take_zero, hb,
      lstrip_nl_head, Bool.false_or]
    exact hf.2
  obtain ⟨hr, hlg, he, hc⟩ := analyse_stmt v lim l (hl ▸ ha) (hl ▸ beq_false_of_ne ha') hs hbang
  rw [analyse_cont v lim l c6 (body ++ ['\n']) (hl ▸ rfl), hr, hlg, he, hc, hlong]
  subst hl
  rw [labelText_five]
  simp only [List.drop_succ_cons, List.drop_zero, List.take_succ_cons, List.cons_append, freeCode,
    Bool.false_eq_true, ↓reduceIte]
  split
  · rename_i hcut
    have h66 : 66 ≤ body.length := Nat.le_of_lt (of_decide_eq_true (Bool.and_eq_true_iff.mp hcut).2)
    rw [List.take_append_of_le_length h66, List.drop_append_of_le_length h66, ← List.append_assoc (labelOut _),
      rstrip_snoc_space _ _ (by decide)]
    simp
  · simp

theorem continue_code (v : Variant) (lim : Bool) (lab body : Str) (f : FLine) (hlab : lab.length ≤ 6)
    (hc : f.conv = freeCode v lim lab body false) (hl : f.long = (lim && decide (body.length > 66)))
    (he : f.excess = if lim && decide (body.length > 66) then excessMark v ++ (body.drop 66 ++ ['\n']) else []) :
    (continueLine f).conv = freeCode v lim lab body true := by
  by_cases hlg : (lim && decide (body.length > 66)) = true
  · -- by `hlab` the visible part fits in 72 columns: `take 72` of the padded line is the padded line
    have hlen : (rstrip (lab ++ List.take 66 body)).length ≤ 72 := by
      have := rstrip_length_le (lab ++ List.take 66 body)
      simp at this; omega
    simp only [continueLine, freeCode, hc, hl, he, hlg]
    simp only [Bool.not_true, Bool.false_eq_true, ↓reduceIte]
    rw [take_ljust 72 _ _ hlen, rstrip_ljust, rstrip_idem]
  · simp only [continueLine, freeCode, hc, hl, he, hlg]
    simp
    rw [← List.append_assoc, rstrip_snoc_space _ _ (by decide)]

theorem analyse_item (v : Variant) (lim : Bool) (it : Item) (h : it.ok v = true) :
    (analyse v lim (fixedLine it)).conv = freeLine v lim it false ∧
    (analyse v lim (fixedLine it)).regular = it.isRegular ∧
    (it.isRegular = true →
      (analyse v lim (fixedLine it)).cont = it.isCont ∧
      (continueLine (analyse v lim (fixedLine it))).conv = freeLine v lim it true) := by
  cases it with
  | init lab5 c6 body =>
    simp only [Item.ok, Bool.and_eq_true, beq_iff_eq, Bool.not_eq_true', bne_iff_ne] at h
    obtain ⟨⟨⟨⟨⟨h5, hc⟩, hh⟩, hb⟩, h6⟩, hf⟩ := h
    obtain ⟨hconv, hreg, hcont, hlong, hex⟩ :=
      analyse_code v lim lab5 c6 body (fixedLine (.init lab5 c6 body)) rfl h5 hc hh hb hf
    refine ⟨hconv, hreg, fun _ => ⟨?_, continue_code v lim _ body _ (labelOut_length_le _ h5) hconv hlong hex⟩⟩
    rw [hcont, h6]; rfl
  | cont c6 body =>
    have hc6 : (isSpace c6 || c6 == '0') = false := by simpa [Item.ok] using h
    obtain ⟨hconv, hreg, hcont, hlong, hex⟩ :=
      analyse_code v lim blanks5 c6 body (fixedLine (.cont c6 body)) rfl rfl (by decide) (by decide) (by decide)
        (by simp [fieldOk, isBlank, (Bool.or_eq_false_iff.mp hc6).1])
    have hl : labelOut blanks5 = [] := by decide
    rw [hl] at hconv
    refine ⟨hconv, hreg, fun _ => ⟨?_, continue_code v lim [] body _ (by simp) hconv hlong hex⟩⟩
    rw [hcont, hc6]; rfl
  | comment c rest =>
    simp only [Item.ok, Bool.and_eq_true, bne_iff_ne] at h
    exact (analyse_comment v lim c rest h.1 h.2).imp_right (⟨·, nofun⟩)
  | bang25 l =>
    simp only [Item.ok, Bool.and_eq_true, Bool.not_eq_true'] at h
    exact (analyse_bang v lim l h.1 (by rw [bangLine, h.2]; rfl)).imp_right (⟨·, nofun⟩)
  | blank n => exact (analyse_blank v lim n h).imp_right (⟨·, nofun⟩)
  | bang7 k rest => exact (analyse_bang7 v lim k rest h).imp_right (⟨·, nofun⟩)
  | cpp rest => exact (analyse_cpp v lim rest).imp_right (⟨·, nofun⟩)

theorem contHead_append (s : List FLine) (f : FLine) (h : s ≠ []) :
    contHead (s ++ [f]) = contHead s ++ [f] := by
  cases s with
  | nil => exact absurd rfl h
  | cons a t => simp [contHead]

/-- The hold-back invariant: with `stack` held back, the loop over the lines of
    well-formed items yields the held lines - the first of them continued iff
    the next statement-carrying line is a continuation - followed by the
    line-by-line free-form rendering.  `hst`: a continuation line needs a held line to put
    its ` &` on (`contHead [] = []` would lose it). -/
theorem convGo_sim (v : Variant) (lim : Bool) (items : List Item) (stack : List FLine)
    (hok : ∀ it ∈ items, it.ok v = true) (hst : stack ≠ [] ∨ nextIsCont items = false) :
    convGo v lim stack (renderFixed items) =
      (if nextIsCont items then contHead stack else stack).map (·.conv) ++ renderFree v lim items := by
  induction items generalizing stack with
  | nil => simp [renderFixed, convGo, nextIsCont, renderFree]
  | cons it rest ih =>
    have hit := hok it (by simp)
    have hrest : ∀ i ∈ rest, i.ok v = true := fun i hi => hok i (by simp [hi])
    obtain ⟨hconv, hreg, hcl⟩ := analyse_item v lim it hit
    simp only [renderFixed, List.map_cons, convGo, hreg]
    by_cases hr : it.isRegular = true
    · obtain ⟨hcont, hcl⟩ := hcl hr
      have ih' := ih [analyse v lim (fixedLine it)] hrest (Or.inl (by simp))
      simp only [renderFixed] at ih'
      simp only [hr, hcont, ↓reduceIte, ih', nextIsCont, renderFree, Bool.true_and]
      congr 1
      by_cases hn : nextIsCont rest = true
      · simp [hn, contHead, hcl]
      · simp [hn, hconv]
    · have hr' : it.isRegular = false := by simpa using hr
      have ih' := ih (stack ++ [analyse v lim (fixedLine it)]) hrest (Or.inl (by simp))
      simp only [renderFixed] at ih'
      simp only [hr', Bool.false_eq_true, ↓reduceIte, ih', nextIsCont, renderFree, Bool.false_and]
      by_cases hn : nextIsCont rest = true
      · have hs : stack ≠ [] := by
          rcases hst with h | h
          · exact h
          · simp [nextIsCont, hr', hn] at h
        simp [hn, contHead_append _ _ hs, hconv]
      · simp [hn, hconv]

theorem atoms_append (a b : Str) (ha : Atoms a) (hb : Atoms b) : Atoms (a ++ b) := by
  induction ha with
  | nil => simpa using hb
  | plain c rest hq hc _ ih => exact .plain c (rest ++ b) hq hc ih
  | quoted q body rest hq hn _ ih =>
    simpa using Atoms.quoted q body (rest ++ b) hq hn ih

theorem atoms_blanks (k : Nat) : Atoms (List.replicate k ' ') := by
  induction k with
  | zero => exact .nil
  | succ k ih => exact .plain ' ' _ (by decide) (by decide) ih

theorem atoms_ljust (n : Nat) (s : Str) (h : Atoms s) : Atoms (ljust n s) :=
  atoms_append _ _ h (atoms_blanks _)

theorem comScan_after_atoms (p s : Str) (hp : Atoms p) :
    comScan [] (p ++ '!' :: s) = some p.length := by
  simp [comScan, comScanAux_of_atoms [] p s 0 hp, startsWith]

theorem comScanAux_nil_append (a b : Str) (st : QSt) (k : Nat) :
    comScanAux [] (a ++ b) st k =
      match comScanAux [] a st k with
      | some i => some i
      | none => comScanAux [] b (qscan st a) (k + a.length) := by
  induction a generalizing st k with
  | nil => simp [comScanAux, qscan]
  | cons c cs ih =>
    cases st with
    | out =>
      by_cases h1 : c = '!'
      · subst h1; simp [comScanAux, startsWith]
      · cases h2 : isQuote c <;> simp [comScanAux, h1, h2, ih, qscan, qstep, Nat.add_assoc, Nat.add_comm 1]
    | inq q =>
      by_cases h1 : c = q
      · subst h1; simp [comScanAux, ih, qscan, qstep, Nat.add_assoc, Nat.add_comm 1]
      · simp [comScanAux, h1, ih, qscan, qstep, Nat.add_assoc, Nat.add_comm 1]

theorem rstrip_cont_mark (s : Str) : rstrip (s ++ [' ', '&']) = s ++ [' ', '&'] :=
  List.append_assoc s [' '] ['&'] ▸ rstrip_snoc (s ++ [' ']) '&' rfl

theorem lstrip_snoc (s : Str) (c : Char) (h : isSpace c = false) :
    ∃ t, lstrip (s ++ [c]) = t ++ [c] := by
  induction s with
  | nil => exact ⟨[], by simp [lstrip, h]⟩
  | cons a t ih =>
    simp only [List.cons_append, lstrip]
    split
    · exact ih
    · exact ⟨a :: t, rfl⟩

theorem strip_getLast (s : Str) (c : Char) (h : isSpace c = false) :
    (strip (s ++ [c])).getLast? = some c := by
  obtain ⟨t, ht⟩ := lstrip_snoc s c h
  simp [strip, ht, rstrip_snoc _ _ h]

end Ford.Fixed
