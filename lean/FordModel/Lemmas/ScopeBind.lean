/-
  C07 - generic bindings.  The store of correlated types answers like the chain of the ancestors'
  own binding tables (`StoreOK`, kept by `stepType`); with lists of specifics of their own every
  cell is written by the one type that declares it (`Nodup` of the slot ids) and left alone afterwards.
-/
import FordModel.ScopeBind
import FordModel.Lemmas.Scope
namespace Ford.Scope
open Ford

/-- slot ids of the cells of the generic bindings the records declare -/
def recIds : List TypeRec → List Nat
  | [] => []
  | r :: rs => r.gens.map (·.1) ++ recIds rs

theorem recIds_append (a b : List TypeRec) : recIds (a ++ b) = recIds a ++ recIds b := by
  induction a with
  | nil => rfl
  | cons r rs ih => simp [recIds, ih]

/-- for every correlated type, `boundprocs` by name answers like the innermost-first search of the
    own binding tables along its chain of parent types -/
def StoreOK (st : TStore) (earlier : List TypeRec) : Prop :=
  ∀ e n, tget (stateTable (storeGet st e)) n = firstGet (ancestorTables earlier (some e)) n

theorem StoreOK.nil : StoreOK [] [] := fun _ _ => rfl

theorem tab_spec (st : TStore) (earlier : List TypeRec) (h : StoreOK st earlier) (r : TypeRec) (n : Str) :
    tget (r.own ++ stateTable (parentState st r)) n = firstGet (r.own :: ancestorTables earlier r.parent) n := by
  rw [tget_append, firstGet]
  cases tget r.own n with
  | some e => rfl
  | none =>
    unfold parentState
    cases r.parent with
    | none => simp only [stateTable, tget, ancestorTables, firstGet]
    | some p => exact h p n

theorem StoreOK.step (sh : Bool) (st : TStore) (cells : Cells) (earlier : List TypeRec)
    (h : StoreOK st earlier) (r : TypeRec) : StoreOK (stepType sh st cells r).1 (r :: earlier) := by
  intro e n
  simp only [stepType, storeGet, ancestorTables]
  by_cases he : r.ent = e
  · simp only [he, ↓reduceIte, stateTable]
    exact tab_spec st earlier h r n
  · simp only [he, ↓reduceIte]
    exact h e n

theorem cellGet_append (w cells : Cells) (i : Nat) :
    cellGet (w ++ cells) i = match cellGet w i with
      | some e => some e
      | none => cellGet cells i := by
  induction w with
  | nil => simp [cellGet]
  | cons x xs ih =>
    obtain ⟨k, e⟩ := x
    by_cases h : k = i <;> simp [cellGet, h, ih]

theorem cellWrites_miss (tab : Table) (cs : List (Nat × Str)) (i : Nat) (h : i ∉ cs.map (·.1)) :
    cellGet (cellWrites tab cs) i = none := by
  induction cs with
  | nil => simp [cellWrites, cellGet]
  | cons c cs ih =>
    simp only [List.map_cons, List.mem_cons, not_or] at h
    simp only [cellWrites]
    cases tget tab (lower c.2) with
    | none => exact ih h.2
    | some e =>
      simp only [cellGet]
      rw [if_neg (fun hh => h.1 hh.symm)]
      exact ih h.2

theorem cellWrites_hit (tab : Table) (cs : List (Nat × Str)) (c : Nat × Str) (hc : c ∈ cs)
    (nd : (cs.map (·.1)).Nodup) : cellGet (cellWrites tab cs) c.1 = tget tab (lower c.2) := by
  induction cs with
  | nil => cases hc
  | cons d ds ih =>
    simp only [List.map_cons, List.nodup_cons] at nd
    simp only [cellWrites]
    rcases List.mem_cons.mp hc with rfl | hd
    · cases ht : tget tab (lower c.2) with
      | none => simpa [ht] using cellWrites_miss tab ds c.1 nd.1
      | some e => simp [cellGet]
    · have hne : d.1 ≠ c.1 := by
        intro heq
        exact nd.1 (heq ▸ List.mem_map_of_mem (f := (·.1)) hd)
      cases tget tab (lower d.2) with
      | none => exact ih hd nd.2
      | some e =>
        simp only [cellGet, hne, ↓reduceIte]
        exact ih hd nd.2

theorem runTypes_miss (rest : List TypeRec) (st : TStore) (cells : Cells) (i : Nat) (h : i ∉ recIds rest) :
    cellGet (runTypes false st cells rest) i = cellGet cells i := by
  induction rest generalizing st cells with
  | nil => rfl
  | cons r rs ih =>
    simp only [recIds, List.mem_append, not_or] at h
    simp only [runTypes]
    rw [ih _ _ h.2]
    simp only [stepType, Bool.false_eq_true, ↓reduceIte, cellGet_append]
    rw [cellWrites_miss _ _ _ h.1]

/-- **the repaired mechanism resolves every specific of every generic binding as Fortran says**,
    whatever was correlated before (`earlier`, represented by `st`) and whatever comes after -/
theorem runTypes_spec (pre : List TypeRec) (r : TypeRec) (post : List TypeRec) (c : Nat × Str) (hc : c ∈ r.gens)
    (st : TStore) (cells : Cells) (earlier : List TypeRec) (h : StoreOK st earlier)
    (fresh : ∀ i ∈ recIds (pre ++ r :: post), cellGet cells i = none)
    (nd : (recIds (pre ++ r :: post)).Nodup) :
    cellGet (runTypes false st cells (pre ++ r :: post)) c.1 = specGeneric (pre.reverse ++ earlier) r c.2 := by
  induction pre generalizing st cells earlier with
  | nil =>
    -- `r` is correlated now: its cell is written once (`nd`: ids distinct) and no later type declares it
    simp only [List.nil_append, recIds] at nd fresh
    have nd' := List.nodup_append.mp nd
    simp only [List.nil_append, runTypes, List.reverse_nil]
    have hmem : c.1 ∈ r.gens.map (·.1) := List.mem_map_of_mem (f := (·.1)) hc
    have hpost : c.1 ∉ recIds post := fun hh => nd'.2.2 _ hmem _ hh rfl
    rw [runTypes_miss post _ _ _ hpost]
    simp only [stepType, Bool.false_eq_true, ↓reduceIte, cellGet_append]
    rw [cellWrites_hit _ _ c hc nd'.1, tab_spec st earlier h r, fresh _ (List.mem_append_left _ hmem)]
    simp only [specGeneric]
    cases firstGet (r.own :: ancestorTables earlier r.parent) (lower c.2) <;> rfl
  | cons q pre ih =>
    -- `q` is correlated first and joins the types before `r`, most recent first: hence `pre.reverse ++ earlier`
    simp only [List.cons_append, recIds] at nd fresh
    have nd' := List.nodup_append.mp nd
    simp only [List.cons_append, runTypes, List.reverse_cons, List.append_assoc]
    apply ih _ _ (q :: earlier) (StoreOK.step false st cells earlier h q)
    · intro i hi
      simp only [stepType, Bool.false_eq_true, ↓reduceIte, cellGet_append]
      have hq : i ∉ q.gens.map (·.1) := fun hh => nd'.2.2 _ hh _ hi rfl
      rw [cellWrites_miss _ _ _ hq]
      exact fresh i (List.mem_append_right _ hi)
    · exact nd'.2.1

theorem stepType_noParent (sh : Bool) (st : TStore) (cells : Cells) (r : TypeRec) (h : r.parent = none) :
    stepType sh st cells r = stepType false st cells r := by
  cases sh <;> simp [stepType, parentState, h, stateCells]

theorem runTypes_noParent (sh : Bool) (rs : List TypeRec) (st : TStore) (cells : Cells)
    (h : ∀ r ∈ rs, r.parent = none) : runTypes sh st cells rs = runTypes false st cells rs := by
  induction rs generalizing st cells with
  | nil => rfl
  | cons r rs ih =>
    simp only [runTypes]
    rw [stepType_noParent sh st cells r (h r (by simp))]
    exact ih _ _ (fun x hx => h x (by simp [hx]))

theorem stepTypeD_false (sh : Bool) (st : TStore) (cells : Cells) (r : TypeRec) :
    stepTypeD false sh st cells r = stepType sh st cells r := by
  simp [stepTypeD, stepType, inheritTable]

theorem runTypesD_noPrivs (sh : Bool) (rs : List TypeRec) (st : TStore) (cells : Cells)
    (h : ∀ r ∈ rs, r.privs = []) (hst : ∀ e, statePrivs (storeGet st e) = []) :
    runTypesD true sh st cells rs = runTypes sh st cells rs := by
  induction rs generalizing st cells with
  | nil => rfl
  | cons r rs ih =>
    have hp : statePrivs (parentState st r) = [] := by
      unfold parentState
      cases r.parent with
      | none => rfl
      | some p => exact hst p
    have hstep : stepTypeD true sh st cells r = stepType sh st cells r := by
      simp [stepTypeD, stepType, inheritTable, hp]
    simp only [runTypesD, runTypes, hstep]
    apply ih _ _ (fun x hx => h x (List.mem_cons_of_mem _ hx))
    intro e
    simp only [stepType, storeGet]
    split
    · show r.privs ++ statePrivs (parentState st r) = []
      rw [hp, h r List.mem_cons_self]
      rfl
    · exact hst e

end Ford.Scope
