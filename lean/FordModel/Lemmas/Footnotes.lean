/-
  C09 — a text converted at a site that resets the converter lists only its own footnotes.
-/
import FordModel.Footnotes
namespace Ford.Footnotes

theorem mem_addLabel (st : List Str) (l x : Str) : x ∈ addLabel st l ↔ x ∈ st ∨ x = l := by
  unfold addLabel
  split
  · exact ⟨Or.inl, fun h => h.elim id fun e => e ▸ ‹l ∈ st›⟩
  · exact List.mem_append.trans (or_congr_right List.mem_singleton)

theorem mem_addLabels (ls : List Str) : ∀ (st : List Str) (x : Str), x ∈ addLabels st ls ↔ x ∈ st ∨ x ∈ ls := by
  induction ls with
  | nil => intro st x; simp [addLabels]
  | cons l ls ih =>
    intro st x
    rw [addLabels, List.foldl_cons, ← addLabels, ih, mem_addLabel, List.mem_cons, or_assoc]

/-- a text converted by a reset converter, each of whose footnotes is referred to in the text:
    all its footnote links stay inside it -/
theorem convert_reset_ok (c : Conv) (hw : ∀ l ∈ c.defs, l ∈ c.refs) : linksOk (convert [] c).2 = true := by
  unfold convert
  by_cases hb : c.blank = true
  · simp [hb, linksOk]
  simp only [hb, Bool.false_eq_true, if_false, linksOk, Bool.and_eq_true, List.all_eq_true, decide_eq_true_eq, List.mem_filter]
  constructor
  · intro l hl
    exact ⟨hw l (((mem_addLabels c.defs [] l).1 hl).resolve_left List.not_mem_nil), hl⟩
  · exact fun l hl => hl.2

end Ford.Footnotes
