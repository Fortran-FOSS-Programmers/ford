import FordModel.Meta
namespace Ford

/-- a metadata key in the documented form: word characters, lower case, not empty -/
def keyOK (k : Str) : Bool := !k.isEmpty && k.all isWord && lower k == k

/-- a metadata value as written by a user: not empty, no leading or trailing blank -/
def valOK (v : Str) : Bool :=
  match v with
  | [] => false
  | c :: _ => !isSpace c && strip v == v

def four : Str := [' ', ' ', ' ', ' ']

/-- the header a user writes for the dictionary `kvs` -/
def headerLines : List (Str × List Str) → List Str
  | [] => []
  | (_, []) :: rest => headerLines rest
  | (k, v :: vs) :: rest => (k ++ ':' :: ' ' :: v) :: (vs.map (fun w => four ++ w) ++ headerLines rest)

def entryOK (kv : Str × List Str) : Bool := keyOK kv.1 && !kv.2.isEmpty && kv.2.all valOK

theorem isWord_not_space (c : Char) (h : isWord c = true) : isSpace c = false := by
  cases hs : isSpace c with
  | false => rfl
  | true =>
    exfalso
    simp only [isSpace, Bool.or_eq_true, beq_iff_eq] at hs
    rcases hs with ((((h1 | h1) | h1) | h1) | h1) | h1 <;> subst h1 <;> revert h <;> decide

theorem isWord_ne (c d : Char) (hc : isWord c = true) (hd : isWord d = false) : (c == d) = false := by
  cases h : c == d with
  | false => rfl
  | true => rw [eq_of_beq h, hd] at hc; exact absurd hc (by decide)

theorem ne_blank_of_not_space (c : Char) (h : isSpace c = false) : (c == ' ') = false := by
  simp only [isSpace, Bool.or_eq_false_iff] at h
  exact h.1.1.1.1.1

theorem isWord_isKeyChar (c : Char) (h : isWord c = true) : isKeyChar c = true := by
  simp only [isWord, isKeyChar, Bool.or_eq_true] at h ⊢
  rcases h with (h | h) | h <;> simp [h]

theorem takeWhile_key (k r : Str) (h : k.all isWord = true) :
    (k ++ ':' :: r).takeWhile isKeyChar = k ∧ (k ++ ':' :: r).dropWhile isKeyChar = ':' :: r := by
  have hk : ∀ c ∈ k, isKeyChar c = true := fun c hc => isWord_isKeyChar c (List.all_eq_true.1 h c hc)
  have h0 : isKeyChar ':' = false := by decide
  simp [List.takeWhile_append_of_pos hk, List.dropWhile_append_of_pos hk, h0]

theorem addMeta_append (md rest : MetaDict) (k v : Str) (h : k ∉ md.map (·.1)) :
    addMeta (md ++ rest) k v = md ++ addMeta rest k v := by
  induction md with
  | nil => rfl
  | cons e md ih =>
    simp only [List.map_cons, List.mem_cons, not_or] at h
    have hk : (e.1 == k) = false := beq_false_of_ne (Ne.symm h.1)
    simp only [List.cons_append, addMeta, hk, Bool.false_eq_true, ↓reduceIte, ih h.2]

theorem addMeta_new (md : MetaDict) (k v : Str) (h : k ∉ md.map (·.1)) :
    addMeta md k v = md ++ [(k, [v])] := by
  simpa [addMeta] using addMeta_append md [] k v h

theorem addMeta_last (md : MetaDict) (k v : Str) (vs : List Str) (h : k ∉ md.map (·.1)) :
    addMeta (md ++ [(k, vs)]) k v = md ++ [(k, vs ++ [v])] := by
  simpa [addMeta] using addMeta_append md [(k, vs)] k v h

theorem strip_of_valOK (v : Str) (h : valOK v = true) : strip v = v ∧ ∃ c cs, v = c :: cs ∧ isSpace c = false := by
  cases v with
  | nil => simp [valOK] at h
  | cons c cs =>
    simp [valOK] at h
    exact ⟨h.2, c, cs, rfl, h.1⟩

theorem wide_line (n : Nat) (hn : 4 ≤ n) (c : Char) (cs : Str) (hc : isSpace c = false) :
    isBlank (List.replicate n ' ' ++ c :: cs) = false ∧ metaEndRe (List.replicate n ' ' ++ c :: cs) = false ∧
      metaRe (List.replicate n ' ' ++ c :: cs) = none := by
  have hne := ne_blank_of_not_space c hc
  refine ⟨?_, ?_, ?_⟩
  · simp [isBlank, hc]
  · obtain ⟨m, rfl⟩ : ∃ m, n = m + 1 := ⟨n - 1, by omega⟩
    simp [metaEndRe, startsWith, List.replicate_succ]
  · have tw : (List.replicate n ' ' ++ c :: cs).takeWhile (· == ' ') = List.replicate n ' ' := by
      rw [List.takeWhile_append_of_pos (by simp)]
      simp [hne]
    unfold metaRe
    simp only [tw, List.length_replicate]
    have : n > 3 := by omega
    simp [this]

theorem cont_line (v : Str) (h : valOK v = true) :
    isBlank (four ++ v) = false ∧ metaEndRe (four ++ v) = false ∧ metaRe (four ++ v) = none ∧
      metaMoreRe (four ++ v) = some v := by
  obtain ⟨hs, c, cs, rfl, hc⟩ := strip_of_valOK v h
  obtain ⟨h1, h2, h3⟩ := wide_line 4 (Nat.le_refl 4) c cs hc
  refine ⟨h1, h2, h3, ?_⟩
  have : strip (four ++ c :: cs) = strip (c :: cs) := by simp [strip, four, lstrip, isSpace]
  simp [metaMoreRe, this, hs]
  simp [four]

theorem lstrip_word (k : Str) (hall : k.all isWord = true) : lstrip k = k := by
  cases k with
  | nil => rfl
  | cons a as =>
    simp at hall
    simp [lstrip, isWord_not_space a hall.1]

theorem strip_word (k : Str) (hall : k.all isWord = true) : strip k = k := by
  have hr : k.reverse.all isWord = true := by simpa using hall
  simp [strip, rstrip, lstrip_word k hall, lstrip_word k.reverse hr]

theorem takeWhile_colon (k r : Str) (hall : k.all isWord = true) :
    (k ++ ':' :: r).takeWhile (· != ':') = k := by
  have hk : ∀ c ∈ k, (c != ':') = true := fun c hc => by
    simp [bne, isWord_ne c ':' (List.all_eq_true.1 hall c hc) (by decide)]
  simp [List.takeWhile_append_of_pos hk]

/-- the key may be written in any letter case (`metaLoop` lower-cases it) -/
theorem key_line (k v : Str) (hne : k ≠ []) (hall : k.all isWord = true) (hv : valOK v = true) :
    isBlank (k ++ ':' :: ' ' :: v) = false ∧ metaEndRe (k ++ ':' :: ' ' :: v) = false ∧
      beginRe (k ++ ':' :: ' ' :: v) = false ∧
      ∃ v', metaRe (k ++ ':' :: ' ' :: v) = some (k, v') ∧ strip v' = v := by
  obtain ⟨hs, c, cs, rfl, hc⟩ := strip_of_valOK v hv
  cases k with
  | nil => exact absurd rfl hne
  | cons a as =>
    have ha : isWord a = true := by simp at hall; exact hall.1
    have hsp := isWord_not_space a ha
    have hb := isWord_ne a ' ' ha (by decide)
    have hd := isWord_ne a '-' ha (by decide)
    have hdot := isWord_ne a '.' ha (by decide)
    obtain ⟨t1, t2⟩ := takeWhile_key (a :: as) (' ' :: c :: cs) hall
    refine ⟨by simp [isBlank, hsp], by simp [metaEndRe, startsWith, hd, hdot], by simp [beginRe, startsWith, hd],
      lstrip (' ' :: c :: cs), ?_, ?_⟩
    · have tw : ((a :: as) ++ ':' :: ' ' :: c :: cs).takeWhile (· == ' ') = [] := by simp [hb]
      have dw : ((a :: as) ++ ':' :: ' ' :: c :: cs).dropWhile (· == ' ')
          = (a :: as) ++ ':' :: ' ' :: c :: cs := by simp [hb]
      unfold metaRe
      simp only [tw, dw, t1, t2]
      simp
    · rw [show lstrip (' ' :: c :: cs) = lstrip (c :: cs) from rfl, lstrip_of_not_space c cs hc]
      exact hs

theorem metaLoop_key_line (k v : Str) (hne : k ≠ []) (hall : k.all isWord = true) (hv : valOK v = true)
    (rest : List Str) (key : Option Str) (md : MetaDict) :
    metaLoop ((k ++ ':' :: ' ' :: v) :: rest) key md = metaLoop rest (some (lower k)) (addMeta md (lower k) v) := by
  obtain ⟨b1, b2, _, v', b4, b5⟩ := key_line k v hne hall hv
  simp [metaLoop, b1, b2, b4, b5]

theorem metaSplit_key_line (k v : Str) (hne : k ≠ []) (hall : k.all isWord = true) (hv : valOK v = true)
    (rest : List Str) :
    metaSplit ((k ++ ':' :: ' ' :: v) :: rest) = metaLoop rest (some (lower k)) [(lower k, [v])] := by
  simp [metaSplit, (key_line k v hne hall hv).2.2.1, metaLoop_key_line k v hne hall hv, addMeta]

theorem metaLoop_cont (vs' : List Str) (hv : vs'.all valOK = true) (rest : List Str) (k : Str)
    (md : MetaDict) (vs0 : List Str) (hk : k ∉ md.map (·.1)) :
    metaLoop (vs'.map (fun w => four ++ w) ++ rest) (some k) (md ++ [(k, vs0)])
      = metaLoop rest (some k) (md ++ [(k, vs0 ++ vs')]) := by
  induction vs' generalizing vs0 with
  | nil => simp
  | cons v vs' ih =>
    simp at hv
    obtain ⟨c1, c2, c3, c4⟩ := cont_line v hv.1
    simp only [List.map_cons, List.cons_append]
    have step : metaLoop ((four ++ v) :: (vs'.map (fun w => four ++ w) ++ rest)) (some k) (md ++ [(k, vs0)])
        = metaLoop (vs'.map (fun w => four ++ w) ++ rest) (some k) (addMeta (md ++ [(k, vs0)]) k v) := by
      simp [metaLoop, c1, c2, c3, c4]
    rw [step, addMeta_last _ _ _ _ hk, ih (by simpa using hv.2)]
    simp

theorem metaLoop_header (kvs : List (Str × List Str)) (hok : kvs.all entryOK = true) (md : MetaDict)
    (hnd : ((md ++ kvs).map (·.1)).Nodup) (tail : List Str) (key : Option Str) :
    ∃ key', metaLoop (headerLines kvs ++ tail) key md = metaLoop tail key' (md ++ kvs) := by
  induction kvs generalizing md key with
  | nil => exact ⟨key, by simp [headerLines]⟩
  | cons kv rest ih =>
    obtain ⟨k, vs⟩ := kv
    simp only [List.all_cons, Bool.and_eq_true, entryOK, keyOK, Bool.not_eq_true', beq_iff_eq,
      List.isEmpty_eq_false_iff] at hok
    obtain ⟨⟨⟨⟨⟨hne, hw⟩, hlow⟩, hvne⟩, hvs⟩, hrest⟩ := hok
    cases vs with
    | nil => exact absurd rfl hvne
    | cons v vs' =>
      simp only [List.all_cons, Bool.and_eq_true] at hvs
      have hknew : k ∉ md.map (·.1) := by
        intro hmem
        simp only [List.map_append, List.map_cons] at hnd
        exact (List.nodup_append.1 hnd).2.2 k hmem k (by simp) rfl
      rw [List.append_cons] at hnd
      obtain ⟨key', hk'⟩ := ih hrest (md ++ [(k, v :: vs')]) hnd (some k)
      refine ⟨key', ?_⟩
      simp only [headerLines, List.cons_append, List.append_assoc]
      rw [metaLoop_key_line k v hne hw hvs.1, hlow, addMeta_new _ _ _ hknew, metaLoop_cont vs' hvs.2 _ k md [v] hknew, List.singleton_append, hk',
        ← List.append_cons]

/-- `meta_preprocessor` on a header followed by a line `b` that is no `---` line: the first line is no
    `---` line either (a key line, or `b` itself), so nothing is skipped, and the scan reaches `b` with the
    dictionary complete -/
theorem metaSplit_header_then (kvs : List (Str × List Str)) (hok : kvs.all entryOK = true)
    (hnd : (kvs.map (·.1)).Nodup) (b : Str) (body : List Str) (hb : beginRe b = false) :
    ∃ key, metaSplit (headerLines kvs ++ b :: body) = metaLoop (b :: body) key kvs := by
  obtain ⟨key, h⟩ := metaLoop_header kvs hok [] hnd (b :: body) none
  refine ⟨key, ?_⟩
  rw [List.nil_append] at h
  rw [← h]
  match kvs, hok with
  | [], _ => simp [headerLines, metaSplit, hb]
  | (k, []) :: _, hok => simp [entryOK] at hok
  | (k, v :: vs) :: _, hok =>
    simp only [List.all_cons, Bool.and_eq_true, entryOK, keyOK, Bool.not_eq_true', List.isEmpty_eq_false_iff] at hok
    simp only [headerLines, List.cons_append]
    rw [metaSplit_key_line k v hok.1.1.1.1.1 hok.1.1.1.1.2 hok.1.2.1,
      metaLoop_key_line k v hok.1.1.1.1.1 hok.1.1.1.1.2 hok.1.2.1]
    rfl

/-- the scan of `meta_preprocessor` on a first line that is neither blank, nor a `---`/`...`
    line, nor a `key:` line, while no key has been seen yet: the scan ends at once and the line
    is pushed back — also when the line looks like a continuation line (four or more blanks) -/
theorem metaLoop_first_not_meta (l : Str) (rest : List Str) (md : MetaDict)
    (h1 : isBlank l = false) (h2 : metaEndRe l = false) (h3 : metaRe l = none) :
    metaLoop (l :: rest) none md = (md, l :: rest) := by
  cases hm : metaMoreRe l <;> simp [metaLoop, h1, h2, h3, hm]

theorem metaSplit_first_not_meta (l : Str) (rest : List Str)
    (h1 : isBlank l = false) (h2 : metaEndRe l = false) (h3 : metaRe l = none) :
    metaSplit (l :: rest) = ([], l :: rest) := by
  have hb : beginRe l = false := by
    simp only [metaEndRe, Bool.or_eq_false_iff] at h2; exact h2.1
  simp [metaSplit, hb, metaLoop_first_not_meta l rest [] h1 h2 h3]

end Ford
