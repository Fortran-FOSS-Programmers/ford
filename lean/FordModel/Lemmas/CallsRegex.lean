/-
  Lemmas about the regular-expression interpreter of `CallsRegex.lean`: membership in the
  list of residuals is compositional, so "this structured text is matched" is proved by
  walking along the generated parse tree.
-/
import FordModel.CallsRegex
namespace Ford.Rx
open Ford

variable {ci : Bool} {total : Nat}

theorem mem_run_seq {a b : Re} {s m t : Str} (h1 : m ∈ run ci total a s)
    (h2 : t ∈ run ci total b m) : t ∈ run ci total (.seq a b) s := by
  simp only [run, List.mem_flatMap]
  exact ⟨m, h1, h2⟩

theorem mem_run_set {neg : Bool} {items : List Item} {c : Char} {s : Str}
    (h : setHas ci neg items c = true) : s ∈ run ci total (.set neg items) (c :: s) := by
  simp [run, h]

theorem mem_run_bol {s : Str} (h : s.length = total) : s ∈ run ci total .bol s := by
  simp [run, h]

theorem mem_run_eol : ([] : Str) ∈ run ci total .eol [] := by
  simp [run]

theorem mem_run_eps {s : Str} : s ∈ run ci total .eps s := by
  simp [run]

theorem mem_run_alt_left {a b : Re} {s t : Str} (h : t ∈ run ci total a s) :
    t ∈ run ci total (.alt a b) s := by
  simp [run, h]

theorem mem_run_alt_right {a b : Re} {s t : Str} (h : t ∈ run ci total b s) :
    t ∈ run ci total (.alt a b) s := by
  simp [run, h]

theorem mem_run_star_set {neg : Bool} {items : List Item} (w y : Str)
    (h : ∀ c ∈ w, setHas ci neg items c = true) :
    y ∈ run ci total (.star (.set neg items)) (w ++ y) := by
  simp only [run]
  induction w with
  | nil => simp [runStar]
  | cons c w ih =>
    have hc := h c (by simp)
    have ih' := ih (fun d hd => h d (by simp [hd]))
    have : (c :: w ++ y).length + 1 = ((w ++ y).length + 1) + 1 := by simp
    rw [this, runStar]
    refine List.mem_cons_of_mem _ (List.mem_flatMap.mpr ⟨w ++ y, ?_, ih'⟩)
    exact List.mem_filter.mpr ⟨mem_run_set hc, by simp⟩

theorem mem_seq_set {neg : Bool} {items : List Item} {b : Re} {c : Char} {s t : Str}
    (h : setHas ci neg items c = true) (h2 : t ∈ run ci total b s) :
    t ∈ run ci total (.seq (.set neg items) b) (c :: s) :=
  mem_run_seq (mem_run_set h) h2

theorem mem_seq_star_set {neg : Bool} {items : List Item} {b : Re} (w : Str) {y t : Str}
    (h : ∀ c ∈ w, setHas ci neg items c = true) (h2 : t ∈ run ci total b y) :
    t ∈ run ci total (.seq (.star (.set neg items)) b) (w ++ y) :=
  mem_run_seq (mem_run_star_set w y h) h2

/-- `[class]+` (expanded by the translator to `x x*`) followed by the rest of the sequence -/
theorem mem_seq_plus_set {neg : Bool} {items : List Item} {b : Re} (w : Str) {y t : Str}
    (hne : w ≠ []) (h : ∀ c ∈ w, setHas ci neg items c = true) (h2 : t ∈ run ci total b y) :
    t ∈ run ci total (.seq (.seq (.set neg items) (.star (.set neg items))) b) (w ++ y) := by
  cases w with
  | nil => exact absurd rfl hne
  | cons c w =>
    refine mem_run_seq (mem_run_seq (mem_run_set (h c (by simp))) ?_) h2
    exact mem_run_star_set w y (fun d hd => h d (by simp [hd]))

theorem matchAt_of_mem (p : Pattern) {s t : Str} (h : t ∈ run p.ci total p.body s) :
    p.matchAt total s = true := by
  simp only [Pattern.matchAt, Bool.not_eq_true', List.isEmpty_eq_false_iff]
  exact List.ne_nil_of_mem h

theorem searchFrom_append (p : Pattern) (pre s : Str) (h : p.matchAt total s = true) :
    p.searchFrom total (pre ++ s) = true := by
  induction pre with
  | nil => cases s <;> simp [Pattern.searchFrom, h]
  | cons c cs ih => simp [Pattern.searchFrom, ih]

theorem setHas_chr_ci {x c : Char} (h : lowerChar c = x) : setHas true false [.chr x] c = true := by
  simp [setHas, Item.has, h]

theorem setHas_chr {b : Bool} {x : Char} : setHas b false [.chr x] x = true := by
  simp [setHas, Item.has]

theorem setHas_space {b : Bool} {c : Char} (h : isSpace c = true) : setHas b false [.space] c = true := by
  simp [setHas, Item.has, h]

theorem setHas_notnl {b : Bool} {c : Char} (h : c ≠ '\n') : setHas b false [.notnl] c = true := by
  simp [setHas, Item.has, h]

/-- the literals `cs`, one class each, followed by `b`: what the translator makes of a word -/
def lits (cs : Str) (b : Re) : Re := cs.foldr (fun c r => .seq (.set false [.chr c]) r) b

theorem mem_seq_lits {cs : Str} {b : Re} {kw s t : Str} (h : lower kw = cs)
    (h2 : t ∈ run true total b s) : t ∈ run true total (lits cs b) (kw ++ s) := by
  subst h
  induction kw with
  | nil => exact h2
  | cons k ks ih => exact mem_seq_set (setHas_chr_ci rfl) ih

end Ford.Rx
