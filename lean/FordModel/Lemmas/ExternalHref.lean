/-
  Lemmas for C16: a reference made relative to the sibling directory `non-existent dir`
  leads, from every page directory next to it, to the target.
-/
import FordModel.ExternalHref
import FordModel.Lemmas.Path
namespace Ford.Ext
open Ford Ford.Path

/-- Walking to a page directory `P/d`, then along `relpath t (P/X)`, ends on `t` - for every sibling `d`
    of `X`, unless `t` lies below `P/X` itself: the first step of that way leaves `X`, and it leaves `d` as well. -/
theorem foldl_sibling (P t : List Seg) (d X : Seg) (hP : Normal P) (ht : Normal t) (hd : NormalSeg d)
    (hX : NormalSeg X) (hx : ¬ (P ++ [X]) <+: t) (st : List Seg) :
    ((P ++ [d]) ++ relpath t (P ++ [X])).foldl normStep st = t.reverse ++ st := by
  have hPX : Normal (P ++ [X]) := normal_append hP (fun s hs => List.mem_singleton.mp hs ▸ hX)
  have h := foldl_relpath t (P ++ [X]) ht hPX st
  obtain ⟨r, hr⟩ := relpath_head_up t (P ++ [X]) hx
  rw [hr] at h ⊢
  simp only [List.foldl_append, List.foldl_cons, List.foldl_nil, normStep_normal _ X hX,
    normStep_normal _ d hd, normStep_up, List.tail_cons] at h ⊢
  exact h

theorem pathSegs_normal (s : Str) (hup : up ∉ pathSegs s) : Normal (pathSegs s) := by
  intro x hx
  have hne : x ≠ up := fun h => hup (h ▸ hx)
  simp only [pathSegs, List.mem_filter, Bool.and_eq_true, Bool.not_eq_true', bne_iff_ne] at hx
  exact ⟨fun h => by rw [h] at hx; exact Bool.noConfusion hx.2.1, hx.2.2, hne⟩

/-- what `re.match("https?://", u)` accepts, `u.startswith("http")` accepts -/
theorem startsWith_kHttp (u : Str) (h : (stripHttp u).isSome = true) : startsWith u kHttp = true := by
  unfold stripHttp at h
  split at h
  · rfl
  · rfl
  · cases h

end Ford.Ext
