/-
  Lemmas about `find_used_modules` (FordModel/UseBind.lean): the scan over
  `chain(modules, external_modules)` prefers the project's own module, and external stubs
  (empty tables) have no influence on the name tables.
-/
import FordModel.UseBind
namespace Ford.Use
open Ford

/-- all module names and all names in USE statements are already in the lower-case form the
    comparison of `find_used_modules` uses (what the harness sends when a project spells every
    module name in lower case) -/
def LowerNames (g : List Scope) (ns : List Nested) : Prop :=
  (∀ m ∈ g, lower m.name = m.name) ∧ (∀ m ∈ g, ∀ u ∈ m.uses, lower u.mod = u.mod) ∧
  (∀ x ∈ ns, ∀ u ∈ x.scope.uses, lower u.mod = u.mod)

/-- the scan restricted to the project's own modules (the property theorems spell this body out) -/
def projMatch (g : List Scope) (n : Str) : Option Scope :=
  g.find? (fun m => m.isMod && lower m.name == lower n)

theorem find_chain (g : List Scope) (exts : List ExtMod) (n : Str) :
    (chainCands g exts).find? (fun c => lower c.name == lower n) =
      ((projMatch g n).map Cand.proj).or ((exts.find? (fun e => lower e.name == lower n)).map .ext) := by
  unfold chainCands projMatch
  rw [List.find?_append, List.find?_map, List.find?_map, List.find?_filter]
  simp only [Function.comp_def, Cand.name, Bool.and_eq_decide]
  -- what is left differs in the `Decidable` instance of the conjunction only
  rfl

theorem bindName_of_projMatch (g : List Scope) (exts : List ExtMod) (n : Str) (p : Scope)
    (h : projMatch g n = some p) : bindName g exts n = .project p := by
  unfold bindName
  rw [find_chain, h]
  rfl

theorem bindName_of_noproj (g : List Scope) (exts : List ExtMod) (n : Str)
    (h : projMatch g n = none) :
    bindName g exts n = match exts.find? (fun e => lower e.name == lower n) with
      | some e => .external e
      | none => .unbound := by
  unfold bindName
  rw [find_chain, h]
  cases exts.find? (fun e => lower e.name == lower n) <;> rfl

theorem projMatch_some (g : List Scope) (n : Str) (p : Scope) (h : projMatch g n = some p) :
    p ∈ g ∧ p.isMod = true ∧ lower p.name = lower n := by
  unfold projMatch at h
  have h1 := List.mem_of_find?_eq_some h
  have h2 := List.find?_some h
  simp at h2
  exact ⟨h1, h2.1, h2.2⟩

theorem projMatch_none (g : List Scope) (n : Str) (h : projMatch g n = none) (m : Scope) (hm : m ∈ g)
    (hi : m.isMod = true) : lower m.name ≠ lower n := by
  unfold projMatch at h
  have := List.find?_eq_none.mp h m hm
  simpa [hi] using this

theorem bindUse_eq (g : List Scope) (exts : List ExtMod) (u : UseA) :
    bindUse g exts u = (projMatch g u.mod).map (fun p => { u with mod := p.name }) := by
  unfold bindUse
  cases h : projMatch g u.mod with
  | some p => rw [bindName_of_projMatch g exts u.mod p h]; rfl
  | none =>
    rw [bindName_of_noproj g exts u.mod h]
    cases exts.find? (fun e => lower e.name == lower u.mod) <;> rfl

/-! ### the bound project has the same name tables when nothing needed canonicalising -/

theorem findMod_map_bind (g g0 : List Scope) (exts : List ExtMod) (n : Str) :
    findMod (g.map (bindScope g0 exts)) n = (findMod g n).map (bindScope g0 exts) := by
  unfold findMod
  rw [List.find?_map]
  rfl

theorem findScope_map_bind (g g0 : List Scope) (exts : List ExtMod) (n : Str) :
    findScope (g.map (bindScope g0 exts)) n = (findScope g n).map (bindScope g0 exts) := by
  unfold findScope
  rw [List.find?_map]
  rfl

theorem getUsed_mod_irrelevant (u : UseA) (x : Str) (pub : Table) :
    getUsed { u with mod := x } pub = getUsed u pub := rfl

theorem shouldBePublic_bind (g : List Scope) (exts : List ExtMod) (m : Scope) (n : Str) :
    shouldBePublic (bindScope g exts m) n = shouldBePublic m n := rfl

theorem findMod_eq_projMatch (g : List Scope) (hl : ∀ m ∈ g, lower m.name = m.name) (n : Str)
    (hn : lower n = n) : findMod g n = projMatch g n := by
  unfold findMod projMatch
  induction g with
  | nil => rfl
  | cons a t ih =>
    have ha := hl a (List.mem_cons_self)
    have iht := ih (fun m hm => hl m (List.mem_cons_of_mem _ hm))
    simp only [List.find?, ha, hn] at iht ⊢
    cases (a.isMod && a.name == n)
    · exact iht
    · rfl

theorem useStep_bound (g : List Scope) (exts : List ExtMod) (hl : ∀ m ∈ g, lower m.name = m.name)
    (st : State) (m : Scope) (t : Tabs) (u : UseA) (hu : lower u.mod = u.mod) :
    (match bindUse g exts u with
      | some u' => useStep (bindG g exts) st (bindScope g exts m) t u'
      | none => t) = useStep g st m t u := by
  rw [bindUse_eq]
  have hf := findMod_eq_projMatch g hl u.mod hu
  cases h : projMatch g u.mod with
  | none =>
    simp only [Option.map]
    unfold useStep; rw [hf, h]
  | some p =>
    simp only [Option.map]
    obtain ⟨_, _, hpn⟩ := projMatch_some g u.mod p h
    have hpl := hl p (projMatch_some g u.mod p h).1
    have hname : p.name = u.mod := by rw [← hpl, hpn, hu]
    unfold useStep bindG
    rw [findMod_map_bind, hname, hf, h]
    rfl

theorem useFold_bound (g : List Scope) (exts : List ExtMod) (hl : ∀ m ∈ g, lower m.name = m.name)
    (st : State) (m : Scope) (us : List UseA) (hu : ∀ u ∈ us, lower u.mod = u.mod) (t : Tabs) :
    (bindUses g exts us).foldl (useStep (bindG g exts) st (bindScope g exts m)) t
      = us.foldl (useStep g st m) t := by
  induction us generalizing t with
  | nil => rfl
  | cons u r ih =>
    have h1 := useStep_bound g exts hl st m t u (hu u List.mem_cons_self)
    have ih' := fun t => ih (fun v hv => hu v (List.mem_cons_of_mem _ hv)) t
    unfold bindUses at *
    simp only [List.filterMap_cons, List.foldl_cons]
    cases hb : bindUse g exts u with
    | none => rw [hb] at h1; simp only at h1; rw [← h1]; exact ih' t
    | some u' => rw [hb] at h1; simp only at h1; rw [List.foldl_cons, h1]; exact ih' _

theorem step_bound (g : List Scope) (exts : List ExtMod) (hl : ∀ m ∈ g, lower m.name = m.name)
    (hu : ∀ m ∈ g, ∀ u ∈ m.uses, lower u.mod = u.mod) (st : State) (n : Str) :
    step (bindG g exts) st n = step g st n := by
  unfold step
  -- `show`: `bindG`, `bindScope` are unfolded by hand so that the rewrite below finds its pattern
  show (match findScope (g.map (bindScope g exts)) n with | none => st | some m => _) = _
  rw [findScope_map_bind]
  cases h : findScope g n with
  | none => rfl
  | some m =>
    simp only [Option.map]
    have hm : m ∈ g := by unfold findScope at h; exact List.mem_of_find?_eq_some h
    unfold correlate
    show aset st n ((bindUses g exts m.uses).foldl (useStep (bindG g exts) st (bindScope g exts m)) (getTabs st m.name)) = _
    rw [useFold_bound g exts hl st m m.uses (hu m hm)]

theorem stepNested_bound (g : List Scope) (exts : List ExtMod) (hl : ∀ m ∈ g, lower m.name = m.name)
    (k : Nat) (st : State) (x : Nested) (hu : ∀ u ∈ x.scope.uses, lower u.mod = u.mod) :
    stepNested (bindG g exts) k st { x with scope := bindScope g exts x.scope } = stepNested g k st x := by
  unfold stepNested correlateNested
  show aset st x.scope.name ((bindUses g exts x.scope.uses).foldl
      (useStep (bindG g exts) st (bindScope g exts x.scope)) (nestedStart k (getTabs st x.host).all x.scope)) = _
  rw [useFold_bound g exts hl st x.scope x.scope.uses hu]

theorem nestedFold_bound (g : List Scope) (exts : List ExtMod) (hl : ∀ m ∈ g, lower m.name = m.name)
    (k : Nat) (xs : List Nested) (hu : ∀ x ∈ xs, ∀ u ∈ x.scope.uses, lower u.mod = u.mod) (st : State) :
    (xs.map (fun x => { x with scope := bindScope g exts x.scope })).foldl (stepNested (bindG g exts) k) st
      = xs.foldl (stepNested g k) st := by
  induction xs generalizing st with
  | nil => rfl
  | cons x r ih =>
    simp only [List.map, List.foldl]
    rw [stepNested_bound g exts hl k st x (hu x List.mem_cons_self)]
    exact ih (fun y hy => hu y (List.mem_cons_of_mem _ hy)) _

theorem filter_map_bind (g : List Scope) (exts : List ExtMod) (ns : List Nested) (n : Str) :
    (bindNs g exts ns).filter (fun x => x.root == n)
      = (ns.filter (fun x => x.root == n)).map (fun x => { x with scope := bindScope g exts x.scope }) := by
  unfold bindNs
  rw [List.filter_map]
  rfl

theorem stepN_bound (g : List Scope) (exts : List ExtMod) (ns : List Nested) (h : LowerNames g ns)
    (k : Nat) (st : State) (n : Str) :
    stepN (bindG g exts) (bindNs g exts ns) k st n = stepN g ns k st n := by
  unfold stepN
  rw [filter_map_bind, step_bound g exts h.1 h.2.1]
  exact nestedFold_bound g exts h.1 k _ (fun x hx => h.2.2 x ((List.mem_filter.mp hx).1)) _

theorem init_bind (k : Nat) (g g0 : List Scope) (exts : List ExtMod) :
    init k (g.map (bindScope g0 exts)) = init k g := by
  unfold init
  rw [List.foldl_map]
  rfl

/-- after binding, every USE statement that is left names a module of the project by its
    declared name -/
theorem bindUses_resolved (g : List Scope) (exts : List ExtMod) (us : List UseA) (u : UseA)
    (h : u ∈ bindUses g exts us) : ∃ p ∈ g, p.isMod = true ∧ u.mod = p.name := by
  unfold bindUses at h
  obtain ⟨v, _, hv⟩ := List.mem_filterMap.mp h
  rw [bindUse_eq] at hv
  cases hp : projMatch g v.mod with
  | none => rw [hp] at hv; simp at hv
  | some p =>
    rw [hp] at hv
    simp only [Option.map, Option.some.injEq] at hv
    obtain ⟨h1, h2, _⟩ := projMatch_some g v.mod p hp
    exact ⟨p, h1, h2, by rw [← hv]⟩

end Ford.Use
