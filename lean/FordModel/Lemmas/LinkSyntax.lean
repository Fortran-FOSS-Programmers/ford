/-
  C11 - lemmas about the tokenizer of `[[...]]` references (FordModel/LinkSyntax.lean):
  a written reference is read back part by part, whatever follows it; the inline loop cuts a text
  written as `pre₁ [[r₁]] pre₂ [[r₂]] ... post` into exactly these pieces.
-/
import FordModel.LinkSyntax
namespace Ford.Links
open Ford

/-- the separators of the `name` group can be told from word characters and from the delimiters that
    may follow the name (`(`, `:`, `]`), and `.` (file extension) is one of them -/
def NameCfg.ok (cfg : NameCfg) : Bool :=
  cfg.seps.contains '.' &&
  cfg.seps.all fun c => !isWordU c && c != '(' && c != ':' && c != ']' && c != '['

/-- what may follow a name: nothing, or a character that is neither a word character nor a separator -/
def Stops (cfg : NameCfg) (rest : Str) : Prop :=
  ∀ c, rest.head? = some c → isWordU c = false ∧ cfg.seps.contains c = false

def qualS : Option Str → Str
  | some s => '(' :: s ++ [')']
  | none => []

def childS (r : Ref) : Str :=
  match r.child with
  | some c => ':' :: c ++ qualS r.childKind
  | none => []

theorem render_eq (r : Ref) :
    r.render = '[' :: '[' :: (r.name ++ (qualS r.kind ++ (childS r ++ [']', ']']))) := by
  -- the literals `"[["`, `"]]"` are `String.ofList` of their characters: `toList` is rewritten, not evaluated
  simp -index only [Ref.render, String.toList_ofList, List.append_assoc, List.cons_append, List.nil_append]
  rfl

theorem isWordU_of_isWord (c : Char) (h : isWord c = true) : isWordU c = true := by
  simp [isWordU, h]

theorem takeWord_append (w rest : Str) (hw : ∀ c ∈ w, isWordU c = true)
    (hr : ∀ c, rest.head? = some c → isWordU c = false) : takeWord (w ++ rest) = (w, rest) := by
  induction w with
  | nil =>
    cases rest with
    | nil => rfl
    | cons c cs => simp [takeWord, hr c rfl]
  | cons c cs ih =>
    have hc : isWordU c = true := hw c (by simp)
    have := ih (fun x hx => hw x (by simp [hx]))
    simp [takeWord, hc, this]

theorem sepOk_of_not_sep (cfg : NameCfg) (used : Bool) (c d : Char) (h : cfg.seps.contains c = false) :
    sepOk cfg used c d = false := by
  have : c ∉ cfg.seps := by simpa using h
  simp [sepOk, this]

theorem scanName_stop (cfg : NameCfg) (used : Bool) (rest : Str) (hr : Stops cfg rest) :
    scanName cfg used rest = ([], rest) := by
  match rest with
  | [] => rfl
  | [c] => simp [scanName, (hr c rfl).1]
  | c :: d :: r => simp [scanName, (hr c rfl).1, sepOk_of_not_sep cfg used c d (hr c rfl).2]

/-- a word character is taken, whatever follows -/
theorem scanName_cons_word (cfg : NameCfg) (used : Bool) (c : Char) (t : Str) (hc : isWordU c = true) :
    scanName cfg used (c :: t) = (c :: (scanName cfg used t).1, (scanName cfg used t).2) := by
  cases t <;> simp [scanName, hc]

theorem scanName_words_append (cfg : NameCfg) (used : Bool) (w t : Str) (hw : ∀ c ∈ w, isWordU c = true) :
    scanName cfg used (w ++ t) = (w ++ (scanName cfg used t).1, (scanName cfg used t).2) := by
  induction w with
  | nil => rfl
  | cons c cs ih =>
    rw [List.cons_append, scanName_cons_word cfg used c _ (hw c (by simp)),
      ih (fun x hx => hw x (by simp [hx]))]
    rfl

/-- a name the tokenizer consumes entirely is consumed in the same way when something that cannot
    continue a name follows -/
theorem scanName_append (cfg : NameCfg) (used : Bool) (n rest : Str)
    (h : scanName cfg used n = (n, [])) (hr : Stops cfg rest) :
    scanName cfg used (n ++ rest) = (n, rest) := by
  induction n generalizing used with
  | nil => exact scanName_stop cfg used rest hr
  | cons c cs ih =>
    by_cases hc : isWordU c = true
    · rw [scanName_cons_word cfg used c cs hc] at h
      have h2 : scanName cfg used cs = (cs, []) :=
        Prod.ext (List.cons.inj (Prod.mk.inj h).1).2 (Prod.mk.inj h).2
      rw [List.cons_append, scanName_cons_word cfg used c _ hc, ih used h2]
    · cases cs with
      | nil => simp [scanName, hc] at h
      | cons d r =>
        by_cases hs : sepOk cfg used c d = true
        · simp only [scanName, hc, hs, if_true, Prod.mk.injEq, List.cons.injEq, true_and, if_false, Bool.false_eq_true] at h
          have h2 : scanName cfg true (d :: r) = (d :: r, []) := Prod.ext h.1 h.2
          have := ih true h2
          simp only [List.cons_append] at this ⊢
          simp only [scanName, hc, hs, if_true, this]
          simp
        · simp [scanName, hc, hs] at h

theorem matchName_accepted (cfg : NameCfg) (n rest : Str) (h : nameAccepted cfg n = true)
    (hr : Stops cfg rest) : matchName cfg (n ++ rest) = some (n, rest) := by
  cases n with
  | nil => simp [nameAccepted, matchName] at h
  | cons c cs =>
    by_cases hc : isWordU c = true
    · simp only [nameAccepted, matchName, hc, if_true] at h
      have h2 : scanName cfg false (c :: cs) = (c :: cs, []) := by
        generalize hsc : scanName cfg false (c :: cs) = p at h
        obtain ⟨m, t⟩ := p
        cases t with
        | nil => simp at h; rw [h]
        | cons _ _ => simp at h
      have := scanName_append cfg false (c :: cs) rest h2 hr
      simp only [List.cons_append] at this
      simp [matchName, hc, this]
    · simp [nameAccepted, matchName, hc] at h

theorem scanName_word_run (cfg : NameCfg) (used : Bool) (w : Str) (hw : ∀ c ∈ w, isWordU c = true) :
    scanName cfg used w = (w, []) := by
  simpa [scanName] using scanName_words_append cfg used w [] hw

theorem nameAccepted_of_scan (cfg : NameCfg) (c : Char) (cs : Str) (hc : isWordU c = true)
    (h : scanName cfg false (c :: cs) = (c :: cs, [])) : nameAccepted cfg (c :: cs) = true := by
  simp [nameAccepted, matchName, hc, h]

theorem nameAccepted_word (cfg : NameCfg) (w : Str) (hw : WordStr w) : nameAccepted cfg w = true := by
  obtain ⟨hne, hall⟩ := hw
  cases w with
  | nil => exact absurd rfl hne
  | cons c cs =>
    exact nameAccepted_of_scan cfg c cs (hall c (by simp)) (scanName_word_run cfg false _ hall)

theorem nameAccepted_dotted (cfg : NameCfg) (a b : Str) (ha : WordStr a) (hb : WordStr b)
    (hdot : cfg.seps.contains '.' = true) : nameAccepted cfg (a ++ '.' :: b) = true := by
  obtain ⟨hane, haall⟩ := ha
  obtain ⟨hbne, hball⟩ := hb
  cases a with
  | nil => exact absurd rfl hane
  | cons c cs =>
    cases b with
    | nil => exact absurd rfl hbne
    | cons d bs =>
      apply nameAccepted_of_scan cfg c _ (haall c (by simp))
      show scanName cfg false ((c :: cs) ++ '.' :: d :: bs) = ((c :: cs) ++ '.' :: d :: bs, [])
      -- the word run `a`; `.` is taken as a separator because the word character `d` follows
      rw [scanName_words_append cfg false (c :: cs) _ haall]
      have hdot' : '.' ∈ cfg.seps := by simpa using hdot
      have hdotw : isWordU '.' = false := by decide
      simp [scanName, hdotw, sepOk, hdot', hball d (by simp), scanName_word_run cfg true (d :: bs) hball]

theorem optQual_none (s : Str) (h : s.head? ≠ some '(') : optQual s = (none, s) := by
  cases s with
  | nil => rfl
  | cons c cs =>
    have : c ≠ '(' := by simpa using h
    unfold optQual
    split
    · rename_i t heq; simp at heq; exact absurd heq.1 this
    · rfl

theorem optQual_some (k rest : Str) (hk : WordStr k) : optQual ('(' :: k ++ ')' :: rest) = (some k, rest) := by
  obtain ⟨hne, hall⟩ := hk
  have : takeWord (k ++ ')' :: rest) = (k, ')' :: rest) :=
    takeWord_append k (')' :: rest) hall (by intro c h; simp at h; subst h; decide)
  cases k with
  | nil => exact absurd rfl hne
  | cons c cs =>
    simp only [List.cons_append] at this ⊢
    simp [optQual, this]

theorem optQual_qualS (q : Option Str) (rest : Str) (hq : ∀ k, q = some k → WordStr k)
    (hr : rest.head? ≠ some '(') : optQual (qualS q ++ rest) = (q, rest) := by
  cases q with
  | none => simpa [qualS] using optQual_none rest hr
  | some k => simpa [qualS] using optQual_some k rest (hq k rfl)

theorem optChild_none (s : Str) (h : s.head? ≠ some ':') : optChild s = (none, none, s) := by
  cases s with
  | nil => rfl
  | cons c cs =>
    have : c ≠ ':' := by simpa using h
    unfold optChild
    split
    · rename_i t heq; simp at heq; exact absurd heq.1 this
    · rfl

theorem optChild_some (c : Str) (q : Option Str) (rest : Str) (hc : WordStr c)
    (hq : ∀ k, q = some k → WordStr k) (hr : rest.head? ≠ some '(')
    (hr2 : ∀ x, rest.head? = some x → isWordU x = false) :
    optChild (':' :: c ++ (qualS q ++ rest)) = (some c, q, rest) := by
  obtain ⟨hne, hall⟩ := hc
  have hstop : ∀ x, (qualS q ++ rest).head? = some x → isWordU x = false := by
    cases q with
    | none => simpa [qualS] using hr2
    | some k => intro x h; simp [qualS] at h; subst h; decide
  have h1 : takeWord (c ++ (qualS q ++ rest)) = (c, qualS q ++ rest) := takeWord_append c _ hall hstop
  cases c with
  | nil => exact absurd rfl hne
  | cons d ds =>
    simp only [List.cons_append] at h1 ⊢
    simp [optChild, h1, optQual_qualS q rest hq hr]

theorem stops_of_ok (cfg : NameCfg) (hok : cfg.ok = true) (c : Char) (rest : Str)
    (hc : c = '(' ∨ c = ':' ∨ c = ']') : Stops cfg (c :: rest) := by
  intro x hx
  have hxc : x = c := by simpa using hx.symm
  rw [hxc]
  simp only [NameCfg.ok, Bool.and_eq_true, List.all_eq_true] at hok
  constructor
  · rcases hc with h | h | h <;> rw [h] <;> decide
  · cases hcon : cfg.seps.contains c with
    | false => rfl
    | true =>
      have hmem : c ∈ cfg.seps := by simpa using hcon
      have := hok.2 c hmem
      simp at this
      rcases hc with h | h | h <;> simp [h] at this

/-- what follows the name in a written reference - `(`, `:` or `]` - ends the name -/
theorem stops_after_name (cfg : NameCfg) (hok : cfg.ok = true) (r : Ref) (rest : Str) :
    Stops cfg (qualS r.kind ++ (childS r ++ ']' :: ']' :: rest)) := by
  obtain ⟨n, k, c, ck⟩ := r
  cases k with
  | some kk => exact stops_of_ok cfg hok '(' _ (Or.inl rfl)
  | none =>
    cases c with
    | some cc => exact stops_of_ok cfg hok ':' _ (Or.inr (Or.inl rfl))
    | none => exact stops_of_ok cfg hok ']' _ (Or.inr (Or.inr rfl))

/-- the item part as written, with its qualifier, is read back up to the closing `]]` -/
theorem optChild_childS (r : Ref) (rest : Str) (hc : ∀ c, r.child = some c → WordStr c)
    (hck : ∀ k, r.childKind = some k → WordStr k) (hcc : r.child = none → r.childKind = none) :
    optChild (childS r ++ ']' :: ']' :: rest) = (r.child, r.childKind, ']' :: ']' :: rest) := by
  obtain ⟨n, k, c, ck⟩ := r
  cases c with
  | none =>
    cases hcc rfl
    rfl
  | some cc =>
    have := optChild_some cc ck (']' :: ']' :: rest) (hc cc rfl) hck (by simp)
      (by intro x h; cases h; decide)
    simpa [childS] using this

/-- **Read-back.**  A reference whose component name the pattern accepts, with word-like qualifiers
    and item, is matched exactly as written, and the match ends where the reference ends. -/
theorem matchLinkAt_render (cfg : NameCfg) (hok : cfg.ok = true) (r : Ref) (rest : Str)
    (hn : nameAccepted cfg r.name = true)
    (hk : ∀ k, r.kind = some k → WordStr k) (hc : ∀ c, r.child = some c → WordStr c)
    (hck : ∀ k, r.childKind = some k → WordStr k) (hcc : r.child = none → r.childKind = none) :
    matchLinkAt cfg (r.render ++ rest) = some (r, rest) := by
  have e : r.render ++ rest =
      '[' :: '[' :: (r.name ++ (qualS r.kind ++ (childS r ++ ']' :: ']' :: rest))) := by
    rw [render_eq]; simp
  -- the name, the component qualifier, the item part, `]]`
  rw [e, matchLinkAt, matchName_accepted cfg r.name _ hn (stops_after_name cfg hok r rest)]
  simp only
  rw [optQual_qualS r.kind _ hk (by cases hch : r.child <;> simp [childS, hch]),
    optChild_childS r rest hc hck hcc]
  rfl

theorem nameAccepted_documented (cfg : NameCfg) (hok : cfg.ok = true) (r : Ref) (h : r.Documented) :
    nameAccepted cfg r.name = true := by
  have hdot : cfg.seps.contains '.' = true := by
    simp only [NameCfg.ok, Bool.and_eq_true] at hok; exact hok.1
  rcases h.1 with hw | ⟨a, b, ha, hb, hab⟩
  · exact nameAccepted_word cfg r.name hw
  · rw [hab]; exact nameAccepted_dotted cfg a b ha hb hdot

theorem matchLinkAt_not_bracket (cfg : NameCfg) (c : Char) (cs : Str) (h : c ≠ '[') :
    matchLinkAt cfg (c :: cs) = none := by
  unfold matchLinkAt
  split
  · rename_i s1 heq; simp at heq; exact absurd heq.1 h
  · rfl

theorem segGo_skip (cfg : NameCfg) (a s acc : Str) : segGo cfg (a ++ s) a.length acc = segGo cfg s 0 acc := by
  induction a with
  | nil => simp
  | cons c cs ih => simpa [segGo] using ih

theorem segGo_plain (cfg : NameCfg) (pre s acc : Str) (h : ∀ c ∈ pre, c ≠ '[') :
    segGo cfg (pre ++ s) 0 acc = segGo cfg s 0 (pre.reverse ++ acc) := by
  induction pre generalizing acc with
  | nil => simp
  | cons c cs ih =>
    have hc : c ≠ '[' := h c (by simp)
    have := ih (c :: acc) (fun x hx => h x (by simp [hx]))
    simp only [List.cons_append, segGo, matchLinkAt_not_bracket cfg c _ hc, this]
    simp

theorem segGo_match (cfg : NameCfg) (x post acc : Str) (r : Ref) (hx : x ≠ [])
    (h : matchLinkAt cfg (x ++ post) = some (r, post)) :
    segGo cfg (x ++ post) 0 acc = flush acc ++ .ref r :: segGo cfg post 0 [] := by
  cases x with
  | nil => exact absurd rfl hx
  | cons c cs =>
    simp only [List.cons_append] at h ⊢
    simp only [segGo, h]
    have : (cs ++ post).length - post.length = cs.length := by simp
    rw [this, segGo_skip]

theorem render_ne_nil (r : Ref) : r.render ≠ [] := by rw [render_eq]; simp

theorem flush_nil_append (acc : Str) : flush (acc ++ []) = flush acc := by simp

theorem segGo_parts (cfg : NameCfg) (parts : List (Str × Ref)) (post : Str)
    (hm : ∀ p ∈ parts, ∀ rest, matchLinkAt cfg (p.2.render ++ rest) = some (p.2, rest))
    (hpre : ∀ p ∈ parts, ∀ c ∈ p.1, c ≠ '[') (hpost : ∀ c ∈ post, c ≠ '[') :
    segGo cfg (renderParts parts post) 0 [] = partsSegs parts post := by
  induction parts with
  | nil =>
    have := segGo_plain cfg post [] [] hpost
    simpa [renderParts, partsSegs, segGo] using this
  | cons p ps ih =>
    obtain ⟨pre, r⟩ := p
    have h1 := segGo_plain cfg pre (r.render ++ renderParts ps post) [] (hpre (pre, r) (by simp))
    have h2 := segGo_match cfg r.render (renderParts ps post) (pre.reverse ++ []) r (render_ne_nil r)
      (hm (pre, r) (by simp) _)
    have h3 := ih (fun p hp => hm p (by simp [hp])) (fun p hp => hpre p (by simp [hp]))
    simp only [renderParts, partsSegs, List.append_assoc]
    rw [h1, h2, h3]
    simp

theorem convertSegs_flush (env : Env) (P : Project) (ctx : Option Nat) (path : Option Path)
    (s : Str) (l : List Seg) :
    convertSegs env P ctx path (flush s.reverse ++ l) =
      match convertSegs env P ctx path l with
      | .ok o => .ok ((if s.isEmpty then [] else [.plain s]) ++ o)
      | .error e => .error e := by
  cases s with
  | nil => cases h : convertSegs env P ctx path l <;> simp [flush, h]
  | cons c cs => cases h : convertSegs env P ctx path l <;> simp [flush, convertSegs, h]

theorem convertSegs_single (env : Env) (P : Project) (ctx : Option Nat) (path : Option Path)
    (pre post : Str) (r : Ref) :
    convertSegs env P ctx path (flush pre.reverse ++ .ref r :: flush post.reverse) =
      match convertLink env P ctx path r with
      | .err e => .error e
      | .link t h => .ok ((if pre.isEmpty then [] else [.plain pre]) ++ .link t h :: (if post.isEmpty then [] else [.plain post]))
      | .text t => .ok ((if pre.isEmpty then [] else [.plain pre]) ++ .text t :: (if post.isEmpty then [] else [.plain post])) := by
  have hpost := convertSegs_flush env P ctx path post []
  rw [List.append_nil] at hpost
  rw [convertSegs_flush, convertSegs, hpost]
  cases convertLink env P ctx path r <;> simp [convertSegs]

end Ford.Links
